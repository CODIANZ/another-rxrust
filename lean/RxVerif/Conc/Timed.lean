import RxVerif.Data
/-
Virtual-time models of the timer-driven parts of `another-rxrust` (properties C15 and C16).

Discrete-event VIRTUAL TIME.  Every model has a global clock `now : Nat`.  Computation takes zero time; the only
time-consuming statement is `thread::sleep(d)` (the sleeping thread is runnable again when `now ≥ wake`).  The clock
is advanced by the label `tick t'`, which is enabled only when EVERY thread is blocked, finished or asleep with
`now < wake`, and only to a `t'` that does not pass the earliest wake-up (`now < t' ≤ wake` for every sleeper).
All other labels are `run tid`: thread `tid` performs its next micro-step, which is determined by its program counter.
So `step : State → Label → Option State` is deterministic per label and a recorded run can be replayed (`runFrom`).

Models (each in its own namespace, all with `Params`, `State`, `init`, `step`):
  `Interval`  observables/interval.rs:13-28 (+ operators/take.rs:36-51 downstream, + an unsubscribing thread)
  `Timer`     observables/timer.rs:13-22
  `Delay`     operators/delay.rs:30-38 driven by a scripted source thread
  `Timeout`   operators/timeout.rs:41-110; every item arms a fresh `interval(d).take(1)` on a fresh scheduler thread
  `Debounce`  operators/debounce.rs:42-85 with `set_on_finalize(scheduler.abort)` (stream_controller.rs:146-159)
  `Sample`    operators/sample.rs:31-73
  `Rounds`    a driver that subscribes / unsubscribes `interval(d)` repeatedly (thread accumulation, C15)
The scheduler thread of schedulers/new_thread_scheduler.rs:14-16 runs `AsyncFunctionQueue::scheduling`
(async_function_queue.rs:28-55): it leaves its loop only after `stop()` (= `IScheduler::abort`) set the abort flag.
-/
namespace Rx.Timed

/-! ## Generic replay -/

/-- replay a label list through a partial step function -/
def runFrom {σ : Type} {ℓ : Type} (step : σ → ℓ → Option σ) : σ → List ℓ → Option σ
  | s, [] => some s
  | s, l :: ls => match step s l with
    | some s' => runFrom step s' ls
    | none => none

/-- reachable = result of replaying some label list from the initial state -/
def Reach {σ : Type} {ℓ : Type} (step : σ → ℓ → Option σ) (init : σ) (s : σ) : Prop :=
  ∃ ls, runFrom step init ls = some s

/-- labels shared by all models: advance the clock, or let thread `tid` do its next micro-step -/
inductive Label where
  | tick (t : Nat)
  | run (tid : Nat)
deriving DecidableEq, Repr, Inhabited

def Label.toString : Label → String
  | .tick t => "tick " ++ Nat.repr t
  | .run i => "run " ++ Nat.repr i

instance : ToString Label := ⟨Label.toString⟩

/-- text form: `"tick <t>"` or `"run <tid>"` (decimal, blanks separated, surrounding blanks ignored) -/
def parseLabel (line : String) : Option Label :=
  match (line.trimAscii.toString.splitOn " ").filter (· ≠ "") with
  | ["tick", a] => a.toNat?.map .tick
  | ["run", a] => a.toNat?.map .run
  | _ => none

/-- one label per line; empty lines and lines starting with `#` are skipped -/
def parseTrace (text : String) : Option (List Label) :=
  ((text.splitOn "\n").filter fun l => l.trimAscii.toString ≠ "" ∧ ¬ l.trimAscii.toString.startsWith "#").mapM parseLabel

/-- error payload used for `std::io::ErrorKind::TimedOut` (timeout.rs:81-83) -/
def timedOut : Nat := 110

/-- an output record: virtual time at which the subscriber's callback ran, and the event -/
abbrev Out := Nat × Ev

/-! ## The `interval` worker (observables/interval.rs:16-27 on a `new_thread_scheduler` thread)

```
scheduler.post(move || {
  let mut n = 0;
  loop {                                  // pc = top
    thread::sleep(dur);                   // pc = sleeping (wake = now + d)
    if !s.is_subscribed() { break; }      // step `check`:  → emit | abort
    s.next(n);                            // pc = emit   (effect is model specific)
    n += 1;
  }
  scheduler_in_post.abort();              // pc = abort  → ret      (AsyncFunctionQueue::stop sets `abort`)
})                                        // pc = ret    → exited   (scheduling(): wait_while sees abort, pop None, break)
```
`sub` is the subscribed flag of the observer `s` handed to the worker (cleared by other threads or by the downstream
during `s.next`).  Ghost fields: `endedAt` (time `sub` became false), `sleepsAfterEnd` / `stepsAfterEnd` (sleeps begun /
micro-steps done by this worker after that), `exitedAt`, `born`. -/

inductive WPc where
  | top | sleeping | emit | abort | ret | exited
deriving DecidableEq, Repr, Inhabited

structure IW where
  pc : WPc := .top
  wake : Nat := 0
  n : Nat := 0
  sub : Bool := true
  endedAt : Option Nat := none
  sleepsAfterEnd : Nat := 0
  stepsAfterEnd : Nat := 0
  exitedAt : Option Nat := none
  /-- ghost: the instant the scheduler thread was created -/
  born : Nat := 0
deriving DecidableEq, Repr, Inhabited

namespace IW

/-- 1 if the subscription of this worker is already over -/
def late (w : IW) : Nat := if w.sub then 0 else 1

/-- micro-steps that do not touch anything outside the worker (everything except `s.next(n)`) -/
def localStep (d now : Nat) (w : IW) : Option IW :=
  match w.pc with
  | .top => some { w with pc := .sleeping, wake := now + d,
                          sleepsAfterEnd := w.sleepsAfterEnd + w.late, stepsAfterEnd := w.stepsAfterEnd + w.late }
  | .sleeping =>
      if w.wake ≤ now then
        some { w with pc := if w.sub then .emit else .abort, stepsAfterEnd := w.stepsAfterEnd + w.late }
      else none
  | .emit => none
  | .abort => some { w with pc := .ret, stepsAfterEnd := w.stepsAfterEnd + w.late }
  | .ret => some { w with pc := .exited, exitedAt := some now, stepsAfterEnd := w.stepsAfterEnd + w.late }
  | .exited => none

/-- `s.next(n)` returned and `n += 1` was done; `stop` = the downstream unsubscribed `s` during the call -/
def emitted (now : Nat) (stop : Bool) (w : IW) : IW :=
  { w with pc := .top, n := w.n + 1, sub := w.sub && !stop,
           endedAt := if w.sub && stop then some now else w.endedAt,
           stepsAfterEnd := w.stepsAfterEnd + w.late }

/-- another thread (or the downstream) unsubscribes `s` -/
def cancel (now : Nat) (w : IW) : IW :=
  { w with sub := false, endedAt := if w.sub then some now else w.endedAt }

/-- does this worker permit the clock to move from `now` to `t'`? -/
def allowsTick (now t' : Nat) (w : IW) : Bool :=
  match w.pc with
  | .sleeping => decide (now < w.wake) && decide (t' ≤ w.wake)
  | .exited => true
  | _ => false

/-- the scheduler thread is still alive -/
def live (w : IW) : Bool := w.pc != .exited

end IW

/-! ## Scripts of a source thread -/

/-- how long the source thread sleeps before its next call: relative to the return of the previous call,
    or until an absolute instant (no sleep when that instant has passed) -/
inductive Wait where
  | rel (g : Nat)
  | abs (t : Nat)
deriving DecidableEq, Repr, Inhabited

def Wait.wake (now : Nat) : Wait → Nat
  | .rel g => now + g
  | .abs t => if now ≤ t then t else now

/-- a source script: wait, then call `next x` / `error e` / `complete` on the observer it was given -/
abbrev Script := List (Wait × Ev)

theorem Wait.le_wake (now : Nat) (w : Wait) : now ≤ w.wake now := by
  cases w <;> simp [Wait.wake] <;> split <;> omega

/-- program counter of a scripted thread.  `sleeping`: in the `thread::sleep` before the head of `rest`;
    `call`: the sleep returned, about to call the observer method; `mid1`/`mid2`: inside that call (model specific);
    `done`: script exhausted -/
inductive SPc where
  | sleeping | call | mid1 | mid2 | done
deriving DecidableEq, Repr, Inhabited

/-- a scripted thread: remaining script, pc, wake-up time, `base` = instant the current wait began -/
structure Src where
  rest : Script := []
  pc : SPc := .done
  wake : Nat := 0
  base : Nat := 0
deriving DecidableEq, Repr, Inhabited

namespace Src

/-- start waiting for the head of `r` at time `now` -/
def start (now : Nat) (r : Script) : Src :=
  match r with
  | [] => { rest := [], pc := .done, wake := now, base := now }
  | (w, _) :: _ => { rest := r, pc := .sleeping, wake := w.wake now, base := now }

/-- the current call returned at `now`: go on with the tail -/
def advance (now : Nat) (x : Src) : Src := start now x.rest.tail

def allowsTick (now t' : Nat) (x : Src) : Bool :=
  match x.pc with
  | .sleeping => decide (now < x.wake) && decide (t' ≤ x.wake)
  | .done => true
  | _ => false

/-- the sleep is over -/
def wakeUp (now : Nat) (x : Src) : Option Src :=
  if x.pc = .sleeping ∧ x.wake ≤ now then some { x with pc := .call } else none

end Src

/-! ## Interval: `interval(d)` [`.take(c)`] subscribed at time 0, optionally unsubscribed by another thread at `u`

thread 0 = scheduler worker, thread 1 = the thread that calls `Subscription::unsubscribe` at time `u`.
A tick that is delivered AND completes the downstream `take` is two micro-steps of thread 0 (`sink_next(x)`, then
`upstream_abort_observe; sink_complete; finalize`, take.rs:44-50) with `half = true` in between, so thread 1 can
unsubscribe between them: the item is then delivered and `complete` is not. -/
namespace Interval

structure Params where
  d : Nat
  unsubAt : Option Nat := none
  take : Option Nat := none
deriving DecidableEq, Repr, Inhabited

structure State where
  now : Nat := 0
  w : IW := {}
  /-- the unsubscribing thread has done its call (or does not exist) -/
  udone : Bool := false
  log : List Out := []
  /-- the `take` lambda has delivered the item of its completing tick (`sink_next`) and has not yet run
      `upstream_abort_observe; sink_complete; finalize` (take.rs:46-50) -/
  half : Bool := false
deriving DecidableEq, Repr, Inhabited

def init (p : Params) : State := { udone := p.unsubAt.isNone }

/-- take.rs:36-42: `emit = nn < count` -/
def delivers (p : Params) (w : IW) : Bool :=
  w.sub && (match p.take with | none => true | some c => decide (w.n < c))

/-- take.rs:41,46-50: `complete = nn + 1 >= count` → upstream_abort_observe, sink_complete, finalize -/
def completes (p : Params) (w : IW) : Bool :=
  w.sub && (match p.take with | none => false | some c => decide (c ≤ w.n + 1))

/-- the unsubscribing thread is blocked until `u` -/
def uAllowsTick (p : Params) (s : State) (t' : Nat) : Bool :=
  s.udone || (match p.unsubAt with | none => true | some u => decide (s.now < u) && decide (t' ≤ u))

def step (p : Params) (s : State) : Label → Option State
  | .tick t' =>
      if s.now < t' ∧ s.w.allowsTick s.now t' = true ∧ uAllowsTick p s t' = true then some { s with now := t' } else none
  | .run 0 =>
      match s.w.pc with
      | .emit =>
          if s.half then
            -- second half of a completing tick: `upstream_abort_observe` (unsubscribes the worker's observer), `sink_complete`
            -- (delivered iff the subscriber is still subscribed), `finalize`
            some { s with
              half := false
              w := s.w.emitted s.now true
              log := s.log ++ (if s.w.sub then [(s.now, Ev.complete)] else []) }
          else if delivers p s.w = true ∧ completes p s.w = true then
            -- first half: `sink_next(x)`; the worker stays inside `s.next(n)`
            some { s with half := true, log := s.log ++ [(s.now, Ev.next (.int s.w.n))] }
          else
            some { s with
              w := s.w.emitted s.now (completes p s.w)
              log := s.log ++ (if delivers p s.w then [(s.now, Ev.next (.int s.w.n))] else [])
                           ++ (if completes p s.w then [(s.now, Ev.complete)] else []) }
      | _ => match s.w.localStep p.d s.now with
             | some w' => some { s with w := w' }
             | none => none
  | .run 1 =>
      match p.unsubAt with
      | some u => if s.udone = false ∧ u ≤ s.now then some { s with udone := true, w := s.w.cancel s.now } else none
      | none => none
  | .run _ => none

/-- replay a recorded label list from the initial state -/
def replay (p : Params) (ls : List Label) : Option State := runFrom (step p) (init p) ls

/-- the first `k` records of `interval(d)`: tick `i` at `(i+1)·d` -/
def expected (d k : Nat) : List Out := (List.range k).map fun i => ((i + 1) * d, Ev.next (.int i))

/-- the whole log of `interval(d).take(c)`: `c` ticks, then `complete` at the tick on which `take` completes
    (`take(0)` completes on the first tick without delivering it) -/
def expectedTake (d c : Nat) : List Out := expected d c ++ [(max c 1 * d, Ev.complete)]

end Interval

/-! ## Timer: `timer(d)` subscribed at time 0 (observables/timer.rs:16-21), optional unsubscribe at `u`

```
scheduler.post(move || {
  thread::sleep(dur);          // top → sleeping → next
  s.next(());                  // next → complete      (Observer::next: call_if_available)
  s.complete();                // complete → abort     (Observer::complete: claims fn_next, clears the observer)
  scheduler_in_post.abort();   // abort → ret
})                             // ret → exited
```
Note: no `is_subscribed` test at all — the thread always sleeps the whole period.
thread 0 = scheduler worker, thread 1 = optional unsubscriber at `u`. -/
namespace Timer

inductive Pc where
  | top | sleeping | next | complete | abort | ret | exited
deriving DecidableEq, Repr, Inhabited

structure Params where
  d : Nat
  unsubAt : Option Nat := none
deriving DecidableEq, Repr, Inhabited

structure State where
  now : Nat := 0
  pc : Pc := .top
  wake : Nat := 0
  sub : Bool := true
  udone : Bool := false
  log : List Out := []
  endedAt : Option Nat := none
  stepsAfterEnd : Nat := 0
  sleepsAfterEnd : Nat := 0
  exitedAt : Option Nat := none
deriving DecidableEq, Repr, Inhabited

def init (p : Params) : State := { udone := p.unsubAt.isNone }

def late (s : State) : Nat := if s.sub then 0 else 1

def wAllowsTick (s : State) (t' : Nat) : Bool :=
  match s.pc with
  | .sleeping => decide (s.now < s.wake) && decide (t' ≤ s.wake)
  | .exited => true
  | _ => false

def uAllowsTick (p : Params) (s : State) (t' : Nat) : Bool :=
  s.udone || (match p.unsubAt with | none => true | some u => decide (s.now < u) && decide (t' ≤ u))

def step (p : Params) (s : State) : Label → Option State
  | .tick t' =>
      if s.now < t' ∧ wAllowsTick s t' = true ∧ uAllowsTick p s t' = true then some { s with now := t' } else none
  | .run 0 =>
      match s.pc with
      | .top => some { s with pc := .sleeping, wake := s.now + p.d, stepsAfterEnd := s.stepsAfterEnd + late s,
                              sleepsAfterEnd := s.sleepsAfterEnd + late s }
      | .sleeping => if s.wake ≤ s.now then some { s with pc := .next, stepsAfterEnd := s.stepsAfterEnd + late s } else none
      | .next => some { s with pc := .complete, stepsAfterEnd := s.stepsAfterEnd + late s,
                               log := s.log ++ (if s.sub then [(s.now, Ev.next .unit)] else []) }
      | .complete => some { s with pc := .abort, stepsAfterEnd := s.stepsAfterEnd + late s, sub := false,
                                   endedAt := if s.sub then some s.now else s.endedAt,
                                   log := s.log ++ (if s.sub then [(s.now, Ev.complete)] else []) }
      | .abort => some { s with pc := .ret, stepsAfterEnd := s.stepsAfterEnd + late s }
      | .ret => some { s with pc := .exited, stepsAfterEnd := s.stepsAfterEnd + late s, exitedAt := some s.now }
      | .exited => none
  | .run 1 =>
      match p.unsubAt with
      | some u =>
          if s.udone = false ∧ u ≤ s.now then
            some { s with udone := true, sub := false, endedAt := if s.sub then some s.now else s.endedAt }
          else none
      | none => none
  | .run _ => none

/-- replay a recorded label list from the initial state -/
def replay (p : Params) (ls : List Label) : Option State := runFrom (step p) (init p) ls

/-- the whole log of `timer(d)` -/
def expected (d : Nat) : List Out := [(d, Ev.next .unit), (d, Ev.complete)]

end Timer

/-! ## Delay: `source.delay(d)` (operators/delay.rs:30-38), with a slow consumer

thread 0 = the SOURCE thread (the operator has no thread of its own):
```
move |_, x| { thread::sleep(dur); sctl_next.sink_next(x); }   // call → mid1 (asleep, wake = now + d) → deliver →
                                                              //   mid2 (consumer's callback, asleep until now + h) → advance
move |_, e| { sctl_error.sink_error(e); }                     // call → advance   (not delayed)
move |serial| sctl_complete.sink_complete(&serial)            // call → advance   (not delayed)
```
so the source is blocked for `d` inside every `next`, and then for the time `handling[i]` the downstream callback
takes (it runs on the source thread inside `sink_next`; missing entries = 0, and with `h = 0` or an unsubscribed
subscriber the step `mid1 → advance` is a single one).  `srcSub` = the observer handed to the source still has its
callbacks (`Observer::next` = `call_if_available`); `sub` = the downstream subscriber is subscribed
(stream_controller.rs:98-129).  thread 1 = optional unsubscriber at `u` (Observer::unsubscribe → on_unsubscribe →
`finalize` clears the source observer). -/
namespace Delay

structure Params where
  d : Nat
  script : Script
  unsubAt : Option Nat := none
  /-- time the downstream callback takes for script entry `i` (only used for `next` entries) -/
  handling : List Nat := []
deriving DecidableEq, Repr, Inhabited

structure State where
  now : Nat := 0
  src : Src := {}
  /-- handling times of the remaining script entries (in lock-step with `src.rest`) -/
  hrest : List Nat := []
  srcSub : Bool := true
  sub : Bool := true
  udone : Bool := false
  log : List Out := []
deriving DecidableEq, Repr, Inhabited

def init (p : Params) : State := { src := Src.start 0 p.script, hrest := p.handling, udone := p.unsubAt.isNone }

def srcAllowsTick (s : State) (t' : Nat) : Bool :=
  match s.src.pc with
  | .sleeping | .mid1 | .mid2 => decide (s.now < s.src.wake) && decide (t' ≤ s.src.wake)
  | .done => true
  | _ => false

def uAllowsTick (unsubAt : Option Nat) (udone : Bool) (now t' : Nat) : Bool :=
  udone || (match unsubAt with | none => true | some u => decide (now < u) && decide (t' ≤ u))

/-- handling time of the entry at the head of the script -/
def hnow (s : State) : Nat := s.hrest.headD 0

/-- the call returned: go on with the tail of the script -/
def next (s : State) : State := { s with src := s.src.advance s.now, hrest := s.hrest.tail }

def step (p : Params) (s : State) : Label → Option State
  | .tick t' =>
      if s.now < t' ∧ srcAllowsTick s t' = true ∧ uAllowsTick p.unsubAt s.udone s.now t' = true then
        some { s with now := t' } else none
  | .run 0 =>
      match s.src.pc with
      | .sleeping => match s.src.wakeUp s.now with
          | some x => some { s with src := x }
          | none => none
      | .call =>
          match s.src.rest with
          | (_, .next _) :: _ =>
              if s.srcSub then some { s with src := { s.src with pc := .mid1, wake := s.now + p.d } }
              else some (next s)
          | (_, ev) :: _ =>
              some { next s with srcSub := false, sub := s.sub && !s.srcSub,
                                 log := s.log ++ (if s.srcSub && s.sub then [(s.now, ev)] else []) }
          | [] => none
      | .mid1 =>
          match s.src.rest with
          | (_, ev) :: _ =>
              if s.src.wake ≤ s.now then
                if s.sub = true ∧ hnow s ≠ 0 then
                  some { s with src := { s.src with pc := .mid2, wake := s.now + hnow s }, log := s.log ++ [(s.now, ev)] }
                else some { next s with log := s.log ++ (if s.sub then [(s.now, ev)] else []) }
              else none
          | [] => none
      | .mid2 => if s.src.wake ≤ s.now then some (next s) else none
      | .done => none
  | .run 1 =>
      match p.unsubAt with
      | some u => if s.udone = false ∧ u ≤ s.now then some { s with udone := true, sub := false, srcSub := false } else none
      | none => none
  | .run _ => none

/-- what the subscriber of `delay(d)` must see when the source starts waiting for the head of the script at `t`:
    item handed on `d` after it was RECEIVED; it is received only when the previous hand-over AND its handling are done -/
def expected (d : Nat) : Nat → Script → List Nat → List Out
  | _, [], _ => []
  | t, (w, .next x) :: r, hs => (w.wake t + d, .next x) :: expected d (w.wake t + d + hs.headD 0) r hs.tail
  | t, (w, ev) :: _, _ => [(w.wake t, ev)]

/-- replay a recorded label list from the initial state -/
def replay (p : Params) (ls : List Label) : Option State := runFrom (step p) (init p) ls

end Delay

/-- program counter of the thread that unsubscribes the downstream subscriber at time `u`:
    `Observer::unsubscribe` clears the callbacks (`waiting → fin`), then runs `on_unsubscribe` = `finalize` (`fin → done`) -/
inductive UPc where
  | waiting | fin | done
deriving DecidableEq, Repr, Inhabited

def UPc.allowsTick (unsubAt : Option Nat) (now t' : Nat) : UPc → Bool
  | .waiting => match unsubAt with | none => true | some u => decide (now < u) && decide (t' ≤ u)
  | .fin => false
  | .done => true

/-! ## Timeout: `source.timeout(d, new_thread_scheduler())` (operators/timeout.rs:41-110: `on_finalize`
cancels the armed timer; a new timer is armed only if still subscribed and cancelled again if the subscription ended
meanwhile), with a SLOW CONSUMER: the downstream callback runs on the source thread inside `sink_next` and takes
`handling[i]` time units for script entry `i` (missing entries = 0; `handling = []` is the instantaneous consumer).

thread 0 = source thread, thread 1 = optional unsubscriber of the outer subscription, thread `2 + i` = the scheduler
thread of the `i`-th armed timer (`timers[i]`), an `interval(d).take(1)` worker (see `IW`).
```
sctl.set_on_finalize(move || {                                       // timeout.rs:49-54, run ONCE by `finalize`
  let armed = timer.write().unwrap().take();                         //   (stream_controller.rs:146-159: the subscriber is
  if let Some(armed) = armed { armed.unsubscribe(); } });            //    unsubscribed first, then on_finalize is taken)
move |_, x| {                                                        // source (pc, ph)
  { let mut timer = timer.write(); if let Some(t) = &*timer { t.unsubscribe(); } *timer = None; }   // call → (mid1, deliver)
  sctl_next.sink_next(x);                                            // (mid1, deliver): record, consumer starts
                                                                     //   → (mid1, handling) asleep until now + h → (mid2, test)
                                                                     //   (h = 0: → (mid2, test) at once; not subscribed: `finalize`)
  if sctl_next.is_subscribed() {                                     // (mid2, test)  → (mid2, store) | advance
    let armed = interval(dur, ..).take(1).subscribe(                 // (mid2, store) → (mid2, recheck): new thread, pc = top
        move |_| sctl.sink_error(TimedOut), ..);
    let previous = timer.write().unwrap().replace(armed);            //   timeout.rs:91-94; `previous` is `None` here (below)
    if let Some(previous) = previous { previous.unsubscribe(); }
    if !sctl_next.is_subscribed() {                                  // (mid2, recheck) → advance
      let armed = timer.write().unwrap().take(); if let Some(armed) = armed { armed.unsubscribe(); } } }
},
move |_, e| sctl_error.sink_error(e),                                // call → advance: deliver, then `finalize`
move |serial| sctl_complete.sink_complete(&serial)                   // call → advance: deliver, then `finalize`
```
The `store` step cancels no `previous` timer: the handler emptied the slot at `call`, and with ONE source thread and a
consumer that never calls `next` from inside its callback (the two cases timeout.rs:88-90 names) nothing fills it before
the store (`Timeout.Inv.mid_slot`, Theorems/C16.lean).
The unsubscriber thread does `Observer::unsubscribe`: clear the callbacks (`waiting → fin`: `sub := false`), then
`on_unsubscribe = finalize` (`fin → done`).
A timer worker at `emit` calls `s.next(0)`: gated by its own observer (`w.sub`), then `take(1)` forwards to the lambda
(`sink_error(TimedOut)` on the OUTER controller: delivered iff the outer subscriber is still subscribed, then
`finalize`) and completes, which unsubscribes the worker's observer (`emitted … true`). -/
namespace Timeout

/-- where the source thread is inside the item handler -/
inductive Ph where
  | deliver | handling | test | store | recheck
deriving DecidableEq, Repr, Inhabited

structure Params where
  d : Nat
  script : Script
  unsubAt : Option Nat := none
  /-- time the downstream callback takes for script entry `i` (only used for `next` entries) -/
  handling : List Nat := []
deriving DecidableEq, Repr, Inhabited

structure State where
  now : Nat := 0
  src : Src := {}
  /-- handling times of the remaining script entries (in lock-step with `src.rest`) -/
  hrest : List Nat := []
  srcSub : Bool := true
  sub : Bool := true
  /-- the `timer` cell: index of the armed timer -/
  slot : Option Nat := none
  timers : List IW := []
  /-- `on_finalize` of the outer controller is still set -/
  onFin : Bool := true
  ph : Ph := .deliver
  upc : UPc := .waiting
  log : List Out := []
  /-- ghost: instant the outer subscriber stopped being subscribed -/
  outerEndedAt : Option Nat := none
deriving DecidableEq, Repr, Inhabited

def init (p : Params) : State :=
  { src := Src.start 0 p.script, hrest := p.handling, upc := if p.unsubAt.isNone then .done else .waiting }

/-- `unsubscribe()` on the timer in `slot`, if any -/
def cancelIn (now : Nat) (slot : Option Nat) (ts : List IW) : List IW :=
  match slot with
  | some i => match ts[i]? with
    | some w => ts.set i (w.cancel now)
    | none => ts
  | none => ts

/-- `timer.unsubscribe()` on the armed timer, if any -/
def cancelSlot (s : State) : List IW := cancelIn s.now s.slot s.timers

/-- timers after `StreamController::finalize` (its `on_finalize` part) -/
def finTimers (s : State) (ts : List IW) : List IW := if s.onFin then cancelIn s.now s.slot ts else ts

/-- `timer` cell after `finalize` -/
def finSlot (s : State) : Option Nat := if s.onFin then none else s.slot

def endOuter (s : State) : Option Nat := if s.sub then some s.now else s.outerEndedAt

/-- handling time of the entry at the head of the script -/
def hnow (s : State) : Nat := s.hrest.headD 0

/-- the source thread blocks the clock unless it sleeps (before a call, or inside the consumer's callback) -/
def srcAllowsTick (s : State) (t' : Nat) : Bool :=
  match s.src.pc with
  | .sleeping => decide (s.now < s.src.wake) && decide (t' ≤ s.src.wake)
  | .mid1 => s.ph == .handling && decide (s.now < s.src.wake) && decide (t' ≤ s.src.wake)
  | .done => true
  | _ => false

/-- the handler returned: go on with the tail of the script -/
def next (s : State) : State := { s with src := s.src.advance s.now, hrest := s.hrest.tail, ph := .deliver }

def step (p : Params) (s : State) : Label → Option State
  | .tick t' =>
      if s.now < t' ∧ srcAllowsTick s t' = true ∧ s.upc.allowsTick p.unsubAt s.now t' = true ∧
         s.timers.all (IW.allowsTick s.now t') = true then
        some { s with now := t' } else none
  | .run 0 =>
      match s.src.pc with
      | .sleeping => match s.src.wakeUp s.now with
          | some x => some { s with src := x }
          | none => none
      | .call =>
          match s.src.rest with
          | (_, .next _) :: _ =>
              if s.srcSub then
                some { s with src := { s.src with pc := .mid1 }, ph := .deliver, timers := cancelSlot s, slot := none }
              else some (next s)
          | (_, ev) :: _ =>
              if s.srcSub then
                some { next s with srcSub := false, sub := false, outerEndedAt := endOuter s,
                                   log := s.log ++ (if s.sub then [(s.now, ev)] else []),
                                   timers := finTimers s s.timers, slot := finSlot s, onFin := false }
              else some (next s)
          | [] => none
      | .mid1 =>
          match s.ph with
          | .handling =>
              if s.src.wake ≤ s.now then some { s with src := { s.src with pc := .mid2 }, ph := .test } else none
          | _ =>
              match s.src.rest with
              | (_, ev) :: _ =>
                  if s.sub then
                    some { s with log := s.log ++ [(s.now, ev)],
                                  src := { s.src with pc := if hnow s = 0 then .mid2 else .mid1, wake := s.now + hnow s },
                                  ph := if hnow s = 0 then .test else .handling }
                  else some { s with src := { s.src with pc := .mid2 }, ph := .test, srcSub := false,
                                     timers := finTimers s s.timers, slot := finSlot s, onFin := false }
              | [] => none
      | .mid2 =>
          match s.ph with
          | .store =>
              some { s with slot := some s.timers.length, timers := s.timers ++ [{ born := s.now }], ph := .recheck }
          | .recheck =>
              if s.sub then some (next s)
              else some { next s with timers := cancelSlot s, slot := none }
          | _ => if s.sub then some { s with ph := .store } else some (next s)
      | .done => none
  | .run 1 =>
      match s.upc with
      | .waiting => match p.unsubAt with
          | some u => if u ≤ s.now then some { s with upc := .fin, sub := false, outerEndedAt := endOuter s } else none
          | none => none
      | .fin => some { s with upc := .done, srcSub := false,
                              timers := finTimers s s.timers, slot := finSlot s, onFin := false }
      | .done => none
  | .run (i + 2) =>
      match s.timers[i]? with
      | some w =>
          match w.pc with
          | .emit =>
              if w.sub then
                some { s with
                  timers := finTimers s (s.timers.set i (w.emitted s.now true))
                  slot := finSlot s
                  onFin := false
                  sub := false
                  srcSub := false
                  outerEndedAt := endOuter s
                  log := s.log ++ (if s.sub then [(s.now, Ev.error timedOut)] else []) }
              else some { s with timers := s.timers.set i (w.emitted s.now true) }
          | _ => match w.localStep p.d s.now with
                 | some w' => some { s with timers := s.timers.set i w' }
                 | none => none
      | none => none

/-- what the subscriber of `timeout(d)` must see.  `t` = instant the source starts waiting for the head of the script
    (= instant the previous handler returned), `armed` = a timer was armed at `t`, `hs` = handling times of the remaining
    entries.  An event arrives at `w.wake t`; it is replaced by `TimedOut` at `t + d` iff a timer is armed and
    `t + d < w.wake t`; an item that passes keeps the source thread until `w.wake t + h`, where the next timer is armed. -/
def expected (d : Nat) : Nat → Bool → Script → List Nat → List Out
  | t, armed, [], _ => if armed then [(t + d, .error timedOut)] else []
  | t, armed, (w, .next x) :: r, hs =>
      if armed ∧ t + d < w.wake t then [(t + d, .error timedOut)]
      else (w.wake t, .next x) :: expected d (w.wake t + hs.headD 0) true r hs.tail
  | t, armed, (w, ev) :: _, _ =>
      if armed ∧ t + d < w.wake t then [(t + d, .error timedOut)] else [(w.wake t, ev)]

/-- "events never exactly simultaneous": no call of the source falls exactly `d` after the previous handler returned -/
def noTie (d : Nat) : Nat → Bool → Script → List Nat → Prop
  | _, _, [], _ => True
  | t, armed, (w, .next _) :: r, hs => (armed = true → t + d ≠ w.wake t) ∧ noTie d (w.wake t + hs.headD 0) true r hs.tail
  | t, armed, (w, _) :: _, _ => (armed = true → t + d ≠ w.wake t)

def liveTimers (s : State) : Nat := (s.timers.filter IW.live).length

/-- replay a recorded label list from the initial state -/
def replay (p : Params) (ls : List Label) : Option State := runFrom (step p) (init p) ls

end Timeout

/-- the payloads of the `next` records of a log -/
def itemsOf (log : List Out) : List Data :=
  log.filterMap fun o => match o.2 with | .next x => some x | _ => none

/-- the items a scripted source emits: its `next` payloads up to its first terminal event -/
def emits : Script → List Data
  | [] => []
  | (_, .next x) :: r => x :: emits r
  | _ :: _ => []

/-! ## Debounce: `source.debounce(d, new_thread_scheduler())` (operators/debounce.rs:42-85)

thread 0 = source thread, thread 1 = optional unsubscriber, thread 2 = the scheduler thread running
```
sctl.set_on_finalize(move || scheduler.abort());          // stream_controller.rs:39-50, 146-159
scheduler.post(move || {
  while sctl.is_subscribed() {                            // check  → body | waiting
    thread::sleep(dur);                                   // body   → sleeping (wake = now + d) → take
    let value = { let mut v = value.write(); let x = v.clone(); *v = None; x };   // take → emit
    if let Some(value) = value { sctl.sink_next(value); } // emit   → check
  }
})                                                         // waiting: back in AsyncFunctionQueue::scheduling, blocked in
                                                           // `wait_while` until `abort` is set → exited
```
Source side: `next` = `*value.write() = Some(x)`; `error`/`complete` = `sink_error`/`sink_complete` = deliver (`call → mid1`)
then `finalize` = clear the source observer and run `on_finalize` = `scheduler.abort()` (`mid1 → advance`). -/
namespace Debounce

inductive DPc where
  | check | body | sleeping | take | emit | waiting | exited
deriving DecidableEq, Repr, Inhabited

structure Params where
  d : Nat
  script : Script
  unsubAt : Option Nat := none
deriving DecidableEq, Repr, Inhabited

structure State where
  now : Nat := 0
  src : Src := {}
  srcSub : Bool := true
  sub : Bool := true
  value : Option Data := none
  held : Option Data := none
  wpc : DPc := .check
  wwake : Nat := 0
  abort : Bool := false
  upc : UPc := .waiting
  log : List Out := []
  endedAt : Option Nat := none
  stepsAfterEnd : Nat := 0
  sleepsAfterEnd : Nat := 0
  exitedAt : Option Nat := none
deriving DecidableEq, Repr, Inhabited

def init (p : Params) : State :=
  { src := Src.start 0 p.script, upc := if p.unsubAt.isNone then .done else .waiting }

def late (s : State) : Nat := if s.sub then 0 else 1

def wAllowsTick (s : State) (t' : Nat) : Bool :=
  match s.wpc with
  | .sleeping => decide (s.now < s.wwake) && decide (t' ≤ s.wwake)
  | .waiting => !s.abort
  | .exited => true
  | _ => false

def endNow (s : State) : Option Nat := if s.sub then some s.now else s.endedAt

def step (p : Params) (s : State) : Label → Option State
  | .tick t' =>
      if s.now < t' ∧ s.src.allowsTick s.now t' = true ∧ s.upc.allowsTick p.unsubAt s.now t' = true ∧
         wAllowsTick s t' = true then some { s with now := t' } else none
  | .run 0 =>
      match s.src.pc with
      | .sleeping => match s.src.wakeUp s.now with
          | some x => some { s with src := x }
          | none => none
      | .call =>
          match s.src.rest with
          | (_, .next x) :: _ =>
              some { s with src := s.src.advance s.now, value := if s.srcSub then some x else s.value }
          | (_, ev) :: _ =>
              if s.srcSub then
                some { s with src := { s.src with pc := .mid1 }, srcSub := false, sub := false, endedAt := endNow s,
                              log := s.log ++ (if s.sub then [(s.now, ev)] else []) }
              else some { s with src := s.src.advance s.now }
          | [] => none
      | .mid1 => some { s with src := s.src.advance s.now, abort := true }
      | _ => none
  | .run 1 =>
      match s.upc with
      | .waiting => match p.unsubAt with
          | some u => if u ≤ s.now then some { s with upc := .fin, sub := false, endedAt := endNow s } else none
          | none => none
      | .fin => some { s with upc := .done, srcSub := false, abort := true }
      | .done => none
  | .run 2 =>
      match s.wpc with
      | .check => some { s with wpc := if s.sub then .body else .waiting, stepsAfterEnd := s.stepsAfterEnd + late s }
      | .body => some { s with wpc := .sleeping, wwake := s.now + p.d, stepsAfterEnd := s.stepsAfterEnd + late s,
                               sleepsAfterEnd := s.sleepsAfterEnd + late s }
      | .sleeping =>
          if s.wwake ≤ s.now then some { s with wpc := .take, stepsAfterEnd := s.stepsAfterEnd + late s } else none
      | .take => some { s with wpc := .emit, held := s.value, value := none, stepsAfterEnd := s.stepsAfterEnd + late s }
      | .emit =>
          some { s with wpc := .check, held := none, stepsAfterEnd := s.stepsAfterEnd + late s,
                        log := s.log ++ (match s.held with | some v => if s.sub then [(s.now, Ev.next v)] else [] | none => []),
                        abort := s.abort || (s.held.isSome && !s.sub),
                        srcSub := s.srcSub && !(s.held.isSome && !s.sub) }
      | .waiting =>
          if s.abort then some { s with wpc := .exited, exitedAt := some s.now, stepsAfterEnd := s.stepsAfterEnd + late s }
          else none
      | .exited => none
  | .run _ => none

/-- replay a recorded label list from the initial state -/
def replay (p : Params) (ls : List Label) : Option State := runFrom (step p) (init p) ls

end Debounce

/-! ## Sample: `source.sample(trigger)` (operators/sample.rs:31-73)

thread 0 = source thread (`next` = `*value.write() = Some(x)`; `error` = `sink_error`; `complete` =
`sink_complete_force`, both followed by `finalize`, which unsubscribes both inner observers),
thread 1 = optional unsubscriber, thread 2 = trigger thread:
```
move |_, _| {
  let value = { let mut v = value.write(); let vv = v.clone(); *v = None; vv };   // call → mid1
  if let Some(v) = value { sctl_trigger_next.sink_next(v); }                      // mid1 → advance
}, |_, _| {}, |_| {}                                                             // trigger terminals: ignored
``` -/
namespace Sample

structure Params where
  script : Script
  trigger : Script
  unsubAt : Option Nat := none
deriving DecidableEq, Repr, Inhabited

structure State where
  now : Nat := 0
  src : Src := {}
  trg : Src := {}
  srcSub : Bool := true
  trgSub : Bool := true
  sub : Bool := true
  value : Option Data := none
  held : Option Data := none
  upc : UPc := .waiting
  log : List Out := []
deriving DecidableEq, Repr, Inhabited

def init (p : Params) : State :=
  { src := Src.start 0 p.script, trg := Src.start 0 p.trigger, upc := if p.unsubAt.isNone then .done else .waiting }

def step (p : Params) (s : State) : Label → Option State
  | .tick t' =>
      if s.now < t' ∧ s.src.allowsTick s.now t' = true ∧ s.trg.allowsTick s.now t' = true ∧
         s.upc.allowsTick p.unsubAt s.now t' = true then some { s with now := t' } else none
  | .run 0 =>
      match s.src.pc with
      | .sleeping => match s.src.wakeUp s.now with
          | some x => some { s with src := x }
          | none => none
      | .call =>
          match s.src.rest with
          | (_, .next x) :: _ =>
              some { s with src := s.src.advance s.now, value := if s.srcSub then some x else s.value }
          | (_, ev) :: _ =>
              some { s with src := s.src.advance s.now, srcSub := false, trgSub := s.trgSub && !s.srcSub,
                            sub := s.sub && !s.srcSub,
                            log := s.log ++ (if s.srcSub && s.sub then [(s.now, ev)] else []) }
          | [] => none
      | _ => none
  | .run 1 =>
      match s.upc with
      | .waiting => match p.unsubAt with
          | some u => if u ≤ s.now then some { s with upc := .fin, sub := false } else none
          | none => none
      | .fin => some { s with upc := .done, srcSub := false, trgSub := false }
      | .done => none
  | .run 2 =>
      match s.trg.pc with
      | .sleeping => match s.trg.wakeUp s.now with
          | some x => some { s with trg := x }
          | none => none
      | .call =>
          match s.trg.rest with
          | (_, .next _) :: _ =>
              if s.trgSub then some { s with trg := { s.trg with pc := .mid1 }, held := s.value, value := none }
              else some { s with trg := s.trg.advance s.now }
          | _ :: _ => some { s with trg := s.trg.advance s.now, trgSub := false }
          | [] => none
      | .mid1 =>
          some { s with trg := s.trg.advance s.now, held := none,
                        log := s.log ++ (match s.held with | some v => if s.sub then [(s.now, Ev.next v)] else [] | none => []),
                        srcSub := s.srcSub && !(s.held.isSome && !s.sub),
                        trgSub := s.trgSub && !(s.held.isSome && !s.sub) }
      | _ => none
  | .run _ => none

/-- replay a recorded label list from the initial state -/
def replay (p : Params) (ls : List Label) : Option State := runFrom (step p) (init p) ls

end Sample

/-! ## Rounds: a driver that subscribes `interval(d)`, holds it, unsubscribes, pauses, and repeats (C15 accumulation)

thread 0 = driver: for `(hold, pause)` in the script: `let sb = interval(d, new_thread_scheduler()).subscribe(..)`
(a NEW scheduler thread, `workers` grows), `sleep(hold)`, `sb.unsubscribe()`, `sleep(pause)`.
thread `1 + i` = scheduler thread of the `i`-th subscription (an `IW`; its `s.next(n)` just counts). -/
namespace Rounds

inductive RPc where
  | subscribe | holding | pausing | done
deriving DecidableEq, Repr, Inhabited

structure Params where
  d : Nat
  rounds : List (Nat × Nat)
deriving DecidableEq, Repr, Inhabited

structure State where
  now : Nat := 0
  rest : List (Nat × Nat) := []
  pc : RPc := .done
  wake : Nat := 0
  workers : List IW := []
  /-- ghost: instant the driver finished its last round -/
  finishedAt : Option Nat := none
deriving DecidableEq, Repr, Inhabited

def init (p : Params) : State :=
  { rest := p.rounds, pc := if p.rounds.isEmpty then .done else .subscribe,
    finishedAt := if p.rounds.isEmpty then some 0 else none }

def live (s : State) : Nat := (s.workers.filter IW.live).length

/-- `sb.unsubscribe()` on the subscription made in this round (the last worker) -/
def cancelLast (s : State) : List IW :=
  match s.workers[s.workers.length - 1]? with
  | some w => s.workers.set (s.workers.length - 1) (w.cancel s.now)
  | none => s.workers

def driverAllowsTick (s : State) (t' : Nat) : Bool :=
  match s.pc with
  | .holding | .pausing => decide (s.now < s.wake) && decide (t' ≤ s.wake)
  | .done => true
  | .subscribe => false

def step (p : Params) (s : State) : Label → Option State
  | .tick t' =>
      if s.now < t' ∧ driverAllowsTick s t' = true ∧ s.workers.all (IW.allowsTick s.now t') = true then
        some { s with now := t' } else none
  | .run 0 =>
      match s.pc, s.rest with
      | .subscribe, (hold, _) :: _ =>
          some { s with pc := .holding, wake := s.now + hold, workers := s.workers ++ [{ born := s.now }] }
      | .holding, (_, pause) :: r =>
          if s.wake ≤ s.now then
            some { s with pc := .pausing, wake := s.now + pause, rest := r,
                          workers := cancelLast s }
          else none
      | .pausing, r =>
          if s.wake ≤ s.now then
            some { s with pc := if r.isEmpty then .done else .subscribe,
                          finishedAt := if r.isEmpty then some s.now else none }
          else none
      | _, _ => none
  | .run (i + 1) =>
      match s.workers[i]? with
      | some w =>
          match w.pc with
          | .emit => some { s with workers := s.workers.set i (w.emitted s.now false) }
          | _ => match w.localStep p.d s.now with
                 | some w' => some { s with workers := s.workers.set i w' }
                 | none => none
      | none => none

/-- replay a recorded label list from the initial state -/
def replay (p : Params) (ls : List Label) : Option State := runFrom (step p) (init p) ls

end Rounds

/-! ## Executable expectations for the driver

`expectedLine` answers a one-line request with the expected subscriber log of the corresponding model
(`Interval.expected`, `Interval.expectedTake`, `Timer.expected`, `Delay.expected`, `Timeout.expected`; proved to be what
every run delivers in `Theorems/C16.lean`).

Requests (tokens separated by blanks):
  `interval <d> <k>`        first `k` records of `interval(d)`
  `interval-take <d> <c>`   whole log of `interval(d).take(c)`
  `timer <d>`               whole log of `timer(d)`
  `delay <d> <entry>*`      log of `source.delay(d)`
  `timeout <d> <entry>*`    log of `source.timeout(d)` (no exact ties assumed)
An `<entry>` of the source script is one of
  `<wait>:<value>:<handling>`  `next(value)` (a decimal integer, may be negative); the downstream callback takes
                               `handling` time units on the source thread (`<wait>:<value>` = handling 0)
  `c:<wait>`                   `complete`
  `e:<wait>`                   `error` (some error other than TimedOut)
and `<wait>` is `<g>` = sleep `g` after the previous call returned, or `@<t>` = sleep until the absolute instant `t`.
A script without terminal entry never terminates (for `timeout` the last timer then fires).
Answer: the records separated by blanks, `n<value>@<time>`, `c@<time>`, `e@<time>`, TimedOut as `eT@<time>`
(`timer` delivers `next(())`, printed `nu@<time>`); a malformed request gives a string starting with `error:`.
Example: `timeout 20 5:1:0 15:2:10 c:1` ↦ `n1@5 n2@20 c@31`. -/

def valStr : Data → String
  | .int i => toString i
  | .unit => "u"
  | .bool true => "T"
  | .bool false => "F"
  | _ => "?"

def outStr (o : Out) : String :=
  match o.2 with
  | .next x => "n" ++ valStr x ++ "@" ++ toString o.1
  | .complete => "c@" ++ toString o.1
  | .error e => (if e = timedOut then "eT@" else "e@") ++ toString o.1

def showOuts (l : List Out) : String := " ".intercalate (l.map outStr)

def parseWait (s : String) : Option Wait :=
  if s.startsWith "@" then (s.drop 1).toString.toNat?.map Wait.abs else s.toNat?.map Wait.rel

/-- one script entry together with its handling time -/
def parseEntry (tok : String) : Option ((Wait × Ev) × Nat) :=
  match tok.splitOn ":" with
  | ["c", g] => (parseWait g).map fun w => ((w, Ev.complete), 0)
  | ["e", g] => (parseWait g).map fun w => ((w, Ev.error 1), 0)
  | [g, v, h] =>
      match parseWait g, v.toInt?, h.toNat? with
      | some w, some i, some h => some ((w, Ev.next (.int i)), h)
      | _, _, _ => none
  | [g, v] =>
      match parseWait g, v.toInt? with
      | some w, some i => some ((w, Ev.next (.int i)), 0)
      | _, _ => none
  | _ => none

def expectedLine (line : String) : String :=
  match (line.trimAscii.toString.splitOn " ").filter (· ≠ "") with
  | ["interval", d, k] =>
      match d.toNat?, k.toNat? with
      | some d, some k => showOuts (Interval.expected d k)
      | _, _ => "error: interval <d> <k>"
  | ["interval-take", d, c] =>
      match d.toNat?, c.toNat? with
      | some d, some c => showOuts (Interval.expectedTake d c)
      | _, _ => "error: interval-take <d> <c>"
  | ["timer", d] =>
      match d.toNat? with
      | some d => showOuts (Timer.expected d)
      | none => "error: timer <d>"
  | "delay" :: d :: items =>
      match d.toNat?, items.mapM parseEntry with
      | some d, some es => showOuts (Delay.expected d 0 (es.map (·.1)) (es.map (·.2)))
      | _, _ => "error: delay <d> <entry>*"
  | "timeout" :: d :: items =>
      match d.toNat?, items.mapM parseEntry with
      | some d, some es => showOuts (Timeout.expected d 0 false (es.map (·.1)) (es.map (·.2)))
      | _, _ => "error: timeout <d> <entry>*"
  | _ => "error: unknown request"

end Rx.Timed
