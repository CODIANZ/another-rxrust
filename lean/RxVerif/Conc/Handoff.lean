/-
C09 — `observe_on` / `subscribe_on` hand events to the scheduler (new-thread scheduler).

Rust code modelled (CURRENT tree):
* `/repo/src/operators/observe_on.rs` 35-78   (`ObserveOn::execute`)
* `/repo/src/operators/subscribe_on.rs` 35-62 (`SubscribeOn::execute`)
* `/repo/src/internals/stream_controller.rs` 98-129 (`sink_next`, `sink_error`, `sink_complete`), 146-159 (`finalize`)
* `/repo/src/observer.rs` 37-64 (`next`, `error`, `complete`, `unsubscribe`, `is_subscribed`)
* `/repo/src/internals/function_wrapper.rs` (`clear`, `clear_if_available`, `call_if_available`,
  `call_and_clear_if_available`: every slot access is one `RwLock` operation, the guard is dropped before the
  function is invoked)
* `/repo/src/schedulers/async_function_queue.rs`, `new_thread_scheduler.rs`: abstracted to an ATOMIC FIFO channel
  `post` (append, also after `stop`), `take` (pop the front unless `abort`), `stop` (clear + set `abort`);
  a worker that finds `abort` set leaves `scheduling` (`exit`).  (Refinement of the channel by the Mutex/Condvar
  code is a different work package.)

Threads: 0 = the thread on which the source emits, 1 = the scheduler's worker thread, 2 = a thread calling
`Subscription::unsubscribe` (optional).  One micro-step per slot/lock/queue operation and per callback start/return.
Every step is determined by (thread, state); the `kind` of the label is redundant and CHECKED by `step`.

Simplifications (all of them only ADD interleavings, none removes a behaviour of the code):
* `unscribers` (`RwLock<HashMap>`) is a Boolean "contains serial 0"; the read guard that `finalize` holds while it
  calls the upstream unsubscribers is not modelled (it can only delay `sink_complete`'s `remove`).
* `finalize` line 151 `if self.subscriber.is_subscribed()`: only the first of the three slot reads (`fn_next`) is
  modelled; if it were `true` the thread enters pc `nested` (the nested `subscriber.unsubscribe()`), which has no
  successor.  Theorem `finalize_never_nested` (C09.lean) shows this pc is unreachable.
* the upstream observer's `fn_on_unsubscribe` is `None` (a plain `Observable::create` source); its read / write
  (observer.rs 57, 60) inside the upstream unsubscriber have no effect and are not separate steps.
* the scheduler's worker blocked in `Condvar::wait` is a worker at pc `take` with `take` disabled (empty queue).

Ghost state (never read by a non-ghost field): `log`, `consumed`, `posted`, `taken`, `delivered`, `claimed`,
`termStarted`, `termReturned`, `unsubBegan`, `unsubEarly`, `unsubReturned`, `curLate`, `lateCb`.
-/
import RxVerif.Data

namespace Rx

def Ev.isErr : Ev → Bool
  | .error _ => true
  | _ => false

def Ev.isCompl : Ev → Bool
  | .complete => true
  | _ => false

namespace Handoff

/-- a well-formed script: items, then `complete` | `error e` | nothing -/
inductive Term where
  | none | complete | error (e : Nat)
deriving DecidableEq, Repr, Inhabited

def Term.events : Term → List Ev
  | .none => []
  | .complete => [.complete]
  | .error e => [.error e]

structure Script where
  items : List Data
  term : Term
deriving Repr, Inhabited

def Script.events (sc : Script) : List Ev := sc.items.map .next ++ sc.term.events

/-- thread ids -/
def srcT : Nat := 0
def workerT : Nat := 1
def unsubT : Nat := 2

/-- program counter inside `StreamController::finalize` (stream_controller.rs 146-159) -/
inductive FPc where
  | iter     -- 147 `unscribers.read()`: is there an upstream unsubscriber to call?
  | up0      -- 148 → observer.rs 54: upstream `fn_next.clear()`
  | up1      -- observer.rs 55: upstream `fn_error.clear()`
  | up2      -- observer.rs 56: upstream `fn_complete.clear()`
  | clear    -- 150 `unscribers.write().clear()`
  | chk      -- 151 `subscriber.is_subscribed()` (first read: `fn_next.exists()`)
  | lock     -- 154 `on_finalize.write()` acquired (held until 159)
  | stop     -- 155-157 `if let Some(f) { f.call(()) = scheduler.abort() = queue.stop(); *on_finalize = None }`
  | unlock   -- 159 guard dropped, `finalize` returns
  | nested   -- 152 nested `subscriber.unsubscribe()` — unreachable (theorem `finalize_never_nested`)
deriving DecidableEq, Repr, Inhabited

/-- source thread: inside `Observer::next/error/complete` of the observer built by `sctl.new_observer` -/
inductive SPc where
  | idle       -- between emissions
  | clrOther   -- terminal: `fn_next` claimed (observer.rs 42/48), about to clear the other terminal slot (43/49)
  | takeOwn    -- terminal: about to `call_and_clear_if_available` the own slot (44/50)
  | post       -- inside the closure (observe_on.rs 58-75), about to `scheduler.post(task)`
deriving DecidableEq, Repr, Inhabited

/-- worker thread: `scheduling` loop, the task = `sctl.sink_next/sink_error/sink_complete` -/
inductive WPc where
  | take       -- top of the loop: blocked in `wait_while` / about to pop / about to see `abort`
  | chk0 | chk1 | chk2   -- stream_controller.rs 99/107/116 `subscriber.is_subscribed()`: three slot reads
  | fetch      -- `sink_next` 100 → observer.rs 38 `fn_next.call_if_available`: fetch the function (read lock)
  | remove     -- `sink_complete` 117-121 `unscribers.write().remove(serial)`; `done_all` is always true here
  | claim      -- observer.rs 42/48 `fn_next.clear_if_available()`
  | clrOther   -- observer.rs 43/49 clear the other terminal slot
  | takeOwn    -- observer.rs 44/50 `call_and_clear_if_available` on the own slot
  | cbN        -- fetched `fn_next`, about to invoke it
  | inCbN      -- inside the subscriber's `next` callback
  | cbT        -- took the terminal function, about to invoke it
  | inCbT      -- inside the subscriber's terminal callback
  | fin (f : FPc)   -- inside `finalize` (102, 109, 111, 124, 127)
  | done       -- `scheduling` returned, the worker thread ended
deriving DecidableEq, Repr, Inhabited

/-- unsubscriber thread: `Subscription::unsubscribe` → `Observer::unsubscribe` (observer.rs 53-61) on the subscriber -/
inductive UPc where
  | idle       -- not called yet
  | c0 | c1 | c2   -- observer.rs 54-56: clear `fn_next`, `fn_error`, `fn_complete` of the subscriber
  | onUnsub    -- 57 read `fn_on_unsubscribe` = `Some(sctl.finalize)` (stream_controller.rs 34)
  | fin (f : FPc)  -- inside `sctl.finalize()`
  | ret        -- 60 `*fn_on_unsubscribe.write() = None`, return
  | done       -- returned (or: there is no unsubscriber)
deriving DecidableEq, Repr, Inhabited

inductive Kind where
  | emit       -- source: an `Observer::next/error/complete` call starts: read (item) / take (terminal) upstream `fn_next`
  | clrOther   -- source or worker: clear the other terminal slot
  | takeOwn    -- source or worker: `call_and_clear_if_available` on the own terminal slot
  | post       -- source: `scheduler.post(task)`
  | take       -- worker: pops the front task (requires `abort` unset and a non-empty queue)
  | exit       -- worker: sees `abort`, leaves `scheduling`
  | chk        -- worker: one slot read of `is_subscribed`
  | fetch      -- worker: `fn_next.call_if_available` fetches the function
  | remove     -- worker: `unscribers.write().remove(serial)`
  | claim      -- worker: `fn_next.clear_if_available()`
  | cbStart    -- worker: the subscriber's callback is entered
  | cbReturn   -- worker: the subscriber's callback returns
  | fIter | fUp | fClear | fChk | fLock | fStop | fUnlock   -- steps of `finalize` (see `FPc`)
  | unsubCall  -- unsubscriber: `Subscription::unsubscribe` called
  | clr        -- unsubscriber: clears one subscriber slot
  | onUnsub    -- unsubscriber: reads `fn_on_unsubscribe`, enters `finalize`
  | unsubRet   -- unsubscriber: `unsubscribe` returns
  | task       -- (subscribe_on) worker: administrative step inside the subscription task
deriving DecidableEq, Repr, Inhabited

structure Label where
  tid : Nat
  kind : Kind
deriving DecidableEq, Repr, Inhabited

/-- ghost log entries -/
inductive LEv where
  | post (e : Ev)      -- task for `e` appended to the queue
  | drop (e : Ev)      -- the upstream observer's slot was gone: `e` is not posted
  | take (e : Ev)      -- worker popped the task for `e`
  | cbStart (e : Ev)   -- subscriber callback for `e` entered
  | cbReturn (e : Ev)  -- subscriber callback for `e` returned
  | stop               -- `scheduler.abort()` executed
  | unsubRet           -- `unsubscribe()` returned
deriving DecidableEq, Repr, Inhabited

def FPc.kind : FPc → Kind
  | .iter => .fIter | .up0 => .fUp | .up1 => .fUp | .up2 => .fUp | .clear => .fClear
  | .chk => .fChk | .lock => .fLock | .stop => .fStop | .unlock => .fUnlock | .nested => .fChk

structure State where
  -- source thread
  todo : List Ev
  spc : SPc := .idle
  scur : Ev := .complete
  -- worker thread
  wpc : WPc := .take
  wcur : Ev := .complete
  -- unsubscriber thread
  upc : UPc
  -- scheduler channel
  queue : List Ev := []
  abort : Bool := false
  -- subscriber `s` (observer.rs): the three function slots
  sNext : Bool := true
  sErr : Bool := true
  sCompl : Bool := true
  -- the observer handed to the source (built by `sctl.new_observer`): its three slots
  upNext : Bool := true
  upErr : Bool := true
  upCompl : Bool := true
  -- StreamController
  unsc : Bool := true             -- `unscribers` contains the upstream unsubscriber (serial 0)
  onFin : Bool := true            -- `on_finalize` is `Some(scheduler.abort)`
  finLock : Bool := false         -- the `on_finalize` write lock is held
  -- ghost
  log : List (Nat × LEv) := []    -- newest first
  consumed : List Ev := []        -- events whose emission the source has started
  posted : List Ev := []          -- events posted so far
  taken : List Ev := []           -- events whose task the worker has popped
  delivered : List Ev := []       -- events whose subscriber callback has started
  claimed : Bool := false         -- the worker's `fn_next.clear_if_available()` succeeded
  termStarted : Bool := false     -- a terminal callback has started
  termReturned : Bool := false    -- a terminal callback has returned
  unsubBegan : Bool := false      -- the unsubscriber has cleared `fn_next`
  unsubEarly : Bool := false      -- … and no terminal callback had started at that moment
  unsubReturned : Bool := false   -- `unsubscribe()` has returned
  curLate : Bool := false         -- the current task was taken after `unsubscribe()` returned
  lateCb : Bool := false          -- a callback started for such a task
deriving Repr, Inhabited

structure Config where
  script : List Ev
  hasUnsub : Bool
deriving Repr, Inhabited

def init (cfg : Config) : State :=
  { todo := cfg.script, upc := if cfg.hasUnsub then .idle else .done }

/-- is the function slot of terminal `e` still present in the subscriber / the upstream observer -/
def State.ownS (s : State) (e : Ev) : Bool := (e.isErr && s.sErr) || (e.isCompl && s.sCompl)
def State.ownUp (s : State) (e : Ev) : Bool := (e.isErr && s.upErr) || (e.isCompl && s.upCompl)

/-- can `finalize` at pc `f` take its next micro-step?  (`lock` blocks while the `on_finalize` lock is held) -/
def finEnabled (s : State) : FPc → Bool
  | .lock => !s.finLock
  | .nested => false
  | _ => true

/-- the effect of one micro-step of `finalize` run by thread `t` -/
def finEffect (t : Nat) (s : State) : FPc → State
  | .up0 => { s with upNext := false }
  | .up1 => { s with upErr := false }
  | .up2 => { s with upCompl := false }
  | .clear => { s with unsc := false }
  | .lock => { s with finLock := true }
  | .stop => { s with queue := if s.onFin then [] else s.queue
                      abort := s.abort || s.onFin
                      onFin := false
                      log := if s.onFin then (t, .stop) :: s.log else s.log }
  | .unlock => { s with finLock := false }
  | _ => s

/-- the next pc inside `finalize`; `none` = `finalize` returns -/
def finNext (s : State) : FPc → Option FPc
  | .iter => some (if s.unsc then .up0 else .clear)
  | .up0 => some .up1
  | .up1 => some .up2
  | .up2 => some .clear
  | .clear => some .chk
  | .chk => some (if s.sNext then .nested else .lock)
  | .lock => some .stop
  | .stop => some .unlock
  | .unlock => none
  | .nested => some .nested

/-- `finalize` micro-step on the worker (returns to the top of the `scheduling` loop) -/
def finW (s : State) (f : FPc) : Option State :=
  match finEnabled s f with
  | true => some { finEffect workerT s f with wpc := match finNext s f with
                                                    | some f' => .fin f'
                                                    | none => .take }
  | false => none

/-- `finalize` micro-step on the unsubscriber (returns into `Observer::unsubscribe`, observer.rs 60) -/
def finU (s : State) (f : FPc) : Option State :=
  match finEnabled s f with
  | true => some { finEffect unsubT s f with upc := match finNext s f with
                                                   | some f' => .fin f'
                                                   | none => .ret }
  | false => none

def srcStep (s : State) (k : Kind) : Option State :=
  match s.spc, k with
  | .idle, .emit =>
    match s.todo with
    | [] => none
    | e :: rest =>
      some { s with todo := rest, scur := e, consumed := s.consumed ++ [e]
                    spc := if s.upNext then (if e.isTerminal then .clrOther else .post) else .idle
                    upNext := s.upNext && !e.isTerminal
                    log := if s.upNext then s.log else (srcT, .drop e) :: s.log }
  | .clrOther, .clrOther =>
    some { s with upCompl := s.upCompl && !s.scur.isErr, upErr := s.upErr && !s.scur.isCompl, spc := .takeOwn }
  | .takeOwn, .takeOwn =>
    some { s with upErr := s.upErr && !s.scur.isErr, upCompl := s.upCompl && !s.scur.isCompl
                  spc := if s.ownUp s.scur then .post else .idle
                  log := if s.ownUp s.scur then s.log else (srcT, .drop s.scur) :: s.log }
  | .post, .post =>
    some { s with queue := s.queue ++ [s.scur], posted := s.posted ++ [s.scur], spc := .idle
                  log := (srcT, .post s.scur) :: s.log }
  | _, _ => none

def wrkStep (s : State) (k : Kind) : Option State :=
  match s.wpc, k with
  | .take, .take =>
    if s.abort then none else
    match s.queue with
    | [] => none
    | e :: q => some { s with queue := q, wcur := e, wpc := .chk0, taken := s.taken ++ [e]
                              curLate := s.unsubReturned, log := (workerT, .take e) :: s.log }
  | .take, .exit => if s.abort then some { s with wpc := .done } else none
  | .chk0, .chk => some { s with wpc := if s.sNext then .chk1 else .fin .iter }
  | .chk1, .chk => some { s with wpc := if s.sErr then .chk2 else .fin .iter }
  | .chk2, .chk =>
    some { s with wpc := if s.sCompl then (match s.wcur with
                                           | .next _ => .fetch
                                           | .error _ => .claim
                                           | .complete => .remove) else .fin .iter }
  | .fetch, .fetch => some { s with wpc := if s.sNext then .cbN else .take }
  | .remove, .remove => some { s with unsc := false, wpc := .claim }
  | .claim, .claim =>
    some { s with wpc := if s.sNext then .clrOther else .fin .iter, sNext := false, claimed := s.claimed || s.sNext }
  | .clrOther, .clrOther =>
    some { s with sCompl := s.sCompl && !s.wcur.isErr, sErr := s.sErr && !s.wcur.isCompl, wpc := .takeOwn }
  | .takeOwn, .takeOwn =>
    some { s with sErr := s.sErr && !s.wcur.isErr, sCompl := s.sCompl && !s.wcur.isCompl
                  wpc := if s.ownS s.wcur then .cbT else .fin .iter }
  | .cbN, .cbStart =>
    some { s with wpc := .inCbN, delivered := s.delivered ++ [s.wcur], lateCb := s.lateCb || s.curLate
                  log := (workerT, .cbStart s.wcur) :: s.log }
  | .inCbN, .cbReturn => some { s with wpc := .take, log := (workerT, .cbReturn s.wcur) :: s.log }
  | .cbT, .cbStart =>
    some { s with wpc := .inCbT, delivered := s.delivered ++ [s.wcur], lateCb := s.lateCb || s.curLate
                  termStarted := true, log := (workerT, .cbStart s.wcur) :: s.log }
  | .inCbT, .cbReturn =>
    some { s with wpc := .fin .iter, termReturned := true, log := (workerT, .cbReturn s.wcur) :: s.log }
  | .fin .iter, .fIter => finW s .iter
  | .fin .up0, .fUp => finW s .up0
  | .fin .up1, .fUp => finW s .up1
  | .fin .up2, .fUp => finW s .up2
  | .fin .clear, .fClear => finW s .clear
  | .fin .chk, .fChk => finW s .chk
  | .fin .lock, .fLock => finW s .lock
  | .fin .stop, .fStop => finW s .stop
  | .fin .unlock, .fUnlock => finW s .unlock
  | _, _ => none

def unsStep (s : State) (k : Kind) : Option State :=
  match s.upc, k with
  | .idle, .unsubCall => some { s with upc := .c0 }
  | .c0, .clr => some { s with sNext := false, upc := .c1, unsubBegan := true, unsubEarly := !s.termStarted }
  | .c1, .clr => some { s with sErr := false, upc := .c2 }
  | .c2, .clr => some { s with sCompl := false, upc := .onUnsub }
  | .onUnsub, .onUnsub => some { s with upc := .fin .iter }
  | .fin .iter, .fIter => finU s .iter
  | .fin .up0, .fUp => finU s .up0
  | .fin .up1, .fUp => finU s .up1
  | .fin .up2, .fUp => finU s .up2
  | .fin .clear, .fClear => finU s .clear
  | .fin .chk, .fChk => finU s .chk
  | .fin .lock, .fLock => finU s .lock
  | .fin .stop, .fStop => finU s .stop
  | .fin .unlock, .fUnlock => finU s .unlock
  | .ret, .unsubRet => some { s with upc := .done, unsubReturned := true, log := (unsubT, .unsubRet) :: s.log }
  | _, _ => none

def step (s : State) (l : Label) : Option State :=
  match l.tid with
  | 0 => srcStep s l.kind
  | 1 => wrkStep s l.kind
  | 2 => unsStep s l.kind
  | _ => none

inductive Reachable (cfg : Config) : State → Prop
  | init : Reachable cfg (init cfg)
  | step {s s' l} : Reachable cfg s → step s l = some s' → Reachable cfg s'

def run : State → List Label → Option State
  | s, [] => some s
  | s, l :: ls => match step s l with
    | some s' => run s' ls
    | none => none

/-- replay a recorded trace from the initial state -/
def replay (cfg : Config) (ls : List Label) : Option State := run (init cfg) ls

/-- length of the longest prefix of the trace the model accepts (diagnostics) -/
def acceptedPrefix : State → List Label → Nat
  | _, [] => 0
  | s, l :: ls => match step s l with
    | some s' => acceptedPrefix s' ls + 1
    | none => 0

theorem reachable_of_run {cfg : Config} {s s' : State} {ls : List Label}
    (hs : Reachable cfg s) (h : run s ls = some s') : Reachable cfg s' := by
  induction ls generalizing s with
  | nil => simp [run] at h; exact h ▸ hs
  | cons l ls ih =>
    simp only [run] at h
    split at h
    · next s1 h1 => exact ih (.step hs h1) h
    · cases h

theorem reachable_of_replay {cfg : Config} {s : State} {ls : List Label}
    (h : replay cfg ls = some s) : Reachable cfg s := reachable_of_run .init h

theorem run_append (s : State) (a b : List Label) :
    run s (a ++ b) = (run s a).bind fun s' => run s' b := by
  induction a generalizing s with
  | nil => rfl
  | cons l a ih =>
    simp only [List.cons_append, run]
    split
    · exact ih _
    · rfl

theorem reachable_iff_replay {cfg : Config} {s : State} : Reachable cfg s ↔ ∃ ls, replay cfg ls = some s := by
  constructor
  · intro h
    induction h with
    | init => exact ⟨[], rfl⟩
    | @step s1 s2 l _ hs ih =>
      obtain ⟨ls, hl⟩ := ih
      refine ⟨ls ++ [l], ?_⟩
      simp only [replay] at hl ⊢
      rw [run_append, hl]
      simp [run, hs]
  · rintro ⟨ls, h⟩
    exact reachable_of_replay h

/-- events whose callback has started, oldest first, as recorded in the log -/
def cbStarts : List (Nat × LEv) → List Ev
  | [] => []
  | (_, .cbStart e) :: l => cbStarts l ++ [e]
  | _ :: l => cbStarts l

/-- number of callbacks that have started and not returned -/
def openCbs : List (Nat × LEv) → Nat
  | [] => 0
  | (_, .cbStart _) :: l => openCbs l + 1
  | (_, .cbReturn _) :: l => openCbs l - 1
  | _ :: l => openCbs l

/-- the worker has exited, or is parked on an empty queue; the source has finished its script -/
def State.quiescent (s : State) : Prop :=
  s.todo = [] ∧ s.spc = .idle ∧ (s.wpc = .done ∨ (s.wpc = .take ∧ s.queue = [] ∧ s.abort = false))

instance (s : State) : Decidable s.quiescent := by unfold State.quiescent; infer_instance

/-! ### text form of labels: `"<tid> <kind>"` -/

def Kind.toString : Kind → String
  | .emit => "emit" | .clrOther => "clrOther" | .takeOwn => "takeOwn" | .post => "post"
  | .take => "take" | .exit => "exit" | .chk => "chk" | .fetch => "fetch" | .remove => "remove"
  | .claim => "claim" | .cbStart => "cbStart" | .cbReturn => "cbReturn"
  | .fIter => "fIter" | .fUp => "fUp" | .fClear => "fClear" | .fChk => "fChk" | .fLock => "fLock"
  | .fStop => "fStop" | .fUnlock => "fUnlock"
  | .unsubCall => "unsubCall" | .clr => "clr" | .onUnsub => "onUnsub" | .unsubRet => "unsubRet"
  | .task => "task"

def Kind.all : List Kind :=
  [.emit, .clrOther, .takeOwn, .post, .take, .exit, .chk, .fetch, .remove, .claim, .cbStart, .cbReturn,
   .fIter, .fUp, .fClear, .fChk, .fLock, .fStop, .fUnlock, .unsubCall, .clr, .onUnsub, .unsubRet, .task]

def parseKind (w : String) : Option Kind := Kind.all.find? fun k => k.toString == w

def Label.toString (l : Label) : String := s!"{l.tid} {l.kind.toString}"

instance : ToString Label := ⟨Label.toString⟩

/-- `"<tid> <kind>"`: decimal thread id (0 source, 1 worker, 2 unsubscriber), blanks, kind name -/
def parseLabel (line : String) : Option Label :=
  match (line.trimAscii.toString.splitOn " ").filter (· ≠ "") with
  | [a, b] =>
    match a.toNat?, parseKind b with
    | some i, some k => some ⟨i, k⟩
    | _, _ => none
  | _ => none

/-- one label per line; empty lines and lines starting with `#` are skipped -/
def parseTrace (text : String) : Option (List Label) :=
  ((text.splitOn "\n").filter fun l => l.trimAscii.toString ≠ "" ∧ ¬ l.trimAscii.toString.startsWith "#").mapM parseLabel

/-- labels given compactly as pairs, for examples -/
def mk (l : List (Nat × Kind)) : List Label := l.map fun p => ⟨p.1, p.2⟩

/-! # subscribe_on

`/repo/src/operators/subscribe_on.rs` 35-62.  Thread 0 is the thread that subscribes: it builds the
`StreamController` (which makes `sctl.finalize` the subscriber's `fn_on_unsubscribe`), sets `on_finalize` and posts
ONE task (line 47); the subscription of the source — and, the source being synchronous, all its emissions — happen
inside that task on the worker (lines 48-60):
`sctl.new_observer` (registers the upstream unsubscriber, then RE-CHECKS the subscriber — stream_controller.rs 81-94:
if the subscription has ended meanwhile it removes the entry again and unsubscribes the fresh observer itself, so
that `inner_subscribe` does not start the source; kinds `chk`, `remove`, `fUp` are reused for these steps),
`inner_subscribe` (observable.rs 29: `is_subscribed` of
the fresh observer, three slot reads), then the source runs its script calling `observer.next/error/complete`,
whose closures call `sctl.sink_*` directly (same code as in observe_on, on the same thread).
Thread 2 is the optional unsubscriber, exactly as for observe_on. -/
namespace SubOn

inductive WPc where
  | take       -- top of the `scheduling` loop
  | newObs     -- subscribe_on.rs 51 `sctl.new_observer(..)`: registers the upstream unsubscriber
  | rchk0 | rchk1 | rchk2   -- stream_controller.rs 88 `self.subscriber.is_subscribed()`: re-check of the SUBSCRIBER's slots
  | rrem       -- … the subscription already ended: 92 `unscribers.write().remove(&serial)`
  | ruc0 | ruc1 | ruc2      -- 93 `observer.unsubscribe()` on the fresh observer: clear its three slots
  | sub0 | sub1 | sub2   -- observable.rs 29 `observer.is_subscribed()`: three reads of the fresh observer's slots
  | src        -- inside the source, between two emissions (or about to return)
  | uClrOther  -- source emits a terminal: upstream `fn_next` claimed, clear the other upstream terminal slot
  | uTakeOwn   -- … `call_and_clear_if_available` on the own upstream slot
  | chk0 | chk1 | chk2 | fetch | remove | claim | clrOther | takeOwn | cbN | inCbN | cbT | inCbT
               -- `sctl.sink_*`, as in observe_on
  | fin (f : FPc)
  | done
deriving DecidableEq, Repr, Inhabited

structure State where
  -- thread 0
  posted : Bool := false          -- the subscription task has been posted
  -- worker
  todo : List Ev                  -- what the source still has to emit
  wpc : WPc := .take
  wcur : Ev := .complete
  taskDone : Bool := false        -- the subscription task has returned
  -- unsubscriber
  upc : UPc
  -- scheduler channel (it only ever holds the one subscription task)
  queued : Bool := false
  abort : Bool := false
  sNext : Bool := true
  sErr : Bool := true
  sCompl : Bool := true
  upNext : Bool := true
  upErr : Bool := true
  upCompl : Bool := true
  unsc : Bool := false            -- `new_observer` has not run yet
  onFin : Bool := true
  finLock : Bool := false
  -- ghost
  log : List (Nat × LEv) := []
  consumed : List Ev := []        -- events whose emission the source has started
  delivered : List Ev := []
  skipped : Bool := false         -- `inner_subscribe` found the fresh observer already unsubscribed: source not run
  lateAttach : Bool := false      -- the unsubscriber had already cleared `fn_next` when `new_observer` registered the upstream
  claimed : Bool := false
  termStarted : Bool := false
  termReturned : Bool := false
  unsubBegan : Bool := false
  unsubEarly : Bool := false
  unsubReturned : Bool := false
  curLate : Bool := false         -- the current event's emission started after `unsubscribe()` returned
  lateCb : Bool := false
deriving Repr, Inhabited

def init (cfg : Config) : State :=
  { todo := cfg.script, upc := if cfg.hasUnsub then .idle else .done }

def State.ownS (s : State) (e : Ev) : Bool := (e.isErr && s.sErr) || (e.isCompl && s.sCompl)
def State.ownUp (s : State) (e : Ev) : Bool := (e.isErr && s.upErr) || (e.isCompl && s.upCompl)

def finEnabled (s : State) : FPc → Bool
  | .lock => !s.finLock
  | .nested => false
  | _ => true

def finEffect (t : Nat) (s : State) : FPc → State
  | .up0 => { s with upNext := false }
  | .up1 => { s with upErr := false }
  | .up2 => { s with upCompl := false }
  | .clear => { s with unsc := false }
  | .lock => { s with finLock := true }
  | .stop => { s with queued := s.queued && !s.onFin
                      abort := s.abort || s.onFin
                      onFin := false
                      log := if s.onFin then (t, .stop) :: s.log else s.log }
  | .unlock => { s with finLock := false }
  | _ => s

def finNext (s : State) : FPc → Option FPc
  | .iter => some (if s.unsc then .up0 else .clear)
  | .up0 => some .up1
  | .up1 => some .up2
  | .up2 => some .clear
  | .clear => some .chk
  | .chk => some (if s.sNext then .nested else .lock)
  | .lock => some .stop
  | .stop => some .unlock
  | .unlock => none
  | .nested => some .nested

/-- `finalize` on the worker: called from `sink_*` inside the source's emission; returns into the source -/
def finW (s : State) (f : FPc) : Option State :=
  match finEnabled s f with
  | true => some { finEffect workerT s f with wpc := match finNext s f with
                                                    | some f' => .fin f'
                                                    | none => .src }
  | false => none

def finU (s : State) (f : FPc) : Option State :=
  match finEnabled s f with
  | true => some { finEffect unsubT s f with upc := match finNext s f with
                                                   | some f' => .fin f'
                                                   | none => .ret }
  | false => none

/-- thread 0: `scheduler.post(task)` (subscribe_on.rs 47) -/
def srcStep (s : State) (k : Kind) : Option State :=
  match s.posted, k with
  | false, .post => some { s with posted := true, queued := true, log := (srcT, .post .complete) :: s.log }
  | _, _ => none

def wrkStep (s : State) (k : Kind) : Option State :=
  match s.wpc, k with
  | .take, .take => if s.abort then none else if s.queued then some { s with queued := false, wpc := .newObs } else none
  | .take, .exit => if s.abort then some { s with wpc := .done } else none
  | .newObs, .task => some { s with unsc := true, wpc := .rchk0, lateAttach := s.unsubBegan }
  | .rchk0, .chk => some { s with wpc := if s.sNext then .rchk1 else .rrem }
  | .rchk1, .chk => some { s with wpc := if s.sErr then .rchk2 else .rrem }
  | .rchk2, .chk => some { s with wpc := if s.sCompl then .sub0 else .rrem }
  | .rrem, .remove => some { s with unsc := false, wpc := .ruc0 }
  | .ruc0, .fUp => some { s with upNext := false, wpc := .ruc1 }
  | .ruc1, .fUp => some { s with upErr := false, wpc := .ruc2 }
  | .ruc2, .fUp => some { s with upCompl := false, wpc := .sub0 }
  | .sub0, .chk => some { s with wpc := if s.upNext then .sub1 else .take, taskDone := !s.upNext, skipped := !s.upNext }
  | .sub1, .chk => some { s with wpc := if s.upErr then .sub2 else .take, taskDone := !s.upErr, skipped := !s.upErr }
  | .sub2, .chk =>
    some { s with wpc := if s.upCompl then .src else .take, taskDone := !s.upCompl, skipped := !s.upCompl }
  | .src, .task =>
    match s.todo with
    | [] => some { s with wpc := .take, taskDone := true }     -- the source returns, the task returns
    | _ :: _ => none
  | .src, .emit =>
    match s.todo with
    | [] => none
    | e :: rest =>
      some { s with todo := rest, wcur := e, consumed := s.consumed ++ [e], curLate := s.unsubReturned
                    wpc := if s.upNext then (if e.isTerminal then .uClrOther else .chk0) else .src
                    upNext := s.upNext && !e.isTerminal
                    log := if s.upNext then s.log else (workerT, .drop e) :: s.log }
  | .uClrOther, .clrOther =>
    some { s with upCompl := s.upCompl && !s.wcur.isErr, upErr := s.upErr && !s.wcur.isCompl, wpc := .uTakeOwn }
  | .uTakeOwn, .takeOwn =>
    some { s with upErr := s.upErr && !s.wcur.isErr, upCompl := s.upCompl && !s.wcur.isCompl
                  wpc := if s.ownUp s.wcur then .chk0 else .src
                  log := if s.ownUp s.wcur then s.log else (workerT, .drop s.wcur) :: s.log }
  | .chk0, .chk => some { s with wpc := if s.sNext then .chk1 else .fin .iter }
  | .chk1, .chk => some { s with wpc := if s.sErr then .chk2 else .fin .iter }
  | .chk2, .chk =>
    some { s with wpc := if s.sCompl then (match s.wcur with
                                           | .next _ => .fetch
                                           | .error _ => .claim
                                           | .complete => .remove) else .fin .iter }
  | .fetch, .fetch => some { s with wpc := if s.sNext then .cbN else .src }
  | .remove, .remove => some { s with unsc := false, wpc := .claim }
  | .claim, .claim =>
    some { s with wpc := if s.sNext then .clrOther else .fin .iter, sNext := false, claimed := s.claimed || s.sNext }
  | .clrOther, .clrOther =>
    some { s with sCompl := s.sCompl && !s.wcur.isErr, sErr := s.sErr && !s.wcur.isCompl, wpc := .takeOwn }
  | .takeOwn, .takeOwn =>
    some { s with sErr := s.sErr && !s.wcur.isErr, sCompl := s.sCompl && !s.wcur.isCompl
                  wpc := if s.ownS s.wcur then .cbT else .fin .iter }
  | .cbN, .cbStart =>
    some { s with wpc := .inCbN, delivered := s.delivered ++ [s.wcur], lateCb := s.lateCb || s.curLate
                  log := (workerT, .cbStart s.wcur) :: s.log }
  | .inCbN, .cbReturn => some { s with wpc := .src, log := (workerT, .cbReturn s.wcur) :: s.log }
  | .cbT, .cbStart =>
    some { s with wpc := .inCbT, delivered := s.delivered ++ [s.wcur], lateCb := s.lateCb || s.curLate
                  termStarted := true, log := (workerT, .cbStart s.wcur) :: s.log }
  | .inCbT, .cbReturn =>
    some { s with wpc := .fin .iter, termReturned := true, log := (workerT, .cbReturn s.wcur) :: s.log }
  | .fin .iter, .fIter => finW s .iter
  | .fin .up0, .fUp => finW s .up0
  | .fin .up1, .fUp => finW s .up1
  | .fin .up2, .fUp => finW s .up2
  | .fin .clear, .fClear => finW s .clear
  | .fin .chk, .fChk => finW s .chk
  | .fin .lock, .fLock => finW s .lock
  | .fin .stop, .fStop => finW s .stop
  | .fin .unlock, .fUnlock => finW s .unlock
  | _, _ => none

def unsStep (s : State) (k : Kind) : Option State :=
  match s.upc, k with
  | .idle, .unsubCall => some { s with upc := .c0 }
  | .c0, .clr => some { s with sNext := false, upc := .c1, unsubBegan := true, unsubEarly := !s.termStarted }
  | .c1, .clr => some { s with sErr := false, upc := .c2 }
  | .c2, .clr => some { s with sCompl := false, upc := .onUnsub }
  | .onUnsub, .onUnsub => some { s with upc := .fin .iter }
  | .fin .iter, .fIter => finU s .iter
  | .fin .up0, .fUp => finU s .up0
  | .fin .up1, .fUp => finU s .up1
  | .fin .up2, .fUp => finU s .up2
  | .fin .clear, .fClear => finU s .clear
  | .fin .chk, .fChk => finU s .chk
  | .fin .lock, .fLock => finU s .lock
  | .fin .stop, .fStop => finU s .stop
  | .fin .unlock, .fUnlock => finU s .unlock
  | .ret, .unsubRet => some { s with upc := .done, unsubReturned := true, log := (unsubT, .unsubRet) :: s.log }
  | _, _ => none

def step (s : State) (l : Label) : Option State :=
  match l.tid with
  | 0 => srcStep s l.kind
  | 1 => wrkStep s l.kind
  | 2 => unsStep s l.kind
  | _ => none

inductive Reachable (cfg : Config) : State → Prop
  | init : Reachable cfg (init cfg)
  | step {s s' l} : Reachable cfg s → step s l = some s' → Reachable cfg s'

def run : State → List Label → Option State
  | s, [] => some s
  | s, l :: ls => match step s l with
    | some s' => run s' ls
    | none => none

def replay (cfg : Config) (ls : List Label) : Option State := run (init cfg) ls

def acceptedPrefix : State → List Label → Nat
  | _, [] => 0
  | s, l :: ls => match step s l with
    | some s' => acceptedPrefix s' ls + 1
    | none => 0

theorem reachable_of_run {cfg : Config} {s s' : State} {ls : List Label}
    (hs : Reachable cfg s) (h : run s ls = some s') : Reachable cfg s' := by
  induction ls generalizing s with
  | nil => simp [run] at h; exact h ▸ hs
  | cons l ls ih =>
    simp only [run] at h
    split at h
    · next s1 h1 => exact ih (.step hs h1) h
    · cases h

theorem reachable_of_replay {cfg : Config} {s : State} {ls : List Label}
    (h : replay cfg ls = some s) : Reachable cfg s := reachable_of_run .init h

end SubOn

end Handoff
end Rx
