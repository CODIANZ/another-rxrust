import RxVerif.Data
/-
Model C (concurrent): ONE `Observer` (src/observer.rs) shared by any number of threads.

All clones of an `Observer` alias the same four slots (`#[derive(Clone)]` over `Arc<RwLock<Option<..>>>`):
  fn_next, fn_error, fn_complete   : FunctionWrapper  (src/internals/function_wrapper.rs)
  fn_on_unsubscribe                : Arc<RwLock<Option<FunctionWrapper>>>   ("teardown" slot)

Granularity.  One label per RwLock acquisition (the read / take / clear done under that guard happens in the
same atomic step, and the guard is released in that step too, because in the Rust code the guard is a
temporary that is dropped before anything else observable happens), one label for the start and one for the
return of every user callback, one label for the start and one for the return of every call on the observer.
The ONLY guard that is held across a callback is the read guard on `fn_on_unsubscribe` in
`Observer::unsubscribe` (observer.rs:57-59: the `if let Some(f) = &*self.fn_on_unsubscribe.read().unwrap()`
scrutinee temporary lives until the end of the `if let` body, i.e. across `f.call(())`).  That guard therefore
gets an explicit acquire (`acqR teardown`) and release (`relR teardown`) label and a reader count; the final
`*self.fn_on_unsubscribe.write().unwrap() = None` (observer.rs:60) is blocked while the count is non-zero.

User callbacks and the teardown closure are opaque: between `cbStart` and `cbReturn` any other thread may take
any number of steps; the callback itself does not touch the observer (re-entrancy = sequential model).

Every step appends exactly one entry to the ghost `log`; the log is append-only and is the full trace with
the observed values (slot found present or not, result of `is_subscribed`).  Every entry carries the call id
`cid` = index in the log of the `callStart` entry of the call it belongs to.
-/
namespace Rx.ConcObs

/-- a call on the shared observer -/
inductive Op where
  | next (d : Data)      -- Observer::next        observer.rs:37-39
  | error (e : Nat)      -- Observer::error       observer.rs:40-46
  | complete             -- Observer::complete    observer.rs:47-52
  | unsubscribe          -- Observer::unsubscribe observer.rs:53-61
  | isSubscribed         -- Observer::is_subscribed observer.rs:62-64
deriving DecidableEq, Repr, Inhabited

/-- the RwLocks.  `tearFn` is the `inner` lock of the FunctionWrapper stored inside the teardown slot
    (read by `f.call(())` → `fetch_function`, function_wrapper.rs:51-57,59-65); nobody ever clears it. -/
inductive Slot where | next | error | complete | teardown | tearFn
deriving DecidableEq, Repr, Inhabited

/-- user callbacks -/
inductive Cb where | next | error | complete | teardown
deriving DecidableEq, Repr, Inhabited

/-- label kinds; a label is (thread id, kind); everything else is determined by the state -/
inductive Kind where
  | callStart (op : Op)  -- the thread enters `op` (only label with a free choice)
  | callReturn           -- the current call returns to the caller
  | cbStart (cb : Cb)    -- the fetched closure is invoked (no observer lock held, except teardown: see above)
  | cbReturn (cb : Cb)   -- the closure returns
  | acqR (sl : Slot)     -- `sl.read()` acquired; value inspected; guard dropped (kept only for `teardown` if Some)
  | acqW (sl : Slot)     -- `sl.write()` acquired; slot taken / cleared; guard dropped
  | relR (sl : Slot)     -- the read guard on `teardown` is dropped (end of the `if let` in unsubscribe)
deriving DecidableEq, Repr, Inhabited

structure Label where
  tid : Nat
  kind : Kind
deriving DecidableEq, Repr, Inhabited

/-- ghost log events = label kinds + what was observed -/
inductive Event where
  | callStart (op : Op)
  | callReturn (op : Op) (res : Option Bool)   -- `some b` only for `isSubscribed`
  | cbStart (cb : Cb)
  | cbReturn (cb : Cb)
  | acqR (sl : Slot) (found : Bool)            -- slot was `Some` when read
  | acqW (sl : Slot) (found : Bool)            -- slot was `Some` before it was set to `None`
  | relR (sl : Slot)
deriving DecidableEq, Repr, Inhabited

structure Entry where
  tid : Nat
  cid : Nat      -- index in the log of the `callStart` of the call this entry belongs to
  ev : Event
deriving DecidableEq, Repr, Inhabited

/-- program counter of a thread inside its current call -/
inductive Pc where
  | idle
  -- next(x) = fn_next.call_if_available(x)                     function_wrapper.rs:66-72
  | n0   -- fetch_function: fn_next.inner.read(), clone, drop    (:51-57)        label acqR next
  | n1   -- fetched Some(ff): about to run (ff.func)(x)          (:68)           label cbStart next
  | n2   -- inside the next callback                                              label cbReturn next
  -- error(x) / complete()                                       observer.rs:40-52
  | t0   -- fn_next.clear_if_available(): write, take, is_some   (fw :41-43)     label acqW next
  | t1   -- the OTHER terminal slot .clear()                     (fw :38-40)     label acqW complete|error
  | t2   -- own slot call_and_clear_if_available: write, clone, None (fw :74-83) label acqW error|complete
  | t3   -- got Some(f): about to run (f.func)(x)                (fw :85)        label cbStart error|complete
  | t4   -- inside the terminal callback                                          label cbReturn error|complete
  -- unsubscribe()                                               observer.rs:53-61
  | u0   -- fn_next.clear()                                      (:54)           label acqW next
  | u1   -- fn_error.clear()                                     (:55)           label acqW error
  | u2   -- fn_complete.clear()                                  (:56)           label acqW complete
  | u3   -- fn_on_unsubscribe.read(); Some → guard KEPT          (:57)           label acqR teardown
  | u4   -- f.call(()) → f.fetch_function (inner read lock)      (:58, fw:60)    label acqR tearFn
  | u5   -- about to run the teardown closure                    (fw :61)        label cbStart teardown
  | u6   -- inside the teardown closure (read guard still held)                   label cbReturn teardown
  | u7   -- end of `if let`: read guard dropped                  (:59)           label relR teardown
  | u8   -- *fn_on_unsubscribe.write() = None (waits for readers) (:60)          label acqW teardown
  -- is_subscribed() = next.exists() && error.exists() && complete.exists()   observer.rs:62-64 (short-circuit)
  | i0   -- fn_next.exists()                                     (fw :44-49)     label acqR next
  | i1   -- fn_error.exists()                                                     label acqR error
  | i2   -- fn_complete.exists()                                                  label acqR complete
  | ret (res : Option Bool)   -- about to return to the caller                    label callReturn
deriving DecidableEq, Repr, Inhabited

structure Thread where
  pc : Pc := .idle
  op : Op := .isSubscribed   -- current call (last call when idle; meaningless before the first call)
  cid : Nat := 0             -- log index of the current call's `callStart`
deriving DecidableEq, Repr, Inhabited

/-- the shared memory: `true` = slot holds `Some(closure)` -/
structure Shared where
  sNext : Bool := true
  sErr : Bool := true
  sCompl : Bool := true
  sTear : Bool := false      -- `fn_on_unsubscribe` is `None` until `set_on_unsubscribe`
  readers : Nat := 0         -- read guards currently held on `fn_on_unsubscribe`
deriving DecidableEq, Repr, Inhabited

structure State where
  sh : Shared
  threads : List Thread
  log : List Entry
deriving DecidableEq, Repr, Inhabited

def Shared.get (sh : Shared) : Slot → Bool
  | .next => sh.sNext
  | .error => sh.sErr
  | .complete => sh.sCompl
  | .teardown => sh.sTear
  | .tearFn => true

def Shared.clear (sh : Shared) : Slot → Shared
  | .next => { sh with sNext := false }
  | .error => { sh with sErr := false }
  | .complete => { sh with sCompl := false }
  | .teardown => { sh with sTear := false }
  | .tearFn => sh

def Op.isErr : Op → Bool
  | .error _ => true
  | _ => false

/-- slot of the terminal's own closure / of the other terminal / its callback kind -/
def Op.own (op : Op) : Slot := if op.isErr then .error else .complete
def Op.other (op : Op) : Slot := if op.isErr then .complete else .error
def Op.cb (op : Op) : Cb := if op.isErr then .error else .complete

def Op.entry : Op → Pc
  | .next _ => .n0
  | .error _ => .t0
  | .complete => .t0
  | .unsubscribe => .u0
  | .isSubscribed => .i0

/-- The unique next micro-step of a non-idle thread at `pc` inside call `op`:
    (label kind, new shared memory, new pc, logged event); `none` = idle or blocked. -/
def micro (sh : Shared) (pc : Pc) (op : Op) : Option (Kind × Shared × Pc × Event) :=
  match pc with
  | .idle => none
  | .n0 => some (.acqR .next, sh, if sh.sNext then .n1 else .ret none, .acqR .next sh.sNext)
  | .n1 => some (.cbStart .next, sh, .n2, .cbStart .next)
  | .n2 => some (.cbReturn .next, sh, .ret none, .cbReturn .next)
  | .t0 => some (.acqW .next, sh.clear .next, if sh.sNext then .t1 else .ret none, .acqW .next sh.sNext)
  | .t1 => some (.acqW op.other, sh.clear op.other, .t2, .acqW op.other (sh.get op.other))
  | .t2 => some (.acqW op.own, sh.clear op.own, if sh.get op.own then .t3 else .ret none,
                 .acqW op.own (sh.get op.own))
  | .t3 => some (.cbStart op.cb, sh, .t4, .cbStart op.cb)
  | .t4 => some (.cbReturn op.cb, sh, .ret none, .cbReturn op.cb)
  | .u0 => some (.acqW .next, sh.clear .next, .u1, .acqW .next sh.sNext)
  | .u1 => some (.acqW .error, sh.clear .error, .u2, .acqW .error sh.sErr)
  | .u2 => some (.acqW .complete, sh.clear .complete, .u3, .acqW .complete sh.sCompl)
  | .u3 => some (.acqR .teardown, { sh with readers := if sh.sTear then sh.readers + 1 else sh.readers },
                 if sh.sTear then .u4 else .u8, .acqR .teardown sh.sTear)
  | .u4 => some (.acqR .tearFn, sh, .u5, .acqR .tearFn true)
  | .u5 => some (.cbStart .teardown, sh, .u6, .cbStart .teardown)
  | .u6 => some (.cbReturn .teardown, sh, .u7, .cbReturn .teardown)
  | .u7 => some (.relR .teardown, { sh with readers := sh.readers - 1 }, .u8, .relR .teardown)
  | .u8 => if sh.readers = 0 then some (.acqW .teardown, sh.clear .teardown, .ret none, .acqW .teardown sh.sTear)
           else none
  | .i0 => some (.acqR .next, sh, if sh.sNext then .i1 else .ret (some false), .acqR .next sh.sNext)
  | .i1 => some (.acqR .error, sh, if sh.sErr then .i2 else .ret (some false), .acqR .error sh.sErr)
  | .i2 => some (.acqR .complete, sh, .ret (some sh.sCompl), .acqR .complete sh.sCompl)
  | .ret r => some (.callReturn, sh, .idle, .callReturn op r)

/-- One labelled step.  Deterministic: the label must be exactly the step the thread is about to take. -/
def step (s : State) (l : Label) : Option State :=
  match s.threads[l.tid]? with
  | none => none
  | some th =>
    if th.pc = .idle then
      match l.kind with
      | .callStart op =>
        some { sh := s.sh,
               threads := s.threads.set l.tid { pc := op.entry, op := op, cid := s.log.length },
               log := s.log ++ [⟨l.tid, s.log.length, .callStart op⟩] }
      | _ => none
    else
      match micro s.sh th.pc th.op with
      | none => none
      | some (k, sh', pc', ev) =>
        if k = l.kind then
          some { sh := sh',
                 threads := s.threads.set l.tid { th with pc := pc' },
                 log := s.log ++ [⟨l.tid, th.cid, ev⟩] }
        else none

/-- `n` threads, all idle; `tear` = a teardown closure was installed (`set_on_unsubscribe`) before sharing -/
def init (n : Nat) (tear : Bool) : State :=
  { sh := { sTear := tear }, threads := List.replicate n {}, log := [] }

def replay (s : State) : List Label → Option State
  | [] => some s
  | l :: ls => match step s l with
    | none => none
    | some s' => replay s' ls

inductive Reachable : State → Prop
  | init (n : Nat) (tear : Bool) : Reachable (init n tear)
  | step {s s' : State} {l : Label} : Reachable s → step s l = some s' → Reachable s'

theorem replay_reachable {s s' : State} (ls : List Label) (hs : Reachable s) (h : replay s ls = some s') :
    Reachable s' := by
  induction ls generalizing s with
  | nil => cases h; exact hs
  | cons l ls ih =>
    simp only [replay] at h
    split at h
    · cases h
    · rename_i s1 h1; exact ih (Reachable.step hs h1) h

theorem replay_snoc {a b : State} {ls : List Label} (l : Label) (h : replay a ls = some b) :
    replay a (ls ++ [l]) = step b l := by
  induction ls generalizing a with
  | nil =>
    obtain rfl : a = b := Option.some.inj h
    simp only [List.nil_append, replay]
    cases step a l <;> rfl
  | cons x xs ih =>
    simp only [replay, List.cons_append] at h ⊢
    cases hx : step a x with
    | none => rw [hx] at h; cases h
    | some a' => rw [hx] at h; exact ih h

theorem reachable_iff_replay (s : State) :
    Reachable s ↔ ∃ n tear ls, replay (init n tear) ls = some s := by
  constructor
  · intro h
    induction h with
    | init n tear => exact ⟨n, tear, [], rfl⟩
    | @step s s' l _ hstep ih =>
      obtain ⟨n, tear, ls, hls⟩ := ih
      exact ⟨n, tear, ls ++ [l], (replay_snoc l hls).trans hstep⟩
  · rintro ⟨n, tear, ls, h⟩
    exact replay_reachable ls (Reachable.init n tear) h

/-- the label kind thread `i` would take next (for schedule exploration); `none` = idle, blocked or no such thread -/
def nextKind (s : State) (i : Nat) : Option Kind :=
  match s.threads[i]? with
  | none => none
  | some th => (micro s.sh th.pc th.op).map (·.1)

/-! ### text format (helpers; no theorem mentions them) -/

def Slot.toStr : Slot → String
  | .next => "next" | .error => "error" | .complete => "complete" | .teardown => "teardown" | .tearFn => "tearFn"

def Cb.toStr : Cb → String
  | .next => "next" | .error => "error" | .complete => "complete" | .teardown => "teardown"

def Op.toStr : Op → String
  | .next d => "next " ++ d.toStr
  | .error e => "error " ++ toString e
  | .complete => "complete"
  | .unsubscribe => "unsubscribe"
  | .isSubscribed => "isSubscribed"

def Kind.toStr : Kind → String
  | .callStart op => "callStart " ++ op.toStr
  | .callReturn => "callReturn"
  | .cbStart cb => "cbStart " ++ cb.toStr
  | .cbReturn cb => "cbReturn " ++ cb.toStr
  | .acqR sl => "acqR " ++ sl.toStr
  | .acqW sl => "acqW " ++ sl.toStr
  | .relR sl => "relR " ++ sl.toStr

def Label.toStr (l : Label) : String := toString l.tid ++ " " ++ l.kind.toStr

def boolStr (b : Bool) : String := if b then "true" else "false"

def Event.toStr : Event → String
  | .callStart op => "callStart " ++ op.toStr
  | .callReturn op none => "callReturn " ++ op.toStr
  | .callReturn op (some b) => "callReturn " ++ op.toStr ++ " = " ++ boolStr b
  | .cbStart cb => "cbStart " ++ cb.toStr
  | .cbReturn cb => "cbReturn " ++ cb.toStr
  | .acqR sl f => "acqR " ++ sl.toStr ++ " " ++ (if f then "some" else "none")
  | .acqW sl f => "acqW " ++ sl.toStr ++ " " ++ (if f then "some" else "none")
  | .relR sl => "relR " ++ sl.toStr

def Entry.toStr (e : Entry) : String := toString e.tid ++ " #" ++ toString e.cid ++ " " ++ e.ev.toStr

def parseSlot : String → Option Slot
  | "next" => some .next | "error" => some .error | "complete" => some .complete
  | "teardown" => some .teardown | "tearFn" => some .tearFn | _ => none

def parseCb : String → Option Cb
  | "next" => some .next | "error" => some .error | "complete" => some .complete
  | "teardown" => some .teardown | _ => none

/-- payload of `next`: an integer literal, `u` (unit), `T`/`F`; anything else / nothing = unit -/
def parseItem : List String → Data
  | [] => .unit
  | w :: _ => match w.toInt? with
    | some i => .int i
    | none => if w = "T" then .bool true else if w = "F" then .bool false else .unit

def parseOp : List String → Option Op
  | "next" :: rest => some (.next (parseItem rest))
  | "error" :: rest => some (.error ((rest.head?.bind String.toNat?).getD 0))
  | ["complete"] => some .complete
  | ["unsubscribe"] => some .unsubscribe
  | ["isSubscribed"] => some .isSubscribed
  | _ => none

/-- `<tid> <kind> [args]`, blank separated, e.g. `0 callStart next 5`, `1 acqW next`, `1 cbStart error`,
    `2 relR teardown`, `0 callReturn` (tokens after `callReturn` are ignored so that a recorded result may follow). -/
def parseLabel (line : String) : Option Label :=
  match (line.trimAscii.toString.splitOn " ").filter (· ≠ "") with
  | t :: k :: args =>
    match t.toNat? with
    | none => none
    | some tid =>
      let kind : Option Kind :=
        match k, args with
        | "callStart", args => (parseOp args).map .callStart
        | "callReturn", _ => some .callReturn
        | "cbStart", [c] => (parseCb c).map .cbStart
        | "cbReturn", [c] => (parseCb c).map .cbReturn
        | "acqR", [s] => (parseSlot s).map .acqR
        | "acqW", [s] => (parseSlot s).map .acqW
        | "relR", [s] => (parseSlot s).map .relR
        | _, _ => none
      kind.map fun k => ⟨tid, k⟩
  | _ => none

/-- replay a text trace (one label per line; empty lines and lines starting with `#` skipped).
    `Except.error (lineNo, reason)` on the first line that does not parse or is not the thread's next step. -/
def replayLines (s : State) (lines : List String) : Except (Nat × String) State :=
  let rec go (s : State) (n : Nat) : List String → Except (Nat × String) State
    | [] => .ok s
    | ln :: rest =>
      let t := ln.trimAscii.toString
      if t.isEmpty || t.startsWith "#" then go s (n + 1) rest else
      match parseLabel t with
      | none => .error (n, "parse: " ++ t)
      | some l => match step s l with
        | none => .error (n, "not enabled: " ++ l.toStr ++ " (thread expects " ++
            (match nextKind s l.tid with | some k => k.toStr | none => "callStart/none") ++ ")")
        | some s' => go s' (n + 1) rest
  go s 1 lines

def replayText (n : Nat) (tear : Bool) (text : String) : Except (Nat × String) State :=
  replayLines (init n tear) (text.splitOn "\n")

def State.logLines (s : State) : List String := s.log.map Entry.toStr

/-- shorthand for writing runs in Lean: `run n tear [(tid, kind), ...]` -/
def run (n : Nat) (tear : Bool) (ls : List (Nat × Kind)) : Option State :=
  replay (init n tear) (ls.map fun p => ⟨p.1, p.2⟩)

end Rx.ConcObs
