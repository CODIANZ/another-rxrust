/-
Model C (lock-granularity LTS) of `BehaviorSubject` used from several threads.
Rust sources followed: /repo/src/subjects/behavior_subject.rs (l.26-87), /repo/src/subjects/subject.rs (l.31-94),
/repo/src/observer.rs (l.37-71), /repo/src/observable.rs (l.23-40), /repo/src/subscription.rs (l.20-22).

Every outer observer `o` gets (inside its `subscribe` call) a private forwarder observer `F(o)` registered in the inner
`Subject`; its `next` callback is `move |x| s_next.next(x)` (behavior_subject.rs l.80).  Micro-steps (label kinds):

`BehaviorSubject::next(v)` (l.26-29)
  * `setLast` : `*last_item.write() = Some(v)`                                            (l.27)
  * `snap`, `fetch`, `ofetch`, `deliver`, `ret` : inner broadcast, exactly as in `RxVerif/Conc/Replay.lean`
`observable().subscribe(..)` with a fresh outer observer `o` (l.38-87)
  * `isSub1`  : `inner_subscribe`: `observer.is_subscribed()`                              (observable.rs l.29)
  * `rdLast`  : `last_item.read().unwrap().clone()`                                        (l.47)
  * `rdErr`   : `last_error.read().unwrap().clone()` (always `None`: terminals are not modelled)   (l.48)
  * `hfetch`  : hand-over `s.next(item)`: read `o.fn_next`; absent ⇒ nothing handed over   (l.54-55)
  * `hdeliver`: the subscriber's callback is invoked with the stored value (log entry tagged `none`)
  * `isSub2`  : `if !s.is_subscribed() return`                                             (l.61-64)
  * `setTd`   : `s.set_on_unsubscribe(..)`                                                 (l.67-74)
  * `serial`  : `subject.observable().subscribe(..)` creates `F(o)`; the `is_subscribed()` checks on the still
                thread-private `F(o)` are always true and are folded into this step, `*serial += 1` (subject.rs l.66-70)
  * `setTdF`  : `F(o).set_on_unsubscribe(..)`                                              (subject.rs l.74-83)
  * `insert`  : `observers.write().insert(serial, F(o))`                                   (subject.rs l.85-89)
  * `setSbsc` : `*sbsc.write() = Some(subscription)`                                       (l.79)
`Observer::unsubscribe` of the outer observer `o`: as in `RxVerif/Conc/Replay.lean`.
The same abstractions as in `RxVerif/Conc/Subject.lean` apply.  Log entries are `(some producer tid, call index, item)`
for broadcast deliveries and `(none, 0, item)` for the hand-over.
-/
import RxVerif.Data

namespace Rx.Conc.Behavior

inductive Call where
  | next (v : Data)
  | subscribe (o : Nat)
  | unsubscribe (o : Nat)
deriving Repr, DecidableEq, Inhabited

abbrev Entry := Option Nat × Nat × Data   -- (producer tid or none for the hand-over, call index, item)

inductive Pc where
  | idle
  | r0 (k : Nat) (v : Data)                              -- next #k: about to store `last_item`
  | nx0 (k : Nat) (v : Data)                             -- about to snapshot the inner map
  | nxL (k : Nat) (v : Data) (snap : List Nat)           -- forwarders still to visit
  | nxF (k : Nat) (v : Data) (o : Nat) (rest : List Nat) -- fetched `F(o).fn_next`, forwarder callback about to read `o.fn_next`
  | nxD (k : Nat) (v : Data) (o : Nat) (rest : List Nat) -- fetched `o.fn_next`, about to call it
  | s0 (o : Nat)
  | s1 (o : Nat)                                         -- about to read `last_item`
  | s2 (o : Nat) (x : Data)                              -- about to read `last_error`
  | s3 (o : Nat) (x : Data)                              -- hand-over: about to read `o.fn_next`
  | s3d (o : Nat) (x : Data)                             -- fetched `o.fn_next`, about to call it with `x`
  | s4 (o : Nat)                                         -- `is_subscribed` check after the hand-over
  | s5 (o : Nat) | s6 (o : Nat) | s7 (o : Nat) | s8 (o : Nat) | s9 (o : Nat)
  | u0 (o : Nat) | u1 (o : Nat) | u2 (o : Nat) | u3 (o : Nat) | u4 (o : Nat) | u5 (o : Nat)
  | u6 (o : Nat) | u7 (o : Nat) | u8 (o : Nat) | u9 (o : Nat) | u9r (o : Nat) | u9c (o : Nat) | u10 (o : Nat)
deriving Repr, DecidableEq, Inhabited

inductive Kind where
  | call | setLast | snap | fetch | ofetch | deliver | ret
  | isSub1 | rdLast | rdErr | hfetch | hdeliver | isSub2 | setTd | serial | setTdF | insert | setSbsc
  | clrNext | clrErr | clrCompl | readTd | readSbsc | takeUnsub
  | fClrNext | fClrErr | fClrCompl | fReadTd | fRemove | fClrTd | clrTd
deriving Repr, DecidableEq, Inhabited

def Pc.kind : Pc → Kind
  | .idle => .call
  | .r0 .. => .setLast
  | .nx0 .. => .snap
  | .nxL _ _ [] => .ret
  | .nxL _ _ (_ :: _) => .fetch
  | .nxF .. => .ofetch
  | .nxD .. => .deliver
  | .s0 _ => .isSub1 | .s1 _ => .rdLast | .s2 .. => .rdErr | .s3 .. => .hfetch | .s3d .. => .hdeliver
  | .s4 _ => .isSub2 | .s5 _ => .setTd | .s6 _ => .serial | .s7 _ => .setTdF | .s8 _ => .insert
  | .s9 _ => .setSbsc
  | .u0 _ => .clrNext | .u1 _ => .clrErr | .u2 _ => .clrCompl | .u3 _ => .readTd | .u4 _ => .readSbsc
  | .u5 _ => .takeUnsub | .u6 _ => .fClrNext | .u7 _ => .fClrErr | .u8 _ => .fClrCompl | .u9 _ => .fReadTd
  | .u9r _ => .fRemove | .u9c _ => .fClrTd | .u10 _ => .clrTd

/-- the thread is inside a `next` call -/
def Pc.inNext : Pc → Bool
  | .r0 .. | .nx0 .. | .nxL .. | .nxF .. | .nxD .. => true
  | _ => false

/-- the thread is inside a `subscribe` call -/
def Pc.inSub : Pc → Bool
  | .s0 _ | .s1 _ | .s2 .. | .s3 .. | .s3d .. | .s4 _ | .s5 _ | .s6 _ | .s7 _ | .s8 _ | .s9 _ => true
  | _ => false

structure Obs where
  fnNext : Bool := true                      -- outer observer: `fn_next` present
  td : Bool := false                         -- outer observer: `fn_on_unsubscribe` is `Some`
  sbsc : Bool := false                       -- the `sbsc` cell holds the inner subscription
  subTaken : Bool := false                   -- the inner subscription's `fn_unsubscribe` was taken
  fFnNext : Bool := true                     -- forwarder: `fn_next` present
  fTd : Bool := false                        -- forwarder: `fn_on_unsubscribe` is `Some`
  fSer : Option Nat := none                  -- forwarder: serial captured by the closures
  used : Option Nat := none                  -- ghost: thread whose `subscribe` call created this observer
  ins : Bool := false                        -- ghost: forwarder was inserted into the inner map
  subDone : Bool := false                    -- ghost: the `subscribe` call has returned
  hand : Option Data := none                 -- ghost: the value read from `last_item` by the `subscribe` call
  base : Nat → Nat := fun _ => 0             -- ghost: per thread, number of `next` calls started when `last_item` was read
  rlog : List Entry := []                    -- ghost: deliveries, NEWEST FIRST
deriving Inhabited

structure Thread where
  todo : List Call := []
  pc : Pc := .idle
  cnt : Nat := 0                             -- ghost: number of `next` calls started so far
deriving Repr, Inhabited

structure State where
  obs : Nat → Obs
  map : List (Nat × Nat)                     -- inner subject's map: `(serial, o)` stands for `F(o)`
  serial : Nat
  last : Data                                -- `last_item` (always `Some`: `complete` is not modelled)
  vals : List Data                           -- ghost: every value `last_item` ever held, oldest first
  threads : Nat → Thread

def setObs (s : State) (o : Nat) (ob : Obs) : Nat → Obs := fun j => if j = o then ob else s.obs j
def setThr (s : State) (t : Nat) (th : Thread) : Nat → Thread := fun j => if j = t then th else s.threads j

/-- deliveries to observer `o` in delivery order -/
def State.received (s : State) (o : Nat) : List Entry := (s.obs o).rlog.reverse
/-- the items observer `o` received, in delivery order -/
def State.recvVals (s : State) (o : Nat) : List Data := (s.received o).map (·.2.2)

def stepT (s : State) (t : Nat) : Option State :=
  let th := s.threads t
  match th.pc with
  | .idle =>
    match th.todo with
    | [] => none
    | .next v :: rest =>
      some { s with threads := setThr s t { todo := rest, pc := .r0 th.cnt v, cnt := th.cnt + 1 } }
    | .subscribe o :: rest =>
      if (s.obs o).used.isSome then none
      else some { s with obs := setObs s o { s.obs o with used := some t }
                         threads := setThr s t { th with todo := rest, pc := .s0 o } }
    | .unsubscribe o :: rest => some { s with threads := setThr s t { th with todo := rest, pc := .u0 o } }
  | .r0 k v => some { s with last := v, vals := s.vals ++ [v], threads := setThr s t { th with pc := .nx0 k v } }
  | .nx0 k v => some { s with threads := setThr s t { th with pc := .nxL k v (s.map.map (·.2)) } }
  | .nxL _ _ [] => some { s with threads := setThr s t { th with pc := .idle } }
  | .nxL k v (o :: rest) =>
    some { s with threads := setThr s t { th with pc := if (s.obs o).fFnNext then .nxF k v o rest else .nxL k v rest } }
  | .nxF k v o rest =>
    some { s with threads := setThr s t { th with pc := if (s.obs o).fnNext then .nxD k v o rest else .nxL k v rest } }
  | .nxD k v o rest =>
    some { s with obs := setObs s o { s.obs o with rlog := (some t, k, v) :: (s.obs o).rlog }
                  threads := setThr s t { th with pc := .nxL k v rest } }
  | .s0 o => some { s with threads := setThr s t { th with pc := if (s.obs o).fnNext then .s1 o else .idle } }
  | .s1 o => some { s with obs := setObs s o { s.obs o with hand := some s.last, base := fun j => (s.threads j).cnt }
                           threads := setThr s t { th with pc := .s2 o s.last } }
  | .s2 o x => some { s with threads := setThr s t { th with pc := .s3 o x } }
  | .s3 o x => some { s with threads := setThr s t { th with pc := if (s.obs o).fnNext then .s3d o x else .s4 o } }
  | .s3d o x =>
    some { s with obs := setObs s o { s.obs o with rlog := (none, 0, x) :: (s.obs o).rlog }
                  threads := setThr s t { th with pc := .s4 o } }
  | .s4 o => some { s with threads := setThr s t { th with pc := if (s.obs o).fnNext then .s5 o else .idle } }
  | .s5 o => some { s with obs := setObs s o { s.obs o with td := true }
                           threads := setThr s t { th with pc := .s6 o } }
  | .s6 o =>
    some { s with serial := s.serial + 1
                  obs := setObs s o { s.obs o with fSer := some (s.serial + 1) }
                  threads := setThr s t { th with pc := .s7 o } }
  | .s7 o => some { s with obs := setObs s o { s.obs o with fTd := true }
                           threads := setThr s t { th with pc := .s8 o } }
  | .s8 o =>
    some { s with map := s.map ++ [((s.obs o).fSer.getD 0, o)]
                  obs := setObs s o { s.obs o with ins := true }
                  threads := setThr s t { th with pc := .s9 o } }
  | .s9 o => some { s with obs := setObs s o { s.obs o with sbsc := true, subDone := true }
                           threads := setThr s t { th with pc := .idle } }
  | .u0 o => some { s with obs := setObs s o { s.obs o with fnNext := false }
                           threads := setThr s t { th with pc := .u1 o } }
  | .u1 o => some { s with threads := setThr s t { th with pc := .u2 o } }
  | .u2 o => some { s with threads := setThr s t { th with pc := .u3 o } }
  | .u3 o => some { s with threads := setThr s t { th with pc := if (s.obs o).td then .u4 o else .u10 o } }
  | .u4 o => some { s with threads := setThr s t { th with pc := if (s.obs o).sbsc then .u5 o else .u10 o } }
  | .u5 o =>
    some { s with obs := setObs s o { s.obs o with subTaken := true }
                  threads := setThr s t { th with pc := if (s.obs o).subTaken then .u10 o else .u6 o } }
  | .u6 o => some { s with obs := setObs s o { s.obs o with fFnNext := false }
                           threads := setThr s t { th with pc := .u7 o } }
  | .u7 o => some { s with threads := setThr s t { th with pc := .u8 o } }
  | .u8 o => some { s with threads := setThr s t { th with pc := .u9 o } }
  | .u9 o => some { s with threads := setThr s t { th with pc := if (s.obs o).fTd then .u9r o else .u9c o } }
  | .u9r o =>
    some { s with map := s.map.filter (fun e => some e.1 != (s.obs o).fSer)
                  threads := setThr s t { th with pc := .u9c o } }
  | .u9c o => some { s with obs := setObs s o { s.obs o with fTd := false }
                            threads := setThr s t { th with pc := .u10 o } }
  | .u10 o => some { s with obs := setObs s o { s.obs o with td := false }
                            threads := setThr s t { th with pc := .idle } }

abbrev Label := Nat × Kind

def step (s : State) (l : Label) : Option State :=
  if (s.threads l.1).pc.kind = l.2 then stepT s l.1 else none

def init (progs : List (List Call)) (initial : Data) : State where
  obs := fun _ => {}
  map := []
  serial := 0
  last := initial
  vals := [initial]
  threads := fun t => { todo := progs.getD t [] }

def replayFrom (s : State) : List Label → Option State
  | [] => some s
  | l :: ls => match step s l with
    | some s' => replayFrom s' ls
    | none => none

def replay (progs : List (List Call)) (initial : Data) (ls : List Label) : Option State :=
  replayFrom (init progs initial) ls

def replayCount (s : State) : List Label → Nat
  | [] => 0
  | l :: ls => match step s l with
    | some s' => replayCount s' ls + 1
    | none => 0

inductive Reachable (progs : List (List Call)) (initial : Data) : State → Prop
  | init : Reachable progs initial (init progs initial)
  | step {s s' : State} {l : Label} : Reachable progs initial s → step s l = some s' → Reachable progs initial s'

/-- no `next` call overlaps a `subscribe` call in this state -/
def State.quiet (s : State) : Prop :=
  ∀ t t' : Nat, (s.threads t).pc.inSub = true → (s.threads t').pc.inNext = true → False

/-- reachable through states that are all `quiet` -/
inductive ReachableQ (progs : List (List Call)) (initial : Data) : State → Prop
  | init : ReachableQ progs initial (init progs initial)
  | step {s s' : State} {l : Label} :
      ReachableQ progs initial s → step s l = some s' → s'.quiet → ReachableQ progs initial s'

theorem ReachableQ.reachable {progs : List (List Call)} {initial : Data} {s : State}
    (h : ReachableQ progs initial s) : Reachable progs initial s := by
  induction h with
  | init => exact .init
  | step _ hs _ ih => exact .step ih hs

theorem reachable_of_replayFrom {progs initial} {s s' : State} (h : Reachable progs initial s) {ls : List Label}
    (hr : replayFrom s ls = some s') : Reachable progs initial s' := by
  induction ls generalizing s with
  | nil => simp [replayFrom] at hr; subst hr; exact h
  | cons l ls ih =>
    simp only [replayFrom] at hr
    split at hr
    · rename_i s1 hs; exact ih (.step h hs) hr
    · simp at hr

theorem reachable_of_replay {progs initial} {s : State} {ls : List Label}
    (hr : replay progs initial ls = some s) : Reachable progs initial s :=
  reachable_of_replayFrom .init hr

def State.done (s : State) (t : Nat) : Prop := (s.threads t).pc = .idle ∧ (s.threads t).todo = []
instance (s : State) (t : Nat) : Decidable (s.done t) := by unfold State.done; exact inferInstance
/-- threads `0 .. n-1` have all finished -/
def State.allDone (s : State) (n : Nat) : Bool := (List.range n).all fun t => decide (s.done t)

/-! ### text form of labels: `<tid> <kind>` e.g. `1 rdLast` -/

def Kind.toStr : Kind → String
  | .call => "call" | .setLast => "setLast" | .snap => "snap" | .fetch => "fetch" | .ofetch => "ofetch"
  | .deliver => "deliver" | .ret => "ret"
  | .isSub1 => "isSub1" | .rdLast => "rdLast" | .rdErr => "rdErr" | .hfetch => "hfetch" | .hdeliver => "hdeliver"
  | .isSub2 => "isSub2" | .setTd => "setTd" | .serial => "serial" | .setTdF => "setTdF"
  | .insert => "insert" | .setSbsc => "setSbsc"
  | .clrNext => "clrNext" | .clrErr => "clrErr" | .clrCompl => "clrCompl" | .readTd => "readTd"
  | .readSbsc => "readSbsc" | .takeUnsub => "takeUnsub"
  | .fClrNext => "fClrNext" | .fClrErr => "fClrErr" | .fClrCompl => "fClrCompl" | .fReadTd => "fReadTd"
  | .fRemove => "fRemove" | .fClrTd => "fClrTd" | .clrTd => "clrTd"

def Kind.all : List Kind :=
  [.call, .setLast, .snap, .fetch, .ofetch, .deliver, .ret,
   .isSub1, .rdLast, .rdErr, .hfetch, .hdeliver, .isSub2, .setTd, .serial, .setTdF, .insert, .setSbsc,
   .clrNext, .clrErr, .clrCompl, .readTd, .readSbsc, .takeUnsub,
   .fClrNext, .fClrErr, .fClrCompl, .fReadTd, .fRemove, .fClrTd, .clrTd]

def parseKind (w : String) : Option Kind := Kind.all.find? (fun k => k.toStr == w)

def parseLabel (line : String) : Option Label :=
  match (line.trimAscii.toString.splitOn " ").filter (· ≠ "") with
  | [t, k] => do
    let t ← t.toNat?
    let k ← parseKind k
    pure (t, k)
  | _ => none

def Label.toStr (l : Label) : String := toString l.1 ++ " " ++ l.2.toStr

def enabled (s : State) (n : Nat) : List Label :=
  (List.range n).filterMap fun t =>
    let l := (t, (s.threads t).pc.kind)
    if (step s l).isSome then some l else none

end Rx.Conc.Behavior
