/-
Co-simulation of `Rx.Handoff` / `Rx.Handoff.SubOn` (Conc/Handoff.lean) against executions recorded from the
instrumented crate by `harness/conc/src/handoff.rs`.

The harness does NOT name LTS label kinds.  It renders every recorded lock acquisition on one of the nine modelled
locks, every critical section of the scheduler's queue mutex and every harness stamp as an OBSERVABLE OPERATION
`<tid> <op>`:

  r:<lock> / w:<lock>   read / write acquisition; locks  sN sE sC sU  (subscriber slots, `fn_on_unsubscribe`),
                        uN uE uC (slots of the observer handed to the source), unsc, fin (`unscribers`, `on_finalize`);
                        the uN operation that starts an emission carries the event: `r:uN@n1`, `w:uN@c`, `w:uN@e3`
  rel:fin               the `on_finalize` write guard is dropped;  noStop: no scheduler stop happened under that guard
  q:post q:take q:exit q:stop   one critical section of the queue mutex (the LTS's atomic channel operations)
  cbStart <ev> / cbReturn <ev> / unsubCall / srcDone      stamps of the harness's subscriber / unsubscriber / source

`expect s t` lists, for thread `t` in LTS state `s`, the micro-steps the LTS could take next together with the operation
each of them performs on the real locks (read off the Rust lines quoted in Handoff.lean).  A recorded operation is
accepted iff it is the operation of one of those steps AND `Handoff.step` accepts that step's label; so the program
counter of the LTS decides which `Kind` an operation is, and the recorded lock identity is checked against it.
-/
import RxVerif.Conc.Handoff

namespace Rx.Handoff.Cosim

/-- operation performed by the `finalize` micro-step at pc `f` (stream_controller.rs 132-145) -/
def finOp (onFin : Bool) : FPc → Kind × String
  | .iter => (.fIter, "r:unsc")
  | .up0 => (.fUp, "w:uN")
  | .up1 => (.fUp, "w:uE")
  | .up2 => (.fUp, "w:uC")
  | .clear => (.fClear, "w:unsc")
  | .chk => (.fChk, "r:sN")
  | .lock => (.fLock, "w:fin")
  | .stop => (.fStop, if onFin then "q:stop" else "noStop")
  | .unlock => (.fUnlock, "rel:fin")
  | .nested => (.fChk, "-")

/-- the other / the own terminal slot of the event being processed -/
def otherSlot (e : Ev) : String := if e.isErr then "C" else "E"
def ownSlot (e : Ev) : String := if e.isErr then "E" else "C"

/-- the operation that starts the emission of `e` on the observer handed to the source -/
def emitOp (e : Ev) : String := (if e.isTerminal then "w:uN@" else "r:uN@") ++ e.toStr

def unsExpect (upc : UPc) (onFin : Bool) : List (Kind × String) :=
  match upc with
  | .idle => [(.unsubCall, "unsubCall")]
  | .c0 => [(.clr, "w:sN")]
  | .c1 => [(.clr, "w:sE")]
  | .c2 => [(.clr, "w:sC")]
  | .onUnsub => [(.onUnsub, "r:sU")]
  | .fin f => [finOp onFin f]
  | .ret => [(.unsubRet, "w:sU")]
  | .done => []

/-- observe_on: next micro-steps of thread `t` with their operations -/
def expect (s : State) : Nat → List (Kind × String)
  | 0 =>
    match s.spc with
    | .idle => match s.todo with
      | [] => []
      | e :: _ => [(.emit, emitOp e)]
    | .clrOther => [(.clrOther, "w:u" ++ otherSlot s.scur)]
    | .takeOwn => [(.takeOwn, "w:u" ++ ownSlot s.scur)]
    | .post => [(.post, "q:post")]
  | 1 =>
    match s.wpc with
    | .take => [(.take, "q:take"), (.exit, "q:exit")]
    | .chk0 => [(.chk, "r:sN")]
    | .chk1 => [(.chk, "r:sE")]
    | .chk2 => [(.chk, "r:sC")]
    | .fetch => [(.fetch, "r:sN")]
    | .remove => [(.remove, "w:unsc")]
    | .claim => [(.claim, "w:sN")]
    | .clrOther => [(.clrOther, "w:s" ++ otherSlot s.wcur)]
    | .takeOwn => [(.takeOwn, "w:s" ++ ownSlot s.wcur)]
    | .cbN => [(.cbStart, "cbStart " ++ s.wcur.toStr)]
    | .inCbN => [(.cbReturn, "cbReturn " ++ s.wcur.toStr)]
    | .cbT => [(.cbStart, "cbStart " ++ s.wcur.toStr)]
    | .inCbT => [(.cbReturn, "cbReturn " ++ s.wcur.toStr)]
    | .fin f => [finOp s.onFin f]
    | .done => []
  | 2 => unsExpect s.upc s.onFin
  | _ => []

/-- subscribe_on: next micro-steps of thread `t` with their operations -/
def expectSub (s : SubOn.State) : Nat → List (Kind × String)
  | 0 => if s.posted then [] else [(.post, "q:post")]
  | 1 =>
    match s.wpc with
    | .take => [(.take, "q:take"), (.exit, "q:exit")]
    | .newObs => [(.task, "w:unsc")]           -- `new_observer` registers the upstream unsubscriber
    | .rchk0 => [(.chk, "r:sN")]               -- … and re-checks the subscriber (stream_controller.rs 83)
    | .rchk1 => [(.chk, "r:sE")]
    | .rchk2 => [(.chk, "r:sC")]
    | .rrem => [(.remove, "w:unsc")]           -- dead: remove the entry again, unsubscribe the fresh observer
    | .ruc0 => [(.fUp, "w:uN")]
    | .ruc1 => [(.fUp, "w:uE")]
    | .ruc2 => [(.fUp, "w:uC")]
    | .sub0 => [(.chk, "r:uN")]
    | .sub1 => [(.chk, "r:uE")]
    | .sub2 => [(.chk, "r:uC")]
    | .src => match s.todo with
      | [] => [(.task, "srcDone")]
      | e :: _ => [(.emit, emitOp e)]
    | .uClrOther => [(.clrOther, "w:u" ++ otherSlot s.wcur)]
    | .uTakeOwn => [(.takeOwn, "w:u" ++ ownSlot s.wcur)]
    | .chk0 => [(.chk, "r:sN")]
    | .chk1 => [(.chk, "r:sE")]
    | .chk2 => [(.chk, "r:sC")]
    | .fetch => [(.fetch, "r:sN")]
    | .remove => [(.remove, "w:unsc")]
    | .claim => [(.claim, "w:sN")]
    | .clrOther => [(.clrOther, "w:s" ++ otherSlot s.wcur)]
    | .takeOwn => [(.takeOwn, "w:s" ++ ownSlot s.wcur)]
    | .cbN => [(.cbStart, "cbStart " ++ s.wcur.toStr)]
    | .inCbN => [(.cbReturn, "cbReturn " ++ s.wcur.toStr)]
    | .cbT => [(.cbStart, "cbStart " ++ s.wcur.toStr)]
    | .inCbT => [(.cbReturn, "cbReturn " ++ s.wcur.toStr)]
    | .fin f => [finOp s.onFin f]
    | .done => []
  | 2 => unsExpect s.upc s.onFin
  | _ => []

/-- `"<tid> <op>"` (the operation may contain blanks) -/
def parseOp (l : String) : Option (Nat × String) :=
  match l.trimAscii.toString.splitOn " " with
  | a :: rest@(_ :: _) => a.toNat?.map fun t => (t, " ".intercalate rest)
  | _ => none

def showExpect (l : List (Kind × String)) : String :=
  if l.isEmpty then "nothing (the thread has no step)" else " | ".intercalate (l.map fun p => p.2 ++ " (" ++ p.1.toString ++ ")")

/-- generic replay: `exp` names the candidate steps, `stp` is the LTS's `step`.  Returns the final state and the
resolved label trace (newest first), or the index (from 1) of the first refused operation and why. -/
def replayOps {σ : Type} (exp : σ → Nat → List (Kind × String)) (stp : σ → Label → Option σ) :
    σ → Nat → List Label → List String → Except String (σ × List Label)
  | s, _, acc, [] => .ok (s, acc)
  | s, k, acc, l :: rest =>
    match parseOp l with
    | none => .error s!"operation {k} unparsable: {l}"
    | some (t, op) =>
      match (exp s t).find? (·.2 == op) with
      | none => .error s!"operation {k}: thread {t} did `{op}`, the LTS expects {showExpect (exp s t)}"
      | some (kind, _) =>
        match stp s ⟨t, kind⟩ with
        | none => .error s!"operation {k}: `{t} {op}` is the LTS step `{t} {kind.toString}`, which is not enabled"
        | some s' => replayOps exp stp s' (k + 1) (⟨t, kind⟩ :: acc) rest

/-! ### soundness of the replay: an accepted execution IS a run of the LTS

Whatever `exp` proposes, a step is only taken through `stp`; so the resolved label trace of an accepted execution is
accepted by the model's `run` (`Handoff.run`, `SubOn.run`: any `run` that follows `stp`), and the final state is
`Reachable` — the theorems of Theorems/C09.lean apply to it. -/

theorem replayOps_run {σ : Type} (exp : σ → Nat → List (Kind × String)) (stp : σ → Label → Option σ)
    (run : σ → List Label → Option σ) (hnil : ∀ s, run s [] = some s)
    (hcons : ∀ {s l s1} ls, stp s l = some s1 → run s (l :: ls) = run s1 ls) :
    ∀ (ops : List String) (s : σ) (k : Nat) (acc : List Label) (s' : σ) (tr : List Label),
      replayOps exp stp s k acc ops = .ok (s', tr) → ∃ ls, tr = ls.reverse ++ acc ∧ run s ls = some s'
  | [], s, k, acc, s', tr, h => by
    simp only [replayOps, Except.ok.injEq, Prod.mk.injEq] at h
    obtain ⟨rfl, rfl⟩ := h
    exact ⟨[], rfl, hnil s⟩
  | l :: rest, s, k, acc, s', tr, h => by
    simp only [replayOps] at h
    split at h
    · cases h
    · next t op _ =>
      split at h
      · cases h
      · next kind _ _ =>
        split at h
        · cases h
        · next s1 hs1 =>
          obtain ⟨ls, htr, hrun⟩ := replayOps_run exp stp run hnil hcons rest s1 (k + 1) _ s' tr h
          exact ⟨⟨t, kind⟩ :: ls, by simp [htr], (hcons ls hs1).trans hrun⟩

theorem accepted_reachable {cfg : Config} {ops : List String} {st : State} {tr : List Label}
    (h : replayOps expect step (init cfg) 1 [] ops = .ok (st, tr)) : Reachable cfg st := by
  obtain ⟨ls, _, hrun⟩ := replayOps_run expect step run (fun _ => rfl) (fun _ hs => by simp [run, hs]) ops _ _ _ _ _ h
  exact reachable_of_run .init hrun

theorem accepted_reachableSub {cfg : Config} {ops : List String} {st : SubOn.State} {tr : List Label}
    (h : replayOps expectSub SubOn.step (SubOn.init cfg) 1 [] ops = .ok (st, tr)) : SubOn.Reachable cfg st := by
  obtain ⟨ls, _, hrun⟩ :=
    replayOps_run expectSub SubOn.step SubOn.run (fun _ => rfl) (fun _ hs => by simp [SubOn.run, hs]) ops _ _ _ _ _ h
  exact SubOn.reachable_of_run .init hrun

/-- script text: blank-separated tokens, integer = item, `c` = complete, `e<nat>` = error, in ANY order -/
def parseScript (text : String) : Option (List Ev) :=
  ((text.trimAscii.toString.splitOn " ").filter (· ≠ "")).mapM fun t =>
    match t.toInt? with
    | some i => some (Ev.next (.int i))
    | none =>
      if t == "c" then some .complete
      else if t.startsWith "e" then (t.drop 1).toString.toNat?.map Ev.error
      else none

def field (hdr key : String) : String :=
  (((hdr.splitOn " ").filterMap fun t => if t.startsWith (key ++ "=") then some (t.drop (key.length + 1)).toString else none).headD "")

def bstr (b : Bool) : String := if b then "T" else "F"

/-- what the harness's subscriber saw: `got=1:n1,1:c` (LTS thread id : event) -/
def parseGot (g : String) : List (String × String) :=
  ((g.splitOn ",").filter (· ≠ "")).map fun x =>
    match x.splitOn ":" with
    | [a, b] => (a, b)
    | _ => ("?", x)

/-- end-of-run comparison of the LTS's ghost state with what the harness observed by its own means -/
def compare (delivered : List Ev) (workerDone quiescent upcDone : Bool) (got : List (String × String)) (wexit : String) :
    Option String :=
  if delivered.map Ev.toStr ≠ got.map (·.2) then
    some s!"ghost mismatch: LTS delivered {delivered.map Ev.toStr}, the subscriber saw {got.map (·.2)}"
  else if got.any (·.1 ≠ "1") then
    some s!"ghost mismatch: a callback ran on a thread that is not the scheduler's worker: {got.map (·.1)}"
  else if bstr workerDone ≠ wexit then
    some s!"ghost mismatch: LTS worker done={bstr workerDone}, worker thread exited={wexit}"
  else if !quiescent then some "the run ended (every thread finished) in an LTS state that is not quiescent"
  else if !upcDone then some "the run ended with the LTS's unsubscriber in the middle of `unsubscribe`"
  else none

/-- one recorded execution: `hdr ; got=… wexit=… ; op;op;…` -/
def cosim (payload : String) : String :=
  match payload.splitOn " ; " with
  | [hdr, obs, ops] =>
    if field hdr "table" ≠ "ok" then " REJECT lock table could not be identified" else
    let scriptText := ((hdr.splitOn "script=").getD 1 "")
    match parseScript scriptText with
    | none => " REJECT bad script"
    | some script =>
      let cfg : Config := { script := script, hasUnsub := field hdr "unsub" ≠ "none" }
      let got := parseGot (field obs "got")
      let wexit := field obs "wexit"
      let opl := (ops.splitOn ";").filter (·.trimAscii.toString ≠ "")
      if field hdr "mode" == "observe" then
        match replayOps expect step (init cfg) 1 [] opl with
        | .error m => " REJECT " ++ m
        | .ok (st, tr) =>
          match compare st.delivered (st.wpc == .done) (decide st.quiescent) (st.upc == .done) got wexit with
          | some m => " REJECT " ++ m
          | none => s!" ok steps={tr.length} delivered={st.delivered.map Ev.toStr} posted={st.posted.length} taken={st.taken.length}" ++
              s!" dropped={st.consumed.length - st.posted.length} abort={bstr st.abort} unsubEarly={bstr st.unsubEarly} lateCb={bstr st.lateCb}"
      else
        match replayOps expectSub SubOn.step (SubOn.init cfg) 1 [] opl with
        | .error m => " REJECT " ++ m
        | .ok (st, tr) =>
          -- the channel only ever holds the one subscription task: quiescent = the worker has left `scheduling`
          match compare st.delivered (st.wpc == .done) (st.wpc == .done) (st.upc == .done) got wexit with
          | some m => " REJECT " ++ m
          | none => s!" ok steps={tr.length} delivered={st.delivered.map Ev.toStr} consumed={st.consumed.length}" ++
              s!" skipped={bstr st.skipped} lateAttach={bstr st.lateAttach} taskDone={bstr st.taskDone} abort={bstr st.abort} unsubEarly={bstr st.unsubEarly} lateCb={bstr st.lateCb}"
  | _ => " REJECT malformed payload"

end Rx.Handoff.Cosim
