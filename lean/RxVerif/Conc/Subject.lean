/-
Model C (lock-granularity LTS) of `Subject` used from several threads.
Rust sources followed: /repo/src/subjects/subject.rs (l.31-94), /repo/src/observer.rs (l.37-71),
/repo/src/observable.rs (l.23-40), /repo/src/internals/function_wrapper.rs (l.51-72).

Threads run arbitrary lists of calls `next v | subscribe o | unsubscribe o`.  One micro-step per lock operation /
callback start:

`Subject::next(v)` (subject.rs l.37-42)
  * `snap`    : `fetch_observers` — clone all observers out of the map under its read lock (l.31-35)
  * `fetch`   : `Observer::next` → `FunctionWrapper::call_if_available` → `fetch_function`: read `fn_next` under its
                read lock (function_wrapper.rs l.51-57); `None` ⇒ this observer is skipped
  * `deliver` : the fetched callback is invoked with NO lock held (function_wrapper.rs l.66-72); the model appends
                `(tid, call index, item)` to the observer's ghost log
  * `ret`     : the `for_each` is exhausted, `next` returns
`observable().subscribe(..)` with a FRESH observer `o` (observable.rs l.23-40, subject.rs l.61-93)
  * `isSub1`  : `inner_subscribe`: `observer.is_subscribed()`           (observable.rs l.29)
  * `isSub2`  : the source closure: `if !s.is_subscribed() return`      (subject.rs l.62-65)
  * `serial`  : `*serial += 1` under the serial write lock              (subject.rs l.66-70)
  * `setTd`   : `s.set_on_unsubscribe(..)` (write lock of `fn_on_unsubscribe`) (subject.rs l.74-83)
  * `insert`  : `observers.write().insert(serial, s)`                   (subject.rs l.85-89)
  (the `on_subscribe` / `on_unsubscribe` hooks are `None` for a plain subject and are not modelled)
`Observer::unsubscribe` of observer `o` (observer.rs l.53-61)
  * `clrNext`, `clrErr`, `clrCompl` : the three `clear()`s (only `fn_next` has a modelled effect)
  * `readTd`  : read `fn_on_unsubscribe`; `Some` ⇒ call the teardown
  * `remove`  : teardown: `observers.write().remove(&serial)`           (subject.rs l.75-79)
  * `clrTd`   : `*fn_on_unsubscribe.write() = None`

Abstractions (all sound for the safety theorems in `Theorems/C12.lean`):
  * `is_subscribed()` reads three slots one after the other; the slots only ever go from present to absent and
    `unsubscribe` clears `fn_next` first, so the conjunction is linearizable to one atomic read of `fn_next`.
  * The teardown runs while `unsubscribe` still holds the READ lock of `fn_on_unsubscribe` (observer.rs l.57-59), so a
    concurrent `setTd` would block meanwhile.  The model does not block it: it has MORE interleavings than the code.
  * `HashMap` iteration order is modelled as insertion order; no theorem depends on the order.
  * `subscribe o` is enabled only for an observer no earlier `subscribe` call used (`Observer::new` inside
    `Observable::subscribe` creates a fresh one each time).
State components indexed by thread id / observer id are total functions `Nat → _` (unused ids keep their defaults).
-/
import RxVerif.Data

namespace Rx.Conc.Subject

inductive Call where
  | next (v : Data)
  | subscribe (o : Nat)
  | unsubscribe (o : Nat)
deriving Repr, DecidableEq, Inhabited

/-- program counter inside the current call -/
inductive Pc where
  | idle
  | nx0 (k : Nat) (v : Data)                             -- next #k: about to snapshot the map
  | nxL (k : Nat) (v : Data) (snap : List Nat)           -- next #k: observers still to visit
  | nx2 (k : Nat) (v : Data) (o : Nat) (rest : List Nat) -- next #k: fetched a present `fn_next` of `o`, about to call it
  | s0 (o : Nat) | s1 (o : Nat) | s2 (o : Nat) | s3 (o : Nat) | s4 (o : Nat)
  | u0 (o : Nat) | u1 (o : Nat) | u2 (o : Nat) | u3 (o : Nat) | u4 (o : Nat) | u5 (o : Nat)
deriving Repr, DecidableEq, Inhabited

/-- kind of micro-step, the second component of a label -/
inductive Kind where
  | call | snap | fetch | deliver | ret
  | isSub1 | isSub2 | serial | setTd | insert
  | clrNext | clrErr | clrCompl | readTd | remove | clrTd
deriving Repr, DecidableEq, Inhabited

def Pc.kind : Pc → Kind
  | .idle => .call
  | .nx0 .. => .snap
  | .nxL _ _ [] => .ret
  | .nxL _ _ (_ :: _) => .fetch
  | .nx2 .. => .deliver
  | .s0 _ => .isSub1 | .s1 _ => .isSub2 | .s2 _ => .serial | .s3 _ => .setTd | .s4 _ => .insert
  | .u0 _ => .clrNext | .u1 _ => .clrErr | .u2 _ => .clrCompl | .u3 _ => .readTd | .u4 _ => .remove
  | .u5 _ => .clrTd

structure Obs where
  fnNext : Bool := true                      -- `fn_next` slot is present
  ser : Option Nat := none                   -- the `serial` local captured by the source / teardown closures
  td : Bool := false                         -- `fn_on_unsubscribe` is `Some`
  used : Option Nat := none                  -- ghost: thread whose `subscribe` call created this observer
  ins : Bool := false                        -- ghost: has been inserted into the map
  pre : Bool := false                        -- ghost: was registered in the initial state
  rlog : List (Nat × Nat × Data) := []       -- ghost: deliveries `(producer tid, call index, item)`, NEWEST FIRST
deriving Repr, Inhabited

structure Thread where
  todo : List Call := []
  pc : Pc := .idle
  cnt : Nat := 0                             -- ghost: number of `next` calls started so far
deriving Repr, Inhabited

structure State where
  obs : Nat → Obs
  map : List (Nat × Nat)                     -- the observer map: `(serial, observer id)`
  serial : Nat
  threads : Nat → Thread

def setObs (s : State) (o : Nat) (ob : Obs) : Nat → Obs := fun j => if j = o then ob else s.obs j
def setThr (s : State) (t : Nat) (th : Thread) : Nat → Thread := fun j => if j = t then th else s.threads j

/-- deliveries to observer `o` in delivery order -/
def State.received (s : State) (o : Nat) : List (Nat × Nat × Data) := (s.obs o).rlog.reverse

/-- one micro-step of thread `t` -/
def stepT (s : State) (t : Nat) : Option State :=
  let th := s.threads t
  match th.pc with
  | .idle =>
    match th.todo with
    | [] => none
    | .next v :: rest =>
      some { s with threads := setThr s t { todo := rest, pc := .nx0 th.cnt v, cnt := th.cnt + 1 } }
    | .subscribe o :: rest =>
      if (s.obs o).used.isSome then none
      else some { s with obs := setObs s o { s.obs o with used := some t }
                         threads := setThr s t { th with todo := rest, pc := .s0 o } }
    | .unsubscribe o :: rest => some { s with threads := setThr s t { th with todo := rest, pc := .u0 o } }
  | .nx0 k v => some { s with threads := setThr s t { th with pc := .nxL k v (s.map.map (·.2)) } }
  | .nxL _ _ [] => some { s with threads := setThr s t { th with pc := .idle } }
  | .nxL k v (o :: rest) =>
    some { s with threads := setThr s t { th with pc := if (s.obs o).fnNext then .nx2 k v o rest else .nxL k v rest } }
  | .nx2 k v o rest =>
    some { s with obs := setObs s o { s.obs o with rlog := (t, k, v) :: (s.obs o).rlog }
                  threads := setThr s t { th with pc := .nxL k v rest } }
  | .s0 o => some { s with threads := setThr s t { th with pc := if (s.obs o).fnNext then .s1 o else .idle } }
  | .s1 o => some { s with threads := setThr s t { th with pc := if (s.obs o).fnNext then .s2 o else .idle } }
  | .s2 o =>
    some { s with serial := s.serial + 1
                  obs := setObs s o { s.obs o with ser := some (s.serial + 1) }
                  threads := setThr s t { th with pc := .s3 o } }
  | .s3 o => some { s with obs := setObs s o { s.obs o with td := true }
                           threads := setThr s t { th with pc := .s4 o } }
  | .s4 o =>
    some { s with map := s.map ++ [((s.obs o).ser.getD 0, o)]
                  obs := setObs s o { s.obs o with ins := true }
                  threads := setThr s t { th with pc := .idle } }
  | .u0 o => some { s with obs := setObs s o { s.obs o with fnNext := false }
                           threads := setThr s t { th with pc := .u1 o } }
  | .u1 o => some { s with threads := setThr s t { th with pc := .u2 o } }
  | .u2 o => some { s with threads := setThr s t { th with pc := .u3 o } }
  | .u3 o => some { s with threads := setThr s t { th with pc := if (s.obs o).td then .u4 o else .u5 o } }
  | .u4 o =>
    some { s with map := s.map.filter (fun e => some e.1 != (s.obs o).ser)
                  threads := setThr s t { th with pc := .u5 o } }
  | .u5 o => some { s with obs := setObs s o { s.obs o with td := false }
                           threads := setThr s t { th with pc := .idle } }

abbrev Label := Nat × Kind

/-- labelled step: thread `l.1` performs the micro-step of kind `l.2` (disabled unless that is its next one) -/
def step (s : State) (l : Label) : Option State :=
  if (s.threads l.1).pc.kind = l.2 then stepT s l.1 else none

/-- `nPre` observers `0 .. nPre-1` are already registered (serials `1 .. nPre`), threads hold their programs -/
def init (progs : List (List Call)) (nPre : Nat) : State where
  obs := fun o => if o < nPre then
      { ser := some (o + 1), td := true, used := some 0, ins := true, pre := true } else {}
  map := (List.range nPre).map fun o => (o + 1, o)
  serial := nPre
  threads := fun t => { todo := progs.getD t [] }

def replayFrom (s : State) : List Label → Option State
  | [] => some s
  | l :: ls => match step s l with
    | some s' => replayFrom s' ls
    | none => none

def replay (progs : List (List Call)) (nPre : Nat) (ls : List Label) : Option State :=
  replayFrom (init progs nPre) ls

inductive Reachable (progs : List (List Call)) (nPre : Nat) : State → Prop
  | init : Reachable progs nPre (init progs nPre)
  | step {s s' : State} {l : Label} : Reachable progs nPre s → step s l = some s' → Reachable progs nPre s'

theorem reachable_of_replayFrom {progs nPre} {s s' : State} (h : Reachable progs nPre s) {ls : List Label}
    (hr : replayFrom s ls = some s') : Reachable progs nPre s' := by
  induction ls generalizing s with
  | nil => simp [replayFrom] at hr; subst hr; exact h
  | cons l ls ih =>
    simp only [replayFrom] at hr
    split at hr
    · rename_i s1 hs; exact ih (.step h hs) hr
    · simp at hr

theorem reachable_of_replay {progs nPre} {s : State} {ls : List Label}
    (hr : replay progs nPre ls = some s) : Reachable progs nPre s :=
  reachable_of_replayFrom .init hr

/-- thread `t` has finished its program -/
def State.done (s : State) (t : Nat) : Prop := (s.threads t).pc = .idle ∧ (s.threads t).todo = []

instance (s : State) (t : Nat) : Decidable (s.done t) := by unfold State.done; exact inferInstance

/-- number of labels of `ls` that can be replayed from `s` (debugging aid for drivers) -/
def replayCount (s : State) : List Label → Nat
  | [] => 0
  | l :: ls => match step s l with
    | some s' => replayCount s' ls + 1
    | none => 0

/-! ### text form of labels: `<tid> <kind>` e.g. `0 snap` -/

def Kind.toStr : Kind → String
  | .call => "call" | .snap => "snap" | .fetch => "fetch" | .deliver => "deliver" | .ret => "ret"
  | .isSub1 => "isSub1" | .isSub2 => "isSub2" | .serial => "serial" | .setTd => "setTd" | .insert => "insert"
  | .clrNext => "clrNext" | .clrErr => "clrErr" | .clrCompl => "clrCompl" | .readTd => "readTd"
  | .remove => "remove" | .clrTd => "clrTd"

def Kind.all : List Kind :=
  [.call, .snap, .fetch, .deliver, .ret, .isSub1, .isSub2, .serial, .setTd, .insert,
   .clrNext, .clrErr, .clrCompl, .readTd, .remove, .clrTd]

def parseKind (w : String) : Option Kind := Kind.all.find? (fun k => k.toStr == w)

def parseLabel (line : String) : Option Label :=
  match (line.trimAscii.toString.splitOn " ").filter (· ≠ "") with
  | [t, k] => do
    let t ← t.toNat?
    let k ← parseKind k
    pure (t, k)
  | _ => none

def Label.toStr (l : Label) : String := toString l.1 ++ " " ++ l.2.toStr

/-- the labels enabled in `s` among threads `0 .. n-1` (for drivers / exhaustive exploration) -/
def enabled (s : State) (n : Nat) : List Label :=
  (List.range n).filterMap fun t =>
    let l := (t, (s.threads t).pc.kind)
    if (step s l).isSome then some l else none

end Rx.Conc.Subject
