/-
Model C (lock-granularity LTS) of `ReplaySubject` used from several threads.
Rust sources followed: /repo/src/subjects/replay_subject.rs (l.28-101, as of fix 6cfcdd3), /repo/src/utils/ready_set_go.rs (l.3-15),
/repo/src/subjects/subject.rs (l.31-94), /repo/src/observer.rs (l.37-71), /repo/src/observable.rs (l.23-40),
/repo/src/subscription.rs (l.20-22), /repo/src/internals/function_wrapper.rs.

Every outer observer `o` gets (inside its `subscribe` call) a private forwarder observer `F(o)` that is registered in
the inner `Subject`; its `next` callback is `move |x| s_next.next(x)` (replay_subject.rs l.88).  The record `Obs` holds
the slots of both.  Micro-steps (label kinds):

`ReplaySubject::next(v)` (l.28-31)
  * `push`    : `items.write().push(v)`                                                   (l.29)
  * `snap`    : inner `Subject::next` → `fetch_observers` (read lock of the inner map)     (subject.rs l.31-35)
  * `fetch`   : read `F(o).fn_next` (function_wrapper.rs `fetch_function`); absent ⇒ skip `o`
  * `ofetch`  : the forwarder callback started: `s_next.next(x)` reads `o.fn_next`; absent ⇒ nothing delivered
  * `deliver` : the subscriber's own callback is invoked, no lock held (ghost log of `o` grows)
  * `ret`     : broadcast finished
`observable().subscribe(..)` with a fresh outer observer `o` (l.40-101)
  * `isSub1`  : `inner_subscribe`: `observer.is_subscribed()`                              (observable.rs l.29)
  * `setTd`   : `s.set_on_unsubscribe(..)`                                                 (l.50-54)
  * `hist`    : `let history = items.read().unwrap().clone()`                              (l.59)
  * `serial`  : `ready_set_go(..).subscribe(..)` creates `F(o)`, `inner_subscribe`s it into `subject.observable()`:
                the three `is_subscribed()` checks on the still thread-private `F(o)` are always true and are folded
                into this step, which is `*serial += 1`                                     (subject.rs l.66-70)
  * `setTdF`  : `F(o).set_on_unsubscribe(..)`                                              (subject.rs l.74-83)
  * `insert`  : `observers.write().insert(serial, F(o))`                                   (subject.rs l.85-89)
  * `rdErr`, `rdCompl` : the replay closure reads `was_error`, `was_completed`             (l.72-73)
  * `hfetch`  : replay loop `s.next(x)`: read `o.fn_next`; absent ⇒ this history item is skipped   (l.74-76)
  * `hdeliver`: the subscriber's callback is invoked with the history item
  * `hdone`   : the replay loop is exhausted (`was_error = None`, `was_completed = false`: nothing else to send)
  * `setSbsc` : `*sbsc.write() = Some(live.clone())`                                       (l.94)
  * `isSubEnd`: `if !s_alive.is_subscribed()` (l.95, added by fix 6cfcdd3): subscribed ⇒ the call returns; otherwise
                the subscriber ended during the replay and the SUBSCRIBING thread runs `live.unsubscribe()` (l.98):
                `takeUnsub` (already taken by a concurrent teardown ⇒ return), then `F(o).unsubscribe()` =
                `fClrNext`, `fClrErr`, `fClrCompl`, `fReadTd`, `fRemove`, `fClrTd` (pcs `e5 .. e9c`), then the call returns
  (terminals are not modelled: `was_error = None`, `was_completed = false` throughout)
`Observer::unsubscribe` of the outer observer `o` (observer.rs l.53-61)
  * `clrNext`, `clrErr`, `clrCompl`, `readTd` (absent ⇒ go to `clrTd`)
  * `readSbsc`: the teardown reads `sbsc` (l.51); `None` ⇒ nothing
  * `takeUnsub`: `Subscription::unsubscribe` → `call_and_clear_if_available` takes `fn_unsubscribe` (subscription.rs l.21)
  * `fClrNext`, `fClrErr`, `fClrCompl`, `fReadTd`, `fRemove`, `fClrTd` : `F(o).unsubscribe()`
  * `clrTd`
The same abstractions as in `RxVerif/Conc/Subject.lean` apply (atomic `is_subscribed`, no blocking on the
`fn_on_unsubscribe` read lock during a teardown, insertion order for the `HashMap`, fresh observer per `subscribe`).
`items` carries ghost tags `(producer tid, call index)` beside each item.
-/
import RxVerif.Data

namespace Rx.Conc.Replay

inductive Call where
  | next (v : Data)
  | subscribe (o : Nat)
  | unsubscribe (o : Nat)
deriving Repr, DecidableEq, Inhabited

abbrev Entry := Nat × Nat × Data   -- (producer tid, call index, item)

inductive Pc where
  | idle
  | r0 (k : Nat) (v : Data)                              -- next #k: about to push
  | nx0 (k : Nat) (v : Data)                             -- about to snapshot the inner map
  | nxL (k : Nat) (v : Data) (snap : List Nat)           -- forwarders still to visit
  | nxF (k : Nat) (v : Data) (o : Nat) (rest : List Nat) -- fetched `F(o).fn_next`, forwarder callback about to read `o.fn_next`
  | nxD (k : Nat) (v : Data) (o : Nat) (rest : List Nat) -- fetched `o.fn_next`, about to call it
  | s0 (o : Nat) | s1 (o : Nat) | s2 (o : Nat)
  | s3 (o : Nat) (h : List Entry) | s4 (o : Nat) (h : List Entry) | s5 (o : Nat) (h : List Entry)
  | s6 (o : Nat) (h : List Entry) | s7 (o : Nat) (h : List Entry)
  | s8 (o : Nat) (h : List Entry)                        -- replay loop
  | s8d (o : Nat) (x : Entry) (h : List Entry)           -- fetched `o.fn_next`, about to call it with `x`
  | s9 (o : Nat)
  | s10 (o : Nat)                                        -- `is_subscribed` check after `setSbsc` (l.95)
  | e5 (o : Nat) | e6 (o : Nat) | e7 (o : Nat) | e8 (o : Nat) | e9 (o : Nat) | e9r (o : Nat) | e9c (o : Nat)
                                                         -- `live.unsubscribe()` by the subscribing thread (l.98)
  | u0 (o : Nat) | u1 (o : Nat) | u2 (o : Nat) | u3 (o : Nat) | u4 (o : Nat) | u5 (o : Nat)
  | u6 (o : Nat) | u7 (o : Nat) | u8 (o : Nat) | u9 (o : Nat) | u9r (o : Nat) | u9c (o : Nat) | u10 (o : Nat)
deriving Repr, DecidableEq, Inhabited

inductive Kind where
  | call | push | snap | fetch | ofetch | deliver | ret
  | isSub1 | setTd | hist | serial | setTdF | insert | rdErr | rdCompl | hfetch | hdeliver | hdone | setSbsc
  | isSubEnd
  | clrNext | clrErr | clrCompl | readTd | readSbsc | takeUnsub
  | fClrNext | fClrErr | fClrCompl | fReadTd | fRemove | fClrTd | clrTd
deriving Repr, DecidableEq, Inhabited

def Pc.kind : Pc → Kind
  | .idle => .call
  | .r0 .. => .push
  | .nx0 .. => .snap
  | .nxL _ _ [] => .ret
  | .nxL _ _ (_ :: _) => .fetch
  | .nxF .. => .ofetch
  | .nxD .. => .deliver
  | .s0 _ => .isSub1 | .s1 _ => .setTd | .s2 _ => .hist | .s3 .. => .serial | .s4 .. => .setTdF
  | .s5 .. => .insert | .s6 .. => .rdErr | .s7 .. => .rdCompl
  | .s8 _ [] => .hdone
  | .s8 _ (_ :: _) => .hfetch
  | .s8d .. => .hdeliver
  | .s9 _ => .setSbsc
  | .s10 _ => .isSubEnd
  | .e5 _ => .takeUnsub | .e6 _ => .fClrNext | .e7 _ => .fClrErr | .e8 _ => .fClrCompl | .e9 _ => .fReadTd
  | .e9r _ => .fRemove | .e9c _ => .fClrTd
  | .u0 _ => .clrNext | .u1 _ => .clrErr | .u2 _ => .clrCompl | .u3 _ => .readTd | .u4 _ => .readSbsc
  | .u5 _ => .takeUnsub | .u6 _ => .fClrNext | .u7 _ => .fClrErr | .u8 _ => .fClrCompl | .u9 _ => .fReadTd
  | .u9r _ => .fRemove | .u9c _ => .fClrTd | .u10 _ => .clrTd

/-- the thread is inside a `next` call -/
def Pc.inNext : Pc → Bool
  | .r0 .. | .nx0 .. | .nxL .. | .nxF .. | .nxD .. => true
  | _ => false

/-- the thread is inside a `subscribe` call -/
def Pc.inSub : Pc → Bool
  | .s0 _ | .s1 _ | .s2 _ | .s3 .. | .s4 .. | .s5 .. | .s6 .. | .s7 .. | .s8 .. | .s8d .. | .s9 _ => true
  | .s10 _ | .e5 _ | .e6 _ | .e7 _ | .e8 _ | .e9 _ | .e9r _ | .e9c _ => true
  | _ => false

structure Obs where
  fnNext : Bool := true                      -- outer observer: `fn_next` present
  td : Bool := false                         -- outer observer: `fn_on_unsubscribe` is `Some`
  sbsc : Bool := false                       -- the `sbsc` cell holds the inner subscription
  subTaken : Bool := false                   -- the inner subscription's `fn_unsubscribe` was taken
  fFnNext : Bool := true                     -- forwarder: `fn_next` present
  fTd : Bool := false                        -- forwarder: `fn_on_unsubscribe` is `Some`
  fSer : Option Nat := none                  -- forwarder: serial captured by the closures
  used : Option Nat := none                  -- ghost: thread whose `subscribe` call created this observer
  ins : Bool := false                        -- ghost: forwarder was inserted into the inner map
  subDone : Bool := false                    -- ghost: the `subscribe` call has installed the live subscription (`setSbsc`
                                             -- done; all that remains of the call is the `is_subscribed` check of l.95)
  rlog : List Entry := []                    -- ghost: deliveries, NEWEST FIRST
deriving Repr, Inhabited

structure Thread where
  todo : List Call := []
  pc : Pc := .idle
  cnt : Nat := 0                             -- ghost: number of `next` calls started so far
deriving Repr, Inhabited

structure State where
  obs : Nat → Obs
  map : List (Nat × Nat)                     -- inner subject's map: `(serial, o)` stands for `F(o)`
  serial : Nat
  items : List Entry                         -- the `items` vector (with ghost tags), oldest first
  threads : Nat → Thread

def setObs (s : State) (o : Nat) (ob : Obs) : Nat → Obs := fun j => if j = o then ob else s.obs j
def setThr (s : State) (t : Nat) (th : Thread) : Nat → Thread := fun j => if j = t then th else s.threads j

/-- deliveries to observer `o` in delivery order -/
def State.received (s : State) (o : Nat) : List Entry := (s.obs o).rlog.reverse
/-- the items observer `o` received, in delivery order -/
def State.recvVals (s : State) (o : Nat) : List Data := (s.received o).map (·.2.2)
/-- the contents of the `items` vector -/
def State.itemVals (s : State) : List Data := s.items.map (·.2.2)

def stepT (s : State) (t : Nat) : Option State :=
  let th := s.threads t
  match th.pc with
  | .idle =>
    match th.todo with
    | [] => none
    | .next v :: rest =>
      some { s with threads := setThr s t { todo := rest, pc := .r0 th.cnt v, cnt := th.cnt + 1 } }
    | .subscribe o :: rest =>
      if (s.obs o).used.isSome then none
      else some { s with obs := setObs s o { s.obs o with used := some t }
                         threads := setThr s t { th with todo := rest, pc := .s0 o } }
    | .unsubscribe o :: rest => some { s with threads := setThr s t { th with todo := rest, pc := .u0 o } }
  | .r0 k v => some { s with items := s.items ++ [(t, k, v)], threads := setThr s t { th with pc := .nx0 k v } }
  | .nx0 k v => some { s with threads := setThr s t { th with pc := .nxL k v (s.map.map (·.2)) } }
  | .nxL _ _ [] => some { s with threads := setThr s t { th with pc := .idle } }
  | .nxL k v (o :: rest) =>
    some { s with threads := setThr s t { th with pc := if (s.obs o).fFnNext then .nxF k v o rest else .nxL k v rest } }
  | .nxF k v o rest =>
    some { s with threads := setThr s t { th with pc := if (s.obs o).fnNext then .nxD k v o rest else .nxL k v rest } }
  | .nxD k v o rest =>
    some { s with obs := setObs s o { s.obs o with rlog := (t, k, v) :: (s.obs o).rlog }
                  threads := setThr s t { th with pc := .nxL k v rest } }
  | .s0 o => some { s with threads := setThr s t { th with pc := if (s.obs o).fnNext then .s1 o else .idle } }
  | .s1 o => some { s with obs := setObs s o { s.obs o with td := true }
                           threads := setThr s t { th with pc := .s2 o } }
  | .s2 o => some { s with threads := setThr s t { th with pc := .s3 o s.items } }
  | .s3 o h =>
    some { s with serial := s.serial + 1
                  obs := setObs s o { s.obs o with fSer := some (s.serial + 1) }
                  threads := setThr s t { th with pc := .s4 o h } }
  | .s4 o h => some { s with obs := setObs s o { s.obs o with fTd := true }
                             threads := setThr s t { th with pc := .s5 o h } }
  | .s5 o h =>
    some { s with map := s.map ++ [((s.obs o).fSer.getD 0, o)]
                  obs := setObs s o { s.obs o with ins := true }
                  threads := setThr s t { th with pc := .s6 o h } }
  | .s6 o h => some { s with threads := setThr s t { th with pc := .s7 o h } }
  | .s7 o h => some { s with threads := setThr s t { th with pc := .s8 o h } }
  | .s8 o [] => some { s with threads := setThr s t { th with pc := .s9 o } }
  | .s8 o (x :: h) =>
    some { s with threads := setThr s t { th with pc := if (s.obs o).fnNext then .s8d o x h else .s8 o h } }
  | .s8d o x h =>
    some { s with obs := setObs s o { s.obs o with rlog := x :: (s.obs o).rlog }
                  threads := setThr s t { th with pc := .s8 o h } }
  | .s9 o => some { s with obs := setObs s o { s.obs o with sbsc := true, subDone := true }
                           threads := setThr s t { th with pc := .s10 o } }
  | .s10 o => some { s with threads := setThr s t { th with pc := if (s.obs o).fnNext then .idle else .e5 o } }
  | .e5 o =>
    some { s with obs := setObs s o { s.obs o with subTaken := true }
                  threads := setThr s t { th with pc := if (s.obs o).subTaken then .idle else .e6 o } }
  | .e6 o => some { s with obs := setObs s o { s.obs o with fFnNext := false }
                           threads := setThr s t { th with pc := .e7 o } }
  | .e7 o => some { s with threads := setThr s t { th with pc := .e8 o } }
  | .e8 o => some { s with threads := setThr s t { th with pc := .e9 o } }
  | .e9 o => some { s with threads := setThr s t { th with pc := if (s.obs o).fTd then .e9r o else .e9c o } }
  | .e9r o =>
    some { s with map := s.map.filter (fun e => some e.1 != (s.obs o).fSer)
                  threads := setThr s t { th with pc := .e9c o } }
  | .e9c o => some { s with obs := setObs s o { s.obs o with fTd := false }
                            threads := setThr s t { th with pc := .idle } }
  | .u0 o => some { s with obs := setObs s o { s.obs o with fnNext := false }
                           threads := setThr s t { th with pc := .u1 o } }
  | .u1 o => some { s with threads := setThr s t { th with pc := .u2 o } }
  | .u2 o => some { s with threads := setThr s t { th with pc := .u3 o } }
  | .u3 o => some { s with threads := setThr s t { th with pc := if (s.obs o).td then .u4 o else .u10 o } }
  | .u4 o => some { s with threads := setThr s t { th with pc := if (s.obs o).sbsc then .u5 o else .u10 o } }
  | .u5 o =>
    some { s with obs := setObs s o { s.obs o with subTaken := true }
                  threads := setThr s t { th with pc := if (s.obs o).subTaken then .u10 o else .u6 o } }
  | .u6 o => some { s with obs := setObs s o { s.obs o with fFnNext := false }
                           threads := setThr s t { th with pc := .u7 o } }
  | .u7 o => some { s with threads := setThr s t { th with pc := .u8 o } }
  | .u8 o => some { s with threads := setThr s t { th with pc := .u9 o } }
  | .u9 o => some { s with threads := setThr s t { th with pc := if (s.obs o).fTd then .u9r o else .u9c o } }
  | .u9r o =>
    some { s with map := s.map.filter (fun e => some e.1 != (s.obs o).fSer)
                  threads := setThr s t { th with pc := .u9c o } }
  | .u9c o => some { s with obs := setObs s o { s.obs o with fTd := false }
                            threads := setThr s t { th with pc := .u10 o } }
  | .u10 o => some { s with obs := setObs s o { s.obs o with td := false }
                            threads := setThr s t { th with pc := .idle } }

abbrev Label := Nat × Kind

def step (s : State) (l : Label) : Option State :=
  if (s.threads l.1).pc.kind = l.2 then stepT s l.1 else none

def init (progs : List (List Call)) : State where
  obs := fun _ => {}
  map := []
  serial := 0
  items := []
  threads := fun t => { todo := progs.getD t [] }

def replayFrom (s : State) : List Label → Option State
  | [] => some s
  | l :: ls => match step s l with
    | some s' => replayFrom s' ls
    | none => none

def replay (progs : List (List Call)) (ls : List Label) : Option State := replayFrom (init progs) ls

def replayCount (s : State) : List Label → Nat
  | [] => 0
  | l :: ls => match step s l with
    | some s' => replayCount s' ls + 1
    | none => 0

inductive Reachable (progs : List (List Call)) : State → Prop
  | init : Reachable progs (init progs)
  | step {s s' : State} {l : Label} : Reachable progs s → step s l = some s' → Reachable progs s'

/-- no `next` call overlaps a `subscribe` call in this state -/
def State.quiet (s : State) : Prop :=
  ∀ t t' : Nat, (s.threads t).pc.inSub = true → (s.threads t').pc.inNext = true → False

/-- reachable through states that are all `quiet` -/
inductive ReachableQ (progs : List (List Call)) : State → Prop
  | init : ReachableQ progs (init progs)
  | step {s s' : State} {l : Label} : ReachableQ progs s → step s l = some s' → s'.quiet → ReachableQ progs s'

theorem ReachableQ.reachable {progs : List (List Call)} {s : State} (h : ReachableQ progs s) : Reachable progs s := by
  induction h with
  | init => exact .init
  | step _ hs _ ih => exact .step ih hs

theorem reachable_of_replayFrom {progs} {s s' : State} (h : Reachable progs s) {ls : List Label}
    (hr : replayFrom s ls = some s') : Reachable progs s' := by
  induction ls generalizing s with
  | nil => simp [replayFrom] at hr; subst hr; exact h
  | cons l ls ih =>
    simp only [replayFrom] at hr
    split at hr
    · rename_i s1 hs; exact ih (.step h hs) hr
    · simp at hr

theorem reachable_of_replay {progs} {s : State} {ls : List Label}
    (hr : replay progs ls = some s) : Reachable progs s :=
  reachable_of_replayFrom .init hr

def State.done (s : State) (t : Nat) : Prop := (s.threads t).pc = .idle ∧ (s.threads t).todo = []
instance (s : State) (t : Nat) : Decidable (s.done t) := by unfold State.done; exact inferInstance
/-- threads `0 .. n-1` have all finished -/
def State.allDone (s : State) (n : Nat) : Bool := (List.range n).all fun t => decide (s.done t)

/-! ### text form of labels: `<tid> <kind>` e.g. `1 hist` -/

def Kind.toStr : Kind → String
  | .call => "call" | .push => "push" | .snap => "snap" | .fetch => "fetch" | .ofetch => "ofetch"
  | .deliver => "deliver" | .ret => "ret"
  | .isSub1 => "isSub1" | .setTd => "setTd" | .hist => "hist" | .serial => "serial" | .setTdF => "setTdF"
  | .insert => "insert" | .rdErr => "rdErr" | .rdCompl => "rdCompl" | .hfetch => "hfetch"
  | .hdeliver => "hdeliver" | .hdone => "hdone" | .setSbsc => "setSbsc" | .isSubEnd => "isSubEnd"
  | .clrNext => "clrNext" | .clrErr => "clrErr" | .clrCompl => "clrCompl" | .readTd => "readTd"
  | .readSbsc => "readSbsc" | .takeUnsub => "takeUnsub"
  | .fClrNext => "fClrNext" | .fClrErr => "fClrErr" | .fClrCompl => "fClrCompl" | .fReadTd => "fReadTd"
  | .fRemove => "fRemove" | .fClrTd => "fClrTd" | .clrTd => "clrTd"

def Kind.all : List Kind :=
  [.call, .push, .snap, .fetch, .ofetch, .deliver, .ret,
   .isSub1, .setTd, .hist, .serial, .setTdF, .insert, .rdErr, .rdCompl, .hfetch, .hdeliver, .hdone, .setSbsc,
   .isSubEnd, .clrNext, .clrErr, .clrCompl, .readTd, .readSbsc, .takeUnsub,
   .fClrNext, .fClrErr, .fClrCompl, .fReadTd, .fRemove, .fClrTd, .clrTd]

def parseKind (w : String) : Option Kind := Kind.all.find? (fun k => k.toStr == w)

def parseLabel (line : String) : Option Label :=
  match (line.trimAscii.toString.splitOn " ").filter (· ≠ "") with
  | [t, k] => do
    let t ← t.toNat?
    let k ← parseKind k
    pure (t, k)
  | _ => none

def Label.toStr (l : Label) : String := toString l.1 ++ " " ++ l.2.toStr

def enabled (s : State) (n : Nat) : List Label :=
  (List.range n).filterMap fun t =>
    let l := (t, (s.threads t).pc.kind)
    if (step s l).isSome then some l else none

end Rx.Conc.Replay
