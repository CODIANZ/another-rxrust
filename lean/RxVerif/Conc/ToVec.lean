/-
C18 — the `to_vec()` future (`/repo/src/operators/to_vec.rs`).

Two threads over the four `Arc<RwLock<_>>` cells of `struct ToVec` (lines 14-17: `buffer`, `done`, `err`, `waker`):

* `src`  — the source thread.  It runs a script (items, then `complete` | `error e` | nothing) through the three
  closures subscribed by `start` (lines 32-47).  The Observer (`/repo/src/observer.rs`) guarantees `next*` followed by
  at most one terminal, which is exactly the shape of `Script`.
* `exe`  — the executor thread: a minimal `block_on`:  `loop { if let Ready(r) = fut.poll(cx) { return r }  park() }`
  with the standard thread-park token (`wake` sets the token; `park` consumes it or blocks; spurious returns allowed).

One micro-step per RwLock acquisition / release (callback start is folded into its first acquisition, callback return
into its last release; plain reads / writes of the protected cell are folded into the release of the guard that protects
them — nobody else can observe the cell while the guard is held).

`poll` (lines 57-73):
  61  `let mut waker = self.waker.write()`                 exe acq_waker     (held to the end of `poll`)
  63  `if *self.done.read()`                               exe acq_done ; exe rel_done   (guard is a temporary of the
                                                            `if` condition: dropped before the branch is entered)
  64  `if let Some(err) = &*self.err.read()`               exe acq_err
  65/67 `Ready(Err(..))` / `Ready(Ok(buffer))`             exe rel_err       (guard dropped at the end of the `if` body)
  70  `*waker = Some(cx.waker().clone())` ; 71 `Pending`   \
  73  end of `poll`: `waker` guard dropped                 /  exe rel_waker  (store + release, or release + Ready)

callbacks (lines 33-46):
  33  `buff_next.write().unwrap().push(x)`                 src acq_buffer ; src rel_buffer
  35  `*err_error.write() = Some(e)`                       src acq_err ; src rel_err
  36/42 `*done.write() = true`                             src acq_done ; src rel_done
  37/43 `if let Some(w) = waker.read().unwrap().clone()`   src acq_waker
  38/44 `w.wake()`                                         src wake          (STILL holding `waker.read()`: the guard is
                                                            a temporary of the `if let` scrutinee)
  39/45 end of `if let`                                    src rel_waker
-/
import RxVerif.Data

namespace Rx.ToVec

/-- the terminal event of a source script -/
inductive Term where
  | complete
  | error (e : Nat)
deriving Repr, DecidableEq, Inhabited

/-- what the source thread does: `items` through `next`, then at most one terminal -/
structure Script where
  items : List Data
  term : Option Term
deriving Repr, DecidableEq, Inhabited

/-- the value the error callback stores into `err` (none for `complete` / silent scripts) -/
def Script.errVal (sc : Script) : Option Nat :=
  match sc.term with
  | some (.error e) => some e
  | _ => none

/-- `Poll::Ready` payload: `Ok(buffer)` (contents of the shared buffer at that moment) or `Err(e)` -/
inductive Res where
  | ok (buf : List Data)
  | err (e : Nat)
deriving Repr, DecidableEq, Inhabited

/-- the Ready value the property demands for a script -/
def Script.expected (sc : Script) : Option Res :=
  match sc.term with
  | some .complete => some (.ok sc.items)
  | some (.error e) => some (.err e)
  | none => none

inductive Tid where
  | src | exe
deriving Repr, DecidableEq, Inhabited

/-- program counter of the source thread -/
inductive SPc where
  | idle                  -- between callbacks (next item / terminal still to be delivered, or silent for ever)
  | nextHold (x : Data)   -- line 33: holds `buffer.write()`, `push(x)` + release pending
  | errHold               -- line 35: holds `err.write()`
  | doneAcq               -- line 36: error callback, about to take `done.write()`
  | doneHold              -- line 36 / 42: holds `done.write()`
  | wakerAcq              -- line 37 / 43: `done` written, about to take `waker.read()`
  | wakerHold             -- holds `waker.read()`, clone inspected next
  | woke                  -- line 38 / 44 executed, still holds `waker.read()`
  | fin                   -- terminal callback returned
deriving Repr, DecidableEq, Inhabited

/-- program counter of the executor thread -/
inductive XPc where
  | poll        -- about to call `poll` (line 61 `waker.write()`)
  | doneAcq     -- holds `waker.write()`; line 63 about to take `done.read()`
  | doneHold    -- holds `done.read()`
  | errAcq      -- saw `done`; line 64 about to take `err.read()`
  | errHold     -- holds `err.read()`
  | retReady    -- Ready value computed; `waker.write()` still held (line 73)
  | store       -- saw `!done`; line 70 store + line 73 release pending
  | park        -- `poll` returned Pending; about to park
  | ready       -- `block_on` returned
deriving Repr, DecidableEq, Inhabited

structure State where
  -- the four shared cells
  buffer : List Data          -- ghost reading: the sequence of items pushed so far
  done : Bool
  err : Option Nat
  waker : Option Nat          -- `Some(waker)`; the payload is the number of the poll that stored it (ghost identity)
  -- RwLock holders (with these two threads no lock ever has two readers: each cell is read by one thread only)
  lBuf : Option Tid
  lDone : Option Tid
  lErr : Option Tid
  lWaker : Option Tid
  -- source thread
  sp : SPc
  todo : List Data            -- items not yet handed to `next`
  -- executor thread
  xp : XPc
  ret : Option Res            -- local of `poll`: the Ready value being returned
  token : Bool                -- thread-park token (`woken`)
  -- ghost
  polls : Nat                 -- number of `poll` calls started
  spur : Nat                  -- spurious returns from `park`
  parks : Nat                 -- token-consuming returns from `park`
  wakes : Nat                 -- `wake()` calls
  result : Option Res         -- what `block_on` returned
deriving Repr, DecidableEq, Inhabited

def init (sc : Script) : State :=
  { buffer := [], done := false, err := none, waker := none,
    lBuf := none, lDone := none, lErr := none, lWaker := none,
    sp := .idle, todo := sc.items,
    xp := .poll, ret := none, token := false,
    polls := 0, spur := 0, parks := 0, wakes := 0, result := none }

inductive Kind where
  | acqBuf | relBuf | acqErr | relErr | acqDone | relDone | acqWaker | relWaker | wake | park | spurious
deriving Repr, DecidableEq, Inhabited

abbrev Label := Tid × Kind

/-- One micro-step.  `none` = the label is not enabled (wrong program point, or the lock is held by the other thread,
or the park token is absent).  Everything but (thread, kind) is determined by the state. -/
def step (sc : Script) (s : State) : Label → Option State
  -- ───────────── source thread ─────────────
  | (.src, .acqBuf) =>
    match s.sp, s.todo, s.lBuf with
    | .idle, x :: rest, none => some { s with sp := .nextHold x, todo := rest, lBuf := some .src }
    | _, _, _ => none
  | (.src, .relBuf) =>
    match s.sp with
    | .nextHold x => some { s with sp := .idle, buffer := s.buffer ++ [x], lBuf := none }
    | _ => none
  | (.src, .acqErr) =>
    match s.sp, s.todo, sc.term, s.lErr with
    | .idle, [], some (.error _), none => some { s with sp := .errHold, lErr := some .src }
    | _, _, _, _ => none
  | (.src, .relErr) =>
    match s.sp with
    | .errHold => some { s with sp := .doneAcq, err := sc.errVal, lErr := none }
    | _ => none
  | (.src, .acqDone) =>
    match s.sp, s.todo, sc.term, s.lDone with
    | .doneAcq, _, _, none => some { s with sp := .doneHold, lDone := some .src }
    | .idle, [], some .complete, none => some { s with sp := .doneHold, lDone := some .src }
    | _, _, _, _ => none
  | (.src, .relDone) =>
    match s.sp with
    | .doneHold => some { s with sp := .wakerAcq, done := true, lDone := none }
    | _ => none
  | (.src, .acqWaker) =>
    match s.sp, s.lWaker with
    | .wakerAcq, none => some { s with sp := .wakerHold, lWaker := some .src }
    | _, _ => none
  | (.src, .wake) =>
    match s.sp, s.waker with
    | .wakerHold, some _ => some { s with sp := .woke, token := true, wakes := s.wakes + 1 }
    | _, _ => none
  | (.src, .relWaker) =>
    match s.sp, s.waker with
    | .wakerHold, none => some { s with sp := .fin, lWaker := none }
    | .woke, _ => some { s with sp := .fin, lWaker := none }
    | _, _ => none
  -- ───────────── executor thread ─────────────
  | (.exe, .acqWaker) =>
    match s.xp, s.lWaker with
    | .poll, none => some { s with xp := .doneAcq, lWaker := some .exe, polls := s.polls + 1 }
    | _, _ => none
  | (.exe, .acqDone) =>
    match s.xp, s.lDone with
    | .doneAcq, none => some { s with xp := .doneHold, lDone := some .exe }
    | _, _ => none
  | (.exe, .relDone) =>
    match s.xp with
    | .doneHold => some { s with xp := if s.done then .errAcq else .store, lDone := none }
    | _ => none
  | (.exe, .acqErr) =>
    match s.xp, s.lErr with
    | .errAcq, none => some { s with xp := .errHold, lErr := some .exe }
    | _, _ => none
  | (.exe, .relErr) =>
    match s.xp with
    | .errHold =>
      some { s with xp := .retReady, lErr := none,
                    ret := some (match s.err with | some e => .err e | none => .ok s.buffer) }
    | _ => none
  | (.exe, .relWaker) =>
    match s.xp with
    | .retReady => some { s with xp := .ready, lWaker := none, result := s.ret }
    | .store => some { s with xp := .park, lWaker := none, waker := some s.polls }
    | _ => none
  | (.exe, .park) =>
    match s.xp, s.token with
    | .park, true => some { s with xp := .poll, token := false, parks := s.parks + 1 }
    | _, _ => none
  | (.exe, .spurious) =>
    match s.xp with
    | .park => some { s with xp := .poll, spur := s.spur + 1 }
    | _ => none
  | _ => none

/-- run a label list from a state -/
def runFrom (sc : Script) : State → List Label → Option State
  | s, [] => some s
  | s, l :: ls => match step sc s l with
    | some s' => runFrom sc s' ls
    | none => none

/-- replay a recorded run from the initial state; `none` = the run is not a run of the model -/
def replay (sc : Script) (ls : List Label) : Option State := runFrom sc (init sc) ls

inductive Reachable (sc : Script) : State → Prop where
  | init : Reachable sc (init sc)
  | step {s s' : State} {l : Label} : Reachable sc s → step sc s l = some s' → Reachable sc s'

theorem Reachable.runFrom {sc : Script} {s s' : State} (h : Reachable sc s) {ls : List Label}
    (hr : runFrom sc s ls = some s') : Reachable sc s' := by
  induction ls generalizing s with
  | nil => cases hr; exact h
  | cons l ls ih =>
    unfold ToVec.runFrom at hr
    split at hr
    · next s1 h1 => exact ih (h.step h1) hr
    · cases hr

theorem reachable_of_replay {sc : Script} {ls : List Label} {s : State} (h : replay sc ls = some s) :
    Reachable sc s := Reachable.init.runFrom h

theorem runFrom_append (sc : Script) (s : State) (ls ms : List Label) :
    runFrom sc s (ls ++ ms) = (runFrom sc s ls).bind (runFrom sc · ms) := by
  induction ls generalizing s with
  | nil => rfl
  | cons l ls ih =>
    simp only [List.cons_append, runFrom]
    cases step sc s l with
    | none => rfl
    | some s1 => exact ih s1

theorem replay_of_reachable {sc : Script} {s : State} (h : Reachable sc s) : ∃ ls, replay sc ls = some s := by
  induction h with
  | init => exact ⟨[], rfl⟩
  | @step s s' l _ hs ih =>
    obtain ⟨ls, hls⟩ := ih
    refine ⟨ls ++ [l], ?_⟩
    rw [replay, runFrom_append, ← replay, hls]
    simp only [Option.bind_some, runFrom, hs]

/-! ### text format -/

def Tid.toStr : Tid → String
  | .src => "src"
  | .exe => "exe"

def Kind.toStr : Kind → String
  | .acqBuf => "acq_buffer" | .relBuf => "rel_buffer"
  | .acqErr => "acq_err" | .relErr => "rel_err"
  | .acqDone => "acq_done" | .relDone => "rel_done"
  | .acqWaker => "acq_waker" | .relWaker => "rel_waker"
  | .wake => "wake" | .park => "park" | .spurious => "spurious"

def labelToStr (l : Label) : String := l.1.toStr ++ " " ++ l.2.toStr

def parseTid : String → Option Tid
  | "src" => some .src
  | "exe" => some .exe
  | _ => none

def parseKind : String → Option Kind
  | "acq_buffer" => some .acqBuf | "rel_buffer" => some .relBuf
  | "acq_err" => some .acqErr | "rel_err" => some .relErr
  | "acq_done" => some .acqDone | "rel_done" => some .relDone
  | "acq_waker" => some .acqWaker | "rel_waker" => some .relWaker
  | "wake" => some .wake | "park" => some .park | "spurious" => some .spurious
  | _ => none

/-- `"<thread> <kind>"`, thread ∈ {src, exe}, kind as printed by `Kind.toStr`; blanks around / between are ignored -/
def parseLabel (line : String) : Option Label :=
  match (line.trimAscii.toString.splitOn " ").filter (· ≠ "") with
  | [t, k] => do
    let t ← parseTid t
    let k ← parseKind k
    pure (t, k)
  | _ => none

/-- script text: blank-separated integers (the items), optionally followed by `c` (complete) or `e<nat>` (error) -/
def parseScript (line : String) : Option Script :=
  let toks := (line.trimAscii.toString.splitOn " ").filter (· ≠ "")
  let rec go (ts : List String) (acc : List Data) : Option Script :=
    match ts with
    | [] => some ⟨acc.reverse, none⟩
    | t :: rest =>
      match t.toInt? with
      | some i => go rest (Data.int i :: acc)
      | none =>
        if rest ≠ [] then none
        else if t == "c" then some ⟨acc.reverse, some .complete⟩
        else if t.startsWith "e" then
          match (t.drop 1).toString.toNat? with
          | some e => some ⟨acc.reverse, some (.error e)⟩
          | none => none
        else none
  go toks []

/-- replay a textual run (one label per line; empty lines ignored) -/
def replayText (sc : Script) (lines : List String) : Option State := do
  let ls ← (lines.filter (fun l => l.trimAscii.toString ≠ "")).mapM parseLabel
  replay sc ls

def Res.toStr : Res → String
  | .ok b => "Ok[" ++ ",".intercalate (b.map Data.toStr) ++ "]"
  | .err e => "Err(" ++ toString e ++ ")"

/-- one-line observable summary of a state (for the driver) -/
def State.summary (s : State) : String :=
  "done=" ++ toString s.done ++ " polls=" ++ toString s.polls ++ " spurious=" ++ toString s.spur ++
  " wakes=" ++ toString s.wakes ++ " token=" ++ toString s.token ++
  " result=" ++ (match s.result with | some r => r.toStr | none => "pending") ++
  " pushed=[" ++ ",".intercalate (s.buffer.map Data.toStr) ++ "]"

end Rx.ToVec
