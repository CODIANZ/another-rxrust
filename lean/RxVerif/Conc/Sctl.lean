import RxVerif.Data
/-
Model C (lock granularity) for property C11, part 1: `merge` — k input threads feeding ONE `StreamController`
(+ optionally a thread that calls `Subscription::unsubscribe()` concurrently).

Rust sources followed (CURRENT tree):
  /repo/src/operators/merge.rs            l.20-52   (all `new_observer` calls — i.e. all inserts into `unscribers` —
                                                     happen in `Vec::from_iter` BEFORE the first `inner_subscribe`; so when
                                                     the first input can emit, the map already holds all k serials: `init`)
  /repo/src/internals/stream_controller.rs l.84-90 sink_next, l.92-99 sink_error, l.101-115 sink_complete(serial)
                                           (l.104-106: remove + len()==0 under ONE write lock), l.132-145 finalize,
                                           l.32-35 the on_unsubscribe hook = finalize
  /repo/src/observer.rs                    l.37-39 next, l.40-46 error, l.47-52 complete, l.53-61 unsubscribe,
                                           l.62-64 is_subscribed
  /repo/src/internals/function_wrapper.rs  l.38-40 clear, l.41-43 clear_if_available (atomic take = the CLAIM),
                                           l.51-57 fetch_function, l.66-72 call_if_available,
                                           l.73-90 call_and_clear_if_available

Thread `i` (serial `i`) drives its own *inner* observer `obs_i` (made by `new_observer`, closures = merge's):
  obs_i.next(x)    = fetch inner fn_next_i ; closure -> sctl.sink_next(x)
  obs_i.complete() = claim inner fn_next_i ; clear inner fn_error_i ; take inner fn_complete_i ; closure -> sink_complete(i)
  obs_i.error(e)   = claim inner fn_next_i ; clear inner fn_complete_i ; take inner fn_error_i ; closure -> sink_error(e)

One micro-step per lock operation / callback start / callback return; "fetch the function under the read lock" and
"call it" (= callback start, where the ghost log is written) are DIFFERENT steps, because another thread can take the slot
in between.  The `unscribers` RwLock: `finalize` holds the read lock over the whole `for_each` (`readers`), writers
(`cRemove`, `fClear`) are enabled only when `readers = 0`; the HashMap iteration order is chosen by the label (`pick`).

The only combined step is `subscriber.is_subscribed()` (three slot reads `fn_next.exists() && fn_error.exists() &&
fn_complete.exists()`), which is ONE step here.  This is sound because the three slots are monotone (they only ever go from
present to absent — no code path re-fills them): see `isSub_linearizable` below, which shows that the value computed by
three reads at times t1 ≤ t2 ≤ t3 equals the value of an atomic read at some time in [t1,t3].

Not elaborated (no effect for merge): the `on_unsubscribe` hook of the INNER observers (None), `on_finalize` (None, one
no-op step `fOnFin`), the hook cell of the subscriber (see `Pc.uC`), and the body of `subscriber.unsubscribe()` when entered
from `finalize` (marker `uDead`, proved unreachable in `Theorems/C11.lean: finalize_never_unsubscribes`).
-/
namespace Rx.Conc.Sctl
open Rx

/-! ### small helpers on `List Bool` (slot arrays indexed by serial) -/

def get (l : List Bool) (i : Nat) : Bool := l[i]?.getD false

theorem get_set (l : List Bool) (i j : Nat) (b : Bool) :
    get (l.set j b) i = if j = i ∧ j < l.length then b else get l i := by
  unfold get
  rw [List.getElem?_set]
  by_cases h : j = i
  · subst h
    by_cases h2 : j < l.length <;> simp [h2]
  · simp [h]

theorem get_replicate (n i : Nat) : get (List.replicate n false) i = false := by
  unfold get
  rw [List.getElem?_replicate]
  split <;> rfl

def allFalse (l : List Bool) : Bool := l.all (fun b => !b)

theorem allFalse_get {l : List Bool} (h : allFalse l = true) (i : Nat) : get l i = false := by
  unfold get
  cases hi : l[i]? with
  | none => rfl
  | some b =>
    have hm : b ∈ l := List.mem_of_getElem? hi
    have := List.all_eq_true.mp h b hm
    simpa using this

theorem allFalse_of_get {l : List Bool} (h : ∀ i, i < l.length → get l i = false) : allFalse l = true := by
  unfold allFalse
  rw [List.all_eq_true]
  intro b hb
  obtain ⟨i, hi, rfl⟩ := List.getElem_of_mem hb
  have := h i hi
  unfold get at this
  simp [hi] at this
  simp [this]

/-- soundness of modelling `is_subscribed` (three reads) as one atomic step: for monotone (only-falling) slots the
    conjunction of three reads taken at `t1 ≤ t2 ≤ t3` is the value of an atomic read at a time in `[t1,t3]`. -/
theorem isSub_linearizable (fN fE fC : Nat → Bool)
    (_mN : ∀ a b, a ≤ b → fN b = true → fN a = true)
    (mE : ∀ a b, a ≤ b → fE b = true → fE a = true)
    (mC : ∀ a b, a ≤ b → fC b = true → fC a = true)
    (t1 t2 t3 : Nat) (h12 : t1 ≤ t2) (h23 : t2 ≤ t3) :
    ∃ t, t1 ≤ t ∧ t ≤ t3 ∧ (fN t1 && fE t2 && fC t3) = (fN t && fE t && fC t) := by
  cases hN : fN t1 with
  | false => exact ⟨t1, Nat.le_refl _, by omega, by simp [hN]⟩
  | true =>
    cases hE : fE t2 with
    | false =>
      refine ⟨t2, h12, h23, ?_⟩
      simp [hE]
    | true =>
      cases hC : fC t3 with
      | false =>
        refine ⟨t3, by omega, Nat.le_refl _, ?_⟩
        simp [hC]
      | true =>
        refine ⟨t1, Nat.le_refl _, by omega, ?_⟩
        have h2 := mE t1 t2 h12 hE
        have h3 := mC t1 t3 (by omega) hC
        simp [hN, h2, h3]

/-! ### scripts, program counters, state -/

inductive Term where
  | complete
  | error (e : Nat)
deriving Repr, DecidableEq, Inhabited

def Term.isC : Term → Bool
  | .complete => true
  | .error _ => false

def Term.ev : Term → Ev
  | .complete => .complete
  | .error e => .error e

/-- a well-formed input: items, then `complete` (`err = none`) or `error e` (`err = some e`).
    A script with `unsub = true` is NOT an input (it has no serial in `unscribers`, its items/err are ignored): it stands
    for the thread that owns the `Subscription` and calls `unsubscribe()` once, concurrently with the inputs. -/
structure Script where
  items : List Data
  err : Option Nat := none
  unsub : Bool := false
deriving Repr, DecidableEq

def Script.term (sc : Script) : Term :=
  match sc.err with
  | none => .complete
  | some e => .error e

/-- program counter of an input thread: the NEXT micro-step it will perform -/
inductive Pc where
  | idle                      -- between two calls on its inner observer
  -- obs_i.next(x) -> sink_next(x)
  | nFetchI                   -- fetch inner fn_next_i (read lock)                       observer.rs:38
  | nSub                      -- sink_next: subscriber.is_subscribed()                   stream_controller.rs:85
  | nFetch                    -- subscriber.next: fetch fn_next (read lock)              observer.rs:38
  | nStart                    -- call the fetched function: the user's next callback STARTS (ghost log)
  | nCb                       -- inside the user's next callback (return = this step)
  -- obs_i.complete()/error(e) -> sink_complete(i)/sink_error(e)
  | tClaimI (t : Term)        -- claim inner fn_next_i (write lock, take)                observer.rs:42/48
  | tClrI (t : Term)          -- clear the other inner terminal slot                     observer.rs:43/49
  | tTakeI (t : Term)         -- take own inner terminal slot, call closure              observer.rs:44/50
  | tSub (t : Term)           -- sink_complete / sink_error: is_subscribed()             stream_controller.rs:93/102
  | cRemove                   -- ONE write lock: remove(serial); len()==0                stream_controller.rs:104-106
  | tClaim (t : Term)         -- subscriber.complete()/error(): claim fn_next            observer.rs:42/48
  | tClr (t : Term)           -- clear the other terminal slot                           observer.rs:43/49
  | tTake (t : Term)          -- take own terminal slot (write lock)                     observer.rs:44/50
  | tStart (t : Term)         -- call the taken function: the user's terminal callback STARTS (ghost log)
  | tCb (t : Term)            -- inside the user's terminal callback (return = this step)
  -- finalize()
  | fLock                     -- unscribers.read(): acquire, snapshot keys               stream_controller.rs:133
  | fPick (pend : List Nat)   -- for_each: pick next key (HashMap order = label) / release read lock when none left
  | fU1 (pend : List Nat) (j : Nat)   -- o_j.unsubscribe(): clear inner fn_next_j        observer.rs:54
  | fU2 (pend : List Nat) (j : Nat)   --                   clear inner fn_error_j        observer.rs:55
  | fU3 (pend : List Nat) (j : Nat)   --                   clear inner fn_complete_j     observer.rs:56 (hook of obs_j is None)
  | fClear                    -- unscribers.write().clear()                              stream_controller.rs:136
  | fSub                      -- if subscriber.is_subscribed()                           stream_controller.rs:137
  | fOnFin                    -- on_finalize.write(): None for merge                     stream_controller.rs:140-144
  -- Subscription::unsubscribe() -> subscriber.unsubscribe()  (only the `unsub` thread)    observer.rs:53-61
  | uN                        -- fn_next.clear()
  | uE                        -- fn_error.clear()
  | uC                        -- fn_complete.clear(); then the on_unsubscribe hook (set by StreamController::new,
                              -- stream_controller.rs:34) runs sctl.finalize(): continues at `fLock`.  (The hook cell
                              -- itself is not modelled: a second unsubscribe would find it None and skip finalize;
                              -- always running finalize only adds behaviours.)
  | uDead                     -- marker: entered `subscriber.unsubscribe()` from finalize (l.138). Proved unreachable
                              -- (`finalize_never_unsubscribes`), therefore not elaborated further.
deriving Repr, DecidableEq, Inhabited

structure Thread where
  todo : List Data            -- items not yet handed to the subscriber (head = item of the call in progress)
  fin : Option Term           -- terminal call still to be made
  unsub : Bool                -- (unsubscriber thread only) the unsubscribe() call still to be made
  pc : Pc
deriving Repr, DecidableEq

structure State where
  sN : Bool := true           -- subscriber.fn_next present
  sE : Bool := true           -- subscriber.fn_error present
  sC : Bool := true           -- subscriber.fn_complete present
  iN : List Bool              -- inner observers' fn_next, by serial
  iE : List Bool
  iC : List Bool
  live : List Bool            -- membership of serial in `unscribers`
  readers : Nat := 0          -- holders of unscribers' read lock (writers wait for 0)
  log : List (Nat × Ev) := []       -- ghost: callback STARTS at the subscriber, with delivering thread
  emptyObs : List Nat := []         -- ghost: threads that saw `len()==0` in sink_complete
  claim : Option Term := none       -- ghost: which terminal won the claim of subscriber.fn_next
  threads : List Thread
deriving Repr, DecidableEq

def State.isSub (s : State) : Bool := s.sN && s.sE && s.sC

def keysOf (live : List Bool) : List Nat := (List.range live.length).filter (get live)

/-- append "thread `i` starts the next callback with the head of `todo`" -/
def logNext (log : List (Nat × Ev)) (i : Nat) (todo : List Data) : List (Nat × Ev) :=
  match todo with
  | x :: _ => log ++ [(i, Ev.next x)]
  | [] => log

def State.upd (s : State) (i : Nat) (th : Thread) : State := { s with threads := s.threads.set i th }

/-- label = scheduled thread (+ the key picked by the HashMap iteration when the thread is at `fPick`) -/
structure Label where
  tid : Nat
  pick : Nat := 0
deriving Repr, DecidableEq

def Script.thread (sc : Script) : Thread :=
  { todo := if sc.unsub then [] else sc.items, fin := if sc.unsub then none else some sc.term, unsub := sc.unsub,
    pc := .idle }

def init (scripts : List Script) : State :=
  { iN := scripts.map fun sc => !sc.unsub
    iE := scripts.map fun sc => !sc.unsub
    iC := scripts.map fun sc => !sc.unsub
    live := scripts.map fun sc => !sc.unsub
    threads := scripts.map Script.thread }

/-- one micro-step of thread `l.tid`; `none` = not enabled (finished thread, blocked writer, bad pick) -/
def step (s : State) (l : Label) : Option State :=
  let i := l.tid
  match s.threads[i]? with
  | none => none
  | some th =>
    match th.pc with
    | .idle =>
      match th.todo, th.fin with
      | _ :: _, _ => some (s.upd i { th with pc := .nFetchI })
      | [], some t => some (s.upd i { th with fin := none, pc := .tClaimI t })
      | [], none => if th.unsub then some (s.upd i { th with unsub := false, pc := .uN }) else none
    | .nFetchI =>
      some (s.upd i { th with todo := if get s.iN i then th.todo else th.todo.tail,
                              pc := if get s.iN i then .nSub else .idle })
    | .nSub =>
      some (s.upd i { th with todo := if s.isSub then th.todo else th.todo.tail,
                              pc := if s.isSub then .nFetch else .fLock })
    | .nFetch =>
      some (s.upd i { th with todo := if s.sN then th.todo else th.todo.tail,
                              pc := if s.sN then .nStart else .idle })
    | .nStart => some ({ s with log := logNext s.log i th.todo }.upd i { th with todo := th.todo.tail, pc := .nCb })
    | .nCb => some (s.upd i { th with pc := .idle })
    | .tClaimI t =>
      some ({ s with iN := s.iN.set i false }.upd i { th with pc := if get s.iN i then .tClrI t else .idle })
    | .tClrI t =>
      some ({ s with iE := if t.isC then s.iE.set i false else s.iE,
                     iC := if t.isC then s.iC else s.iC.set i false }.upd i { th with pc := .tTakeI t })
    | .tTakeI t =>
      some ({ s with iC := if t.isC then s.iC.set i false else s.iC,
                     iE := if t.isC then s.iE else s.iE.set i false }.upd i
              { th with pc := if (if t.isC then get s.iC i else get s.iE i) then .tSub t else .idle })
    | .tSub t =>
      some (s.upd i { th with pc := if s.isSub then (if t.isC then .cRemove else .tClaim t) else .fLock })
    | .cRemove =>
      if s.readers = 0 then
        some ({ s with live := s.live.set i false,
                       emptyObs := if allFalse (s.live.set i false) then s.emptyObs ++ [i] else s.emptyObs }.upd i
                { th with pc := if allFalse (s.live.set i false) then .tClaim .complete else .idle })
      else none
    | .tClaim t =>
      some ({ s with sN := false, claim := if s.sN then some t else s.claim }.upd i
              { th with pc := if s.sN then .tClr t else .fLock })
    | .tClr t =>
      some ({ s with sE := if t.isC then false else s.sE,
                     sC := if t.isC then s.sC else false }.upd i { th with pc := .tTake t })
    | .tTake t =>
      some ({ s with sC := if t.isC then false else s.sC,
                     sE := if t.isC then s.sE else false }.upd i
              { th with pc := if (if t.isC then s.sC else s.sE) then .tStart t else .fLock })
    | .tStart t => some ({ s with log := s.log ++ [(i, t.ev)] }.upd i { th with pc := .tCb t })
    | .tCb _ => some (s.upd i { th with pc := .fLock })
    | .fLock => some ({ s with readers := s.readers + 1 }.upd i { th with pc := .fPick (keysOf s.live) })
    | .fPick pend =>
      if pend = [] then some ({ s with readers := s.readers - 1 }.upd i { th with pc := .fClear })
      else if l.pick ∈ pend then some (s.upd i { th with pc := .fU1 (pend.erase l.pick) l.pick })
      else none
    | .fU1 pend j => some ({ s with iN := s.iN.set j false }.upd i { th with pc := .fU2 pend j })
    | .fU2 pend j => some ({ s with iE := s.iE.set j false }.upd i { th with pc := .fU3 pend j })
    | .fU3 pend j => some ({ s with iC := s.iC.set j false }.upd i { th with pc := .fPick pend })
    | .fClear =>
      if s.readers = 0 then
        some ({ s with live := List.replicate s.live.length false }.upd i { th with pc := .fSub })
      else none
    | .fSub => some (s.upd i { th with pc := if s.isSub then .uDead else .fOnFin })
    | .fOnFin => some (s.upd i { th with pc := .idle })
    | .uN => some ({ s with sN := false }.upd i { th with pc := .uE })
    | .uE => some ({ s with sE := false }.upd i { th with pc := .uC })
    | .uC => some ({ s with sC := false }.upd i { th with pc := .fLock })
    | .uDead => none

inductive Reachable (scripts : List Script) : State → Prop
  | init : Reachable scripts (init scripts)
  | step {s s' l} : Reachable scripts s → step s l = some s' → Reachable scripts s'

def run (s : State) : List Label → Option State
  | [] => some s
  | l :: ls => match step s l with
    | none => none
    | some s' => run s' ls

theorem reachable_of_run {scripts : List Script} {s : State} (h : Reachable scripts s) :
    ∀ (ls : List Label) (s' : State), run s ls = some s' → Reachable scripts s' := by
  intro ls
  induction ls generalizing s with
  | nil => intro s' h'; cases h'; exact h
  | cons l ls ih =>
    intro s' h'
    simp only [run] at h'
    split at h'
    · cases h'
    · exact ih (.step h ‹_›) s' h'

/-- a thread has nothing left to do -/
def Thread.finished (th : Thread) : Bool := th.pc = .idle && th.todo.isEmpty && th.fin.isNone && !th.unsub

def State.allDone (s : State) : Bool := s.threads.all Thread.finished

/-- items delivered by thread `i`, in delivery order -/
def proj (i : Nat) (log : List (Nat × Ev)) : List Data :=
  log.filterMap fun p => if p.1 = i then (match p.2 with | .next d => some d | _ => none) else none

/-- all delivered items, in delivery order -/
def items (log : List (Nat × Ev)) : List Data :=
  log.filterMap fun p => match p.2 with | .next d => some d | _ => none

/-! ### schedulers for examples / replay -/

/-- the action name a recorded run must show for the scheduled thread (checked by `stepChecked`) -/
def Pc.act : Pc → String
  | .idle => "call" | .nFetchI => "fetchI" | .nSub => "nsub" | .nFetch => "fetch" | .nStart => "nstart" | .nCb => "nret"
  | .tClaimI _ => "claimI" | .tClrI _ => "clrI" | .tTakeI _ => "takeI" | .tSub _ => "tsub"
  | .cRemove => "remove" | .tClaim _ => "claim" | .tClr _ => "clr" | .tTake _ => "take" | .tStart _ => "tstart"
  | .tCb _ => "tret"
  | .fLock => "flock" | .fPick [] => "funlock" | .fPick _ => "fpick" | .fU1 _ _ => "fu1" | .fU2 _ _ => "fu2"
  | .fU3 _ _ => "fu3" | .fClear => "fclear" | .fSub => "fsub" | .fOnFin => "fonfin" | .uDead => "dead"
  | .uN => "un" | .uE => "ue" | .uC => "uc"

/-- replay step: as `step`, but additionally checks that the recorded action name is the one the model expects -/
def stepChecked (s : State) (act : String) (l : Label) : Option State :=
  match s.threads[l.tid]? with
  | none => none
  | some th => if th.pc.act = act then step s l else none

theorem stepChecked_sub {s s' : State} {act : String} {l : Label} (h : stepChecked s act l = some s') :
    step s l = some s' := by
  unfold stepChecked at h
  split at h
  · cases h
  · split at h
    · exact h
    · cases h

/-- text format: `<tid> <act>` or `<tid> fpick <key>` -/
def parseLabel (line : String) : Option (String × Label) :=
  match line.trimAscii.toString.splitOn " " with
  | [t, a] => t.toNat?.map fun n => (a, { tid := n })
  | [t, a, k] => match t.toNat?, k.toNat? with
    | some n, some j => some (a, { tid := n, pick := j })
    | _, _ => none
  | _ => none

/-- run thread `i` until it is finished or blocked (fuel-bounded), picking the smallest pending key in finalize -/
def runThread (fuel : Nat) (s : State) (i : Nat) : State :=
  match fuel with
  | 0 => s
  | fuel + 1 =>
    let pick := match s.threads[i]? with
      | some { pc := .fPick (j :: _), .. } => j
      | _ => 0
    match step s { tid := i, pick := pick } with
    | none => s
    | some s' => runThread fuel s' i

theorem reachable_runThread {scripts : List Script} (fuel : Nat) :
    ∀ (s : State) (i : Nat), Reachable scripts s → Reachable scripts (runThread fuel s i) := by
  induction fuel with
  | zero => intro s i h; exact h
  | succ n ih =>
    intro s i h
    simp only [runThread]
    split
    · exact h
    · rename_i s' hs
      exact ih s' i (Reachable.step h hs)

/-- round robin over `k` threads (skipping disabled ones), `fuel` scheduling decisions -/
def roundRobin (fuel : Nat) (s : State) (k : Nat) : State :=
  match fuel with
  | 0 => s
  | fuel + 1 => roundRobin fuel (runThread 1 s (fuel % k)) k

theorem reachable_roundRobin {scripts : List Script} (fuel : Nat) (k : Nat) :
    ∀ (s : State), Reachable scripts s → Reachable scripts (roundRobin fuel s k) := by
  induction fuel with
  | zero => intro s h; exact h
  | succ n ih =>
    intro s h
    simp only [roundRobin]
    exact ih _ (reachable_runThread 1 s _ h)

end Rx.Conc.Sctl
