import RxVerif.Conc.Sctl
import RxVerif.Conc.TakeAmbZip
/-
Co-simulation support for the C11 LTSs (`Sctl` = merge, `Take`, `Amb`, `Zip`): text formats and checked replay of the
label traces rendered by harness/conc/src/sctl.rs from the lock-level event log of the real code.

Payload of one recorded execution:   `<header> ; impl=<log> parked=<tids> ; <label>;<label>;…`
  header  `merge / 1 2 c / 11 e5 / unsub`   scripts in LTS thread order (= serial order)
          `take 2 / 1 2 c / 3 4`            `amb / 1 c / 11 12`           `zip / 1 2 / 11 12 / unsub`
  impl    what the subscriber's callbacks recorded: `<tid>:<ev>` comma separated (ev = n<item> | c | e<id>)
  label   `<tid> <act>` (`<tid> fpick <key>`); `<act>` must be the action name of the thread's program counter
          (`stepChecked`), so a trace is accepted only if every recorded lock operation is the one the LTS performs next.
After the replay the LTS's ghost state is compared with the harness's observation (`impl`), and every thread must be
finished.  Nothing here is used by a theorem; `stepChecked_sub`-style lemmas tie the checked step to `step`.
-/
namespace Rx.Conc

def wordsOf (t : String) : List String := (t.trimAscii.toString.splitOn " ").filter (· ≠ "")

def logStr (log : List (Nat × Ev)) : String :=
  ",".intercalate (log.map fun p => toString p.1 ++ ":" ++ p.2.toStr)

def natsStr (l : List Nat) : String := ",".intercalate (l.map toString)

/-- `1 2 3` -/
def parseInts (ws : List String) : Option (List Data) := ws.mapM fun w => w.toInt?.map Data.int

namespace Sctl

/-- `1 2 c` | `11 e5` | `unsub` -/
def parseScript (t : String) : Option Script :=
  let ws := wordsOf t
  if ws = ["unsub"] then some { items := [], unsub := true } else
  match ws.getLast? with
  | none => none
  | some e =>
    match parseInts ws.dropLast with
    | none => none
    | some items =>
      if e = "c" then some { items := items }
      else if e.startsWith "e" then (e.drop 1).toString.toNat?.map fun n => { items := items, err := some n }
      else none

/-- replay with diagnostics: the index (from 1) and text of the first label the LTS refuses -/
def replayChecked (s : State) (k : Nat) : List (String × Label) → Except String State
  | [] => .ok s
  | (a, l) :: rest =>
    match stepChecked s a l with
    | some s' => replayChecked s' (k + 1) rest
    | none =>
      let at_ := match s.threads[l.tid]? with
        | some th => th.pc.act
        | none => "no such thread"
      .error ("label " ++ toString k ++ " `" ++ toString l.tid ++ " " ++ a ++ "` not enabled: model thread is at `" ++ at_ ++ "`" ++
        (if at_ = a then " (blocked)" else ""))

theorem replayChecked_run {s s' : State} {k : Nat} {ls : List (String × Label)} (h : replayChecked s k ls = .ok s') :
    run s (ls.map (·.2)) = some s' := by
  induction ls generalizing s k with
  | nil => cases h; rfl
  | cons al rest ih =>
    simp only [replayChecked] at h
    split at h
    · simp only [List.map_cons, run, stepChecked_sub ‹_›]
      exact ih h
    · cases h

def cosim (scripts : List String) (impl : String) (labels : List String) : String :=
  match scripts.mapM parseScript, labels.mapM parseLabel with
  | none, _ => " REJECT bad script"
  | _, none => " REJECT unparsable label"
  | some scs, some ls =>
    match replayChecked (init scs) 1 ls with
    | .error m => " REJECT " ++ m
    | .ok s =>
      if !s.allDone then " REJECT end of trace: a model thread is not finished: " ++
        toString ((s.threads.map fun th => th.pc.act))
      else if logStr s.log ≠ impl then " REJECT ghost log differs: model " ++ logStr s.log ++ " impl " ++ impl
      else " ok steps=" ++ toString ls.length ++ " log=" ++ logStr s.log ++ " lastOut=[" ++ natsStr s.emptyObs ++ "] claim=" ++
        (match s.claim with | none => "-" | some t => t.ev.toStr)

end Sctl

/-- `1 2 c` | `3 4` : items and whether the thread calls `complete()` afterwards -/
def parseItemsFin (t : String) : Option (List Data × Bool) :=
  let ws := wordsOf t
  if ws.getLast? = some "c" then (parseInts ws.dropLast).map fun l => (l, true)
  else (parseInts ws).map fun l => (l, false)

/-- `<tid> <act>` -/
def parseTidAct (line : String) : Option (Nat × String) :=
  match wordsOf line with
  | [t, a] => t.toNat?.map fun n => (n, a)
  | _ => none

namespace Take

def Pc.act : Pc → String
  | .idle => "call" | .fetchI => "fetchI" | .count => "count" | .sub _ => "sub" | .fetch _ => "fetch" | .start _ => "start"
  | .cb _ => "cb" | .abort1 => "abort1" | .abort2 => "abort2" | .claimI => "claimI" | .tSub _ => "tsub"
  | .cRemove _ => "remove" | .tClaim _ => "claim" | .tClr _ => "clr" | .tTake _ => "take" | .tStart _ => "tstart"
  | .tCb _ => "tret" | .fin1 _ => "fin1" | .fin2 => "fin2"

def stepChecked (s : State) (act : String) (i : Nat) : Option State :=
  match s.threads[i]? with
  | none => none
  | some th => if th.pc.act = act then step s i else none

theorem stepChecked_sub {s s' : State} {act : String} {i : Nat} (h : stepChecked s act i = some s') :
    step s i = some s' := by
  unfold stepChecked at h
  split at h
  · cases h
  · split at h
    · exact h
    · cases h

def replayChecked (s : State) (k : Nat) : List (Nat × String) → Except String State
  | [] => .ok s
  | (i, a) :: rest =>
    match stepChecked s a i with
    | some s' => replayChecked s' (k + 1) rest
    | none =>
      let at_ := match s.threads[i]? with
        | some th => th.pc.act
        | none => "no such thread"
      .error ("label " ++ toString k ++ " `" ++ toString i ++ " " ++ a ++ "` not enabled: model thread is at `" ++ at_ ++ "`")

theorem replayChecked_run {s s' : State} {k : Nat} {ls : List (Nat × String)} (h : replayChecked s k ls = .ok s') :
    run s (ls.map (·.1)) = some s' := by
  induction ls generalizing s k with
  | nil => cases h; rfl
  | cons al rest ih =>
    simp only [replayChecked] at h
    split at h
    · simp only [List.map_cons, run, stepChecked_sub ‹_›]
      exact ih h
    · cases h

/-- finished, or (`parked`) stopped right after claiming the inner fn_next because the inner fn_complete was already
    cleared: the closure is not called — in the LTS that thread is simply never scheduled again (header of TakeAmbZip) -/
def Thread.done (parked : Bool) (th : Thread) : Bool :=
  (th.pc = .idle && th.todo.isEmpty && !th.fin) || (parked && th.pc = .tSub false && th.todo.isEmpty)

def cosim (count : Nat) (scripts : List String) (impl : String) (parked : List Nat) (labels : List String) : String :=
  match scripts.mapM parseItemsFin, labels.mapM parseTidAct with
  | none, _ => " REJECT bad script"
  | _, none => " REJECT unparsable label"
  | some scs, some ls =>
    match replayChecked (init count scs) 1 ls with
    | .error m => " REJECT " ++ m
    | .ok s =>
      if !((s.threads.zipIdx).all fun p => Thread.done (parked.contains p.2) p.1) then
        " REJECT end of trace: a model thread is not finished: " ++ toString (s.threads.map fun th => th.pc.act)
      else if logStr s.log ≠ impl then " REJECT ghost log differs: model " ++ logStr s.log ++ " impl " ++ impl
      else " ok steps=" ++ toString ls.length ++ " log=" ++ logStr s.log ++ " ctr=" ++ toString s.ctr

end Take

namespace Amb

def Pc.act : Pc → String
  | .idle => "call" | .fetchI => "fetchI" | .win => "win" | .sub => "sub" | .fetch => "fetch" | .start => "start" | .cb => "cb"
  | .abort1 => "abort1" | .abort2 => "abort2" | .claimI => "claimI" | .winC => "winC" | .fSub => "fsub"
  | .tClaim => "claim" | .tClr => "clr" | .tTake => "take" | .tStart => "tstart" | .tCb => "tret"
  | .fLock => "flock" | .fPick [] => "funlock" | .fPick _ => "fpick" | .fU _ _ => "fu" | .fClear => "fclear" | .fEnd => "fend"

/-- `<tid> <act>` or `<tid> fpick <key>` -/
def parseActLabel (line : String) : Option (String × Label) :=
  match wordsOf line with
  | [t, a] => t.toNat?.map fun n => (a, { tid := n })
  | [t, a, k] => match t.toNat?, k.toNat? with
    | some n, some j => some (a, { tid := n, pick := j })
    | _, _ => none
  | _ => none

def stepChecked (s : State) (act : String) (l : Label) : Option State :=
  match s.threads[l.tid]? with
  | none => none
  | some th => if th.pc.act = act then step s l else none

theorem stepChecked_sub {s s' : State} {act : String} {l : Label} (h : stepChecked s act l = some s') :
    step s l = some s' := by
  unfold stepChecked at h
  split at h
  · cases h
  · split at h
    · exact h
    · cases h

def replayChecked (s : State) (k : Nat) : List (String × Label) → Except String State
  | [] => .ok s
  | (a, l) :: rest =>
    match stepChecked s a l with
    | some s' => replayChecked s' (k + 1) rest
    | none =>
      let at_ := match s.threads[l.tid]? with
        | some th => th.pc.act
        | none => "no such thread"
      .error ("label " ++ toString k ++ " `" ++ toString l.tid ++ " " ++ a ++ "` not enabled: model thread is at `" ++ at_ ++ "`" ++
        (if at_ = a then " (blocked / key not pending)" else ""))

theorem replayChecked_run {s s' : State} {k : Nat} {ls : List (String × Label)} (h : replayChecked s k ls = .ok s') :
    run s (ls.map (·.2)) = some s' := by
  induction ls generalizing s k with
  | nil => cases h; rfl
  | cons al rest ih =>
    simp only [replayChecked] at h
    split at h
    · simp only [List.map_cons, run, stepChecked_sub ‹_›]
      exact ih h
    · cases h

def Thread.done (parked : Bool) (th : Thread) : Bool :=
  (th.pc = .idle && th.todo.isEmpty && !th.fin) || (parked && th.pc = .winC && th.todo.isEmpty)

def cosim (scripts : List String) (impl : String) (parked : List Nat) (labels : List String) : String :=
  match scripts.mapM parseItemsFin, labels.mapM parseActLabel with
  | none, _ => " REJECT bad script"
  | _, none => " REJECT unparsable label"
  | some scs, some ls =>
    match replayChecked (init scs) 1 ls with
    | .error m => " REJECT " ++ m
    | .ok s =>
      if !((s.threads.zipIdx).all fun p => Thread.done (parked.contains p.2) p.1) then
        " REJECT end of trace: a model thread is not finished: " ++ toString (s.threads.map fun th => th.pc.act)
      else if logStr s.log ≠ impl then " REJECT ghost log differs: model " ++ logStr s.log ++ " impl " ++ impl
      else " ok steps=" ++ toString ls.length ++ " log=" ++ logStr s.log ++ " winner=" ++
        (match s.winner with | none => "-" | some w => toString w)

end Amb

namespace Zip

def Pc.act : Pc → String
  | .idle => "call" | .push => "push" | .get => "get" | .chk _ => "chk" | .sub _ => "sub" | .fetch _ => "fetch"
  | .start _ => "start" | .cb => "cb"

/-- `<tid> <act>` or `unsub` -/
def parseActLabel (line : String) : Option (String × Label) :=
  match wordsOf line with
  | ["unsub"] => some ("unsub", .unsub)
  | [t, a] => t.toNat?.map fun n => (a, .th n)
  | _ => none

def stepChecked (s : State) (act : String) (l : Label) : Option State :=
  match l with
  | .unsub => step s l
  | .th i =>
    match s.threads[i]? with
    | none => none
    | some th => if th.pc.act = act then step s l else none

theorem stepChecked_sub {s s' : State} {act : String} {l : Label} (h : stepChecked s act l = some s') :
    step s l = some s' := by
  unfold stepChecked at h
  split at h
  · exact h
  · split at h
    · cases h
    · split at h
      · exact h
      · cases h

def replayChecked (s : State) (k : Nat) : List (String × Label) → Except String State
  | [] => .ok s
  | (a, l) :: rest =>
    match stepChecked s a l with
    | some s' => replayChecked s' (k + 1) rest
    | none =>
      let at_ := match l with
        | .th i => (match s.threads[i]? with
          | some th => toString i ++ " is at `" ++ th.pc.act ++ "`"
          | none => "no such thread")
        | .unsub => "-"
      .error ("label " ++ toString k ++ " `" ++ a ++ "` not enabled: model thread " ++ at_)

theorem replayChecked_run {s s' : State} {k : Nat} {ls : List (String × Label)} (h : replayChecked s k ls = .ok s') :
    run s (ls.map (·.2)) = some s' := by
  induction ls generalizing s k with
  | nil => cases h; rfl
  | cons al rest ih =>
    simp only [replayChecked] at h
    split at h
    · simp only [List.map_cons, run, stepChecked_sub ‹_›]
      exact ih h
    · cases h

def tupleStr (v : List Data) : String := "[" ++ ",".intercalate (v.map Data.toStr) ++ "]"

def zlogStr (log : List (Nat × List Data)) : String :=
  ",".intercalate (log.map fun p => toString p.1 ++ ":n" ++ tupleStr p.2)

/-- finished; a `parked` thread (its inner observer was unsubscribed by the unsubscriber's finalize, the rest of its
    script never reaches the operator) only has to be between two calls -/
def Thread.done (parked : Bool) (th : Thread) : Bool := th.pc = .idle && (parked || th.todo.isEmpty)

def cosim (scripts : List String) (impl : String) (parked : List Nat) (labels : List String) : String :=
  match scripts.mapM (fun t => parseInts (wordsOf t)), labels.mapM parseActLabel with
  | none, _ => " REJECT bad script"
  | _, none => " REJECT unparsable label"
  | some scs, some ls =>
    match replayChecked (init scs) 1 ls with
    | .error m => " REJECT " ++ m
    | .ok s =>
      if !((s.threads.zipIdx).all fun p => Thread.done (parked.contains p.2) p.1) then
        " REJECT end of trace: a model thread is not finished: " ++ toString (s.threads.map fun th => th.pc.act)
      else if zlogStr s.log ≠ impl then " REJECT ghost log differs: model " ++ zlogStr s.log ++ " impl " ++ impl
      else " ok steps=" ++ toString ls.length ++ " log=" ++ zlogStr s.log ++ " popped=" ++ toString s.popped.length ++
        " dropped=" ++ toString s.dropped.length ++ " left=" ++ toString (s.queues.map List.length)

end Zip

/-- one recorded execution of the `sctl` scenario kind -/
def sctlCosimPayload (model : String) (payload : String) : String :=
  match payload.splitOn " ; " with
  | [hdr, obsv, labels] =>
    let hs := hdr.splitOn " / "
    let ow := wordsOf obsv
    let impl := ((ow.find? (·.startsWith "impl=")).map fun w => (w.drop 5).toString).getD ""
    let parked := ((ow.find? (·.startsWith "parked=")).map fun w => ((w.drop 7).toString.splitOn ",").filterMap String.toNat?).getD []
    let ls := (labels.splitOn ";").filter fun l => l ≠ "" ∧ l ≠ "-"
    let op := wordsOf (hs.headD "")
    if hs.any (·.startsWith "BAD-IDS") then " REJECT lock identification failed: " ++ hdr else
    match model, op with
    | "sctl", ["merge"] => Sctl.cosim hs.tail impl ls
    | "take", ["take", n] => Take.cosim (n.toNat?.getD 0) hs.tail impl parked ls
    | "amb", ["amb"] => Amb.cosim hs.tail impl parked ls
    | "zip", ["zip"] => Zip.cosim hs.tail impl parked ls
    | _, _ => " REJECT scenario " ++ (hs.headD "") ++ " is not for model " ++ model
  | _ => " REJECT malformed payload"

end Rx.Conc
