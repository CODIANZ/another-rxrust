import RxVerif.Data
import RxVerif.Conc.Sctl
/-
Model C (lock granularity) for property C11, part 2: the "decide under the lock / emit outside the lock" pattern of
`take`, `amb` and `zip`.

Rust sources followed (CURRENT tree):
  /repo/src/operators/take.rs l.36-51   closure `next`: counter under `n.write()` -> (emit, complete); emit / complete outside
  /repo/src/operators/amb.rs  l.27-35   `is_win` (winner cell under `winner.write()`), l.50-72 the three closures
  /repo/src/operators/zip.rs  l.41-69   `register`: push under `results.write()`; loop { `get` under `results.write()`; emit }
  /repo/src/internals/stream_controller.rs (sink_next l.84, sink_complete l.101, sink_complete_force l.117,
                                            upstream_abort_observe l.124, finalize l.132)

Granularity: one micro-step per lock operation of the operator's own cell (counter / winner / queues) and per lock
operation on the subscriber's slots, callback start and callback return — as in `Sctl.lean`.
Coarser than `Sctl.lean` in two places (both are over-approximations for the safety theorems proved about them —
dropping a blocking condition or a gate only ADDS interleavings — and do not touch the decide/emit pattern):
  * an inner observer (made by `new_observer`) is represented by its `fn_next` slot only (`iN`); taking its own terminal
    slot after a successful claim is assumed to succeed (if it fails the closure is simply not called, which is the same
    as never scheduling the thread again);
  * in `Take`, `finalize` is ONE step (clear all inner `fn_next`, clear `unscribers`, and — if still subscribed — clear
    the three subscriber slots): with its single serial every `finalize` of take runs after the serial was removed and
    the subscriber's fn_next was claimed, i.e. changes nothing (co-simulation: 0 rejects).  `Amb` has the fine-grained
    `finalize` (see there), as `Sctl.lean`.  `upstream_abort_observe` is two steps (remove key / clear own inner
    `fn_next`) without modelling that the `unscribers` write lock is held across the second.
`is_subscribed` is one atomic step (sound: `Sctl.isSub_linearizable`).
-/
namespace Rx.Conc

/-! ## take(count) -/
namespace Take
open Rx Rx.Conc.Sctl

/-- `x` = "called from the `next` closure, an explicit `finalize()` follows" (take.rs l.49) -/
inductive Pc where
  | idle
  | fetchI                    -- obs.next(x): fetch inner fn_next                        observer.rs:38
  | count                     -- n.write(): nn = *n; *n += 1; (nn<count, nn+1>=count)    take.rs:37-42
  | sub (c : Bool)            -- emit: sink_next: is_subscribed()                        stream_controller.rs:85
  | fetch (c : Bool)          -- subscriber.next: fetch fn_next
  | start (c : Bool)          -- next callback starts (ghost log)
  | cb (c : Bool)             -- next callback returns
  | abort1                    -- upstream_abort_observe: unscribers.write().remove(serial)  stream_controller.rs:125-126
  | abort2                    -- o.call(()): unsubscribe inner observer: clear inner fn_next
  | claimI                    -- upstream completes: obs.complete(): claim inner fn_next
  | tSub (x : Bool)           -- sink_complete: is_subscribed()
  | cRemove (x : Bool)        -- write lock: remove(serial); len()==0
  | tClaim (x : Bool)         -- subscriber.complete(): claim fn_next
  | tClr (x : Bool)           -- clear fn_error
  | tTake (x : Bool)          -- take fn_complete
  | tStart (x : Bool)         -- complete callback starts (ghost log)
  | tCb (x : Bool)            -- complete callback returns
  | fin1 (x : Bool)           -- finalize() inside sink_complete (one step, see header)
  | fin2                      -- the explicit `sctl_next.finalize()`                     take.rs:49
deriving Repr, DecidableEq, Inhabited

structure Thread where
  todo : List Data            -- items this upstream thread still offers (head = call in progress)
  fin : Bool                  -- will call obs.complete() after its items
  pc : Pc
deriving Repr, DecidableEq

structure State where
  count : Nat                 -- the operator's parameter
  ctr : Nat := 0              -- `n`
  iN : Bool := true           -- inner observer's fn_next
  live : Bool := true         -- serial present in unscribers
  sN : Bool := true
  sE : Bool := true
  sC : Bool := true
  log : List (Nat × Ev) := []
  threads : List Thread
deriving Repr, DecidableEq

def State.isSub (s : State) : Bool := s.sN && s.sE && s.sC
def State.upd (s : State) (i : Nat) (th : Thread) : State := { s with threads := s.threads.set i th }

def init (count : Nat) (scripts : List (List Data × Bool)) : State :=
  { count := count, threads := scripts.map fun sc => { todo := sc.1, fin := sc.2, pc := .idle } }

def step (s : State) (i : Nat) : Option State :=
  match s.threads[i]? with
  | none => none
  | some th =>
    match th.pc with
    | .idle =>
      match th.todo, th.fin with
      | _ :: _, _ => some (s.upd i { th with pc := .fetchI })
      | [], true => some (s.upd i { th with fin := false, pc := .claimI })
      | [], false => none
    | .fetchI => some (s.upd i { th with todo := if s.iN then th.todo else th.todo.tail,
                                         pc := if s.iN then .count else .idle })
    | .count =>
      some ({ s with ctr := s.ctr + 1 }.upd i
        { th with todo := if s.ctr < s.count then th.todo else th.todo.tail,
                  pc := if s.ctr < s.count then .sub (decide (s.ctr + 1 ≥ s.count))
                        else if s.ctr + 1 ≥ s.count then .abort1 else .idle })
    | .sub c => some (s.upd i { th with todo := if s.isSub then th.todo else th.todo.tail,
                                        pc := if s.isSub then .fetch c else .fin1 c })
        -- not subscribed: sink_next calls finalize(); afterwards, if `c`, the abort/complete part follows.
        -- `fin1 c` with c = true continues with `fin2`, which here stands for that remaining part collapsed
        -- (abort + sink_complete on a non-subscribed controller + finalize: no subscriber-visible effect)
    | .fetch c => some (s.upd i { th with todo := if s.sN then th.todo else th.todo.tail,
                                          pc := if s.sN then .start c else (if c then .abort1 else .idle) })
    | .start c => some ({ s with log := logNext s.log i th.todo }.upd i { th with todo := th.todo.tail, pc := .cb c })
    | .cb c => some (s.upd i { th with pc := if c then .abort1 else .idle })
    | .abort1 => some ({ s with live := false }.upd i { th with pc := if s.live then .abort2 else .tSub true })
    | .abort2 => some ({ s with iN := false }.upd i { th with pc := .tSub true })
    | .claimI => some ({ s with iN := false }.upd i { th with pc := if s.iN then .tSub false else .idle })
    | .tSub x => some (s.upd i { th with pc := if s.isSub then .cRemove x else .fin1 x })
    | .cRemove x => some ({ s with live := false }.upd i { th with pc := .tClaim x })   -- single key: len()==0 holds
    | .tClaim x => some ({ s with sN := false }.upd i { th with pc := if s.sN then .tClr x else .fin1 x })
    | .tClr x => some ({ s with sE := false }.upd i { th with pc := .tTake x })
    | .tTake x => some ({ s with sC := false }.upd i { th with pc := if s.sC then .tStart x else .fin1 x })
    | .tStart x => some ({ s with log := s.log ++ [(i, Ev.complete)] }.upd i { th with pc := .tCb x })
    | .tCb x => some (s.upd i { th with pc := .fin1 x })
    | .fin1 x =>
      some ({ s with iN := s.iN && !s.live, live := false,
                     sN := s.sN && !s.isSub, sE := s.sE && !s.isSub, sC := s.sC && !s.isSub }.upd i
              { th with pc := if x then .fin2 else .idle })
    | .fin2 =>
      some ({ s with iN := s.iN && !s.live, live := false,
                     sN := s.sN && !s.isSub, sE := s.sE && !s.isSub, sC := s.sC && !s.isSub }.upd i
              { th with pc := .idle })

inductive Reachable (count : Nat) (scripts : List (List Data × Bool)) : State → Prop
  | init : Reachable count scripts (init count scripts)
  | step {s s' i} : Reachable count scripts s → step s i = some s' → Reachable count scripts s'

def run (s : State) : List Nat → Option State
  | [] => some s
  | i :: is => match step s i with
    | none => none
    | some s' => run s' is

theorem reachable_of_run {count : Nat} {scripts : List (List Data × Bool)} {s : State}
    (h : Reachable count scripts s) : ∀ (ls : List Nat) (s' : State), run s ls = some s' → Reachable count scripts s' := by
  intro ls
  induction ls generalizing s with
  | nil => intro s' h'; cases h'; exact h
  | cons l ls ih =>
    intro s' h'
    simp only [run] at h'
    split at h'
    · cases h'
    · exact ih (.step h ‹_›) s' h'

/-- `n` consecutive steps of thread `i` -/
def rep (n i : Nat) : List Nat := List.replicate n i

/-- text format of a label: `<tid>` -/
def parseLabel (line : String) : Option Nat := line.trimAscii.toString.toNat?

end Take

/-! ## amb -/
namespace Amb
open Rx Rx.Conc.Sctl

/-
`finalize` is FINE-GRAINED here (as in `Sctl.lean`, with an inner observer represented by its fn_next): co-simulation of
the real code (harness/conc/src/sctl.rs, `rxmodel cosim amb`) refuted the one-step version — the winner's `finalize`
unsubscribes the losers' inner observers one by one under the `unscribers` READ lock, releases it, and only then takes
the write lock to clear the map; a loser whose `upstream_abort_observe` gets the write lock in between still finds its
key (`remove` = Some) and unsubscribes its inner observer a second time (`abort2`), which a `finalize` that clears the
map in the same step as the slots cannot show; with three inputs the slots of two losers are also cleared at different
times.  Writers of `unscribers` (`abort1`, `fClear`) wait for `readers = 0`; that `upstream_abort_observe` keeps the
write lock across `abort2` is still not modelled (more interleavings).  The order in which `finalize` visits the keys is
chosen by the label (`pick`).
-/

inductive Pc where
  | idle
  | fetchI                    -- obs_i.next(x): fetch inner fn_next_i
  | win                       -- is_win(serial): winner.write()                          amb.rs:27-35
  | sub                       -- winner: sink_next: is_subscribed()
  | fetch                     -- subscriber.next: fetch fn_next
  | start                     -- next callback starts (ghost log)
  | cb                        -- next callback returns
  | abort1                    -- loser: upstream_abort_observe: unscribers.write().remove(serial)
  | abort2                    --        unsubscribe own inner observer (clear inner fn_next_i)
  | claimI                    -- obs_i.complete(): claim inner fn_next_i
  | winC                      -- is_win(serial) in the complete closure
  | fSub                      -- sink_complete_force: is_subscribed()                    stream_controller.rs:118
  | tClaim | tClr | tTake | tStart | tCb
  -- finalize()                                                                          stream_controller.rs:132-145
  | fLock                     -- unscribers.read(): acquire, snapshot keys
  | fPick (pend : List Nat)   -- for_each: next key (order = label) / release the read lock when none is left
  | fU (pend : List Nat) (j : Nat)   -- o_j.unsubscribe(): clear inner fn_next_j
  | fClear                    -- unscribers.write().clear()
  | fEnd                      -- `if subscriber.is_subscribed() { subscriber.unsubscribe() }` in one step (the body is
                              -- never entered on the recorded runs; kept as in the one-step version); on_finalize: None
deriving Repr, DecidableEq, Inhabited

structure Thread where
  todo : List Data
  fin : Bool
  pc : Pc
deriving Repr, DecidableEq

structure State where
  winner : Option Nat := none
  iN : List Bool
  live : List Bool
  readers : Nat := 0          -- holders of unscribers' read lock (writers wait for 0)
  sN : Bool := true
  sE : Bool := true
  sC : Bool := true
  log : List (Nat × Ev) := []
  threads : List Thread
deriving Repr, DecidableEq

def State.isSub (s : State) : Bool := s.sN && s.sE && s.sC
def State.upd (s : State) (i : Nat) (th : Thread) : State := { s with threads := s.threads.set i th }

/-- label = scheduled thread (+ the key picked by the HashMap iteration when the thread is at `fPick`) -/
structure Label where
  tid : Nat
  pick : Nat := 0
deriving Repr, DecidableEq

def init (scripts : List (List Data × Bool)) : State :=
  { iN := List.replicate scripts.length true, live := List.replicate scripts.length true,
    threads := scripts.map fun sc => { todo := sc.1, fin := sc.2, pc := .idle } }

/-- `is_win`: the value returned to thread `i` -/
def wins (s : State) (i : Nat) : Bool :=
  match s.winner with
  | none => true
  | some w => w == i

def step (s : State) (l : Label) : Option State :=
  let i := l.tid
  match s.threads[i]? with
  | none => none
  | some th =>
    match th.pc with
    | .idle =>
      match th.todo, th.fin with
      | _ :: _, _ => some (s.upd i { th with pc := .fetchI })
      | [], true => some (s.upd i { th with fin := false, pc := .claimI })
      | [], false => none
    | .fetchI => some (s.upd i { th with todo := if get s.iN i then th.todo else th.todo.tail,
                                         pc := if get s.iN i then .win else .idle })
    | .win =>
      some ({ s with winner := if s.winner.isNone then some i else s.winner }.upd i
        { th with todo := if wins s i then th.todo else th.todo.tail, pc := if wins s i then .sub else .abort1 })
    | .sub => some (s.upd i { th with todo := if s.isSub then th.todo else th.todo.tail,
                                      pc := if s.isSub then .fetch else .fLock })
    | .fetch => some (s.upd i { th with todo := if s.sN then th.todo else th.todo.tail,
                                        pc := if s.sN then .start else .idle })
    | .start => some ({ s with log := logNext s.log i th.todo }.upd i { th with todo := th.todo.tail, pc := .cb })
    | .cb => some (s.upd i { th with pc := .idle })
    | .abort1 =>
      if s.readers = 0 then
        some ({ s with live := s.live.set i false }.upd i { th with pc := if get s.live i then .abort2 else .idle })
      else none
    | .abort2 => some ({ s with iN := s.iN.set i false }.upd i { th with pc := .idle })
    | .claimI => some ({ s with iN := s.iN.set i false }.upd i { th with pc := if get s.iN i then .winC else .idle })
    | .winC =>
      some ({ s with winner := if s.winner.isNone then some i else s.winner }.upd i
        { th with pc := if wins s i then .fSub else .abort1 })
    | .fSub => some (s.upd i { th with pc := if s.isSub then .tClaim else .fLock })
    | .tClaim => some ({ s with sN := false }.upd i { th with pc := if s.sN then .tClr else .fLock })
    | .tClr => some ({ s with sE := false }.upd i { th with pc := .tTake })
    | .tTake => some ({ s with sC := false }.upd i { th with pc := if s.sC then .tStart else .fLock })
    | .tStart => some ({ s with log := s.log ++ [(i, Ev.complete)] }.upd i { th with pc := .tCb })
    | .tCb => some (s.upd i { th with pc := .fLock })
    | .fLock => some ({ s with readers := s.readers + 1 }.upd i { th with pc := .fPick (keysOf s.live) })
    | .fPick pend =>
      if pend = [] then some ({ s with readers := s.readers - 1 }.upd i { th with pc := .fClear })
      else if l.pick ∈ pend then some (s.upd i { th with pc := .fU (pend.erase l.pick) l.pick })
      else none
    | .fU pend j => some ({ s with iN := s.iN.set j false }.upd i { th with pc := .fPick pend })
    | .fClear =>
      if s.readers = 0 then
        some ({ s with live := List.replicate s.live.length false }.upd i { th with pc := .fEnd })
      else none
    | .fEnd =>
      some ({ s with sN := s.sN && !s.isSub, sE := s.sE && !s.isSub, sC := s.sC && !s.isSub }.upd i
              { th with pc := .idle })

inductive Reachable (scripts : List (List Data × Bool)) : State → Prop
  | init : Reachable scripts (init scripts)
  | step {s s' l} : Reachable scripts s → step s l = some s' → Reachable scripts s'

def run (s : State) : List Label → Option State
  | [] => some s
  | l :: ls => match step s l with
    | none => none
    | some s' => run s' ls

theorem reachable_of_run {scripts : List (List Data × Bool)} {s : State}
    (h : Reachable scripts s) : ∀ (ls : List Label) (s' : State), run s ls = some s' → Reachable scripts s' := by
  intro ls
  induction ls generalizing s with
  | nil => intro s' h'; cases h'; exact h
  | cons l ls ih =>
    intro s' h'
    simp only [run] at h'
    split at h'
    · cases h'
    · exact ih (.step h ‹_›) s' h'

/-- `n` consecutive steps of thread `i` (outside `finalize`'s loop: pick 0) -/
def rep (n i : Nat) : List Label := List.replicate n { tid := i }

/-- one step of thread `i` visiting key `j` in `finalize`'s loop -/
def pk (i j : Nat) : List Label := [{ tid := i, pick := j }]

/-- text format of a label: `<tid>` or `<tid> <key>` -/
def parseLabel (line : String) : Option Label :=
  match (line.trimAscii.toString.splitOn " ").filter (· ≠ "") with
  | [t] => t.toNat?.map fun n => { tid := n }
  | [t, k] => match t.toNat?, k.toNat? with
    | some n, some j => some { tid := n, pick := j }
    | _, _ => none
  | _ => none

end Amb

/-! ## zip -/
namespace Zip
open Rx

inductive Pc where
  | idle
  | push                      -- results.write(): queues[id].push_back(x)                         zip.rs:42-47
  | get                       -- results.write(): all queues non-empty ? pop_front of each : None  zip.rs:50-62
  | chk (v : List Data)       -- loop body: `if !sctl_f.is_subscribed() { break }`                 zip.rs:64-66
  | sub (v : List Data)       -- sink_next: is_subscribed()
  | fetch (v : List Data)     -- subscriber.next: fetch fn_next
  | start (v : List Data)     -- next callback starts (ghost log)
  | cb                        -- next callback returns; back to `get`
deriving Repr, DecidableEq, Inhabited

/-- the tuple a thread has popped (under the lock) and not yet handed to the subscriber (outside the lock) -/
def Pc.held : Pc → Option (List Data)
  | .chk v | .sub v | .fetch v | .start v => some v
  | .idle | .push | .get | .cb => none

structure Thread where
  todo : List Data            -- items still to offer (head = item of the call in progress until it is pushed)
  pc : Pc
deriving Repr, DecidableEq

structure State where
  queues : List (List Data)
  sub : Bool := true          -- subscriber still subscribed (one flag stands for the three slots)
  log : List (Nat × List Data) := []     -- ghost: delivered tuples with delivering thread
  popped : List (List Data) := []        -- ghost: tuples in the order they were popped
  dropped : List (List Data) := []       -- ghost: tuples popped but discarded because the subscriber was gone
  threads : List Thread
deriving Repr, DecidableEq

inductive Label where
  | th (i : Nat)              -- micro-step of input thread i
  | unsub                     -- environment: the subscriber unsubscribes
deriving Repr, DecidableEq

def allFilled (qs : List (List Data)) : Bool := qs.all fun q => !q.isEmpty
def heads (qs : List (List Data)) : List Data := qs.map fun q => q.headD Data.unit

def State.upd (s : State) (i : Nat) (th : Thread) : State := { s with threads := s.threads.set i th }

def init (scripts : List (List Data)) : State :=
  { queues := scripts.map fun _ => [], threads := scripts.map fun sc => { todo := sc, pc := .idle } }

def step (s : State) (l : Label) : Option State :=
  match l with
  | .unsub => some { s with sub := false }
  | .th i =>
    match s.threads[i]? with
    | none => none
    | some th =>
      match th.pc with
      | .idle =>
        match th.todo with
        | _ :: _ => some (s.upd i { th with pc := .push })
        | [] => none
      | .push =>
        some ({ s with queues := s.queues.modify i fun q => q ++ th.todo.take 1 }.upd i
                { th with todo := th.todo.tail, pc := .get })
      | .get =>
        some ({ s with queues := if allFilled s.queues then s.queues.map List.tail else s.queues,
                       popped := if allFilled s.queues then s.popped ++ [heads s.queues] else s.popped }.upd i
                { th with pc := if allFilled s.queues then .chk (heads s.queues) else .idle })
      | .chk v =>
        some ({ s with dropped := if s.sub then s.dropped else s.dropped ++ [v] }.upd i
                { th with pc := if s.sub then .sub v else .idle })
      | .sub v =>
        some ({ s with dropped := if s.sub then s.dropped else s.dropped ++ [v] }.upd i
                { th with pc := if s.sub then .fetch v else .get })
      | .fetch v =>
        some ({ s with dropped := if s.sub then s.dropped else s.dropped ++ [v] }.upd i
                { th with pc := if s.sub then .start v else .get })
      | .start v => some ({ s with log := s.log ++ [(i, v)] }.upd i { th with pc := .cb })
      | .cb => some (s.upd i { th with pc := .get })

inductive Reachable (scripts : List (List Data)) : State → Prop
  | init : Reachable scripts (init scripts)
  | step {s s' l} : Reachable scripts s → step s l = some s' → Reachable scripts s'

def run (s : State) : List Label → Option State
  | [] => some s
  | l :: ls => match step s l with
    | none => none
    | some s' => run s' ls

theorem reachable_of_run {scripts : List (List Data)} {s : State}
    (h : Reachable scripts s) : ∀ (ls : List Label) (s' : State), run s ls = some s' → Reachable scripts s' := by
  intro ls
  induction ls generalizing s with
  | nil => intro s' h'; cases h'; exact h
  | cons l ls ih =>
    intro s' h'
    simp only [run] at h'
    split at h'
    · cases h'
    · exact ih (.step h ‹_›) s' h'

def rep (n i : Nat) : List Label := List.replicate n (.th i)

/-- text format of a label: `<tid>` or `unsub` -/
def parseLabel (line : String) : Option Label :=
  let t := line.trimAscii.toString
  if t = "unsub" then some .unsub else t.toNat?.map .th

def Thread.finished (th : Thread) : Bool := th.pc = .idle && th.todo.isEmpty
def State.allDone (s : State) : Bool := s.threads.all Thread.finished

/-- the n-th tuple: the n-th item of every input -/
def tuple (scripts : List (List Data)) (n : Nat) : List Data := scripts.map fun sc => sc.getD n Data.unit

def minLen : List (List Data) → Nat
  | [] => 0
  | [a] => a.length
  | a :: b :: rest => min a.length (minLen (b :: rest))

end Zip

end Rx.Conc
