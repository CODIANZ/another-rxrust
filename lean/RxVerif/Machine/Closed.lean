import RxVerif.Machine.Inv
/-
A predicate on worlds that is closed under the handful of edits the interpreter ever performs is
preserved by every run of every program.  `Inv` (C01) is one instance, `C05.silenced_closed` the other;
the case analysis over `Prog` is done once, in `run_closed`.
-/
namespace Rx

structure Closed (P : World → Prop) : Prop where
  status : ∀ (w : World) (st : Status), P w → P { w with status := st }
  core : ∀ (w w' : World), CoreEq w w' → P w → P w'
  setObs : ∀ (w : World) (o : Nat) (g : Obs → Obs), KeepsOrClears g → P w → P (w.setObs o g)
  pushCode : ∀ (w : World) (n : Data → Prog) (e : Nat → Prog) (c : Prog), P w →
    P { w with obs := w.obs ++ [⟨some (.code n), some (.code e), some (.code c), none⟩] }
  pushUser : ∀ (w : World) (u : User), u.obs = w.obs.length → P w →
    P { w with
      obs := w.obs ++ [⟨some (.user w.users.length), some (.user w.users.length), some (.user w.users.length), none⟩]
      users := w.users ++ [u] }
  probe : ∀ (w : World) (t : Nat) (d : Data), P w → P (w.emit (.probe t d))
  next : ∀ (w : World) (o : Nat) (x : Obs) (s : Nat) (d : Data), P w → w.obs[o]? = some x →
    x.next = some (.user s) → P (w.emit (.ev s (.next d)))
  term : ∀ (w : World) (o : Nat) (x : Obs) (s : Nat) (e : Ev), P w → w.obs[o]? = some x → x.holds s →
    e.isTerminal = true → P ((w.setObs o Obs.cleared).emit (.ev s e))

theorem run_closed {P : World → Prop} (hP : Closed P) : ∀ (n : Nat) (st : List Prog) (w : World), P w → P (run n st w) := by
  intro n
  induction n with
  | zero => intro st w h; simp only [run]; exact hP.status w _ h
  | succ n ih =>
    intro st w h
    cases st with
    | nil => simpa [run] using h
    | cons p st =>
      cases p with
      | done => simp only [run]; exact ih _ _ h
      | seq p q => simp only [run]; exact ih _ _ h
      | panic => simp only [run]; exact hP.status w _ h
      | obsNew nx e c k =>
        simp only [run]
        apply ih
        exact hP.pushCode w nx e c h
      | obsNext o d k =>
        simp only [run]
        split
        · rename_i x hx
          split
          · rename_i s hn
            have hi := hP.next w o x s d h hx hn
            split <;> exact ih _ _ hi
          · exact ih _ _ h
          · exact ih _ _ h
        · exact ih _ _ h
      | obsError o e k =>
        simp only [run]
        split
        · rename_i x hx
          split
          · exact ih _ _ h
          · have hc : P (w.setObs o Obs.cleared) :=
              hP.setObs w o Obs.cleared keepsOrClears_cleared h
            split
            · rename_i s hn
              have hi := hP.term w o x s (.error e) h hx (holds_error hn) rfl
              split <;> exact ih _ _ hi
            · exact ih _ _ hc
            · exact ih _ _ hc
        · exact ih _ _ h
      | obsComplete o k =>
        simp only [run]
        split
        · rename_i x hx
          split
          · exact ih _ _ h
          · have hc : P (w.setObs o Obs.cleared) :=
              hP.setObs w o Obs.cleared keepsOrClears_cleared h
            split
            · rename_i s hn
              have hi := hP.term w o x s .complete h hx (holds_complete hn) rfl
              split <;> exact ih _ _ hi
            · exact ih _ _ hc
            · exact ih _ _ hc
        · exact ih _ _ h
      | obsUnsub o k =>
        simp only [run]
        have hc : P (w.setObs o (fun x => { x.cleared with onUnsub := none })) :=
          hP.setObs w o _ (fun _ => Or.inr ⟨rfl, rfl, rfl⟩) h
        split
        · split <;> exact ih _ _ hc
        · exact ih _ _ h
      | obsIsSub o k =>
        simp only [run]
        split <;> exact ih _ _ h
      | obsSetOnUnsub o f k =>
        simp only [run]
        split
        · exact hP.status w _ h
        · exact ih _ _ (hP.setObs w o _ (fun _ => Or.inl ⟨rfl, rfl, rfl⟩) h)
      | slotNew k => simp only [run]; exact ih _ _ (hP.core w _ ⟨rfl, rfl, rfl⟩ h)
      | slotSet s f k =>
        simp only [run]
        split
        · exact hP.status w _ h
        · exact ih _ _ (hP.core w _ ⟨rfl, rfl, rfl⟩ h)
      | slotClear s k =>
        simp only [run]
        split
        · exact hP.status w _ h
        · exact ih _ _ (hP.core w _ ⟨rfl, rfl, rfl⟩ h)
      | slotCall s d clear k =>
        simp only [run]
        split
        · split
          · exact ih _ _ (hP.core w _ ⟨rfl, rfl, rfl⟩ h)
          · exact ih _ _ h
        · exact ih _ _ h
      | slotHas s k =>
        simp only [run]
        split <;> exact ih _ _ h
      | cellNew d k => simp only [run]; exact ih _ _ (hP.core w _ ⟨rfl, rfl, rfl⟩ h)
      | cellRead c g k =>
        simp only [run]
        split
        · exact hP.status w _ h
        · exact ih _ _ h
      | cellWrite c g d k =>
        simp only [run]
        split
        · exact hP.status w _ h
        · exact ih _ _ (hP.core w _ ⟨rfl, rfl, rfl⟩ h)
      | lockAcq l wr k =>
        simp only [run]
        split
        · exact hP.status w _ h
        · exact ih _ _ (hP.core w _ ⟨rfl, rfl, rfl⟩ h)
      | lockRel l k => simp only [run]; exact ih _ _ (hP.core w _ ⟨rfl, rfl, rfl⟩ h)
      | obsvNew f k => simp only [run]; exact ih _ _ (hP.core w _ ⟨rfl, rfl, rfl⟩ h)
      | obsvSub id o k =>
        simp only [run]
        split
        · exact ih _ _ h
        · exact hP.status w _ h
      | userSub id react k =>
        simp only [run]
        split
        · exact ih _ _ (hP.pushUser w _ rfl h)
        · exact hP.status w _ h
      | userReady s k =>
        simp only [run]
        exact ih _ _ (hP.core w _ ⟨rfl, roots_setUser w _ _ (fun _ => rfl), rfl⟩ h)
      | userUnsub s k =>
        simp only [run]
        split
        · split
          · exact ih _ _ (hP.core w _ ⟨rfl, roots_setUser w _ _ (fun _ => rfl), rfl⟩ h)
          · exact ih _ _ h
        · exact ih _ _ h
      | userIsSub s k =>
        simp only [run]
        split
        · split <;> exact ih _ _ h
        · exact ih _ _ h
      | probe tag d k =>
        simp only [run]
        exact ih _ _ (hP.probe w tag d h)

theorem inv_closed : Closed Inv where
  status := fun w _ h => Inv.of_coreEq (w := w) ⟨rfl, rfl, rfl⟩ h
  core := fun _ _ c h => Inv.of_coreEq c h
  setObs := inv_setObs
  pushCode := inv_push_code
  pushUser := inv_push_user
  probe := inv_emit_probe
  next := fun w o x s d h hx hn =>
    inv_emit_ev w s (.next d) h (h.live o x s hx (holds_next hn)) (h.fresh o x s hx (holds_next hn)) nofun
  term := fun w o x s e h hx hh _ => inv_emit_term w o x s e h hx hh

end Rx
