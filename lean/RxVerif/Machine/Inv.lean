import RxVerif.Machine.Prog
/-
The invariant behind C01/C05 and the lemmas that every primitive of the machine preserves it.
It speaks only about `obs`, the users' root observers (`roots`) and `trace` (`CoreEq`), so every primitive
that touches other fields preserves it definitionally.
-/
namespace Rx

def logOf (w : World) (s : Nat) : List Ev :=
  w.trace.filterMap fun r => match r with
    | .ev s' e => if s' = s then some e else none
    | .probe _ _ => none

/-- `next*` followed by at most one terminal, nothing after it -/
def Contract : List Ev → Prop
  | [] => True
  | e :: rest => if e.isTerminal then rest = [] else Contract rest

def contractB : List Ev → Bool
  | [] => true
  | e :: rest => if e.isTerminal then rest.isEmpty else contractB rest

theorem contractB_iff (l : List Ev) : contractB l = true ↔ Contract l := by
  induction l with
  | nil => simp [contractB, Contract]
  | cons e rest ih =>
    unfold contractB Contract
    by_cases h : e.isTerminal <;> simp [h, ih]

def terminated (l : List Ev) : Bool := l.any Ev.isTerminal

def HN.user? : Option HN → Option Nat
  | some (.user s) => some s
  | _ => none
def HE.user? : Option HE → Option Nat
  | some (.user s) => some s
  | _ => none
def HC.user? : Option HC → Option Nat
  | some (.user s) => some s
  | _ => none

/-- observer `x` still holds a callback of test subscriber `s` -/
def Obs.holds (x : Obs) (s : Nat) : Prop :=
  HN.user? x.next = some s ∨ HE.user? x.error = some s ∨ HC.user? x.complete = some s

/-- the root observer of each test subscriber, by subscriber id -/
def roots (w : World) : List Nat := w.users.map (·.obs)

def Obs.allOrNone (x : Obs) : Prop :=
  (x.next.isSome = x.error.isSome) ∧ (x.error.isSome = x.complete.isSome)

/-- the slots of subscriber `s`'s root observer hold nothing but `s`'s own callbacks -/
def Obs.rootOf (x : Obs) (s : Nat) : Prop :=
  (x.next = none ∨ x.next = some (.user s)) ∧ (x.error = none ∨ x.error = some (.user s)) ∧
  (x.complete = none ∨ x.complete = some (.user s))

def RootsIn (w : World) : Prop := ∀ (s o : Nat), (roots w)[s]? = some o → o < w.obs.length

structure Inv (w : World) : Prop where
  contract : ∀ s, Contract (logOf w s)
  live : ∀ (o : Nat) (x : Obs) (s : Nat), w.obs[o]? = some x → x.holds s → terminated (logOf w s) = false
  owner : ∀ (o : Nat) (x : Obs) (s : Nat), w.obs[o]? = some x → x.holds s → (roots w)[s]? = some o
  quiet : ∀ s, w.users.length ≤ s → logOf w s = []
  shape : ∀ (o : Nat) (x : Obs), w.obs[o]? = some x → x.allOrNone
  root : ∀ (s o : Nat) (x : Obs), (roots w)[s]? = some o → w.obs[o]? = some x → x.rootOf s
  rootsIn : RootsIn w

theorem Inv.fresh {w : World} (h : Inv w) (o : Nat) (x : Obs) (s : Nat) (hx : w.obs[o]? = some x)
    (hh : x.holds s) : s < w.users.length := by
  simpa [roots] using (List.getElem?_eq_some_iff.mp (h.owner o x s hx hh)).1

theorem Inv.uniq {w : World} (h : Inv w) (o o' : Nat) (x x' : Obs) (s : Nat) (hx : w.obs[o]? = some x)
    (hx' : w.obs[o']? = some x') (hh : x.holds s) (hh' : x'.holds s) : o = o' := by
  have a := h.owner o x s hx hh
  have b := h.owner o' x' s hx' hh'
  rw [a] at b; exact Option.some.inj b

theorem roots_setUser (w : World) (s : Nat) (f : User → User) (hf : ∀ u, (f u).obs = u.obs) :
    roots (w.setUser s f) = roots w := by
  apply List.ext_getElem?
  intro i
  simp only [roots, World.setUser, List.getElem?_map, List.getElem?_modify]
  cases h : w.users[i]? with
  | none => simp
  | some u => by_cases e : s = i <;> simp [e, hf]

/-- two worlds that agree on what `Inv` looks at -/
structure CoreEq (w w' : World) : Prop where
  obs : w'.obs = w.obs
  users : roots w' = roots w
  trace : w'.trace = w.trace

theorem CoreEq.len {w w' : World} (c : CoreEq w w') : w'.users.length = w.users.length := by
  have := congrArg List.length c.users
  simpa [roots] using this

theorem Inv.of_coreEq {w w' : World} (c : CoreEq w w') (h : Inv w) : Inv w' := by
  have hl : ∀ s, logOf w' s = logOf w s := fun s => by simp [logOf, c.trace]
  constructor
  · intro s; rw [hl]; exact h.contract s
  · intro o x s hx hh; rw [hl]; rw [c.obs] at hx; exact h.live o x s hx hh
  · intro o x s hx hh; rw [c.obs] at hx; rw [c.users]; exact h.owner o x s hx hh
  · intro s hs; rw [hl]; rw [c.len] at hs; exact h.quiet s hs
  · intro o x hx; rw [c.obs] at hx; exact h.shape o x hx
  · intro s o x hr hx; rw [c.users] at hr; rw [c.obs] at hx; exact h.root s o x hr hx
  · intro s o hr; rw [c.users] at hr; rw [c.obs]; exact h.rootsIn s o hr

theorem inv_empty : Inv ({} : World) where
  contract := fun _ => trivial
  live := fun o x s hx => by simp at hx
  owner := fun o x s hx => by simp at hx
  quiet := fun _ _ => rfl
  shape := fun o x hx => by simp at hx
  root := fun s o x hr => by simp [roots] at hr
  rootsIn := fun s o hr => by simp [roots] at hr

theorem contract_append (l : List Ev) (e : Ev) (h : Contract l) (ht : terminated l = false) :
    Contract (l ++ [e]) := by
  induction l with
  | nil => simp [Contract]
  | cons a rest ih =>
    simp [terminated] at ht
    have ha : a.isTerminal = false := ht.1
    simp [Contract, ha] at h ⊢
    apply ih h
    simp [terminated]; exact ht.2

theorem logOf_emit_same (w : World) (s : Nat) (e : Ev) :
    logOf (w.emit (.ev s e)) s = logOf w s ++ [e] := by
  simp [logOf, World.emit, List.filterMap_append]

theorem logOf_emit_other (w : World) (s s' : Nat) (e : Ev) (h : s ≠ s') :
    logOf (w.emit (.ev s e)) s' = logOf w s' := by
  simp [logOf, World.emit, List.filterMap_append, h]

theorem logOf_emit_probe (w : World) (t : Nat) (d : Data) (s : Nat) :
    logOf (w.emit (.probe t d)) s = logOf w s := by
  simp [logOf, World.emit, List.filterMap_append]

theorem terminated_append (l : List Ev) (e : Ev) : terminated (l ++ [e]) = (terminated l || e.isTerminal) := by
  simp [terminated]

@[simp] theorem logOf_setObs (w : World) (o : Nat) (f : Obs → Obs) (s : Nat) :
    logOf (w.setObs o f) s = logOf w s := rfl

theorem getElem?_setObs (w : World) (o o' : Nat) (f : Obs → Obs) :
    (w.setObs o f).obs[o']? = if o = o' then (w.obs[o']?).map f else w.obs[o']? := by
  simp [World.setObs, List.getElem?_modify]
  split <;> simp_all

theorem of_setObs {w : World} {o o' : Nat} {g : Obs → Obs} {x : Obs} (h : (w.setObs o g).obs[o']? = some x) :
    ∃ y, w.obs[o']? = some y ∧ ((o ≠ o' ∧ x = y) ∨ (o = o' ∧ x = g y)) := by
  rw [getElem?_setObs] at h
  split at h
  · cases hy : w.obs[o']? with
    | none => simp [hy] at h
    | some y => exact ⟨y, rfl, Or.inr ⟨‹_›, by simpa [hy] using h.symm⟩⟩
  · exact ⟨x, h, Or.inl ⟨‹_›, rfl⟩⟩

theorem not_holds_cleared (x : Obs) (s : Nat) : ¬ (x.cleared).holds s := by
  simp [Obs.holds, Obs.cleared, HN.user?, HE.user?, HC.user?]

/-- what the machine ever does to an existing observer: keep its callbacks or clear all three -/
def KeepsOrClears (g : Obs → Obs) : Prop :=
  ∀ x, ((g x).next = x.next ∧ (g x).error = x.error ∧ (g x).complete = x.complete) ∨
       ((g x).next = none ∧ (g x).error = none ∧ (g x).complete = none)

theorem keepsOrClears_cleared : KeepsOrClears Obs.cleared := fun _ => Or.inr ⟨rfl, rfl, rfl⟩

theorem KeepsOrClears.holds {g : Obs → Obs} (hg : KeepsOrClears g) (x : Obs) (s : Nat)
    (h : (g x).holds s) : x.holds s := by
  rcases hg x with ⟨a, b, c⟩ | ⟨a, b, c⟩
  · simpa [Obs.holds, a, b, c] using h
  · simp [Obs.holds, a, b, c, HN.user?, HE.user?, HC.user?] at h

theorem KeepsOrClears.allOrNone {g : Obs → Obs} (hg : KeepsOrClears g) (x : Obs) (h : x.allOrNone) :
    (g x).allOrNone := by
  rcases hg x with ⟨a, b, c⟩ | ⟨a, b, c⟩ <;> simp_all [Obs.allOrNone]

theorem KeepsOrClears.rootOf {g : Obs → Obs} (hg : KeepsOrClears g) (s : Nat) (x : Obs) (h : x.rootOf s) :
    (g x).rootOf s := by
  rcases hg x with ⟨a, b, c⟩ | ⟨a, b, c⟩ <;> simp_all [Obs.rootOf]

theorem inv_setObs (w : World) (o : Nat) (g : Obs → Obs) (hg : KeepsOrClears g) (h : Inv w) :
    Inv (w.setObs o g) := by
  have key : ∀ {o' : Nat} {x : Obs} (P : Obs → Prop), (∀ y, P y → P (g y)) →
      (w.setObs o g).obs[o']? = some x → (∀ y, w.obs[o']? = some y → P y) → P x := by
    intro o' x P hP hx hold
    obtain ⟨y, hy, ⟨_, rfl⟩ | ⟨_, rfl⟩⟩ := of_setObs hx
    · exact hold _ hy
    · exact hP y (hold y hy)
  exact {
    contract := h.contract
    quiet := h.quiet
    live := fun o' x s hx => key (fun y => y.holds s → terminated (logOf w s) = false)
      (fun y hy hgy => hy (hg.holds y s hgy)) hx fun y e => h.live o' y s e
    owner := fun o' x s hx => key (fun y => y.holds s → (roots w)[s]? = some o')
      (fun y hy hgy => hy (hg.holds y s hgy)) hx fun y e => h.owner o' y s e
    shape := fun o' x hx => key Obs.allOrNone hg.allOrNone hx (h.shape o')
    root := fun s o' x hro hx => key (·.rootOf s) (hg.rootOf s) hx fun y e => h.root s o' y hro e
    rootsIn := fun s o' hro => by simpa [World.setObs] using h.rootsIn s o' hro }

theorem inv_emit (w : World) (r : Rec) (h : Inv w)
    (hc : ∀ s, Contract (logOf (w.emit r) s))
    (hl : ∀ (o : Nat) (x : Obs) (s : Nat), w.obs[o]? = some x → x.holds s → terminated (logOf (w.emit r) s) = false)
    (hq : ∀ s, w.users.length ≤ s → logOf (w.emit r) s = []) : Inv (w.emit r) :=
  ⟨hc, hl, h.owner, hq, h.shape, h.root, h.rootsIn⟩

theorem inv_emit_probe (w : World) (t : Nat) (d : Data) (h : Inv w) : Inv (w.emit (.probe t d)) :=
  inv_emit w _ h (fun s => by rw [logOf_emit_probe]; exact h.contract s)
    (fun o x s hx hh => by rw [logOf_emit_probe]; exact h.live o x s hx hh)
    (fun s hs => by rw [logOf_emit_probe]; exact h.quiet s hs)

theorem inv_emit_ev (w : World) (s : Nat) (e : Ev) (h : Inv w) (hl : terminated (logOf w s) = false)
    (hs : s < w.users.length)
    (hh : e.isTerminal = true → ∀ (o : Nat) (x : Obs), w.obs[o]? = some x → ¬ x.holds s) :
    Inv (w.emit (.ev s e)) := by
  refine inv_emit w _ h (fun s' => ?_) (fun o x s' hx hx' => ?_) (fun s' hs' => ?_) <;> by_cases e' : s = s'
  · subst e'; rw [logOf_emit_same]; exact contract_append _ _ (h.contract s) hl
  · rw [logOf_emit_other _ _ _ _ e']; exact h.contract s'
  · subst e'
    rw [logOf_emit_same, terminated_append, hl, Bool.false_or]
    exact Bool.eq_false_iff.mpr fun he => hh he o x hx hx'
  · rw [logOf_emit_other _ _ _ _ e']; exact h.live o x s' hx hx'
  · omega
  · rw [logOf_emit_other _ _ _ _ e']; exact h.quiet s' hs'

/-- a terminal delivered to subscriber `s` through observer `o`, which is cleared at the same time -/
theorem inv_emit_term (w : World) (o : Nat) (x : Obs) (s : Nat) (e : Ev) (h : Inv w)
    (hx : w.obs[o]? = some x) (hh : x.holds s) :
    Inv ((w.setObs o Obs.cleared).emit (.ev s e)) := by
  refine inv_emit_ev _ s e (inv_setObs w o Obs.cleared keepsOrClears_cleared h) (h.live o x s hx hh)
    (h.fresh o x s hx hh) fun _ o' x' hx' hh' => ?_
  obtain ⟨y, hy, ⟨hne, rfl⟩ | ⟨_, rfl⟩⟩ := of_setObs hx'
  · exact hne (h.uniq o o' x x' s hx hy hh hh')
  · exact not_holds_cleared y s hh'

theorem holds_next {x : Obs} {s} (h : x.next = some (.user s)) : x.holds s := by
  simp [Obs.holds, h, HN.user?]
theorem holds_error {x : Obs} {s} (h : x.error = some (.user s)) : x.holds s := by
  simp [Obs.holds, h, HE.user?]
theorem holds_complete {x : Obs} {s} (h : x.complete = some (.user s)) : x.holds s := by
  simp [Obs.holds, h, HC.user?]

theorem getElem?_append_singleton {α} (l : List α) (y x : α) (o : Nat) (h : (l ++ [y])[o]? = some x) :
    l[o]? = some x ∨ (o = l.length ∧ x = y) := by
  rcases Nat.lt_trichotomy o l.length with hlt | rfl | hgt
  · exact Or.inl (by rwa [List.getElem?_append_left hlt] at h)
  · exact Or.inr ⟨rfl, by simpa using h.symm⟩
  · rw [List.getElem?_eq_none (by simp; omega)] at h; cases h

/-- appending an observer that holds code callbacks only (created by `obsNew`) -/
theorem inv_push_code (w : World) (n : Data → Prog) (e : Nat → Prog) (c : Prog) (h : Inv w) :
    Inv { w with obs := w.obs ++ [⟨some (.code n), some (.code e), some (.code c), none⟩] } := by
  have hy : ∀ s, ¬ (⟨some (.code n), some (.code e), some (.code c), none⟩ : Obs).holds s := by
    intro s; simp [Obs.holds, HN.user?, HE.user?, HC.user?]
  have key : ∀ (o : Nat) (x : Obs) (s : Nat),
      (w.obs ++ [(⟨some (.code n), some (.code e), some (.code c), none⟩ : Obs)])[o]? = some x → x.holds s →
      w.obs[o]? = some x := by
    intro o x s hx hh
    rcases getElem?_append_singleton _ _ _ _ hx with h1 | ⟨_, h2⟩
    · exact h1
    · subst h2; exact absurd hh (hy s)
  constructor
  · exact h.contract
  · intro o x s hx hh; exact h.live o x s (key o x s hx hh) hh
  · intro o x s hx hh; exact h.owner o x s (key o x s hx hh) hh
  · exact h.quiet
  · intro o x hx
    rcases getElem?_append_singleton _ _ _ _ hx with h1 | ⟨_, h2⟩
    · exact h.shape o x h1
    · subst h2; simp [Obs.allOrNone]
  · intro s o x hro hx
    have hro' : (roots w)[s]? = some o := hro
    rcases getElem?_append_singleton _ _ _ _ hx with h1 | ⟨h2, _⟩
    · exact h.root s o x hro' h1
    · have := h.rootsIn s o hro'; omega
  · intro s o hro
    have hro' : (roots w)[s]? = some o := hro
    have := h.rootsIn s o hro'
    simp only [List.length_append, List.length_singleton]; omega

/-- `userSub`: a fresh subscriber id, a fresh observer holding its three callbacks -/
theorem inv_push_user (w : World) (u : User) (hu : u.obs = w.obs.length) (h : Inv w) :
    Inv { w with
      obs := w.obs ++ [⟨some (.user w.users.length), some (.user w.users.length), some (.user w.users.length), none⟩]
      users := w.users ++ [u] } := by
  let s0 := w.users.length
  have hroots : roots { w with
      obs := w.obs ++ [⟨some (.user s0), some (.user s0), some (.user s0), none⟩]
      users := w.users ++ [u] } = roots w ++ [w.obs.length] := by simp [roots, hu]
  have hrl : (roots w).length = s0 := by simp [roots, s0]
  have hnew : ∀ s, (⟨some (.user s0), some (.user s0), some (.user s0), none⟩ : Obs).holds s → s = s0 := by
    intro s hs
    simp [Obs.holds, HN.user?, HE.user?, HC.user?] at hs
    omega
  constructor
  · exact h.contract
  · intro o x s hx hh
    rcases getElem?_append_singleton _ _ _ _ hx with h1 | ⟨_, h2⟩
    · exact h.live o x s h1 hh
    · subst h2
      have := hnew s hh; subst this
      show terminated (logOf w s0) = false
      rw [h.quiet s0 (Nat.le_refl _)]; rfl
  · intro o x s hx hh
    rw [hroots]
    rcases getElem?_append_singleton _ _ _ _ hx with h1 | ⟨h2, h3⟩
    · have := h.owner o x s h1 hh
      rw [List.getElem?_append_left (List.getElem?_eq_some_iff.mp this).1]; exact this
    · subst h3
      have := hnew s hh; subst this
      rw [h2]
      simp [hrl, s0]
  · intro s hs
    simp only [List.length_append, List.length_singleton] at hs
    exact h.quiet s (by omega)
  · intro o x hx
    rcases getElem?_append_singleton _ _ _ _ hx with h1 | ⟨_, h2⟩
    · exact h.shape o x h1
    · subst h2; simp [Obs.allOrNone]
  · intro s o x hro hx
    rw [hroots] at hro
    rcases getElem?_append_singleton _ _ _ _ hro with r1 | ⟨r2, r3⟩
    · rcases getElem?_append_singleton _ _ _ _ hx with h1 | ⟨h2, _⟩
      · exact h.root s o x r1 h1
      · have := h.rootsIn s o r1; omega
    · rcases getElem?_append_singleton _ _ _ _ hx with h1 | ⟨_, h3⟩
      · have := (List.getElem?_eq_some_iff.mp h1).1
        omega
      · subst h3
        rw [hrl] at r2; subst r2
        simp [Obs.rootOf, s0]
  · intro s o hro
    rw [hroots] at hro
    simp only [List.length_append, List.length_singleton]
    rcases getElem?_append_singleton _ _ _ _ hro with r1 | ⟨_, r3⟩
    · have := h.rootsIn s o r1; omega
    · omega

end Rx
