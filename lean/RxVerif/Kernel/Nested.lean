import RxVerif.Kernel.Run
/-
Model B for the two operators whose ITEMS are observables: `window_with_count` and `group_by`.

A test subscriber that receives an observable subscribes to it at once, from inside its `next` callback (that is what
the harness and model A's `testSub` do, and what the crate's own tests of the two operators do).  The k-th observable
announced to the root subscriber is therefore observed by subscriber k (the root is subscriber 0), and one run is
described by the GLOBAL trace of `(subscriber, event)` pairs in delivery order.

The machines below are the decision logic of the three closures of
  src/operators/window_with_count.rs   (`n`: items in the current window, `sbj`: the current window's subject)
  src/operators/group_by.rs            (`sbj_map`: key ↦ subject, insertion order = announcement order)
over a cold, well-formed source with a directly attached, passive root subscriber.
Theorems/C02d.lean proves them equal to the ReactiveX characterisation (Spec/Nested.lean).
-/
namespace Rx.Nested

abbrev Trace := List (Nat × Ev)

/-- what subscriber `s` saw -/
def proj (s : Nat) (t : Trace) : List Ev := t.filterMap fun p => if p.1 == s then some p.2 else none

@[simp] theorem proj_nil (s : Nat) : proj s [] = [] := rfl
@[simp] theorem proj_append (s : Nat) (a b : Trace) : proj s (a ++ b) = proj s a ++ proj s b := by
  simp [proj, List.filterMap_append]
theorem proj_cons (s : Nat) (p : Nat × Ev) (t : Trace) :
    proj s (p :: t) = (if p.1 == s then [p.2] else []) ++ proj s t := by
  by_cases h : p.1 = s <;> simp [proj, h]

/-- the terminal of the outer stream as seen by subscriber `s` -/
def endFor (s : Nat) (e : Ending) : Trace := e.toEvs.map fun ev => (s, ev)

/-! ### window_with_count -/

structure WinSt where
  k : Nat := 0     -- `*n`: items already in the current window
  w : Nat := 0     -- windows announced so far; while `k > 0` the current window's subscriber is `w`
deriving Repr, DecidableEq, Inhabited

/-- the `next` closure: decide under the locks (`open`, `close`), then announce / feed / complete the window -/
def winNext (count : Nat) (st : WinSt) (x : Data) : WinSt × Trace :=
  let opn := st.k == 0
  let w := if opn then st.w + 1 else st.w
  let close := st.k + 1 == count
  ({ k := if close then 0 else st.k + 1, w := w },
   (if opn then [(0, Ev.next (.obs w))] else []) ++ [(w, Ev.next x)] ++ (if close then [(w, Ev.complete)] else []))

/-- the `error` / `complete` closures: the current subject first (it has a subscriber only while a window is open),
    then the outer subscriber -/
def winEnd (st : WinSt) (e : Ending) : Trace :=
  (if st.k == 0 then [] else endFor st.w e) ++ endFor 0 e

def winRunFrom (count : Nat) : WinSt → List Data → Ending → Trace
  | st, [], e => winEnd st e
  | st, x :: xs, e => (winNext count st x).2 ++ winRunFrom count (winNext count st x).1 xs e

def winRun (count : Nat) (s : Stream) : Trace := winRunFrom count {} s.1 s.2

/-! ### group_by -/

def keyOf (key : Fn) (x : Data) : Int := (key.app x).toInt

/-- the keys that have a group, in announcement order (`sbj_map`; the facade's map iterates in insertion order);
    the group announced i-th (0-based) is observed by subscriber i + 1 -/
abbrev Groups := List Int

/-- position of the first occurrence -/
def pos (k : Int) : List Int → Nat
  | [] => 0
  | a :: as => if a == k then 0 else pos k as + 1

/-- the `next` closure: look the key up; a new key creates a subject, announces it, then feeds it -/
def grpNext (key : Fn) (g : Groups) (x : Data) : Groups × Trace :=
  let k := keyOf key x
  if k ∈ g then (g, [(pos k g + 1, Ev.next x)])
  else (g ++ [k], [(0, Ev.next (.obs (g.length + 1))), (g.length + 1, Ev.next x)])

/-- terminals go to every group (a snapshot of the map, in its order), then to the outer subscriber -/
def grpEnd (g : Groups) (e : Ending) : Trace :=
  (List.range g.length).flatMap (fun i => endFor (i + 1) e) ++ endFor 0 e

def grpRunFrom (key : Fn) : Groups → List Data → Ending → Trace
  | g, [], e => grpEnd g e
  | g, x :: xs, e => (grpNext key g x).2 ++ grpRunFrom key (grpNext key g x).1 xs e

def grpRun (key : Fn) (s : Stream) : Trace := grpRunFrom key [] s.1 s.2

def Trace.toStr (t : Trace) : String :=
  " ".intercalate (t.map fun p => "s" ++ toString p.1 ++ ":" ++ p.2.toStr)

end Rx.Nested
