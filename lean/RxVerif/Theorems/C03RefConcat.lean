import RxVerif.Theorems.C03RefMerge
/-
C03-REF, concat: model A's `oConcat` (Machine/Lib.lean, transliterating src/operators/concat.rs) over `k` plain hot
subjects REFINES the pure history machine `Comb.concat`: only source 0 is subscribed at first; the completion of the
current source creates a new inner observer and subscribes it to the next pending subject.
-/
namespace Rx.CRef.Concat
open Rx.Sim Rx.Ref Rx.Comb Rx.CRef Rx.GRef

def scOf (k : Nat) : Sctl := ⟨0, 2 * k, 2 * k + 1, 2 * k⟩

/-- the `observables` slice: sources `1..n` -/
def others (n : Nat) : List Obsv := (sjs (n + 1)).tail.map Subj.observable

theorem others_get (n i : Nat) : (others n)[i]? = if i < n then some (sjOf (i + 1)).observable else none := by
  simp only [others, sjs, List.range'_succ, List.map_cons, List.tail_cons, List.getElem?_map]
  split
  · rename_i h; rw [List.getElem?_range' (by omega)]; simp [Nat.add_comm]
  · rename_i h; rw [List.getElem?_eq_none (by simp; omega)]; rfl

/-- concat.rs: observers are created on demand in source order: source `i` gets serial `i` = observer `i+1`; its
    completion closure carries the remaining fuel of `concatNext` (Lib.lean's bound on the queue length) -/
def lay (n : Nat) : Lay where
  k := n + 1
  ser i := i
  ob i := i + 1
  hn _ x := (scOf (n + 1)).sinkNext x
  he _ e := (scOf (n + 1)).sinkError e
  hc i := concatNext (scOf (n + 1)) (2 * (n + 1) + 2) (others n) (100000 - i)

/-- World ↔ `Comb.concat.State` in terms of the one-observer-per-subject relation of C03RefBase: `fresh` = not yet
    subscribed = index at or beyond `next`.  `concat_refines` does not use it: it goes through `Inv` on `glay`. -/
structure R (n : Nat) (s : concat.State) (out : List Ev) (w : World) : Prop where
  rel : Rel (lay n) (fun i => decide (s.next ≤ i)) [] s.ctl
    ⟨.int ((s.next - 1 : Nat) : Int), s.next, s.next + 1⟩ out w
  hk : s.k = n + 1
  pos : 1 ≤ s.next
  le : s.next ≤ n + 1
  cur : ∀ i ∈ s.ctl.live, i + 1 = s.next
  regcur : ∀ i ∈ s.ctl.reg, i < s.next
  small : n + 1 ≤ 100000
  /-- once the subscriber is gone no inner observer is live (finalize has unsubscribed them all), so
      `new_observer` in the completion closure always sees a live subscriber -/
  al : s.ctl.alive = false → s.ctl.live = []

theorem fin_reg (c : Ctl) : ∀ i ∈ c.finalize.reg, i ∈ c.reg := by
  intro i hi; cases hi

/-- replace the controller state by one with fewer live / registered observers -/
theorem R.shrink {n : Nat} {s : concat.State} {out out' : List Ev} {w w' : World} (h : R n s out w) (c' : Ctl)
    (hrel : Rel (lay n) (fun i => decide (s.next ≤ i)) [] c'
      ⟨.int ((s.next - 1 : Nat) : Int), s.next, s.next + 1⟩ out' w')
    (hl : ∀ i ∈ c'.live, i ∈ s.ctl.live) (hr : ∀ i ∈ c'.reg, i ∈ s.ctl.reg)
    (hal : c'.alive = false → c'.live = []) :
    R n { s with ctl := c' } out' w' :=
  ⟨hrel, h.hk, h.pos, h.le, fun i hi => h.cur i (hl i hi), fun i hi => h.regcur i (hr i hi), h.small, hal⟩

def glay (n : Nat) : GLay := GLay.std (n + 1) id (lay n).hn (lay n).he (lay n).hc

theorem glay_ok (n : Nat) : (glay n).Ok := GLay.std_ok fun _ => rfl

/-- the queue index in cell `2k+2`, the controller's serial counter, the number of observers -/
def frOf (s : concat.State) : Fr := ⟨.int ((s.next - 1 : Nat) : Int), s.next, 1 + s.next⟩

structure Inv (n : Nat) (s : concat.State) : Prop where
  hk : s.k = n + 1
  pos : 1 ≤ s.next
  le : s.next ≤ n + 1
  cur : ∀ i ∈ s.ctl.live, i + 1 = s.next
  regcur : ∀ i ∈ s.ctl.reg, i < s.next
  small : n + 1 ≤ 100000
  ci : FlatMap.CI s.ctl

theorem Inv.shrink {n : Nat} {s : concat.State} (h : Inv n s) {c' : Ctl} (hle : Le c' s.ctl)
    (hci : FlatMap.CI c') : Inv n { s with ctl := c' } :=
  ⟨h.hk, h.pos, h.le, fun i hi => h.cur i (hle.live.subset hi), fun i hi => h.regcur i (hle.reg i hi), h.small, hci⟩

def sim (n : Nat) : StaticSim (glay n) concat.step where
  ok := glay_ok n
  ctl s := s.ctl
  fr := frOf
  Inv := Inv n
  dead s p h := if_neg (by rw [show s.ctl.isLive p.1 = false from h]; decide)
  body s i ev out w hinv hi hlv h := by
    have hi : i < n + 1 := hi
    have ok := glay_ok n
    have hcur : i + 1 = s.next := hinv.cur i (by simpa using hlv)
    have halive := hinv.ci.alive hlv
    have hkn : (s.ctl.kill i).live = [] := by
      apply List.eq_nil_iff_forall_not_mem.2
      intro j hj
      simp only [Ctl.kill, List.mem_filter, bne_iff_ne] at hj
      have := hinv.cur j hj.1; omega
    simp only [concat.step, Ctl.isLive, hlv, ↓reduceIte]
    cases ev with
    | next d =>
      exact (h.sinkNext ok d).conseq fun w2 h2 =>
        ⟨h2, hinv.shrink (sinkNext_le _ _) (hinv.ci.sinkNext d)⟩
    | error e =>
      exact (h.sinkError ok e).conseq fun w2 h2 =>
        ⟨h2, hinv.shrink ((sinkError_le _ _).trans (kill_le _ i)) ((hinv.ci.kill i).sinkError e)⟩
    | complete =>
      show WP (concatNext (scOf (n + 1)) (2 * (n + 1) + 2) (others n) (100000 - i)) _ _
      obtain ⟨f, hf⟩ : ∃ f, 100000 - i = f + 1 := ⟨100000 - i - 1, by have := hinv.small; omega⟩
      rw [hf]
      simp only [concatNext]
      refine wp_cellRead_val h.held (h.xc_some (by simp [frOf])) ?_
      simp only [frOf, toNat_int]
      rw [show s.next - 1 = i by omega, others_get]
      by_cases hlt : s.next < s.k
      · have hin : i < n := by rw [hinv.hk] at hlt; omega
        simp only [hin, ↓reduceIte, hlt, List.append_nil]
        refine wp_cellWrite h.held ?_
        have hnk : known (s.ctl.kill i) s.next = false :=
          known_eq_false (by rw [hkn]; exact List.not_mem_nil) fun q => Nat.lt_irrefl _ (hinv.regcur _ q)
        have h3 := (h.setX ok (by simp [frOf]) (.int ((i : Int) + 1))).newSource ok halive (j := s.next)
          (by show s.next < n + 1; rw [hinv.hk] at hlt; exact hlt) hnk rfl rfl
          (fun _ x => (scOf (n + 1)).sinkNext x) (fun _ e => (scOf (n + 1)).sinkError e)
          (fun _ => concatNext (scOf (n + 1)) (2 * (n + 1) + 2) (others n) f)
          (by simp only [fullObs, glay, GLay.std, lay]; rw [show 100000 - s.next = f by omega])
        rw [hcur]
        refine h3.conseq fun w3 h4 => ⟨?_, hinv.hk, by simp, by show s.next + 1 ≤ n + 1; rw [hinv.hk] at hlt; omega,
          ?_, ?_, hinv.small, (hinv.ci.kill i).addObserver halive s.next⟩
        · have hxe : Data.int ((i : Int) + 1) = .int ((s.next + 1 - 1 : Nat) : Int) := by
            congr 1; omega
          rw [hxe] at h4; exact h4
        · intro j hj
          simp only [Ctl.addObserver, List.mem_append, hkn, List.mem_singleton] at hj
          rcases hj with q | q
          · cases q
          · rw [q]
        · intro j hj
          simp only [Ctl.addObserver, Ctl.kill, List.mem_append, List.mem_singleton] at hj
          rcases hj with q | q
          · have := hinv.regcur j q; show j < s.next + 1; omega
          · show j < s.next + 1; omega
      · have hin : ¬ i < n := by rw [hinv.hk] at hlt; omega
        simp only [hin, ↓reduceIte, hlt]
        exact (h.sinkCompleteForce ok).conseq fun w2 h2 =>
          ⟨h2, hinv.shrink ((sinkForce_le _).trans (kill_le _ i)) (hinv.ci.kill i).sinkForce⟩

/-- `n+1` plain subjects; test user 0 subscribes to `s0.concat(&[s1, .., sn])`; then the history -/
def prog (n : Nat) (H : History) : Prog :=
  subjsNew (n + 1) fun sjs =>
    .obsvNew (oConcat (sjs.headD default).observable (sjs.tail.map Subj.observable)) fun id =>
    .userSub id noReact (drive sjs H)

/-- For EVERY history the concat program (at most 100000 sources: `concatNext`'s bound in
    Machine/Lib.lean) ends, for all sufficient fuel, with `status = ok`, no guard held, the user's log equal to the
    output of `Comb.concat`, and subject `i` holding one observer iff `i` is in the machine's final `live` set. -/
theorem concat_refines (n : Nat) (hn : n + 1 ≤ 100000) (H : History) :
    ∃ n0, ∀ fuel, n0 ≤ fuel →
      Agrees (n + 1) (run fuel [prog n H] {}) (finalFrom concat.step (concat.init (n + 1)) H).ctl.live
        (concat.run (n + 1) H) := by
  refine (sim n).refines (fun sjs => oConcat (sjs.headD default).observable (sjs.tail.map Subj.observable)) H
    (concat.init (n + 1))
    ⟨rfl, Nat.le_refl 1, Nat.succ_pos n, by intro i hi; simp [concat.init, Ctl.init] at hi; show i + 1 = 1; omega,
      by intro i hi; simp [concat.init, Ctl.init] at hi; show i < 1; omega, hn,
      ⟨fun _ h => h, nofun⟩⟩ ?_
  rw [show (glay n).k = n + 1 from rfl]
  simp only [oConcat]
  refine wp_sctlNew_start (wp_cellNew_ctl ?_)
  rw [show ((sjs (n + 1)).headD default).observable = (sjOf 0).observable by simp [sjs, List.range'_succ]]
  have h0 : ∀ f, SRel (glay n) ⟨true, [], []⟩ ⟨.int 0, 0, 1⟩ [] (ctlWorld (n + 1) [.int 0] f) := fun f =>
    ⟨_, rel_ctlWorld (glay_ok n) (fun _ => rfl) [.int 0] f, Static.of_on (on := fun _ => false) List.nodup_nil
      fun _ he => nomatch he⟩
  exact (h0 _).newSource (glay_ok n) rfl (j := 0) (Nat.succ_pos n) rfl rfl rfl _ _ _ rfl

/-- `concat_spec` asks for source indices in range only, not for `WellFormed` -/
theorem concat_machine_spec (n : Nat) (hn : n + 1 ≤ 100000) (H : History) (hlt : ∀ p ∈ H, p.1 < n + 1) :
    ∃ n0, ∀ fuel, n0 ≤ fuel → (run fuel [prog n H] {}).status = .ok ∧
      logOf (run fuel [prog n H] {}) 0 = concatSpec (n + 1) H :=
  machine_spec_of (concat_refines n hn H) (concat_spec _ (by omega) H hlt)

/-- three sources; what a pending source emits before its turn is lost -/
def demo : History :=
  [(0, .next (.int 1)), (1, .next (.int 7)), (0, .complete), (1, .next (.int 2)), (0, .next (.int 8)),
   (2, .next (.int 9)), (1, .complete), (2, .next (.int 3)), (2, .complete), (2, .next (.int 4))]

theorem demo_run : (run 3000 [prog 2 demo] {}).status = .ok ∧
    logOf (run 3000 [prog 2 demo] {}) 0 = [.next (.int 1), .next (.int 2), .next (.int 3), .complete] := by
  decide +kernel

example : (run 3000 [prog 2 demo] {}).status = .ok := demo_run.1
example : logOf (run 3000 [prog 2 demo] {}) 0 = [.next (.int 1), .next (.int 2), .next (.int 3), .complete] := demo_run.2
example : concat.run 3 demo = [.next (.int 1), .next (.int 2), .next (.int 3), .complete] := by decide +kernel
example : (List.range 3).map (regCount (run 3000 [prog 2 (demo.take 4)] {})) = [0, 1, 0] ∧
    (finalFrom concat.step (concat.init 3) (demo.take 4)).ctl.live = [1] := by decide +kernel
example : logOf (run 3000 [prog 2 demo] {}) 0 = concatSpec 3 demo := demo_run.2.trans (by decide +kernel)

#print axioms concat_refines
#print axioms concat_machine_spec

end Rx.CRef.Concat
