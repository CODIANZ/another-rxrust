import RxVerif.Theorems.C03RefGStatic
import RxVerif.Theorems.C03
/-
C03-REF, merge: model A's `oMerge` (Machine/Lib.lean, transliterating src/operators/merge.rs) over `k` plain
hot subjects REFINES the pure history machine `Comb.merge`.
-/
namespace Rx.CRef.Merge
open Rx.Sim Rx.Ref Rx.Comb Rx.CRef Rx.GRef

/-- the controller `oMerge` allocates after `k` subjects -/
def scOf (k : Nat) : Sctl := ⟨0, 2 * k, 2 * k + 1, 2 * k⟩

/-- merge.rs:27-47: observers are created with serials `0..k-1` and popped from the back, so source `i` gets
    serial `k-1-i`; all carry the same closures -/
def lay (k : Nat) : GLay :=
  GLay.std k (rev k) (fun _ d => (scOf k).sinkNext d) (fun _ e => (scOf k).sinkError e)
    fun i => (scOf k).sinkComplete (rev k i)

theorem lay_ok (k : Nat) : (lay k).Ok := GLay.std_ok (rev_rev k)

def sim (k : Nat) : StaticSim (lay k) merge.step where
  ok := lay_ok k
  ctl c := c
  fr _ := ⟨.unit, k, 1 + k⟩
  dead c p h := if_neg (by rw [show c.isLive p.1 = false from h]; decide)
  body c i ev out w _ _ hlv h := by
    refine WP.conseq ?_ fun _ q => ⟨q, trivial⟩
    simp only [merge.step, Ctl.isLive, hlv, ↓reduceIte]
    cases ev with
    | next d => exact h.sinkNext (lay_ok k) d
    | error e => exact h.sinkError (lay_ok k) e
    | complete => exact h.sinkComplete (lay_ok k) i

/-- `n+1` plain subjects; test user 0 subscribes to `s0.merge(&[s1, .., sn])`; then the history -/
def prog (n : Nat) (H : History) : Prog :=
  subjsNew (n + 1) fun sjs =>
    .obsvNew (oMerge (sjs.headD default).observable (sjs.tail.map Subj.observable)) fun id =>
    .userSub id noReact (drive sjs H)

theorem rev_os (k : Nat) : ((List.range k).map (1 + ·)).reverse = (List.range' 0 k).map fun i => 1 + rev k i := by
  apply List.ext_getElem
  · simp
  · intro i h1 h2
    simp only [List.length_reverse, List.length_map, List.length_range] at h1
    simp only [List.getElem_reverse, List.getElem_map, List.getElem_range, List.getElem_range', List.length_map,
      List.length_range, rev]
    rw [if_pos (by omega)]; omega

theorem srcs_eq (n : Nat) :
    ((sjs (n + 1)).headD default).observable :: (sjs (n + 1)).tail.map Subj.observable =
      (List.range' 0 (n + 1)).map fun i => (sjOf i).observable := by
  simp [sjs, List.range'_succ]

theorem zip_eq (n : Nat) :
    (((sjs (n + 1)).headD default).observable :: (sjs (n + 1)).tail.map Subj.observable).zip
      ((List.range (n + 1)).map (1 + ·)).reverse =
    (List.range' 0 (n + 1)).map fun i => ((sjOf i).observable, (lay (n + 1)).ob i) := by
  rw [srcs_eq, rev_os, List.zip_map']
  rfl

/-- For EVERY history `H` (well-formed or not, source indices in range or not) the program
    "allocate `n+1` plain subjects; subscribe test user 0 to `s0.merge(&[s1..sn])`; perform `H` as
    `Subject::next/error/complete` calls" ends, for all sufficient fuel, with `status = ok`, no guard held, the user's
    log equal to the output of the pure machine `Comb.merge`, and subject `i` holding one observer iff `i` is in the
    machine's final `live` set (else none). -/
theorem merge_refines (n : Nat) (H : History) :
    ∃ n0, ∀ fuel, n0 ≤ fuel →
      Agrees (n + 1) (run fuel [prog n H] {}) (finalFrom merge.step (Ctl.init (n + 1)) H).live
        (merge.run (n + 1) H) := by
  refine (sim (n + 1)).refines (fun sjs => oMerge (sjs.headD default).observable (sjs.tail.map Subj.observable)) H
    (Ctl.init (n + 1)) trivial ?_
  rw [show (lay (n + 1)).k = n + 1 from rfl]
  simp only [oMerge]
  refine wp_sctlNew_start ?_
  rw [show ((sjs (n + 1)).tail.map Subj.observable).length + 1 = n + 1 by simp [sjs]]
  exact wp_setup (lay_ok (n + 1)) (GLay.std_std (rev_rev _) fun _ => rev_lt) _ (fun _ _ => rfl)
    (rel_ctlWorld (lay_ok (n + 1)) (fun _ => rfl) [] _)
    (congrArg subscribeAll (zip_eq n))

theorem merge_machine_spec (n : Nat) (H : History) (hwf : WellFormed (n + 1) H) :
    ∃ n0, ∀ fuel, n0 ≤ fuel → (run fuel [prog n H] {}).status = .ok ∧
      logOf (run fuel [prog n H] {}) 0 = mergeSpec (n + 1) H :=
  machine_spec_of (merge_refines n H) (merge_spec _ (by omega) H hwf)

/-- three sources; source 1 completes, keeps talking (ill-formed), source 2 errors -/
def demo : History :=
  [(0, .next (.int 1)), (2, .next (.int 2)), (1, .complete), (1, .next (.int 9)), (0, .next (.int 3)),
   (7, .next (.int 0)), (2, .error 5), (0, .next (.int 4)), (0, .complete)]

theorem demo_run : (run 2000 [prog 2 demo] {}).status = .ok ∧
    logOf (run 2000 [prog 2 demo] {}) 0 = [.next (.int 1), .next (.int 2), .next (.int 3), .error 5] := by
  decide +kernel

example : (run 2000 [prog 2 demo] {}).status = .ok := demo_run.1
example : logOf (run 2000 [prog 2 demo] {}) 0 = [.next (.int 1), .next (.int 2), .next (.int 3), .error 5] := demo_run.2
example : merge.run 3 demo = [.next (.int 1), .next (.int 2), .next (.int 3), .error 5] := by decide +kernel
example : (List.range 3).map (regCount (run 2000 [prog 2 (demo.take 5)] {})) = [1, 0, 1] ∧
    (finalFrom merge.step (Ctl.init 3) (demo.take 5)).live = [0, 2] := by decide +kernel
/-- a well-formed history, for the corollary -/
def demoWf : History := [(0, .next (.int 1)), (1, .complete), (2, .next (.int 2)), (0, .complete), (2, .complete)]
example : WellFormed 3 demoWf := by decide
example : logOf (run 2000 [prog 2 demoWf] {}) 0 = mergeSpec 3 demoWf := by decide +kernel

#print axioms merge_refines
#print axioms merge_machine_spec

end Rx.CRef.Merge
