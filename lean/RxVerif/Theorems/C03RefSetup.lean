import RxVerif.Theorems.C03RefBase
/-
C03-REF: the test programs (`harness`: allocate `k` plain subjects, subscribe test user 0 to the operator,
perform the history as calls on the subjects) on the raw machine: the generic induction over the history, the worlds
in which the operator's subscribe function starts and in which its controller has just been created,
`new_observer` × n ("prepare subscribers"), and what a refinement theorem concludes (`Agrees`).
-/
namespace Rx.CRef
open Rx.Sim Rx.Ref Rx.Comb

/-- one history entry = one call of `Subject::next/error/complete` on that source (ignored if there is no such source) -/
def callOf (sjs : List Subj) (p : Nat × Ev) : Prog :=
  match sjs[p.1]? with
  | some sj => evCall sj p.2
  | none => .done

def drive (sjs : List Subj) (H : History) : Prog := forEach H (callOf sjs)

theorem drive_spec {σ : Type} (step : σ → Nat × Ev → σ × List Ev) (R : σ → List Ev → World → Prop)
    (prog : Nat × Ev → Prog)
    (hstep : ∀ s out w p, R s out w → WP (prog p) w (R (step s p).1 (out ++ (step s p).2))) :
    ∀ (H : History) s out w, R s out w →
      WP (forEach H prog) w (R (finalFrom step s H) (out ++ runFrom step s H)) := by
  intro H
  induction H with
  | nil => intro s out w h; simpa [finalFrom, runFrom, forEach] using WP.done h
  | cons p rest ih =>
    intro s out w h
    simp only [forEach, finalFrom, runFrom]
    apply WP.seq
    refine (hstep s out w p h).conseq fun w1 h1 => ?_
    rw [← List.append_assoc]
    exact ih _ _ w1 h1

def subjsNew : Nat → (List Subj → Prog) → Prog
  | 0, k => k []
  | n+1, k => subjNew fun sj => subjsNew n fun l => k (sj :: l)

def subjCells : Nat → List Data
  | 0 => []
  | n+1 => .lnil :: .int 0 :: subjCells n

theorem subjCells_length (n : Nat) : (subjCells n).length = 2 * n := by
  induction n with
  | zero => rfl
  | succ n ih => simp [subjCells, ih]; omega

theorem subjCells_even : ∀ (n i : Nat), i < n → (subjCells n)[2 * i]? = some .lnil
  | n+1, 0, _ => rfl
  | n+1, i+1, h => by
    rw [show 2 * (i + 1) = 2 * i + 1 + 1 by omega]
    simp only [subjCells, List.getElem?_cons_succ]
    exact subjCells_even n i (by omega)

theorem subjCells_odd : ∀ (n i : Nat), i < n → (subjCells n)[2 * i + 1]? = some (.int 0)
  | n+1, 0, _ => rfl
  | n+1, i+1, h => by
    rw [show 2 * (i + 1) + 1 = 2 * i + 1 + 1 + 1 by omega]
    simp only [subjCells, List.getElem?_cons_succ]
    exact subjCells_odd n i (by omega)

theorem wp_subjsNew : ∀ (n j : Nat) (w : World) (K : List Subj → Prog) (Q : World → Prop),
    w.cells.length = 2 * j → w.slots.length = 2 * j →
    WP (K ((List.range' j n).map sjOf))
      { w with cells := w.cells ++ subjCells n, slots := w.slots ++ List.replicate (2 * n) none } Q →
    WP (subjsNew n K) w Q := by
  intro n
  induction n with
  | zero =>
    intro j w K Q _ _ hk
    simpa [subjsNew, subjCells] using hk
  | succ n ih =>
    intro j w K Q hc hs hk
    simp only [subjsNew, subjNew]
    refine wp_cellNew (wp_cellNew (wp_slotNew (wp_slotNew ?_)))
    simp only [List.length_append, List.length_cons, List.length_nil, hc, hs]
    refine ih (j + 1) _ (fun l => K (sjOf j :: l)) Q (by simp [hc]; omega) (by simp [hs]; omega) ?_
    have e : 2 * (n + 1) = 2 * n + 1 + 1 := by omega
    simp only [List.range'_succ, List.map_cons, subjCells, e, List.replicate_succ] at hk
    simpa [List.append_assoc] using hk

def codeObs (h : (Nat → Data → Prog) × (Nat → Nat → Prog) × (Nat → Prog)) (serial : Nat) : Obs :=
  ⟨some (.code (h.1 serial)), some (.code (h.2.1 serial)), some (.code (h.2.2 serial)), none⟩

/-- the world after `n` calls of `new_observer`: serials `s0 ..`, observers `w.obs.length ..` -/
def newObsWorld (sc : Sctl) (mk : Nat → (Nat → Data → Prog) × (Nat → Nat → Prog) × (Nat → Prog)) (w : World)
    (M : List (Nat × Nat)) (s0 n : Nat) : World :=
  { w with
    cells := (w.cells.set sc.serial (.int ((s0 + n : Nat) : Int))).set sc.map
      (encMap (M ++ (List.range n).map fun j => (s0 + j, w.obs.length + j)))
    obs := w.obs ++ (List.range n).map fun j => codeObs (mk j) (s0 + j) }

theorem set_set_comm {α} (l : List α) {a b : Nat} (u v u' v' : α) :
    (((l.set a u).set b v).set a u').set b v' = (l.set a u').set b v' := by
  apply List.ext_getElem?
  intro j
  simp only [List.getElem?_set, List.length_set]
  by_cases e1 : b = j
  · simp [e1]
  · by_cases e2 : a = j
    · simp [e1, e2]
    · simp [e1, e2]

/-- `StreamController::new_observer` (stream_controller.rs:52-96) while the subscriber is subscribed: the re-check
    finds the subscription still active -/
theorem wp_newObserver (sc : Sctl) (n : Nat → Data → Prog) (e : Nat → Nat → Prog) (c : Nat → Prog) (K : Nat → Prog)
    {w : World} {M : List (Nat × Nat)} {s0 : Nat} {Q : World → Prop} (hh : w.held = []) (hne : sc.serial ≠ sc.map)
    (hS : w.cells[sc.serial]? = some (.int (s0 : Int))) (hM : w.cells[sc.map]? = some (encMap M))
    (hkeys : ∀ p ∈ M, p.1 < s0) (hsub : ∃ x, w.obs[sc.sub]? = some x ∧ x.isSub = true)
    (hk : WP (K w.obs.length)
      { w with
        cells := (w.cells.set sc.serial (.int ((s0 + 1 : Nat) : Int))).set sc.map (encMap (M ++ [(s0, w.obs.length)]))
        obs := w.obs ++ [⟨some (.code (n s0)), some (.code (e s0)), some (.code (c s0)), none⟩] } Q) :
    WP (sc.newObserver n e c K) w Q := by
  obtain ⟨xs, hxs, hxsub⟩ := hsub
  simp only [Sctl.newObserver]
  refine wp_cellRead_val hh hS ?_
  simp only [toNat_int]
  refine wp_cellWrite hh (wp_obsNew (wp_cellRead_val (v := encMap M) hh
    (by show (w.cells.set _ _)[_]? = _; rw [set_get_other _ hne]; exact hM) ?_))
  rw [show ((s0 : Int) + 1) = ((s0 + 1 : Nat) : Int) by omega,
    amapInsert_encMap _ _ _ fun p hp => by have := hkeys p hp; omega]
  refine wp_cellWrite hh (wp_obsIsSub (x := xs) ?_ ?_)
  · exact RefR.getElem?_append_some hxs
  · simp only [hxsub, ↓reduceIte]; exact hk

theorem wp_newObservers (sc : Sctl) (mk : Nat → (Nat → Data → Prog) × (Nat → Nat → Prog) × (Nat → Prog)) :
    ∀ (n : Nat) (K : List Nat → Prog) (w : World) (M : List (Nat × Nat)) (s0 : Nat) (Q : World → Prop),
    w.held = [] → sc.serial ≠ sc.map → w.cells[sc.serial]? = some (.int (s0 : Int)) →
    w.cells[sc.map]? = some (encMap M) → (∀ p ∈ M, p.1 < s0) →
    (∃ x, w.obs[sc.sub]? = some x ∧ x.isSub = true) →
    WP (K ((List.range n).map (w.obs.length + ·))) (newObsWorld sc mk w M s0 n) Q →
    WP (newObservers sc n mk K) w Q := by
  intro n
  induction n with
  | zero =>
    intro K w M s0 Q _ _ hS hM _ _ hk
    have e : newObsWorld sc mk w M s0 0 = w := by
      cases w
      simp only [newObsWorld, List.range_zero, List.map_nil, List.append_nil, Nat.add_zero] at hS hM ⊢
      rw [RefU.set_self hS, RefU.set_self hM]
    rw [e] at hk
    simpa [newObservers] using hk
  | succ m ih =>
    intro K w M s0 Q hh hne hS hM hkeys hsub hk
    obtain ⟨xs, hxs, hxsub⟩ := hsub
    simp only [newObservers]
    refine ih _ w M s0 Q hh hne hS hM hkeys ⟨xs, hxs, hxsub⟩ ?_
    refine wp_newObserver sc _ _ _ _ (M := M ++ (List.range m).map fun j => (s0 + j, w.obs.length + j)) (s0 := s0 + m)
      hh hne ?_ ?_ ?_ ⟨xs, ?_, hxsub⟩ ?_
    · simp only [newObsWorld]
      rw [set_get_other _ (Ne.symm hne)]; exact set_get_same _ hS
    · simp only [newObsWorld]
      exact set_get_same _ (by rw [set_get_other _ hne]; exact hM)
    · intro p hp
      rcases List.mem_append.1 hp with q | q
      · have := hkeys p q; omega
      · simp only [List.mem_map, List.mem_range] at q
        obtain ⟨j, hj, rfl⟩ := q
        simp only; omega
    · exact RefR.getElem?_append_some hxs
    · have e1 : (List.range m).map (w.obs.length + ·) ++ [(newObsWorld sc mk w M s0 m).obs.length] =
          (List.range (m + 1)).map (w.obs.length + ·) := by
        simp [newObsWorld, List.range_succ]
      rw [e1]
      have e2 : ∀ W, W = newObsWorld sc mk w M s0 (m + 1) → WP (K ((List.range (m + 1)).map (w.obs.length + ·))) W Q :=
        fun W q => q ▸ hk
      apply e2
      simp only [newObsWorld, List.range_succ, List.map_append, List.map_cons, List.map_nil, List.length_append,
        List.length_map, List.length_range, List.append_assoc]
      congr 1
      rw [set_set_comm]
      rfl

/-- the subjects `subjsNew k` allocates in the empty world -/
def sjs (k : Nat) : List Subj := (List.range' 0 k).map sjOf

theorem sjs_get (k i : Nat) : (sjs k)[i]? = if i < k then some (sjOf i) else none := by
  simp only [sjs, List.getElem?_map]
  split
  · rename_i h; rw [List.getElem?_range' (by omega)]; simp
  · rename_i h; rw [List.getElem?_eq_none (by simp; omega)]; rfl

theorem callOf_lt {k i : Nat} (hi : i < k) (ev : Ev) : callOf (sjs k) (i, ev) = evCall (sjOf i) ev := by
  simp [callOf, sjs_get, hi]

theorem callOf_ge {k i : Nat} (hi : k ≤ i) (ev : Ev) : callOf (sjs k) (i, ev) = .done := by
  simp [callOf, sjs_get, Nat.not_lt.2 hi]

/-- number of observers registered in subject `i` (the harness' `O=` column for that subject) -/
def regCount (w : World) (i : Nat) : Nat := amapLen (w.cells[2 * i]?.getD .lnil)

/-- what a refinement theorem concludes: of the line the differential test compares (`observe`, Machine/Case.lean) the
    status, the subscriber's log and the subjects' observer counts (`O=`); in addition, that no guard is held -/
structure Agrees (k : Nat) (w : World) (live : List Nat) (out : List Ev) : Prop where
  status : w.status = .ok
  held : w.held = []
  log : logOf w 0 = out
  counts : ∀ i, i < k → regCount w i = if live.contains i then 1 else 0

theorem Rel.agrees {L : Lay} {c : Ctl} {x : Fr} {out : List Ev} {w : World}
    (h : Rel L (fun _ => false) [] c x out w) : Agrees L.k w c.live out :=
  ⟨h.status, h.held, h.log, fun i hi => by
    simp only [CRef.regCount, h.subjO i hi, Option.getD_some, amapLen_encMap]
    cases c.live.contains i <;> rfl⟩

theorem machine_spec_of {k : Nat} {p : Prog} {live : List Nat} {out spec : List Ev}
    (h : ∃ n0, ∀ fuel, n0 ≤ fuel → Agrees k (run fuel [p] {}) live out) (e : out = spec) :
    ∃ n0, ∀ fuel, n0 ≤ fuel → (run fuel [p] {}).status = .ok ∧ logOf (run fuel [p] {}) 0 = spec :=
  eventually_imp h fun _ h => ⟨h.status, e ▸ h.log⟩

/-- the operator files write `prog` out; it is `harness k O H` by `rfl`, and that is how `StaticSim.refines` applies -/
def harness (k : Nat) (O : List Subj → Obsv) (H : History) : Prog :=
  subjsNew k fun sjs => .obsvNew (O sjs) fun id => .userSub id noReact (drive sjs H)

/-- the world in which the subscribe function of the operator starts -/
def startWorld (k : Nat) (f : Nat → Prog) : World :=
  { obs := [⟨some (.user 0), some (.user 0), some (.user 0), none⟩], users := [⟨0, noReact, false, true⟩],
    cells := subjCells k, slots := List.replicate (2 * k) none, obsvs := [f] }

theorem wp_harness {k : Nat} {O : List Subj → Obsv} {H : History} {Q : World → Prop}
    (h : WP (O (sjs k) 0) (startWorld k (O (sjs k))) fun w =>
      WP (drive (sjs k) H) (w.setUser 0 fun u => { u with ready := true }) Q) :
    WP (harness k O H) {} Q := by
  refine wp_subjsNew k 0 {} _ _ rfl rfl (wp_obsvNew (wp_userSub (f := O (sjs k)) rfl ?_))
  exact h.conseq fun _ hw => wp_userReady hw

/-- the simulation argument, once for all operators; `hsub` speaks of the world in which `userSub` has marked the user
    ready, which is where the history starts -/
theorem harness_spec {σ : Type} {k : Nat} {step : σ → Nat × Ev → σ × List Ev} {R : σ → List Ev → World → Prop}
    (hstep : ∀ s out w p, R s out w → WP (callOf (sjs k) p) w (R (step s p).1 (out ++ (step s p).2)))
    (O : List Subj → Obsv) (H : History) (init : σ)
    (hsub : WP (O (sjs k) 0) (startWorld k (O (sjs k))) fun w =>
      R init [] (w.setUser 0 fun u => { u with ready := true })) :
    WP (harness k O H) {} (R (finalFrom step init H) (runFrom step init H)) :=
  wp_harness (hsub.conseq fun _ h => drive_spec step R _ hstep H init [] _ h)

/-- the start world after `sctlNew 0` and the allocation of the operator's own cells `extra` -/
def ctlWorld (k : Nat) (extra : List Data) (f : Nat → Prog) : World :=
  { obs := [⟨some (.user 0), some (.user 0), some (.user 0), some (Sctl.finalize ⟨0, 2 * k, 2 * k + 1, 2 * k⟩)⟩],
    users := [⟨0, noReact, false, true⟩],
    cells := subjCells k ++ [.int 0, .lnil] ++ extra, slots := List.replicate (2 * k) none ++ [none], obsvs := [f] }

theorem ctlWorld_extra (k : Nat) (extra : List Data) (f : Nat → Prog) (j : Nat) :
    (ctlWorld k extra f).cells[2 * k + 2 + j]? = extra[j]? := by
  simp only [ctlWorld]; rw [List.getElem?_append_right (by simp [subjCells_length])]; simp [subjCells_length]

theorem wp_sctlNew_start {k : Nat} {f : Nat → Prog} {K : Sctl → Prog} {Q : World → Prop}
    (h : WP (K ⟨0, 2 * k, 2 * k + 1, 2 * k⟩) (ctlWorld k [] f) Q) : WP (sctlNew 0 K) (startWorld k f) Q := by
  unfold sctlNew
  refine wp_cellNew (wp_cellNew (wp_slotNew (wp_obsSetOnUnsub rfl ?_)))
  simp only [startWorld, List.length_append, subjCells_length, List.length_replicate, List.length_cons,
    List.length_nil, World.setObs, List.append_assoc, List.cons_append, List.nil_append]
  simpa [ctlWorld] using h

theorem wp_cellNew_ctl {k : Nat} {f : Nat → Prog} {d : Data} {K : Nat → Prog} {Q : World → Prop}
    (h : WP (K (2 * k + 2)) (ctlWorld k [d] f) Q) : WP (.cellNew d K) (ctlWorld k [] f) Q := by
  refine wp_cellNew ?_
  simp only [ctlWorld, List.length_append, subjCells_length, List.length_cons, List.length_nil, List.append_nil]
  exact h

end Rx.CRef
