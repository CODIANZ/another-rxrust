import RxVerif.Theorems.C03RefMerge
/-
C03-REF, amb: model A's `oAmb` (Machine/Lib.lean, transliterating src/operators/amb.rs) over `k` plain hot
subjects REFINES the pure history machine `Comb.amb`.
-/
namespace Rx.CRef.Amb
open Rx.Sim Rx.Ref Rx.Comb Rx.CRef Rx.GRef

/-- amb.rs:27-35, 51-70: every closure of inner observer `i` first asks `is_win(serial)`; the winner goes on with
    `p`, a loser aborts itself.  The winner cell is `2k+2`. -/
def guard (k i : Nat) (p : Prog) : Prog :=
  ambIsWin (2 * k + 2) (rev k i) fun b => if b then p else (Merge.scOf k).abortObserve (rev k i)

/-- amb.rs:38-78: as in merge source `i` gets serial `k-1-i` -/
def lay (k : Nat) : GLay :=
  GLay.std k (rev k) (fun i x => guard k i ((Merge.scOf k).sinkNext x)) (fun i e => guard k i ((Merge.scOf k).sinkError e))
    fun i => guard k i (Merge.scOf k).sinkCompleteForce

theorem lay_ok (k : Nat) : (lay k).Ok := GLay.std_ok (rev_rev k)

theorem codeBody_guard (k i : Nat) (ev : Ev) :
    codeBody ev ((lay k).hn i) ((lay k).he i) ((lay k).hc i) =
      guard k i (codeBody ev (Merge.scOf k).sinkNext (Merge.scOf k).sinkError (Merge.scOf k).sinkCompleteForce) := by
  cases ev <;> rfl

/-- the winner cell: `None`, or the winner's serial -/
def encWin (k : Nat) (win : Option Nat) : Data := Data.optEnc (win.map fun i => .int ((rev k i : Nat) : Int))

theorem encWin_ne (k : Nat) (win : Option Nat) : encWin k win ≠ .unit := by
  cases win <;> simp [encWin, Data.optEnc]

/-- `is_win(serial)` (amb.rs:27-35); `c0` is any controller state: `amb.isWin`, `amb.claim` only read the winner -/
theorem guard_spec {k : Nat} {c : Ctl} {win : Option Nat} {out : List Ev} {w : World} {Q : World → Prop}
    (h : SRel (lay k) c ⟨encWin k win, k, 1 + k⟩ out w) (c0 : Ctl) (i : Nat) (p : Prog)
    (hk : ∀ w1, SRel (lay k) c ⟨encWin k (amb.claim ⟨c0, win⟩ i), k, 1 + k⟩ out w1 →
      WP (if amb.isWin ⟨c0, win⟩ i then p else (Merge.scOf k).abortObserve (rev k i)) w1 Q) :
    WP (guard k i p) w Q := by
  simp only [guard, ambIsWin]
  refine wp_cellRead_val h.held (h.xc_some (encWin_ne k win)) ?_
  cases win with
  | none =>
    simp only [encWin, Option.map_none, Data.optEnc, Data.optDec]
    exact wp_cellWrite h.held (hk _ (h.setX (lay_ok k) (encWin_ne k none) _))
  | some v =>
    simp only [encWin, Option.map_some, Data.optEnc, Data.optDec, Data.toInt]
    have e : (((rev k v : Nat) : Int) == ((rev k i : Nat) : Int)) = (i == v) := by
      rw [Bool.eq_iff_iff]; simp only [beq_iff_eq, Int.natCast_inj]
      exact ⟨fun q => by rw [← rev_rev k i, ← q, rev_rev], fun q => by rw [q]⟩
    simp only [e]
    exact hk w h

def sim (k : Nat) : StaticSim (lay k) amb.step where
  ok := lay_ok k
  ctl s := s.ctl
  fr s := ⟨encWin k s.winner, k, 1 + k⟩
  dead s p h := if_neg (by rw [show s.ctl.isLive p.1 = false from h]; decide)
  body s i ev out w _ _ hlv h := by
    obtain ⟨c, win⟩ := s
    refine WP.conseq ?_ fun _ q => ⟨q, trivial⟩
    rw [codeBody_guard]
    refine guard_spec h c i _ fun w1 h1 => ?_
    simp only [amb.step, Ctl.isLive, hlv, ↓reduceIte]
    cases amb.isWin ⟨c, win⟩ i with
    | false =>
      simp only [Bool.false_eq_true, ↓reduceIte, List.append_nil]
      exact h1.abort (lay_ok k) i
    | true =>
      cases ev with
      | next d => exact h1.sinkNext (lay_ok k) d
      | error e => exact h1.sinkError (lay_ok k) e
      | complete => exact h1.sinkCompleteForce (lay_ok k)

/-- `n+1` plain subjects; test user 0 subscribes to `s0.amb(&[s1, .., sn])`; then the history -/
def prog (n : Nat) (H : History) : Prog :=
  subjsNew (n + 1) fun sjs =>
    .obsvNew (oAmb (sjs.headD default).observable (sjs.tail.map Subj.observable)) fun id =>
    .userSub id noReact (drive sjs H)

/-- For EVERY history the amb program ends, for all sufficient fuel, with `status = ok`, no guard
    held, the user's log equal to the output of `Comb.amb`, and subject `i` holding one observer iff `i` is in the
    machine's final `live` set. -/
theorem amb_refines (n : Nat) (H : History) :
    ∃ n0, ∀ fuel, n0 ≤ fuel →
      Agrees (n + 1) (run fuel [prog n H] {}) (finalFrom amb.step (amb.init (n + 1)) H).ctl.live
        (amb.run (n + 1) H) := by
  refine (sim (n + 1)).refines (fun sjs => oAmb (sjs.headD default).observable (sjs.tail.map Subj.observable)) H
    (amb.init (n + 1)) trivial ?_
  rw [show (lay (n + 1)).k = n + 1 from rfl]
  simp only [oAmb]
  refine wp_sctlNew_start (wp_cellNew_ctl ?_)
  rw [show ((sjs (n + 1)).tail.map Subj.observable).length + 1 = n + 1 by simp [sjs]]
  exact wp_setup (lay_ok (n + 1)) (GLay.std_std (rev_rev _) fun _ => rev_lt) _ (fun _ _ => rfl)
    (rel_ctlWorld (lay_ok (n + 1)) (fun _ => rfl) [.lnil] _)
    (congrArg subscribeAll (Merge.zip_eq n))

theorem amb_machine_spec (n : Nat) (H : History) (hwf : WellFormed (n + 1) H) :
    ∃ n0, ∀ fuel, n0 ≤ fuel → (run fuel [prog n H] {}).status = .ok ∧
      logOf (run fuel [prog n H] {}) 0 = ambSpec H :=
  machine_spec_of (amb_refines n H) (amb_spec _ H hwf)

/-- three sources; source 2 wins, the losers abort themselves on their first signal -/
def demo : History :=
  [(2, .next (.int 1)), (0, .next (.int 2)), (2, .next (.int 3)), (1, .complete), (0, .next (.int 4)),
   (2, .complete), (2, .next (.int 5))]

theorem demo_run : (run 2000 [prog 2 demo] {}).status = .ok ∧
    logOf (run 2000 [prog 2 demo] {}) 0 = [.next (.int 1), .next (.int 3), .complete] := by
  decide +kernel

example : (run 2000 [prog 2 demo] {}).status = .ok := demo_run.1
example : logOf (run 2000 [prog 2 demo] {}) 0 = [.next (.int 1), .next (.int 3), .complete] := demo_run.2
example : amb.run 3 demo = [.next (.int 1), .next (.int 3), .complete] := by decide +kernel
example : (List.range 3).map (regCount (run 2000 [prog 2 (demo.take 2)] {})) = [0, 1, 1] ∧
    (finalFrom amb.step (amb.init 3) (demo.take 2)).ctl.live = [1, 2] := by decide +kernel
example : WellFormed 3 (demo.take 6) := by decide
example : logOf (run 2000 [prog 2 (demo.take 6)] {}) 0 = ambSpec (demo.take 6) := by decide +kernel

#print axioms amb_refines
#print axioms amb_machine_spec

end Rx.CRef.Amb
