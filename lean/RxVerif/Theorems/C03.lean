import RxVerif.Spec.Comb
/-
C03 — combining operators: the history machines of `Kernel/Comb.lean` (the code) against the ReactiveX
characterisations of `Spec/Comb.lean`, for ALL well-formed histories and ALL numbers `k ≥ 1` of sources:
merge, amb, take_until, concat, zip, skip_until, sample, flat_map, combine_latest, sequence_equal, and
`utils::ready_set_go`.  take_until, skip_until, sample have two sources and ignore `k`; flat_map is proved for outer
items that select pairwise distinct inner sources.  (`switch_on_next` has a machine in `Kernel/Comb.lean` but no
characterisation in `Spec/Comb.lean`, and no theorem here.)

Every proof is an induction over the history from a generalised state; a run is silent once no observer is live
(`runFrom_idle`, of which the `…_idle` lemmas are the instances).
-/
namespace Rx.Comb

@[simp] theorem isTerminal_next (d : Data) : (Ev.next d).isTerminal = false := rfl
@[simp] theorem isTerminal_error (e : Nat) : (Ev.error e).isTerminal = true := rfl
@[simp] theorem isTerminal_complete : Ev.complete.isTerminal = true := rfl
@[simp] theorem isError_next (d : Data) : (Ev.next d).isError = false := rfl
@[simp] theorem isError_error (e : Nat) : (Ev.error e).isError = true := rfl
@[simp] theorem isError_complete : Ev.complete.isError = false := rfl
@[simp] theorem isNext_next (d : Data) : (Ev.next d).isNext = true := rfl
@[simp] theorem isNext_error (e : Nat) : (Ev.error e).isNext = false := rfl
@[simp] theorem isNext_complete : Ev.complete.isNext = false := rfl


theorem runFrom_append {σ : Type} (step : σ → Nat × Ev → σ × List Ev) (s : σ) (H1 H2 : History) :
    runFrom step s (H1 ++ H2) = runFrom step s H1 ++ runFrom step (finalFrom step s H1) H2 := by
  induction H1 generalizing s with
  | nil => rfl
  | cons p H1 ih => rw [List.cons_append, runFrom, runFrom, finalFrom, ih, List.append_assoc]

/-- outputs only ever grow: what has been delivered after a prefix of the history stays delivered -/
theorem run_prefix {σ : Type} (step : σ → Nat × Ev → σ × List Ev) (s : σ) (H1 H2 : History) :
    runFrom step s H1 <+: runFrom step s (H1 ++ H2) := by
  rw [runFrom_append]; exact List.prefix_append _ _

theorem runFrom_silent {σ : Type} {step : σ → Nat × Ev → σ × List Ev} (D : σ → Prop)
    (h : ∀ s p, D s → (step s p).2 = [] ∧ D (step s p).1) (s : σ) (H : History) (hs : D s) :
    runFrom step s H = [] := by
  induction H generalizing s with
  | nil => rfl
  | cons p H ih => rw [runFrom, (h s p hs).1, ih _ (h s p hs).2]; rfl


theorem wf_cons {R : List Nat} {i : Nat} {ev : Ev} {H : History} :
    wfFrom R ((i, ev) :: H) = true ↔
      i ∈ R ∧ wfFrom (if ev.isTerminal then R.filter (· != i) else R) H = true := by
  rw [wfFrom, Bool.and_eq_true, List.contains_iff_mem]

theorem after_subset {R : List Nat} {i x : Nat} {ev : Ev}
    (h : x ∈ (if ev.isTerminal then R.filter (· != i) else R)) : x ∈ R := by
  split at h
  · exact (List.mem_filter.mp h).1
  · exact h

theorem wf_mem {R : List Nat} {H : History} (h : wfFrom R H = true) : ∀ p ∈ H, p.1 ∈ R := by
  induction H generalizing R with
  | nil => exact fun _ hp => nomatch hp
  | cons q H ih =>
    obtain ⟨i, ev⟩ := q
    obtain ⟨hi, h⟩ := wf_cons.mp h
    intro p hp
    rcases List.mem_cons.mp hp with rfl | hp
    · exact hi
    · exact after_subset (ih h p hp)

/-- a source that has terminated does not occur any more -/
theorem wf_not_mem {R : List Nat} {H : History} {i : Nat} (h : wfFrom R H = true) (hi : i ∉ R) :
    ∀ p ∈ H, p.1 ≠ i :=
  fun p hp e => hi (e ▸ wf_mem h p hp)

theorem wf_nil {H : History} (h : wfFrom [] H = true) : H = [] := by
  cases H with
  | nil => rfl
  | cons p H => exact nomatch wf_mem h p (List.mem_cons_self ..)

theorem wf_term {R : List Nat} {i : Nat} {ev : Ev} {H : History} (h : wfFrom R ((i, ev) :: H) = true)
    (ht : ev.isTerminal = true) : i ∈ R ∧ wfFrom (R.filter (· != i)) H = true ∧ ∀ p ∈ H, p.1 ≠ i := by
  obtain ⟨hi, h⟩ := wf_cons.mp h
  rw [if_pos ht] at h
  exact ⟨hi, h, wf_not_mem h fun hm => by simpa using (List.mem_filter.mp hm).2⟩

theorem wf_next {R : List Nat} {i : Nat} {d : Data} {H : History} (h : wfFrom R ((i, .next d) :: H) = true) :
    i ∈ R ∧ wfFrom R H = true := wf_cons.mp h

theorem wf_live {c : Ctl} {i : Nat} {ev : Ev} {H : History} (h : wfFrom c.live ((i, ev) :: H) = true) :
    c.isLive i = true := List.contains_iff_mem.mpr (wf_cons.mp h).1

theorem mem_after {R : List Nat} {w i : Nat} (ev : Ev) (hw : w ∈ R) (h : w ≠ i) :
    w ∈ (if ev.isTerminal then R.filter (· != i) else R) := by
  split
  · exact List.mem_filter.mpr ⟨hw, by simpa using h⟩
  · exact hw


@[simp] theorem srcEvents_nil (i : Nat) : srcEvents i [] = [] := rfl
theorem srcEvents_cons (i : Nat) (p : Nat × Ev) (H : History) :
    srcEvents i (p :: H) = if p.1 == i then p.2 :: srcEvents i H else srcEvents i H := by
  rw [srcEvents, List.filter_cons]; split <;> rfl

theorem srcEvents_eq_nil (i : Nat) (H : History) (h : ∀ p ∈ H, p.1 ≠ i) : srcEvents i H = [] := by
  rw [srcEvents, List.map_eq_nil_iff, List.filter_eq_nil_iff]
  exact fun p hp => by simpa using h p hp

@[simp] theorem srcItems_nil (j : Nat) : srcItems j [] = [] := rfl
theorem srcItems_cons (j : Nat) (p : Nat × Ev) (H : History) :
    srcItems j (p :: H) =
      (if p.1 == j then (match p.2 with | .next d => [d] | _ => []) else []) ++ srcItems j H := by
  obtain ⟨i, ev⟩ := p
  rw [srcItems, List.filterMap_cons]
  cases ev <;> cases i == j <;> rfl

theorem srcItems_append (i : Nat) (A B : History) : srcItems i (A ++ B) = srcItems i A ++ srcItems i B :=
  List.filterMap_append

theorem srcItems_eq_nil (i : Nat) (H : History) (h : ∀ p ∈ H, p.1 ≠ i) : srcItems i H = [] := by
  rw [srcItems, List.filterMap_eq_nil_iff]
  exact fun p hp => if_neg (by simpa using h p hp)

@[simp] theorem itemsOf_nil : itemsOf [] = [] := rfl
theorem itemsOf_cons (p : Nat × Ev) (H : History) :
    itemsOf (p :: H) = if p.2.isNext then p.2 :: itemsOf H else itemsOf H := by
  rw [itemsOf, List.map_cons, List.filter_cons]; rfl

@[simp] theorem firstError_nil : firstError [] = none := rfl
theorem firstError_cons (p : Nat × Ev) (H : History) :
    firstError (p :: H) = match p.2 with | .error e => some e | _ => firstError H := by
  obtain ⟨i, ev⟩ := p
  cases ev <;> rfl

@[simp] theorem beforeError_nil : beforeError [] = [] := rfl
theorem beforeError_cons (p : Nat × Ev) (H : History) :
    beforeError (p :: H) = if p.2.isError then [] else p :: beforeError H := by
  rw [beforeError, List.takeWhile_cons]; cases p.2.isError <;> rfl

@[simp] theorem completedIn_nil (i : Nat) : completedIn [] i = false := rfl
theorem completedIn_cons (p : Nat × Ev) (H : History) (i : Nat) :
    completedIn (p :: H) i = ((p.1 == i && p.2 == .complete) || completedIn H i) := rfl

theorem next_beq_complete (d : Data) : (Ev.next d == Ev.complete) = false :=
  beq_eq_false_iff_ne.mpr fun h => nomatch h

theorem terminalOf_nil {R : List Nat} (h : R ≠ []) : terminalOf R [] = [] := by
  cases R with
  | nil => exact absurd rfl h
  | cons a R => rfl

theorem terminalOf_cons_next (R : List Nat) (i : Nat) (d : Data) (H : History) :
    terminalOf R ((i, Ev.next d) :: H) = terminalOf R H := by
  have : completedIn ((i, Ev.next d) :: H) = completedIn H :=
    funext fun a => by rw [completedIn_cons, next_beq_complete, Bool.and_false, Bool.false_or]
  rw [terminalOf, this]; rfl

theorem terminalOf_cons_error (R : List Nat) (i e : Nat) (H : History) :
    terminalOf R ((i, Ev.error e) :: H) = [.error e] := rfl

theorem terminalOf_cons_complete (R : List Nat) (i : Nat) (H : History) :
    terminalOf R ((i, Ev.complete) :: H) = terminalOf (R.filter (· != i)) H := by
  have : completedIn ((i, Ev.complete) :: H) = fun a => !(a != i) || completedIn H a :=
    funext fun a => by simp [completedIn_cons, Bool.beq_comm (a := i), bne]
  rw [terminalOf, terminalOf, List.all_filter, this]; rfl

theorem wellFormed_lt (k : Nat) (H : History) (h : WellFormed k H) : ∀ p ∈ H, p.1 < k :=
  fun p hp => List.mem_range.mp (wf_mem h p hp)

theorem beforeError_of_no_error (H : History) (h : firstError H = none) : beforeError H = H := by
  induction H with
  | nil => rfl
  | cons p H ih =>
    obtain ⟨i, ev⟩ := p
    cases ev <;> simp_all [firstError_cons, beforeError_cons]

theorem completedIn_append (A B : History) (i : Nat) :
    completedIn (A ++ B) i = (completedIn A i || completedIn B i) := by
  simp [completedIn, List.any_append]

theorem wf_append {R : List Nat} {A B : History} (h : wfFrom R (A ++ B) = true) :
    wfFrom R A = true ∧ ∃ R', (∀ x ∈ R', x ∈ R) ∧ wfFrom R' B = true ∧
      ∀ i, completedIn A i = true → i ∉ R' := by
  induction A generalizing R with
  | nil => exact ⟨rfl, R, fun _ h => h, h, by simp⟩
  | cons p A ih =>
    obtain ⟨i, ev⟩ := p
    obtain ⟨hi, h⟩ := wf_cons.mp h
    obtain ⟨h1, R', h2, h3, h4⟩ := ih h
    refine ⟨wf_cons.mpr ⟨hi, h1⟩, R', fun x hx => ?_, h3, fun j hj hjR => ?_⟩
    · exact after_subset (h2 x hx)
    · rw [completedIn_cons] at hj
      cases hc : completedIn A j with
      | true => exact h4 j hc hjR
      | false =>
        have : i = j ∧ ev = .complete := by simpa [hc] using hj
        simpa [this.1, this.2] using h2 j hjR

theorem firstError_append_none (A B : History) (h : firstError (A ++ B) = none) : firstError A = none := by
  rw [firstError, List.findSome?_append] at h
  cases hA : firstError A with
  | none => rfl
  | some e => rw [firstError] at hA; simp [hA] at h

/-- a well-formed history ends when every source has completed -/
theorem not_allCompleted_of_more (k : Nat) (pre : History) (p : Nat × Ev) (rest : History)
    (hwf : WellFormed k (pre ++ p :: rest)) : allCompleted k pre = false := by
  rw [Bool.eq_false_iff]
  intro hc
  obtain ⟨_, R', _, h3, h4⟩ := wf_append hwf
  have hp := wellFormed_lt k _ hwf p (by simp)
  exact h4 p.1 (List.all_eq_true.mp hc p.1 (List.mem_range.mpr hp)) (wf_cons.mp h3).1

theorem wfFrom_iff (R : List Nat) (H : History) :
    wfFrom R H = true ↔
      (∀ p ∈ H, p.1 ∈ R) ∧
        ∀ pre p post, H = pre ++ p :: post → p.2.isTerminal = true → ∀ q ∈ post, q.1 ≠ p.1 := by
  constructor
  · intro h
    refine ⟨wf_mem h, ?_⟩
    rintro pre ⟨i, ev⟩ post rfl ht
    obtain ⟨_, R', _, h3, _⟩ := wf_append h
    exact (wf_term h3 ht).2.2
  · intro ⟨h1, h2⟩
    induction H generalizing R with
    | nil => rfl
    | cons p H ih =>
      obtain ⟨i, ev⟩ := p
      refine wf_cons.mpr ⟨h1 (i, ev) (by simp), ih _ (fun q hq => ?_) fun pre p' post hH =>
        h2 ((i, ev) :: pre) p' post (by simp [hH])⟩
      split
      · next ht => exact List.mem_filter.mpr ⟨h1 q (by simp [hq]), by simpa using h2 [] _ H rfl ht q hq⟩
      · exact h1 q (by simp [hq])

/-- a history is well-formed iff every index is `< k` and no source speaks after its own terminal -/
theorem wellFormed_iff (k : Nat) (H : History) :
    WellFormed k H ↔
      (∀ p ∈ H, p.1 < k) ∧
        ∀ pre p post, H = pre ++ p :: post → p.2.isTerminal = true → ∀ q ∈ post, q.1 ≠ p.1 := by
  simp only [WellFormed, wfFrom_iff, List.mem_range]

theorem wellFormed_prefix (k : Nat) (H1 H2 : History) (h : WellFormed k (H1 ++ H2)) : WellFormed k H1 :=
  (wf_append h).1

namespace Ctl
variable (c : Ctl) (i : Nat)

@[simp] theorem kill_alive : (c.kill i).alive = c.alive := rfl
@[simp] theorem kill_reg : (c.kill i).reg = c.reg := rfl
@[simp] theorem kill_live : (c.kill i).live = c.live.filter (· != i) := rfl
@[simp] theorem addObserver_alive : (c.addObserver i).alive = c.alive := rfl
@[simp] theorem addObserver_reg : (c.addObserver i).reg = c.reg ++ [i] := rfl
@[simp] theorem addObserver_live : (c.addObserver i).live = c.live ++ [i] := rfl
@[simp] theorem abort_alive : (c.abort i).alive = c.alive := by unfold abort; split <;> rfl
@[simp] theorem finalize_alive : c.finalize.alive = false := by simp only [finalize]
@[simp] theorem finalize_reg : c.finalize.reg = [] := rfl

variable {c}
theorem sinkNext_alive (h : c.alive = true) (d : Data) : c.sinkNext d = (c, [.next d]) := if_pos h
theorem sinkError_alive (h : c.alive = true) (e : Nat) : c.sinkError e = (c.finalize, [.error e]) := if_pos h
theorem sinkCompleteForce_alive (h : c.alive = true) : c.sinkCompleteForce = (c.finalize, [.complete]) :=
  if_pos h
theorem sinkComplete_alive (h : c.alive = true) (i : Nat) :
    c.sinkComplete i =
      if c.reg.filter (· != i) = [] then ({ c with reg := c.reg.filter (· != i) }.finalize, [.complete])
      else ({ c with reg := c.reg.filter (· != i) }, []) := by
  simp only [sinkComplete, h, if_true, List.isEmpty_iff]
theorem sinkNext_dead (h : c.alive = false) (d : Data) : c.sinkNext d = (c.finalize, []) := by
  rw [sinkNext, h]; rfl
theorem sinkError_dead (h : c.alive = false) (e : Nat) : c.sinkError e = (c.finalize, []) := by
  rw [sinkError, h]; rfl
theorem sinkComplete_dead (h : c.alive = false) (i : Nat) : c.sinkComplete i = (c.finalize, []) := by
  rw [sinkComplete, h]; rfl
theorem sinkCompleteForce_dead (h : c.alive = false) : c.sinkCompleteForce = (c.finalize, []) := by
  rw [sinkCompleteForce, h]; rfl

theorem mem_abort {w i : Nat} (h : w ≠ i) : w ∈ (c.abort i).live ↔ w ∈ c.live := by
  unfold abort; split <;> simp [h]

/-- no live observer is unregistered: then `finalize` leaves no live observer, and nothing is heard any more -/
def Sub (c : Ctl) : Prop := ∀ j ∈ c.live, j ∈ c.reg

theorem Sub.kill (h : c.Sub) (i : Nat) : (c.kill i).Sub := fun j hj => h j (List.mem_filter.mp hj).1

theorem Sub.abort (h : c.Sub) (i : Nat) : (c.abort i).Sub := by
  unfold Ctl.abort
  split
  · exact fun j hj => List.mem_filter.mpr ⟨h j (List.mem_filter.mp hj).1, (List.mem_filter.mp hj).2⟩
  · exact h

theorem Sub.finalize_live (h : c.Sub) : c.finalize.live = [] :=
  List.filter_eq_nil_iff.mpr fun j hj => by simpa using h j hj

end Ctl

/-- the controller of an n-ary operator while its output is open: the subscriber is there, every registered
    observer is live, and there is one -/
structure Ctl.Ok (c : Ctl) : Prop where
  alive : c.alive = true
  reg : c.reg = c.live
  ne : c.live ≠ []

theorem Ctl.Ok.init {k : Nat} (hk : 0 < k) : (Ctl.init k).Ok :=
  ⟨rfl, rfl, fun h => Nat.ne_of_gt hk (List.range_eq_nil.mp h)⟩

theorem Ctl.Ok.sub {c : Ctl} (h : c.Ok) : c.Sub := fun _ hj => h.reg ▸ hj

theorem Ctl.Ok.error {c : Ctl} (h : c.Ok) (i e : Nat) :
    (c.kill i).sinkError e = ((c.kill i).finalize, [.error e]) ∧ (c.kill i).finalize.live = [] :=
  ⟨Ctl.sinkError_alive (c := c.kill i) h.alive e, (h.sub.kill i).finalize_live⟩

theorem Ctl.Ok.completion {c : Ctl} (h : c.Ok) (i : Nat) :
    (c.kill i).sinkComplete i =
      if c.live.filter (· != i) = [] then (⟨false, [], []⟩, [.complete])
      else (⟨true, c.live.filter (· != i), c.live.filter (· != i)⟩, []) := by
  rw [Ctl.sinkComplete_alive (c := c.kill i) h.alive, Ctl.kill_reg, h.reg]
  split
  · next h0 => rw [Ctl.finalize, Ctl.kill_live, h0]; rfl
  · rw [Ctl.kill, h.alive, h.reg]

theorem Ctl.Ok.rest {c : Ctl} {i : Nat} (hne : c.live.filter (· != i) ≠ []) :
    Ctl.Ok ⟨true, c.live.filter (· != i), c.live.filter (· != i)⟩ := ⟨rfl, rfl, hne⟩

/-- the controller of an operator that mirrors source `w`: the subscriber is there and `w`'s observer is live -/
structure Ctl.Live (c : Ctl) (w : Nat) : Prop where
  alive : c.alive = true
  mem : w ∈ c.live
  sub : c.Sub

theorem Ctl.Live.kill {c : Ctl} {w i : Nat} (h : c.Live w) (hi : w ≠ i) : (c.kill i).Live w :=
  ⟨h.alive, List.mem_filter.mpr ⟨h.mem, by simpa using hi⟩, h.sub.kill i⟩

theorem Ctl.Live.abort {c : Ctl} {w i : Nat} (h : c.Live w) (hi : w ≠ i) : (c.abort i).Live w :=
  ⟨(c.abort_alive i).trans h.alive, (Ctl.mem_abort hi).mpr h.mem, h.sub.abort i⟩

theorem Ctl.Live.isLive {c : Ctl} {w : Nat} (h : c.Live w) : c.isLive w = true := List.contains_iff_mem.mpr h.mem

/-- the controller of a two-source operator (0 = source, 1 = trigger) while its output is open -/
structure Ctl.Gate (c : Ctl) : Prop extends c.Live 0 where
  two : ∀ j ∈ c.live, j < 2

theorem Ctl.Gate.init : (Ctl.init 2).Gate := ⟨⟨rfl, by decide, fun _ h => h⟩, fun _ h => List.mem_range.mp h⟩

theorem Ctl.Gate.kill {c : Ctl} (h : c.Gate) : (c.kill 1).Gate :=
  ⟨h.toLive.kill (by decide), fun j hj => h.two j (List.mem_filter.mp hj).1⟩

theorem Ctl.Gate.cases {c : Ctl} (h : c.Gate) {i : Nat} {ev : Ev} {H : History}
    (hwf : wfFrom c.live ((i, ev) :: H) = true) : i = 0 ∨ i = 1 := by
  have := h.two i (wf_cons.mp hwf).1; omega

/-- every operator's step is `if` the event's observer is live `then … else` nothing: with no live observer a run is silent -/
theorem runFrom_idle {σ : Type} {step body : σ → Nat × Ev → σ × List Ev} (ctl : σ → Ctl)
    (hg : ∀ s p, step s p = if (ctl s).isLive p.1 then body s p else (s, [])) (s : σ) (H : History)
    (h : (ctl s).live = []) : runFrom step s H = [] :=
  runFrom_silent (fun s => (ctl s).live = []) (fun s p h => by rw [hg, Ctl.isLive, h]; exact ⟨rfl, h⟩) s H h

theorem merge_idle (c : Ctl) (H : History) (h : c.live = []) : runFrom merge.step c H = [] :=
  runFrom_idle id (fun _ _ => rfl) c H h

theorem merge_from (c : Ctl) (H : History) (hc : c.Ok) (hwf : wfFrom c.live H = true) :
    runFrom merge.step c H = itemsOf (beforeError H) ++ terminalOf c.live H := by
  induction H generalizing c with
  | nil => rw [terminalOf_nil hc.ne]; rfl
  | cons p H ih =>
    obtain ⟨i, ev⟩ := p
    cases ev <;> simp only [runFrom, merge.step, wf_live hwf, if_true]
    case next d => rw [Ctl.sinkNext_alive hc.alive, ih c hc (wf_next hwf).2, terminalOf_cons_next]; rfl
    case error e => rw [(hc.error i e).1, merge_idle _ H (hc.error i e).2]; rfl
    case complete =>
      have hwf := (wf_term hwf rfl).2.1
      rw [hc.completion, terminalOf_cons_complete]
      split
      · next h => rw [h] at hwf; rw [wf_nil hwf, h]; rfl
      · next h => exact ih _ (.rest h) hwf

/-- merge forwards every item of every source in arrival order; the first error ends the output; it
    completes exactly when the last source completes. -/
theorem merge_spec (k : Nat) (hk : 0 < k) (H : History) (hwf : WellFormed k H) :
    merge.run k H = mergeSpec k H :=
  merge_from _ H (.init hk) hwf

theorem amb_idle (s : amb.State) (H : History) (h : s.ctl.live = []) : runFrom amb.step s H = [] :=
  runFrom_idle amb.State.ctl (fun _ _ => rfl) s H h

theorem amb_won (s : amb.State) (w : Nat) (R : List Nat) (H : History) (hc : s.ctl.Live w)
    (hwin : s.winner = some w) (hwf : wfFrom R H = true) :
    runFrom amb.step s H = srcEvents w H := by
  induction H generalizing s R with
  | nil => rfl
  | cons p H ih =>
    obtain ⟨i, ev⟩ := p
    have hwf' := (wf_cons.mp hwf).2
    simp only [runFrom, amb.step, amb.isWin, amb.claim, hwin, srcEvents_cons]
    by_cases hiw : i = w
    · subst hiw
      cases ev <;> simp only [hc.isLive, beq_self_eq_true, if_true]
      case next d => rw [Ctl.sinkNext_alive hc.alive, ih ⟨s.ctl, some i⟩ R hc rfl hwf']; rfl
      case error e =>
        rw [Ctl.sinkError_alive (c := s.ctl.kill i) hc.alive, amb_idle _ H (hc.sub.kill i).finalize_live,
          srcEvents_eq_nil i H (wf_term hwf rfl).2.2]; rfl
      case complete =>
        rw [Ctl.sinkCompleteForce_alive (c := s.ctl.kill i) hc.alive, amb_idle _ H (hc.sub.kill i).finalize_live,
          srcEvents_eq_nil i H (wf_term hwf rfl).2.2]; rfl
    · have hwi : w ≠ i := Ne.symm hiw
      simp only [beq_eq_false_iff_ne.mpr hiw, Bool.false_eq_true, if_false]
      split
      · refine ih _ _ ?_ rfl hwf'
        split
        · exact (hc.kill hwi).abort hwi
        · exact hc.abort hwi
      · exact ih s _ hc hwin hwf'

theorem amb_step_first (c : Ctl) (p : Nat × Ev) (h : c.isLive p.1 = true) :
    amb.step ⟨c, none⟩ p = amb.step ⟨c, some p.1⟩ p := by
  simp only [amb.step, amb.isWin, amb.claim, h, if_true, beq_self_eq_true]

/-- amb mirrors exactly the source that signals first (whatever that signal is), terminal included. -/
theorem amb_spec (k : Nat) (H : History) (hwf : WellFormed k H) : amb.run k H = ambSpec H := by
  cases H with
  | nil => rfl
  | cons p H =>
    obtain ⟨i, ev⟩ := p
    have hp := (wf_cons.mp hwf).1
    rw [amb.run, amb.init, runFrom, amb_step_first _ _ (wf_live (c := Ctl.init k) (i := i) hwf)]
    exact amb_won _ i _ _ ⟨rfl, hp, fun _ h => h⟩ rfl hwf

theorem takeUntil_idle (c : Ctl) (H : History) (h : c.live = []) : runFrom takeUntil.step c H = [] :=
  runFrom_idle id (fun _ _ => rfl) c H h

/-- the source's events before the first trigger item -/
def gatePre (H : History) : List Ev := srcEvents 0 (H.takeWhile fun p => !isTrigItem p)

theorem gatePre_cons (p : Nat × Ev) (H : History) :
    gatePre (p :: H) = if isTrigItem p then [] else if p.1 == 0 then p.2 :: gatePre H else gatePre H := by
  rw [gatePre, List.takeWhile_cons]
  cases isTrigItem p
  · exact srcEvents_cons 0 p _
  · rfl

theorem takeUntilSpec_eq (H : History) :
    takeUntilSpec H =
      if (gatePre H).any Ev.isTerminal then gatePre H
      else if H.any isTrigItem then gatePre H ++ [.complete] else gatePre H := rfl

theorem takeUntilSpec_cons (p : Nat × Ev) (H : History) :
    takeUntilSpec (p :: H) =
      if isTrigItem p then [.complete]
      else if p.1 == 0 then (if p.2.isTerminal then p.2 :: gatePre H else p.2 :: takeUntilSpec H)
      else takeUntilSpec H := by
  rw [takeUntilSpec_eq, takeUntilSpec_eq, gatePre_cons, List.any_cons]
  cases isTrigItem p
  · cases p.1 == 0
    · rfl
    · cases h : p.2.isTerminal <;>
        simp only [Bool.false_or, if_true, if_false, List.any_cons, Bool.false_eq_true, h, List.cons_append,
          apply_ite (List.cons p.2), Bool.true_or]
  · rfl

theorem gatePre_eq_nil {H : History} (h : ∀ p ∈ H, p.1 ≠ 0) : gatePre H = [] :=
  srcEvents_eq_nil 0 _ fun p hp => h p (List.takeWhile_subset _ hp)

open Ctl in
theorem takeUntil_from (c : Ctl) (H : History) (hc : c.Gate) (hwf : wfFrom c.live H = true) :
    runFrom takeUntil.step c H = takeUntilSpec H := by
  induction H generalizing c with
  | nil => rfl
  | cons p H ih =>
    obtain ⟨i, ev⟩ := p
    have hwf' := (wf_cons.mp hwf).2
    simp only [runFrom, takeUntil.step, wf_live hwf, if_true, takeUntilSpec_cons, isTrigItem]
    rcases hc.cases hwf with rfl | rfl
    · cases ev with
      | next d => simp [sinkNext_alive hc.alive, ih c hc hwf']
      | _ =>
        simp [sinkError_alive, sinkCompleteForce_alive, hc.alive, takeUntil_idle _ H (hc.sub.kill 0).finalize_live,
          gatePre_eq_nil (wf_term hwf rfl).2.2]
    · cases ev with
      | next d => simp [sinkCompleteForce_alive hc.alive, takeUntil_idle _ H hc.sub.finalize_live]
      | _ => simpa using ih _ hc.kill hwf'

/-- take_until mirrors the source up to the first ITEM of the trigger and completes there; the trigger's
    own error / completion is ignored (`|_, _| {}`, `|_| {}`). -/
theorem take_until_spec (k : Nat) (H : History) (hwf : WellFormed 2 H) :
    takeUntil.run k H = takeUntilSpec H :=
  takeUntil_from _ H .init hwf

theorem concat_idle (s : concat.State) (H : History) (h : s.ctl.live = []) : runFrom concat.step s H = [] :=
  runFrom_idle concat.State.ctl (fun _ _ => rfl) s H h

theorem concatSeen_cons (s : Nat) (p : Nat × Ev) (H : History) :
    concatSeen s (p :: H) =
      if p.1 == s then p :: concatSeen (if p.2 == .complete then s + 1 else s) H else concatSeen s H := rfl

theorem concatSeen_eq_nil (s : Nat) (H : History) (h : ∀ p ∈ H, p.1 < s) : concatSeen s H = [] := by
  induction H with
  | nil => rfl
  | cons p H ih =>
    rw [concatSeen_cons, if_neg (by simpa using Nat.ne_of_lt (h p (List.mem_cons_self ..)))]
    exact ih fun q hq => h q (List.mem_cons_of_mem _ hq)

/-- what the spec says from turn `cur` on -/
def concatSpecFrom (k cur : Nat) (H : History) : List Ev :=
  itemsOf (beforeError (concatSeen cur H)) ++
    match firstError (concatSeen cur H) with
    | some e => [.error e]
    | none => if completedIn (concatSeen cur H) (k - 1) then [.complete] else []

open Ctl in
theorem concat_from (s : concat.State) (cur : Nat) (H : History) (ha : s.ctl.alive = true)
    (hl : s.ctl.live = [cur]) (hn : s.next = cur + 1) (hc : cur < s.k) (hk : ∀ p ∈ H, p.1 < s.k) :
    runFrom concat.step s H = concatSpecFrom s.k cur H := by
  induction H generalizing s cur with
  | nil => rfl
  | cons p H ih =>
    obtain ⟨i, ev⟩ := p
    have hk' : ∀ p ∈ H, p.1 < s.k := fun q hq => hk q (List.mem_cons_of_mem _ hq)
    simp only [runFrom, concat.step, Ctl.isLive, hl, concatSpecFrom, concatSeen_cons]
    by_cases hic : i = cur
    · subst hic
      cases ev with
      | next d =>
        simp [sinkNext_alive ha, ih _ i ha hl hn hc hk', concatSpecFrom, beforeError_cons, itemsOf_cons,
          firstError_cons, completedIn_cons]
      | error e =>
        have hd : ((s.ctl.kill i).finalize).live = [] := by simp [Ctl.finalize, hl]
        simp [sinkError_alive, ha, concat_idle, hd, beforeError_cons, firstError_cons]
      | complete =>
        by_cases hlt : s.next < s.k
        · have : (i == s.k - 1) = false :=
            beq_eq_false_iff_ne.mpr (Nat.ne_of_lt (Nat.lt_sub_of_add_lt (hn ▸ hlt)))
          simp [hlt, ih ⟨(s.ctl.kill i).addObserver s.next, s.next + 1, s.k⟩ (i + 1) ha (by simp [hl, hn])
            (by simp [hn]) (hn ▸ hlt) hk', concatSpecFrom, beforeError_cons, itemsOf_cons, firstError_cons,
            completedIn_cons, this]
        · have : (i == s.k - 1) = true :=
            beq_iff_eq.mpr (Nat.eq_sub_of_add_eq (Nat.le_antisymm hc (Nat.le_of_not_lt (hn ▸ hlt))))
          have hd : ((s.ctl.kill i).finalize).live = [] := by simp [Ctl.finalize, hl]
          have hlast : ∀ q ∈ H, q.1 < i + 1 := fun q hq => by have := hk' q hq; omega
          simp [hlt, sinkCompleteForce_alive, ha, concat_idle, hd, concatSeen_eq_nil (i + 1) H hlast,
            beforeError_cons, itemsOf_cons, firstError_cons, completedIn_cons, this]
    · simpa [hic, concatSpecFrom] using ih s cur ha hl hn hc hk'

/-- concat plays the sources strictly one after another: source `i+1` is subscribed when source `i`
    completes (what it emitted before is lost — hot sources do not replay), an error of the current source
    ends everything, the completion of the last source completes the output.
    Holds for every history over sources `< k`, well-formed or not. -/
theorem concat_spec (k : Nat) (hk : 0 < k) (H : History) (hlt : ∀ p ∈ H, p.1 < k) :
    concat.run k H = concatSpec k H :=
  concat_from (concat.init k) 0 H rfl rfl rfl hk hlt

theorem concat_spec_wf (k : Nat) (hk : 0 < k) (H : History) (hwf : WellFormed k H) :
    concat.run k H = concatSpec k H :=
  concat_spec k hk H (wellFormed_lt k H hwf)

def nonEmptyAll (qs : List (List Data)) : Bool := qs.all fun q => !q.isEmpty
def heads (qs : List (List Data)) : List Data := qs.map fun q => q.headD .unit
def tails (qs : List (List Data)) : List (List Data) := qs.map List.tail

theorem zipRows_of_not (cs : List (List Data)) (h : nonEmptyAll cs = false) : zipRows cs = [] := by
  unfold zipRows
  unfold nonEmptyAll at h
  cases (cs.headD []).length <;> simp [zipRowsAux, h]

theorem zipRows_step (cs : List (List Data)) (hne : cs ≠ []) (h : nonEmptyAll cs = true) :
    zipRows cs = heads cs :: zipRows (tails cs) := by
  unfold nonEmptyAll at h
  match cs, hne with
  | [] :: cs, _ => simp at h
  | (x :: c) :: cs, _ =>
    simp only [zipRows, List.headD_cons, List.length_cons, zipRowsAux, h, if_true, heads, tails,
      List.map_cons, List.tail_cons]

/-- the `get()` loop of zip.rs:49-67 after one push into a state where some queue was empty: at most one
    tuple leaves, and afterwards some queue is empty again -/
theorem nonEmpty_tails_modify (qs : List (List Data)) (i : Nat) (d : Data) (h0 : nonEmptyAll qs = false)
    (h1 : nonEmptyAll (qs.modify i (· ++ [d])) = true) :
    nonEmptyAll (tails (qs.modify i (· ++ [d]))) = false := by
  induction qs generalizing i with
  | nil => simp [nonEmptyAll] at h0
  | cons q qs ih =>
    cases i with
    | zero =>
      simp only [List.modify_zero_cons, nonEmptyAll, List.all_cons, Bool.and_eq_true] at h1
      simp only [nonEmptyAll, List.all_cons, h1.2, Bool.and_true] at h0
      have : q = [] := by simpa using h0
      simp [nonEmptyAll, tails, this]
    | succ j =>
      simp only [List.modify_succ_cons, nonEmptyAll, List.all_cons, Bool.and_eq_true] at h1
      simp only [nonEmptyAll, List.all_cons, h1.1, Bool.true_and] at h0
      have := ih j h0 h1.2
      simp only [nonEmptyAll, tails] at this
      simp [nonEmptyAll, tails, this]

theorem drain_after_push (qs : List (List Data)) (i : Nat) (d : Data) (f : Nat) (h0 : nonEmptyAll qs = false) :
    zip.drain true (f + 1) (qs.modify i (· ++ [d])) =
      if nonEmptyAll (qs.modify i (· ++ [d])) then
        (tails (qs.modify i (· ++ [d])), [tupleEv (heads (qs.modify i (· ++ [d])))])
      else (qs.modify i (· ++ [d]), []) := by
  by_cases h1 : nonEmptyAll (qs.modify i (· ++ [d])) = true
  · have h2 := nonEmpty_tails_modify qs i d h0 h1
    simp only [h1, if_true]
    unfold nonEmptyAll at h1 h2
    unfold tails at h2
    cases f <;> simp [zip.drain, h1, h2, tails, heads, tupleEv]
  · simp only [h1]
    unfold nonEmptyAll at h1
    simp [zip.drain, h1]

/-- queue `j` followed by `f j`, the items still to come from source `j` -/
def pend (qs : List (List Data)) (f : Nat → List Data) : List (List Data) := qs.mapIdx fun j q => q ++ f j

theorem pend_nil (qs : List (List Data)) : pend qs (fun _ => []) = qs := by
  apply List.ext_getElem?; intro j; simp [pend]

theorem pend_push (qs : List (List Data)) (f : Nat → List Data) (i : Nat) (d : Data) :
    pend qs (fun j => (if i == j then [d] else []) ++ f j) = pend (qs.modify i (· ++ [d])) f := by
  apply List.ext_getElem?; intro j
  simp only [pend, List.getElem?_mapIdx, List.getElem?_modify]
  cases qs[j]? <;> by_cases h : i = j <;> simp [h]

theorem pend_nonEmpty (qs : List (List Data)) (f : Nat → List Data) (h : nonEmptyAll qs = true) :
    nonEmptyAll (pend qs f) = true ∧ heads (pend qs f) = heads qs ∧ tails (pend qs f) = pend (tails qs) f := by
  induction qs generalizing f with
  | nil => simp [pend, nonEmptyAll, heads, tails]
  | cons q qs ih =>
    simp only [nonEmptyAll, List.all_cons, Bool.and_eq_true] at h
    obtain ⟨x, q', rfl⟩ := List.exists_cons_of_ne_nil (by simpa using h.1 : q ≠ [])
    obtain ⟨t1, t2, t3⟩ := ih (fun j => f (j + 1)) h.2
    simp only [nonEmptyAll, heads, tails, pend] at t1 t2 t3
    simp only [nonEmptyAll, heads, tails, pend, List.mapIdx_cons, List.all_cons, List.map_cons, t1, t2, t3]
    simp

theorem drain_false_out (f : Nat) (qs : List (List Data)) : (zip.drain false f qs).2 = [] := by
  cases f <;> rw [zip.drain] <;> split <;> rfl

theorem zip_step_dead (s : zip.State) (p : Nat × Ev) (h : s.ctl.alive = false) :
    (zip.step s p).2 = [] ∧ (zip.step s p).1.ctl.alive = false := by
  obtain ⟨i, ev⟩ := p
  rw [zip.step]
  split
  · cases ev with
    | next d => dsimp only; rw [h]; exact ⟨drain_false_out _ _, rfl⟩
    | error e => dsimp only; rw [Ctl.sinkError_dead (c := s.ctl.kill i) h e]; exact ⟨rfl, rfl⟩
    | complete => dsimp only; rw [Ctl.sinkComplete_dead (c := s.ctl.kill i) h i]; exact ⟨rfl, rfl⟩
  · exact ⟨rfl, h⟩

theorem zip_idle (s : zip.State) (H : History) (h : s.ctl.live = []) : runFrom zip.step s H = [] :=
  runFrom_idle zip.State.ctl (fun _ _ => rfl) s H h

open Ctl in
theorem zip_from (s : zip.State) (H : History) (hc : s.ctl.Ok) (hwf : wfFrom s.ctl.live H = true)
    (hE : nonEmptyAll s.queues = false) :
    runFrom zip.step s H =
      (zipRows (pend s.queues fun j => srcItems j (beforeError H))).map tupleEv ++ terminalOf s.ctl.live H := by
  induction H generalizing s with
  | nil => simp [runFrom, terminalOf_nil hc.ne, pend_nil, zipRows_of_not _ hE]
  | cons p H ih =>
    obtain ⟨i, ev⟩ := p
    obtain ⟨c, qs⟩ := s
    simp only at hc hwf hE
    obtain ⟨hi, hwf⟩ := wf_cons.mp hwf
    simp only [runFrom, zip.step, Ctl.isLive, List.contains_iff_mem.mpr hi, if_true]
    cases ev with
    | next d =>
      simp only [hc.alive, drain_after_push qs i d _ hE, beforeError_cons, isError_next, Bool.false_eq_true,
        if_false, srcItems_cons, pend_push, terminalOf_cons_next]
      by_cases h1 : nonEmptyAll (qs.modify i (· ++ [d])) = true
      · obtain ⟨a1, a2, a3⟩ := pend_nonEmpty _ (fun j => srcItems j (beforeError H)) h1
        have hne : pend (qs.modify i (· ++ [d])) (fun j => srcItems j (beforeError H)) ≠ [] := by
          intro h0; have := congrArg List.length h0; revert this hE; cases qs <;> simp [pend, nonEmptyAll]
        rw [zipRows_step _ hne a1, a2, a3]
        simp [h1, ih ⟨c, tails _⟩ hc hwf (nonEmpty_tails_modify qs i d hE h1)]
      · simpa [h1] using ih ⟨c, qs.modify i (· ++ [d])⟩ hc hwf (by simpa using h1)
    | error e =>
      simp [(hc.error i e).1, zip_idle, (hc.error i e).2, beforeError_cons, terminalOf_cons_error, pend_nil,
        zipRows_of_not _ hE]
    | complete =>
      simp only [hc.completion, terminalOf_cons_complete, beforeError_cons, isError_complete, Bool.false_eq_true,
        if_false, srcItems_cons]
      simp only [isTerminal_complete, if_true] at hwf
      split
      · next h =>
        rw [h] at hwf
        simp [zip_idle, wf_nil hwf, h, terminalOf, pend_nil, zipRows_of_not _ hE]
      · next h => simpa using ih ⟨_, qs⟩ (.rest h) hwf hE

theorem pend_replicate (k : Nat) (f : Nat → List Data) : pend (List.replicate k []) f = (List.range k).map f := by
  apply List.ext_getElem?; intro j
  by_cases hj : j < k <;> simp [pend, hj]

/-- zip: the n-th output is the tuple of the n-th items of all sources (see `zipRows_getElem?`), emitted
    when the last of them arrives (the statement holds for every prefix of a history, and `run` only ever
    appends: `runFrom_append`); an error ends the output at once; COMPLETION: only after every source has
    completed — not, as in ReactiveX, as soon as one source completes with all its items paired
    (`zip_completion_late`). -/
theorem zip_spec (k : Nat) (hk : 0 < k) (H : History) (hwf : WellFormed k H) :
    zip.run k H = zipSpec k H := by
  have hE : nonEmptyAll (List.replicate k ([] : List Data)) = false := by
    cases k with
    | zero => omega
    | succ n => simp [nonEmptyAll, List.replicate_succ]
  rw [zip.run, zip_from (zip.init k) H (.init hk) hwf hE, zipSpec, zip.init, pend_replicate]
  rfl

theorem all_pos (cs : List (List Data)) : cs.all (fun c => 0 < c.length) = nonEmptyAll cs :=
  List.all_congr rfl fun c => by cases c <;> rfl

theorem heads_eq (cs : List (List Data)) : heads cs = cs.map fun c => c.getD 0 .unit :=
  List.map_congr_left fun c _ => by cases c <;> rfl

theorem all_lt_tails (cs : List (List Data)) (n : Nat) :
    (tails cs).all (fun c => n < c.length) = cs.all (fun c => n + 1 < c.length) := by
  rw [tails, List.all_map]
  exact List.all_congr rfl fun c => by
    cases c with
    | nil => rfl
    | cons x c => exact decide_eq_decide.mpr Nat.succ_lt_succ_iff.symm

theorem getD_tails (cs : List (List Data)) (n : Nat) :
    ((tails cs).map fun c => c.getD n .unit) = cs.map fun c => c.getD (n + 1) .unit := by
  rw [tails, List.map_map]; exact List.map_congr_left fun c _ => by cases c <;> rfl

theorem all_lt_of_not (cs : List (List Data)) (n : Nat) (h : nonEmptyAll cs = false) :
    cs.all (fun c => n < c.length) = false := by
  obtain ⟨c, hc, h2⟩ := List.all_eq_false.mp h
  cases c with
  | nil => exact List.all_eq_false.mpr ⟨[], hc, by simp⟩
  | cons x c => simp at h2

theorem zipRows_getElem? (cs : List (List Data)) (hne : cs ≠ []) (n : Nat) :
    (zipRows cs)[n]? =
      if cs.all (fun c => n < c.length) then some (cs.map fun c => c.getD n .unit) else none := by
  induction n generalizing cs with
  | zero =>
    cases h : nonEmptyAll cs with
    | false => rw [zipRows_of_not cs h, all_lt_of_not cs 0 h]; rfl
    | true => rw [zipRows_step cs hne h, all_pos, h, heads_eq]; rfl
  | succ n ih =>
    cases h : nonEmptyAll cs with
    | false => rw [zipRows_of_not cs h, all_lt_of_not cs _ h]; rfl
    | true =>
      rw [zipRows_step cs hne h, List.getElem?_cons_succ, ih (tails cs) (by simpa [tails] using hne),
        all_lt_tails, getD_tails]

theorem zipRows_columns (k : Nat) (hk : 0 < k) (X : History) (n : Nat) :
    (zipRows (columns k X))[n]? =
      if (List.range k).all (fun i => n < (srcItems i X).length) then
        some ((List.range k).map fun i => (srcItems i X).getD n .unit)
      else none := by
  rw [zipRows_getElem? _ (by simp [columns]; omega)]
  simp [columns, List.all_map, Function.comp_def]

/-- the n-th output of zip is the tuple of the n-th items of every source (items before the first error) -/
theorem zip_items (k : Nat) (hk : 0 < k) (H : History) (hwf : WellFormed k H) (n : Nat)
    (hn : ∀ i, i < k → n < (srcItems i (beforeError H)).length) :
    (zip.run k H)[n]? =
      some (tupleEv ((List.range k).map fun i => (srcItems i (beforeError H)).getD n .unit)) := by
  have hrow := zipRows_columns k hk (beforeError H) n
  rw [if_pos (by simpa using hn)] at hrow
  have hlt : n < ((zipRows (columns k (beforeError H))).map tupleEv).length := by
    simpa using (List.getElem?_eq_some_iff.mp hrow).1
  rw [zip_spec k hk H hwf, zipSpec, List.getElem?_append_left hlt, List.getElem?_map, hrow]
  rfl

/-- ... and there is no n-th tuple as long as some source has not delivered its n-th item -/
theorem zip_items_none (k : Nat) (hk : 0 < k) (H : History) (hwf : WellFormed k H) (n i : Nat) (hi : i < k)
    (hn : (srcItems i (beforeError H)).length ≤ n) (d : Data) :
    (zip.run k H)[n]? ≠ some (.next d) := by
  have hrow := zipRows_columns k hk (beforeError H) n
  rw [if_neg (by simpa using ⟨i, hi, hn⟩)] at hrow
  have hge : ((zipRows (columns k (beforeError H))).map tupleEv).length ≤ n := by
    simpa using List.getElem?_eq_none_iff.mp hrow
  rw [zip_spec k hk H hwf, zipSpec, List.getElem?_append_right hge]
  intro h
  have hmem := List.mem_of_getElem? h
  simp only [terminalOf] at hmem
  split at hmem
  · simp at hmem
  · split at hmem <;> simp at hmem

/-- "emitted when the last of them arrives": as soon as a prefix `H1` of the history contains the n-th item
    of every source, the n-th tuple has been delivered (and stays delivered, whatever follows); by
    `zip_items_none` it is not delivered before. -/
theorem zip_timing (k : Nat) (hk : 0 < k) (H1 H2 : History) (hwf : WellFormed k (H1 ++ H2)) (n : Nat)
    (hn : ∀ i, i < k → n < (srcItems i (beforeError H1)).length) :
    (zip.run k (H1 ++ H2))[n]? =
      some (tupleEv ((List.range k).map fun i => (srcItems i (beforeError H1)).getD n .unit)) := by
  have h1 := zip_items k hk H1 (wellFormed_prefix k H1 H2 hwf) n hn
  obtain ⟨t, ht⟩ := run_prefix zip.step (zip.init k) H1 H2
  have hlt : n < (zip.run k H1).length := (List.getElem?_eq_some_iff.mp h1).1
  rw [zip.run, ← ht, List.getElem?_append_left (by simpa [zip.run] using hlt)]
  exact h1

/-- ReactiveX zip would complete here (source 0 has completed and its only item is paired); the code does
    not: it waits for every source to complete -/
theorem zip_completion_late :
    ∃ H, WellFormed 2 H ∧ zipRxCompletes 2 H = true ∧ Ev.complete ∉ zip.run 2 H :=
  ⟨[(0, .next (.int 1)), (1, .next (.int 10)), (0, .complete)], by decide +kernel, by decide +kernel,
    by decide +kernel⟩

theorem skipUntil_idle (s : skipUntil.State) (H : History) (h : s.ctl.live = []) :
    runFrom skipUntil.step s H = [] :=
  runFrom_idle skipUntil.State.ctl (fun _ _ => rfl) s H h

/-- once enabled, the source is mirrored -/
theorem skipUntil_enabled (s : skipUntil.State) (R : List Nat) (H : History) (hc : s.ctl.Live 0)
    (he : s.enable = true) (hwf : wfFrom R H = true) :
    runFrom skipUntil.step s H = srcEvents 0 H := by
  induction H generalizing s R with
  | nil => rfl
  | cons p H ih =>
    obtain ⟨i, ev⟩ := p
    have hwf' := (wf_cons.mp hwf).2
    simp only [runFrom, skipUntil.step, srcEvents_cons]
    by_cases hi0 : i = 0
    · subst hi0
      cases ev with
      | next d => simp [hc.isLive, Ctl.sinkNext_alive hc.alive, he, ih ⟨s.ctl, true⟩ R hc rfl hwf']
      | _ =>
        simp [hc.isLive, Ctl.sinkError_alive, Ctl.sinkCompleteForce_alive, hc.alive, skipUntil_idle,
          (hc.sub.kill 0).finalize_live, srcEvents_eq_nil 0 H (wf_term hwf rfl).2.2]
    · have h0i : (0 : Nat) ≠ i := Ne.symm hi0
      simp only [beq_eq_false_iff_ne.mpr hi0, Bool.false_eq_true, if_false]
      split
      · split
        · next h1 =>
          obtain rfl := beq_iff_eq.mp h1
          cases ev with
          | next d => exact ih ⟨_, true⟩ _ (hc.abort h0i) rfl hwf'
          | _ => exact ih ⟨_, s.enable⟩ _ (hc.kill h0i) he hwf'
        · exact ih s _ hc he hwf'
      · exact ih s _ hc he hwf'

/-- the rest of the history from the first trigger item on -/
def gatePost (H : History) : History := H.dropWhile fun p => !isTrigItem p

theorem gatePost_cons (p : Nat × Ev) (H : History) :
    gatePost (p :: H) = if isTrigItem p then p :: H else gatePost H := by
  rw [gatePost, List.dropWhile_cons]
  cases isTrigItem p <;> rfl

theorem skipUntilSpec_eq (H : History) :
    skipUntilSpec H = (gatePre H).filter Ev.isTerminal ++ srcEvents 0 (gatePost H) := rfl

open Ctl in
theorem skipUntil_from (s : skipUntil.State) (H : History) (hc : s.ctl.Gate) (he : s.enable = false)
    (hwf : wfFrom s.ctl.live H = true) :
    runFrom skipUntil.step s H = skipUntilSpec H := by
  induction H generalizing s with
  | nil => rfl
  | cons p H ih =>
    obtain ⟨i, ev⟩ := p
    obtain ⟨c, en⟩ := s
    simp only at hc he hwf
    subst he
    have hwf' := (wf_cons.mp hwf).2
    simp only [runFrom, skipUntil.step, wf_live hwf, if_true, skipUntilSpec_eq, gatePre_cons, gatePost_cons,
      isTrigItem]
    rcases hc.cases hwf with rfl | rfl
    · cases ev with
      | next d => simpa [skipUntilSpec_eq] using ih ⟨c, false⟩ hc rfl hwf'
      | _ =>
        have hno := (wf_term hwf rfl).2.2
        simp [sinkError_alive, sinkCompleteForce_alive, hc.alive, skipUntil_idle, (hc.sub.kill 0).finalize_live,
          gatePre_eq_nil hno, srcEvents_eq_nil 0 (gatePost H) fun p hp => hno p (List.dropWhile_subset _ hp),
          List.filter_cons]
    · cases ev with
      | next d =>
        simpa [srcEvents_cons] using
          skipUntil_enabled ⟨c.abort 1, true⟩ c.live H (hc.toLive.abort (by decide)) rfl hwf'
      | _ => simpa [skipUntilSpec_eq] using ih ⟨c.kill 1, false⟩ hc.kill rfl hwf'

/-- skip_until drops the source's items until the first ITEM of the trigger and mirrors the source from
    then on; a terminal of the source is mirrored in any case; the trigger's terminal is ignored. -/
theorem skip_until_spec (k : Nat) (H : History) (hwf : WellFormed 2 H) :
    skipUntil.run k H = skipUntilSpec H :=
  skipUntil_from skipUntil.init H .init rfl hwf

theorem sample_idle (s : sample.State) (H : History) (h : s.ctl.live = []) : runFrom sample.step s H = [] :=
  runFrom_idle sample.State.ctl (fun _ _ => rfl) s H h

def notSrcTerm (p : Nat × Ev) : Bool := !(p.1 == 0 && p.2.isTerminal)

def lastNext (c : List Data) : Option Ev := c.getLast?.map Ev.next

theorem sampleSpec_eq (H : History) :
    sampleSpec H =
      (sampleChunks [] (H.takeWhile notSrcTerm)).filterMap lastNext ++ (srcEvents 0 H).filter Ev.isTerminal :=
  rfl

theorem sampleChunks_trig (cur : List Data) (d : Data) (T : History) :
    sampleChunks cur ((1, Ev.next d) :: T) = cur :: sampleChunks [] T := rfl

theorem sampleChunks_trig_cons (cur : List Data) (ev : Ev) (T : History) :
    sampleChunks cur ((1, ev) :: T) = if ev.isNext then cur :: sampleChunks [] T else sampleChunks cur T := by
  cases ev <;> rfl

theorem sampleChunks_src_next (cur : List Data) (d : Data) (T : History) :
    sampleChunks cur ((0, Ev.next d) :: T) = sampleChunks (cur ++ [d]) T := rfl

open Ctl in
theorem sample_from (s : sample.State) (cur : List Data) (H : History) (hc : s.ctl.Gate)
    (hv : s.value = cur.getLast?) (hwf : wfFrom s.ctl.live H = true) :
    runFrom sample.step s H =
      (sampleChunks cur (H.takeWhile notSrcTerm)).filterMap lastNext ++
        (srcEvents 0 H).filter Ev.isTerminal := by
  induction H generalizing s cur with
  | nil => rfl
  | cons p H ih =>
    obtain ⟨i, ev⟩ := p
    obtain ⟨c, v⟩ := s
    simp only at hc hv hwf
    subst hv
    have hwf' := (wf_cons.mp hwf).2
    simp only [runFrom, sample.step, wf_live hwf, if_true, List.takeWhile_cons, srcEvents_cons, notSrcTerm]
    rcases hc.cases hwf with rfl | rfl
    · cases ev with
      | next d => simpa [sampleChunks_src_next] using ih ⟨c, some d⟩ (cur ++ [d]) hc (by simp) hwf'
      | _ =>
        simp [sinkError_alive, sinkCompleteForce_alive, hc.alive, sample_idle, (hc.sub.kill 0).finalize_live,
          srcEvents_eq_nil 0 H (wf_term hwf rfl).2.2, sampleChunks, List.filter_cons]
    · cases ev with
      | next d =>
        cases hl : cur.getLast? with
        | none => simpa [sampleChunks_trig, lastNext, hl] using ih ⟨c, none⟩ [] hc rfl hwf'
        | some x => simp [sampleChunks_trig, lastNext, hl, sinkNext_alive hc.alive, ih ⟨c, none⟩ [] hc rfl hwf']
      | _ => simpa [sampleChunks_trig_cons] using ih ⟨c.kill 1, cur.getLast?⟩ cur hc.kill rfl hwf'

/-- sample: at every ITEM of the trigger, the latest source item since the previous trigger item (nothing
    if there is none); the source's terminal is mirrored at once; the trigger's terminal is ignored. -/
theorem sample_spec (k : Nat) (H : History) (hwf : WellFormed 2 H) :
    sample.run k H = sampleSpec H :=
  sample_from sample.init [] H .init rfl hwf

open readySetGo

/-- a stream up to and including its first terminal -/
def cutAtTerminal : List Ev → List Ev
  | [] => []
  | ev :: l => if ev.isTerminal then [ev] else ev :: cutAtTerminal l

theorem hot_act_idle (h : Hot) (action : List Ev) (hi : (h.registered && !h.stopped) = false) :
    h.act action = h := by
  induction action with
  | nil => rfl
  | cons ev l ih => simpa [Hot.act, Hot.emit, hi] using ih

theorem hot_act_live (h : Hot) (action : List Ev) (hr : h.registered = true) (hs : h.stopped = false) :
    (h.act action).got = h.got ++ cutAtTerminal action := by
  induction action generalizing h with
  | nil => simp [Hot.act, cutAtTerminal]
  | cons ev l ih =>
    have he : h.emit ev = { h with got := h.got ++ [ev], stopped := ev.isTerminal } := by
      simp [Hot.emit, hr, hs]
    simp only [Hot.act, List.foldl_cons, cutAtTerminal, he]
    cases ht : ev.isTerminal with
    | true => simpa [Hot.act] using congrArg Hot.got (hot_act_idle ⟨h.registered, true, h.got ++ [ev]⟩ l (by simp))
    | false => simpa [Hot.act] using ih ⟨h.registered, false, h.got ++ [ev]⟩ hr rfl

/-- as written (subscribe, then run the action): the observer receives the action's emissions up to and
    including the first terminal -/
theorem ready_set_go_run (action : List Ev) : readySetGo.run action = cutAtTerminal action := by
  simpa [readySetGo.run, Hot.subscribe] using hot_act_live (Hot.subscribe {}) action rfl rfl

/-- nothing the action emits is missed: every emission that is not preceded by a terminal reaches the
    observer, at its own position -/
theorem ready_set_go_no_loss (action pre post : List Ev) (ev : Ev) (h : action = pre ++ ev :: post)
    (hpre : ∀ x ∈ pre, x.isTerminal = false) :
    (readySetGo.run action)[pre.length]? = some ev := by
  subst h
  rw [ready_set_go_run]
  induction pre with
  | nil => simp only [List.nil_append, cutAtTerminal]; split <;> rfl
  | cons x pre ih =>
    simpa [cutAtTerminal, hpre x (by simp)] using ih fun y hy => hpre y (by simp [hy])

/-- for an action that respects the contract (nothing after a terminal) the observer sees all of it -/
theorem ready_set_go_all (action : List Ev) (h : ∀ x ∈ action.dropLast, x.isTerminal = false) :
    readySetGo.run action = action := by
  rw [ready_set_go_run]
  induction action with
  | nil => rfl
  | cons x l ih =>
    cases l with
    | nil => simp only [cutAtTerminal]; split <;> rfl
    | cons y l =>
      rw [cutAtTerminal, if_neg (by simp [h x (by simp)]), ih fun z hz => h z (by simp [hz])]

/-- the order ready_set_go avoids (run the action, then subscribe) loses everything -/
theorem run_late_loses_all (action : List Ev) : readySetGo.runLate action = [] := by
  simp [readySetGo.runLate, Hot.subscribe, hot_act_idle]

example : readySetGo.run [.next (.int 1), .next (.int 2), .complete] = [.next (.int 1), .next (.int 2), .complete] ∧
    readySetGo.runLate [.next (.int 1), .next (.int 2), .complete] = [] := by decide +kernel

theorem nodup_map_inj {α β : Type} {f : α → β} {l : List α} (h : (l.map f).Nodup) {a b : α}
    (ha : a ∈ l) (hb : b ∈ l) (hab : f a = f b) : a = b := by
  induction l with
  | nil => cases ha
  | cons x l ih =>
    simp only [List.map_cons, List.nodup_cons, List.mem_map, not_exists, not_and] at h
    rcases List.mem_cons.mp ha with rfl | ha' <;> rcases List.mem_cons.mp hb with rfl | hb'
    · rfl
    · exact absurd hab.symm (h.1 b hb')
    · exact absurd hab (h.1 a ha')
    · exact ih h.2 ha' hb'

theorem filter_snd_nil (l : List (Nat × Nat)) (j : Nat) (h : j ∉ l.map Prod.snd) :
    (l.filter (·.2 == j)).map Prod.fst = [] := by
  rw [List.map_eq_nil_iff, List.filter_eq_nil_iff]
  exact fun q hq hqj => h (List.mem_map.mpr ⟨q, hq, by simpa using hqj⟩)

theorem filter_snd_singleton (l : List (Nat × Nat)) (n j : Nat) (h : (l.map Prod.snd).Nodup)
    (hm : (n, j) ∈ l) : (l.filter (·.2 == j)).map Prod.fst = [n] := by
  induction l with
  | nil => cases hm
  | cons x l ih =>
    simp only [List.map_cons, List.nodup_cons] at h
    rcases List.mem_cons.mp hm with rfl | hm'
    · simp [filter_snd_nil l j h.1]
    · have hxj : x.2 ≠ j := fun hx => h.1 (hx ▸ List.mem_map.mpr ⟨(n, j), hm', rfl⟩)
      simp [hxj, ih h.2 hm']

theorem fmSeen_cons (inner : Data → Nat) (S : List Nat) (p : Nat × Ev) (H : History) :
    fmSeen inner S (p :: H) =
      if p.1 == 0 then p :: fmSeen inner (match p.2 with | .next x => S ++ [inner x] | _ => S) H
      else List.replicate (S.count p.1) p ++ fmSeen inner S H := rfl

theorem fmSeen_skip (inner : Data → Nat) (S : List Nat) (p : Nat × Ev) (H : History)
    (h : p.1 ∉ 0 :: S) : fmSeen inner S (p :: H) = fmSeen inner S H := by
  simp only [List.mem_cons, not_or] at h
  simp [fmSeen_cons, h.1, List.count_eq_zero_of_not_mem h.2]

theorem fmSeen_eq_nil (inner : Data → Nat) (S : List Nat) (H : History)
    (h : ∀ p ∈ H, p.1 ∉ 0 :: S) : fmSeen inner S H = [] := by
  induction H with
  | nil => rfl
  | cons p H ih =>
    rw [fmSeen_skip inner S p H (h p (by simp))]
    exact ih fun q hq => h q (by simp [hq])

theorem filter_append_not_mem (L sel : List Nat) (j : Nat) (h : j ∉ sel) :
    (L ++ sel).filter (· != j) = L.filter (· != j) ++ sel := by
  rw [List.filter_append]
  congr 1
  rw [List.filter_eq_self]
  intro a ha
  simpa using fun e : a = j => h (e ▸ ha)

/-! the closures of flat_map.rs on a terminal are the same for the outer and the inner observers -/
theorem deliver_error (inner : Data → Nat) (s : flatMap.State) (n e : Nat) (h : s.ctl.isLive n = true) :
    flatMap.deliver inner s n (.error e) =
      ({ s with ctl := ((s.ctl.kill n).sinkError e).1 }, ((s.ctl.kill n).sinkError e).2) := by
  simp only [flatMap.deliver, h, if_true]
  split
  · next h0 => rw [beq_iff_eq.mp h0]
  · rfl

theorem deliver_complete (inner : Data → Nat) (s : flatMap.State) (n : Nat) (h : s.ctl.isLive n = true) :
    flatMap.deliver inner s n .complete =
      ({ s with ctl := ((s.ctl.kill n).sinkComplete n).1 }, ((s.ctl.kill n).sinkComplete n).2) := by
  simp only [flatMap.deliver, h, if_true]
  split
  · next h0 => rw [beq_iff_eq.mp h0]
  · rfl

theorem broadcast_idle (inner : Data → Nat) (ev : Ev) (s : flatMap.State) (l : List Nat)
    (h : s.ctl.live = []) : flatMap.broadcast inner ev s l = (s, []) := by
  induction l with
  | nil => rfl
  | cons n l ih =>
    have hd : flatMap.deliver inner s n ev = (s, []) := by unfold flatMap.deliver; rw [Ctl.isLive, h]; rfl
    rw [flatMap.broadcast, hd, ih]; rfl

theorem flatMap_idle (inner : Data → Nat) (s : flatMap.State) (H : History) (h : s.ctl.live = []) :
    runFrom (flatMap.step inner) s H = [] :=
  runFrom_silent (·.ctl.live = []) (fun s p h => by
    rw [flatMap.step, broadcast_idle inner p.2 s _ h]; exact ⟨rfl, h⟩) s H h

/-- the relation between a reachable flat_map state and the bookkeeping of the specification:
    `S` = inner sources selected so far, `L` = sources whose observer is still live,
    `R` = sources that have not terminated -/
structure FmInv (s : flatMap.State) (S L R : List Nat) : Prop where
  alive : s.ctl.alive = true
  reg : s.ctl.reg = s.ctl.live
  snds : s.subs.map Prod.snd = 0 :: S
  sndN : (0 :: S).Nodup
  fstN : (s.subs.map Prod.fst).Nodup
  lt : ∀ q : Nat × Nat, q ∈ s.subs → q.1 < s.nextSerial
  h00 : ((0, 0) : Nat × Nat) ∈ s.subs
  A : ∀ q : Nat × Nat, q ∈ s.subs → s.ctl.live.contains q.1 = L.contains q.2
  B : ∀ n : Nat, n ∈ s.ctl.live → n ∈ s.subs.map Prod.fst
  LS : ∀ j : Nat, j ∈ L → j ∈ s.subs.map Prod.snd
  RL : ∀ q : Nat × Nat, q ∈ s.subs → R.contains q.2 = true → L.contains q.2 = true
  ne : s.ctl.live ≠ []

theorem FmInv.mono {s : flatMap.State} {S L R R' : List Nat} (h : FmInv s S L R)
    (hsub : ∀ j ∈ R', j ∈ R) : FmInv s S L R' :=
  { h with RL := fun q hq hr => h.RL q hq (List.contains_iff_mem.mpr (hsub _ (List.contains_iff_mem.mp hr))) }

theorem FmInv.sndN' {s : flatMap.State} {S L R : List Nat} (h : FmInv s S L R) :
    (s.subs.map Prod.snd).Nodup := h.snds ▸ h.sndN

theorem FmInv.ok {s : flatMap.State} {S L R : List Nat} (h : FmInv s S L R) : s.ctl.Ok :=
  ⟨h.alive, h.reg, h.ne⟩

theorem FmInv.L_ne {s : flatMap.State} {S L R : List Nat} (h : FmInv s S L R) : L ≠ [] := by
  obtain ⟨n, hn⟩ := List.exists_mem_of_ne_nil _ h.ne
  obtain ⟨q, hq, rfl⟩ := List.mem_map.mp (h.B n hn)
  intro hL
  simpa [hL, hn] using h.A q hq

/-- the outer source selects a new inner source -/
theorem FmInv.subscribe {s : flatMap.State} {S L R : List Nat} (h : FmInv s S L R) (ix : Nat)
    (hix : ix ∉ 0 :: S) :
    FmInv { ctl := s.ctl.addObserver s.nextSerial, subs := s.subs ++ [(s.nextSerial, ix)],
            nextSerial := s.nextSerial + 1 } (S ++ [ix]) (L ++ [ix]) R := by
  have hfresh : ∀ q : Nat × Nat, q ∈ s.subs → q.1 ≠ s.nextSerial := fun q hq => Nat.ne_of_lt (h.lt q hq)
  have hsndne : ∀ q : Nat × Nat, q ∈ s.subs → q.2 ≠ ix := fun q hq e =>
    hix (by rw [← h.snds, ← e]; exact List.mem_map_of_mem hq)
  have hsplit : ∀ {q : Nat × Nat}, q ∈ s.subs ++ [(s.nextSerial, ix)] →
      q ∈ s.subs ∨ q = (s.nextSerial, ix) :=
    fun hq => (List.mem_append.mp hq).imp id List.mem_singleton.mp
  exact
    { alive := h.alive
      reg := congrArg (· ++ [s.nextSerial]) h.reg
      snds := by rw [List.map_append, h.snds]; rfl
      sndN := by
        rw [← List.cons_append, List.nodup_append]
        exact ⟨h.sndN, by simp, fun a ha b hb e => hix (List.mem_singleton.mp hb ▸ e ▸ ha)⟩
      fstN := by
        rw [List.map_append, List.nodup_append]
        refine ⟨h.fstN, by simp, fun a ha b hb e => ?_⟩
        obtain ⟨q, hq, rfl⟩ := List.mem_map.mp ha
        exact hfresh q hq (e.trans (List.mem_singleton.mp hb))
      lt := fun q hq => by
        rcases hsplit hq with hq | rfl
        · exact Nat.lt_succ_of_lt (h.lt q hq)
        · exact Nat.lt_succ_self _
      h00 := List.mem_append_left _ h.h00
      A := fun q hq => by
        rcases hsplit hq with hq | rfl
        · simpa [hfresh q hq, hsndne q hq] using h.A q hq
        · simp
      B := fun n hn => by
        rw [List.map_append]
        exact (List.mem_append.mp hn).elim (fun hn => List.mem_append_left _ (h.B n hn))
          fun hn => List.mem_append_right _ (by simpa using hn)
      LS := fun j hj => by
        rw [List.map_append]
        exact (List.mem_append.mp hj).elim (fun hj => List.mem_append_left _ (h.LS j hj))
          fun hj => List.mem_append_right _ (by simpa using hj)
      RL := fun q hq hr => by
        rcases hsplit hq with hq | rfl
        · simpa using Or.inl (h.RL q hq hr)
        · simp
      ne := List.append_ne_nil_of_right_ne_nil _ (List.cons_ne_nil _ _) }

/-- observer `n` (on source `j`) completes and others are still registered -/
theorem FmInv.complete {s : flatMap.State} {S L R : List Nat} (h : FmInv s S L R) (n j : Nat)
    (hm : (n, j) ∈ s.subs) (hne : s.ctl.live.filter (· != n) ≠ []) :
    FmInv { s with ctl := ⟨true, s.ctl.reg.filter (· != n), s.ctl.live.filter (· != n)⟩ } S
      (L.filter (· != j)) (R.filter (· != j)) := by
  have hiff : ∀ q : Nat × Nat, q ∈ s.subs → (q.1 = n ↔ q.2 = j) := fun q hq =>
    ⟨fun e => congrArg Prod.snd (nodup_map_inj h.fstN hq hm e),
     fun e => congrArg Prod.fst (nodup_map_inj h.sndN' hq hm e)⟩
  exact
    { alive := rfl
      reg := by simp [h.reg]
      snds := h.snds
      sndN := h.sndN
      fstN := h.fstN
      lt := h.lt
      h00 := h.h00
      A := fun q hq => by
        have := h.A q hq
        rw [Bool.eq_iff_iff] at this ⊢
        simp only [List.contains_iff_mem] at this
        simp [List.mem_filter, this, hiff q hq]
      B := fun m hm' => h.B m (List.mem_filter.mp hm').1
      LS := fun j' hj' => h.LS j' (List.mem_filter.mp hj').1
      RL := fun q hq hr => by
        have hr' : q.2 ∈ R ∧ q.2 ≠ j := by simpa [List.mem_filter] using hr
        simpa [List.mem_filter, hr'.2] using h.RL q hq (by simpa using hr'.1)
      ne := hne }

/-- observer `n` (on source `j`) was the last registered one -/
theorem FmInv.last {s : flatMap.State} {S L R : List Nat} (h : FmInv s S L R) (n j : Nat)
    (hm : (n, j) ∈ s.subs) (hemp : s.ctl.live.filter (· != n) = []) :
    (∀ j' ∈ L, j' = j) ∧ (∀ q : Nat × Nat, q ∈ s.subs → R.contains q.2 = true → q.2 = j) := by
  have key : ∀ q : Nat × Nat, q ∈ s.subs → L.contains q.2 = true → q.2 = j := by
    intro q hq hl
    have hq1 : q.1 ∈ s.ctl.live := by have := h.A q hq; simp_all
    have e : q.1 = n := by simpa using List.filter_eq_nil_iff.mp hemp q.1 hq1
    rw [nodup_map_inj h.fstN hq hm e]
  refine ⟨fun j' hj' => ?_, fun q hq hr => key q hq (h.RL q hq hr)⟩
  obtain ⟨q, hq, rfl⟩ := List.mem_map.mp (h.LS j' hj')
  exact key q hq (by simpa using hj')

/-- the inner sources selected by the outer items of `H` -/
def fmSel (inner : Data → Nat) (H : History) : List Nat := (srcItems 0 H).map inner

theorem fmSel_cons_outer_next (inner : Data → Nat) (x : Data) (H : History) :
    fmSel inner ((0, Ev.next x) :: H) = inner x :: fmSel inner H := by
  simp [fmSel, srcItems_cons]

theorem fmSel_cons_other (inner : Data → Nat) (j : Nat) (ev : Ev) (H : History)
    (h : j ≠ 0 ∨ ev.isNext = false) : fmSel inner ((j, ev) :: H) = fmSel inner H := by
  cases ev <;> simp_all [fmSel, srcItems_cons]

theorem srcItems_fmSeen (inner : Data → Nat) (S : List Nat) (H : History) :
    srcItems 0 (fmSeen inner S H) = srcItems 0 H := by
  induction H generalizing S with
  | nil => rfl
  | cons p H ih =>
    rw [fmSeen_cons]
    by_cases h0 : p.1 = 0
    · simp [h0, srcItems_cons, ih]
    · have : srcItems 0 (List.replicate (S.count p.1) p) = [] :=
        srcItems_eq_nil 0 _ fun q hq => (List.mem_replicate.mp hq).2 ▸ h0
      simp [h0, srcItems_append, srcItems_cons, this, ih]

theorem fmSeen_seen (inner : Data → Nat) (S : List Nat) (j : Nat) (ev : Ev) (H : History)
    (hN : (0 :: S).Nodup) (hj : j ∈ 0 :: S) (hev : j ≠ 0 ∨ ev.isNext = false) :
    fmSeen inner S ((j, ev) :: H) = (j, ev) :: fmSeen inner S H := by
  rw [fmSeen_cons]
  by_cases h0 : j = 0
  · cases ev <;> simp_all
  · have hc : S.count j = 1 := by
      have h1 := List.nodup_iff_count.mp (List.nodup_cons.mp hN).2 j
      have h2 : 0 < S.count j := List.count_pos_iff.mpr (by simpa [h0] using hj)
      omega
    simp [h0, hc]

theorem nodup_move (A sel : List Nat) (x : Nat) (h : (A ++ x :: sel).Nodup) :
    x ∉ A ∧ ((A ++ [x]) ++ sel).Nodup :=
  ⟨fun hx => (List.nodup_append.mp h).2.2 x hx x (by simp) rfl, by simpa using h⟩

theorem nodup_disjoint (A sel : List Nat) (x : Nat) (h : (A ++ sel).Nodup) (hx : x ∈ A) : x ∉ sel :=
  fun hs => (List.nodup_append.mp h).2.2 x hx x hs rfl

open Ctl in
theorem flatMap_from (inner : Data → Nat) (s : flatMap.State) (S L R : List Nat) (H : History)
    (h : FmInv s S L R) (hsel : (0 :: S ++ fmSel inner H).Nodup) (hwf : wfFrom R H = true) :
    runFrom (flatMap.step inner) s H =
      itemsOf ((beforeError (fmSeen inner S H)).filter (·.1 != 0)) ++
        terminalOf (L ++ fmSel inner (fmSeen inner S H)) (fmSeen inner S H) := by
  induction H generalizing s S L R with
  | nil => simp [runFrom, fmSeen, fmSel, terminalOf_nil h.L_ne]
  | cons p H ih =>
    obtain ⟨j, ev⟩ := p
    obtain ⟨hj, hwf'⟩ := wf_cons.mp hwf
    by_cases hmem : j ∈ 0 :: S
    ·
      obtain ⟨n, hq⟩ : ∃ n, (n, j) ∈ s.subs := by simpa [← h.snds] using hmem
      have hlive : s.ctl.isLive n = true := by
        rw [Ctl.isLive, h.A _ hq]; exact h.RL _ hq (by simpa using hj)
      rw [runFrom, flatMap.step, filter_snd_singleton s.subs n j h.sndN' hq]
      simp only [flatMap.broadcast, List.append_nil]
      cases ev with
      | next d =>
        by_cases h0 : j = 0
        · subst h0
          obtain rfl : n = 0 := congrArg Prod.fst (nodup_map_inj h.sndN' hq h.h00 rfl)
          rw [fmSel_cons_outer_next] at hsel
          obtain ⟨hix, hsel'⟩ := nodup_move (0 :: S) _ _ hsel
          simp [flatMap.deliver, hlive, fmSeen_cons, ih _ _ _ _ (h.subscribe _ hix) hsel' hwf', beforeError_cons,
            fmSel_cons_outer_next, terminalOf_cons_next]
        · have hn : n ≠ 0 := fun hn => h0 (congrArg Prod.snd (nodup_map_inj h.fstN hq h.h00 hn))
          rw [fmSel_cons_other inner j _ H (.inl h0)] at hsel
          simp [flatMap.deliver, hlive, hn, h0, sinkNext_alive h.alive, fmSeen_seen inner S j _ H h.sndN hmem (.inl h0),
            ih _ _ _ _ h hsel hwf', beforeError_cons, itemsOf_cons, fmSel_cons_other inner j _ _ (.inl h0),
            terminalOf_cons_next]
      | error e =>
        simp [deliver_error inner s n e hlive, (h.ok.error n e).1, flatMap_idle, (h.ok.error n e).2,
          fmSeen_seen inner S j (.error e) H h.sndN hmem (.inr rfl), beforeError_cons, terminalOf_cons_error]
      | complete =>
        rw [fmSel_cons_other inner j .complete H (.inr rfl)] at hsel
        have hjsel : j ∉ fmSel inner (fmSeen inner S H) := by
          rw [fmSel, srcItems_fmSeen]; exact nodup_disjoint (0 :: S) _ j hsel hmem
        rw [deliver_complete inner s n hlive, fmSeen_seen inner S j .complete H h.sndN hmem (.inr rfl)]
        simp only [h.ok.completion, isTerminal_complete, if_true] at hwf' ⊢
        split
        · next hemp =>
          obtain ⟨hL1, hR1⟩ := h.last n j hq hemp
          have hnil : fmSeen inner S H = [] := by
            apply fmSeen_eq_nil
            intro p hp hpS
            obtain ⟨q, hq', e⟩ := List.mem_map.mp (h.snds ▸ hpS)
            have hpR := List.mem_filter.mp (wf_mem hwf' p hp)
            have hne : p.1 ≠ j := by simpa using hpR.2
            exact hne (e ▸ hR1 q hq' (by simpa [e] using hpR.1))
          have hall : L.all (completedIn [(j, Ev.complete)]) = true :=
            List.all_eq_true.mpr fun x hx => by simp [hL1 x hx, completedIn]
          simp [flatMap_idle, hnil, beforeError_cons, List.filter_cons, fmSel, srcItems, terminalOf, firstError_cons,
            hall]
          split <;> simp [itemsOf_cons]
        · next hemp =>
          have := ih _ _ _ _ (h.complete n j hq hemp) hsel hwf'
          rw [h.reg] at this
          simp [this, fmSel_cons_other inner j .complete _ (.inr rfl),
            terminalOf_cons_complete, filter_append_not_mem _ _ _ hjsel, beforeError_cons, List.filter_cons]
          split <;> simp [itemsOf_cons]
    · -- nobody listens to this source
      rw [runFrom, flatMap.step, filter_snd_nil s.subs j (h.snds ▸ hmem), fmSeen_skip inner S (j, ev) H hmem]
      rw [fmSel_cons_other inner j ev H (.inl fun e => hmem (by simp [e]))] at hsel
      exact ih _ _ _ _ (h.mono fun _ => after_subset) hsel hwf'

theorem fmInv_init (k : Nat) : FmInv flatMap.init [] [0] (List.range k) where
  alive := rfl
  reg := rfl
  snds := rfl
  sndN := by simp
  fstN := by simp [flatMap.init]
  lt := by simp [flatMap.init]
  h00 := by simp [flatMap.init]
  A := by simp [flatMap.init, Ctl.init]
  B := by simp [flatMap.init, Ctl.init]
  LS := by simp [flatMap.init]
  RL := by simp [flatMap.init]
  ne := by simp [flatMap.init, Ctl.init]

/-- flat_map over hot sources: every item of every selected inner source, in arrival order, from the
    moment the outer item that selects it has arrived; the first error of the outer source or of a selected
    inner source ends the output; `complete` exactly when the outer source and every selected inner source
    have completed.  Hypothesis: the outer items select pairwise distinct inner sources, none of them the
    outer source itself (a source selected twice is subscribed twice and delivers every item twice). -/
theorem flat_map_spec (inner : Data → Nat) (k : Nat) (H : History) (hwf : WellFormed k H)
    (hsel : (0 :: fmSel inner H).Nodup) :
    flatMap.run k H inner = flatMapSpec inner H :=
  flatMap_from inner flatMap.init [] [0] (List.range k) H (fmInv_init k) (by simpa using hsel) hwf

/-! ### sequence_equal: the closures of `sequenceEqualCode` over zip -/

theorem zip_step_shape (s : zip.State) (p : Nat × Ev) (ha : s.ctl.alive = true) :
    (zip.step s p).1.ctl.alive = true ∨ ∃ t, t.isTerminal = true ∧ (zip.step s p).2 = [t] := by
  obtain ⟨i, ev⟩ := p
  simp only [zip.step]
  split
  · cases ev with
    | next d => exact .inl ha
    | error e => exact .inr ⟨.error e, rfl, by simp [Ctl.sinkError_alive, ha]⟩
    | complete =>
      simp only [Ctl.sinkComplete_alive (c := s.ctl.kill i) ha]
      split
      · exact .inr ⟨.complete, rfl, rfl⟩
      · exact .inl ha
  · exact .inl ha

/-- the outer observer is gone and so is zip's controller -/
def Over.Dead (s : Over) : Prop := s.o.isLive 0 = false ∧ s.z.ctl.alive = false

/-- the outer controller untouched, zip's alive -/
def Over.Ok (s : Over) : Prop := s.o = Ctl.init 1 ∧ s.z.ctl.alive = true

theorem sync_dead (z : zip.State) (o : Ctl) (ho : o.isLive 0 = false) : (Over.sync z o).Dead := by
  simp [Over.sync, Over.Dead, ho]

theorem sync_ok (z : zip.State) : Over.sync z (Ctl.init 1) = ⟨z, Ctl.init 1⟩ := by
  simp [Over.sync, show (Ctl.init 1).isLive 0 = true from rfl]

/-- what the closures of sequence_equal.rs make of zip's output -/
def seqPost : List Ev → List Ev
  | [] => []
  | .next v :: r => if sequenceEqualCode.allSame v.toList then seqPost r else [.next (.bool false), .complete]
  | .error e :: _ => [.error e]
  | .complete :: _ => [.next (.bool true), .complete]

theorem seqPost_append (A B : List Ev) : seqPost (A ++ B) = if seqPost A = [] then seqPost B else seqPost A := by
  induction A with
  | nil => rfl
  | cons a A ih =>
    cases a with
    | next v => simp only [List.cons_append, seqPost]; split <;> simp [ih]
    | _ => simp [seqPost]

theorem se_feed_dead (o : Ctl) (evs : List Ev) (ho : o.isLive 0 = false) :
    sequenceEqualCode.feed o evs = (o, []) := by
  induction evs with
  | nil => rfl
  | cons ev evs ih => simp only [sequenceEqualCode.feed, ho, Bool.false_eq_true, if_false, ih]

theorem se_feed (evs : List Ev) :
    (sequenceEqualCode.feed (Ctl.init 1) evs).2 = seqPost evs ∧
      if seqPost evs = [] then (sequenceEqualCode.feed (Ctl.init 1) evs).1 = Ctl.init 1
      else (sequenceEqualCode.feed (Ctl.init 1) evs).1.isLive 0 = false := by
  induction evs with
  | nil => exact ⟨rfl, rfl⟩
  | cons ev evs ih =>
    have hl : (Ctl.init 1).isLive 0 = true := rfl
    cases ev <;> simp only [sequenceEqualCode.feed, hl, if_true, seqPost]
    case next v =>
      split
      · exact ih
      · rw [se_feed_dead _ _ rfl]; exact ⟨rfl, rfl⟩
    all_goals rw [se_feed_dead _ _ rfl]; exact ⟨rfl, rfl⟩

theorem se_dead (s : Over) (H : History) (h : s.Dead) : runFrom sequenceEqualCode.step s H = [] :=
  runFrom_silent Over.Dead (fun s p h => by
    simp only [sequenceEqualCode.step, (zip_step_dead s.z p h.2).1, sequenceEqualCode.feed]
    exact ⟨trivial, sync_dead _ _ h.1⟩) s H h

theorem se_ok (s : Over) (H : History) (h : s.Ok) :
    runFrom sequenceEqualCode.step s H = seqPost (runFrom zip.step s.z H) := by
  induction H generalizing s with
  | nil => rfl
  | cons p H ih =>
    obtain ⟨z, o⟩ := s
    obtain ⟨rfl, hz⟩ := h
    obtain ⟨h1, h2⟩ := se_feed (zip.step z p).2
    simp only [runFrom, sequenceEqualCode.step, h1, seqPost_append]
    split at h2
    · next hs =>
      have ha : (zip.step z p).1.ctl.alive = true := by
        rcases zip_step_shape z p hz with ha | ⟨t, ht, e⟩
        · exact ha
        · rw [e] at hs; cases t <;> simp_all [seqPost]
      rw [hs, h2, sync_ok, if_pos rfl, List.nil_append]
      exact ih ⟨_, Ctl.init 1⟩ ⟨rfl, ha⟩
    · next hs => simp [hs, se_dead _ H (sync_dead _ _ h2)]

/-- `sequenceEqualCode` is zip followed by: `false, complete` at the first tuple whose components
    are not all equal, `true, complete` when zip completes, zip's error passed on -/
theorem sequence_equal_code_eq (k : Nat) (H : History) :
    sequenceEqualCode.run k H = seqPost (zip.run k H) :=
  se_ok (Over.init k) H ⟨rfl, rfl⟩

theorem seqPost_rows_then (rows : List (List Data)) (t : List Ev) :
    seqPost (rows.map tupleEv ++ t) =
      if rows.all rowSame then seqPost t else [.next (.bool false), .complete] := by
  induction rows with
  | nil => rfl
  | cons r rows ih =>
    have hrs : rowSame r = sequenceEqualCode.allSame r := rfl
    simp only [List.map_cons, List.cons_append, tupleEv, seqPost, Data.toList_ofList, List.all_cons, hrs]
    cases sequenceEqualCode.allSame r with
    | true => simpa using ih
    | false => simp

theorem seqPost_rows (rows : List (List Data)) :
    seqPost (rows.map tupleEv ++ [.complete]) =
      [.next (.bool (rows.all sequenceEqualCode.allSame)), .complete] := by
  rw [seqPost_rows_then]
  show (if rows.all sequenceEqualCode.allSame = true then _ else _) = _
  cases rows.all sequenceEqualCode.allSame <;> rfl

theorem nonEmptyAll_columns (k : Nat) (X : History) :
    nonEmptyAll (columns k X) = true ↔ ∀ i, i < k → srcItems i X ≠ [] := by
  simp [nonEmptyAll, columns]

theorem clItems_cons (k : Nat) (pre : History) (p : Nat × Ev) (H : History) :
    clItems k pre (p :: H) =
      (if p.2.isNext then ((latestRow k (pre ++ [p])).map tupleEv).toList else []) ++
        clItems k (pre ++ [p]) H := rfl

theorem latestRow_eq (k : Nat) (X : History) :
    latestRow k X = if nonEmptyAll (columns k X) then some ((columns k X).map fun c => c.getLastD .unit)
      else none := rfl

def mapEv (f : List Data → Data) : Ev → Ev
  | .next v => .next (f v.toList)
  | ev => ev

theorem mapEv_tupleEv (f : List Data → Data) (row : List Data) : mapEv f (tupleEv row) = .next (f row) :=
  congrArg (fun l => Ev.next (f l)) (Data.toList_ofList row)

theorem map_mapEv_terminalOf (f : List Data → Data) (R : List Nat) (H : History) :
    (terminalOf R H).map (mapEv f) = terminalOf R H := by
  simp only [terminalOf]
  split
  · rfl
  · split <;> rfl

theorem map_mapEv_zipSpec (k : Nat) (H : History) :
    (zipSpec k H).map (mapEv Data.ofList) = zipSpec k H := by
  rw [zipSpec, List.map_append, map_mapEv_terminalOf, List.map_map]
  exact congrArg (· ++ _) (List.map_congr_left fun r _ => mapEv_tupleEv _ r)

/-- the `latest` cell after the events `pre` -/
def latestOf (k : Nat) (pre : History) : List (Option Data) :=
  (List.range k).map fun j => (srcItems j pre).getLast?

theorem latestOf_next (k : Nat) (pre : History) (i : Nat) (d : Data) :
    (latestOf k pre).set i (some d) = latestOf k (pre ++ [(i, .next d)]) := by
  apply List.ext_getElem?
  intro j
  rw [latestOf, latestOf, List.getElem?_set, List.getElem?_map, List.getElem?_map, List.length_map, List.length_range]
  by_cases hj : j < k
  · rw [List.getElem?_range hj]
    by_cases e : i = j
    · subst e; simp [hj, srcItems_append, srcItems_cons]
    · simp [e, srcItems_append, srcItems_cons]
  · rw [List.getElem?_eq_none (by simpa using hj)]
    by_cases e : i = j <;> simp [e, hj]

theorem latestOf_other (k : Nat) (pre : History) (i : Nat) (ev : Ev) (h : ev.isNext = false) :
    latestOf k (pre ++ [(i, ev)]) = latestOf k pre := by
  cases ev <;> simp_all [latestOf, srcItems_append, srcItems_cons]

theorem latestOf_all (k : Nat) (X : History) :
    (latestOf k X).all Option.isSome = (columns k X).all (fun c => !c.isEmpty) := by
  simp only [latestOf, columns, List.all_map]
  exact List.all_congr rfl fun j => by simp only [Function.comp]; cases srcItems j X <;> simp

theorem latestOf_vals (k : Nat) (X : History) :
    (latestOf k X).map (fun x => x.getD .unit) = (columns k X).map fun c => c.getLastD .unit := by
  simp only [latestOf, columns, List.map_map]
  exact List.map_congr_left fun j _ => by
    simp only [Function.comp]; cases srcItems j X <;> simp [List.getLast?_eq_some_getLast, List.getLastD_eq_getLast?]

theorem cl_idle (f : List Data → Data) (s : combineLatest.State) (H : History) (h : s.ctl.live = []) :
    runFrom (combineLatest.step f) s H = [] :=
  runFrom_idle combineLatest.State.ctl (fun _ _ => rfl) s H h

open Ctl in
/-- `g` = what `combine_f` makes of a tuple of the characterisation: `id` for the default `Data.ofList`, `mapEv f` in general -/
theorem cl_from (f : List Data → Data) (g : Ev → Ev) (hg : ∀ row, g (tupleEv row) = .next (f row)) (k : Nat)
    (s : combineLatest.State) (pre H : History) (hc : s.ctl.Ok) (hwf : wfFrom s.ctl.live H = true)
    (hl : s.latest = latestOf k pre) :
    runFrom (combineLatest.step f) s H = (clItems k pre (beforeError H)).map g ++ terminalOf s.ctl.live H := by
  induction H generalizing s pre with
  | nil => simp [runFrom, clItems, terminalOf_nil hc.ne]
  | cons p H ih =>
    obtain ⟨i, ev⟩ := p
    obtain ⟨c, l⟩ := s
    simp only at hc hwf hl
    subst hl
    obtain ⟨hi, hwf⟩ := wf_cons.mp hwf
    simp only [runFrom, combineLatest.step, Ctl.isLive, List.contains_iff_mem.mpr hi, if_true, beforeError_cons]
    cases ev with
    | next d =>
      simp only [latestOf_next, latestOf_all, latestOf_vals, isError_next, Bool.false_eq_true, if_false,
        clItems_cons, isNext_next, if_true, latestRow, terminalOf_cons_next]
      have := ih ⟨c, latestOf k (pre ++ [(i, .next d)])⟩ _ hc (by simpa using hwf) rfl
      split <;> simp [sinkNext_alive hc.alive, hg, this]
    | error e => simp [(hc.error i e).1, cl_idle, (hc.error i e).2, terminalOf_cons_error, clItems]
    | complete =>
      simp only [hc.completion, terminalOf_cons_complete, isError_complete, Bool.false_eq_true, if_false,
        clItems_cons, isNext_complete, List.nil_append]
      simp only [isTerminal_complete, if_true] at hwf
      split
      · next h => rw [h] at hwf; simp [cl_idle, wf_nil hwf, h, clItems, terminalOf]
      · next h => exact ih ⟨_, _⟩ _ (.rest h) hwf (latestOf_other k pre i .complete rfl).symm

theorem latestOf_nil (k : Nat) : List.replicate k none = latestOf k [] := by
  apply List.ext_getElem?; intro j; by_cases hj : j < k <;> simp [latestOf, hj]

/-- whatever `combine_f` is, it is applied to the tuples of the characterisation -/
theorem combine_latest_spec_of (f : List Data → Data) (k : Nat) (hk : 0 < k) (H : History) (hwf : WellFormed k H) :
    combineLatest.run k H f = (combineLatestSpec k H).map (mapEv f) := by
  rw [combineLatestSpec, List.map_append, map_mapEv_terminalOf]
  exact cl_from f _ (mapEv_tupleEv f) k (combineLatest.init k) [] H (.init hk) hwf (latestOf_nil k)

/-- **combine_latest**: for every well-formed history over `k ≥ 1` hot sources the code is
    the ReactiveX operator — on each item, once every source has emitted, the tuple of the latest item of every
    source (a completed source keeps its latest value); the first error ends the output at once; it completes when
    the last source completes. -/
theorem combine_latest_spec (k : Nat) (hk : 0 < k) (H : History) (hwf : WellFormed k H) :
    combineLatest.run k H = combineLatestSpec k H :=
  (cl_from Data.ofList id (fun _ => rfl) k (combineLatest.init k) [] H (.init hk) hwf (latestOf_nil k)).trans
    (by rw [List.map_id]; rfl)

/-! ### sequence_equal: the sequences are zipped together with their end markers -/

theorem all_and' {α : Type} (l : List α) (p q : α → Bool) :
    l.all (fun x => p x && q x) = (l.all p && l.all q) := by
  induction l with
  | nil => rfl
  | cons a l ih => simp only [List.all_cons, ih]; cases p a <;> cases q a <;> simp

/-- for columns of equal length: every row is constant iff all columns are equal -/
theorem rows_allSame (N : Nat) (cols : List (List Data)) (hne : cols ≠ [])
    (hlen : ∀ c ∈ cols, c.length = N) :
    (zipRows cols).all sequenceEqualCode.allSame = cols.all (· == cols.headD []) := by
  induction N generalizing cols with
  | zero =>
    have hnil : ∀ c ∈ cols, c = [] := fun c hc => List.eq_nil_of_length_eq_zero (hlen c hc)
    obtain ⟨c0, cols, rfl⟩ := List.exists_cons_of_ne_nil hne
    obtain rfl := hnil c0 (by simp)
    rw [zipRows_of_not _ (by simp [nonEmptyAll])]
    exact (List.all_eq_true.mpr fun c hc => by rw [hnil c hc]; rfl).symm
  | succ N ih =>
    have hcons : ∀ c ∈ cols, ∃ x t, c = x :: t ∧ t.length = N := fun c hc => by
      cases c with
      | nil => simpa using hlen _ hc
      | cons x t => exact ⟨x, t, rfl, by simpa using hlen _ hc⟩
    have hall : nonEmptyAll cols = true := List.all_eq_true.mpr fun c hc => by
      obtain ⟨x, t, rfl, _⟩ := hcons c hc; rfl
    rw [zipRows_step cols hne hall, List.all_cons, ih (tails cols) (by simpa [tails] using hne) (by
      intro t ht
      obtain ⟨c, hc, rfl⟩ := List.mem_map.mp ht
      obtain ⟨x, t, rfl, h⟩ := hcons c hc
      exact h)]
    obtain ⟨c0, cols', rfl⟩ := List.exists_cons_of_ne_nil hne
    obtain ⟨x0, t0, rfl, _⟩ := hcons c0 (by simp)
    have e1 : ((x0 :: t0) :: cols').all (· == ((x0 :: t0) :: cols').headD []) =
        ((x0 :: t0) :: cols').all (fun c => (c.headD .unit == x0) && (c.tail == t0)) := by
      rw [Bool.eq_iff_iff, List.all_eq_true, List.all_eq_true]
      refine forall_congr' fun c => forall_congr' fun hc => ?_
      obtain ⟨x, t, rfl, _⟩ := hcons c hc
      simp
    rw [e1, all_and']
    simp only [sequenceEqualCode.allSame, heads, tails, List.map_cons, List.headD_cons, List.all_map,
      List.tail_cons, List.all_cons, Function.comp_def]

def allItemsEqual (k : Nat) (H : History) : Bool := (List.range k).all fun i => srcItems i H == srcItems 0 H

theorem zip_common_prefix (A A' B B' : List Data) (h : A ++ A' = B ++ B') :
    ∀ xy ∈ A.zip B, xy.1 = xy.2 := by
  induction A generalizing B with
  | nil => simp
  | cons x A ih =>
    cases B with
    | nil => simp
    | cons y B =>
      simp only [List.cons_append, List.cons.injEq] at h
      intro xy hxy
      rcases List.mem_cons.mp hxy with rfl | hxy
      · exact h.1
      · exact ih B h.2 xy hxy

theorem zip_any_ne (a b : List Data) (hl : a.length = b.length) (hne : a ≠ b) :
    (a.zip b).any (fun xy => xy.1 != xy.2) = true := by
  induction a generalizing b with
  | nil =>
    cases b with
    | nil => exact absurd rfl hne
    | cons y b => exact nomatch hl
  | cons x a ih =>
    cases b with
    | nil => exact nomatch hl
    | cons y b =>
      rw [List.zip_cons_cons, List.any_cons, Bool.or_eq_true]
      by_cases hxy : x = y
      · exact .inr (ih b (Nat.succ.inj hl) fun e => hne (hxy ▸ e ▸ rfl))
      · exact .inl (bne_iff_ne.mpr hxy)

section SeqEq
open sequenceEqual (withEnd endSome endNone)

/-- the machine = the closures of `sequenceEqualCode` over zip, run on the history as zip's observers see it -/
theorem se_run_withEnd (s : Over) (H : History) :
    runFrom sequenceEqual.step s H = runFrom sequenceEqualCode.step s (withEnd H) := by
  induction H generalizing s with
  | nil => rfl
  | cons p H ih =>
    obtain ⟨i, ev⟩ := p
    cases ev <;> simp only [runFrom, withEnd, sequenceEqual.step, ih, List.append_assoc]

theorem sequence_equal_run_eq (k : Nat) (H : History) :
    sequenceEqual.run k H = sequenceEqualCode.run k (withEnd H) := se_run_withEnd _ H

theorem withEnd_wf (R : List Nat) (H : History) (h : wfFrom R H = true) : wfFrom R (withEnd H) = true := by
  induction H generalizing R with
  | nil => rfl
  | cons p H ih =>
    obtain ⟨i, ev⟩ := p
    obtain ⟨hi, h⟩ := wf_cons.mp h
    cases ev <;> simpa [withEnd, wf_cons, hi] using ih _ h

theorem beforeError_withEnd (H : History) : beforeError (withEnd H) = withEnd (beforeError H) := by
  induction H with
  | nil => rfl
  | cons p H ih =>
    obtain ⟨i, ev⟩ := p
    cases ev <;> simp [withEnd, beforeError_cons, ih]

theorem firstError_withEnd (H : History) : firstError (withEnd H) = firstError H := by
  induction H with
  | nil => rfl
  | cons p H ih =>
    obtain ⟨i, ev⟩ := p
    cases ev <;> simp [withEnd, firstError_cons, ih]

theorem completedIn_withEnd (H : History) (j : Nat) : completedIn (withEnd H) j = completedIn H j := by
  induction H with
  | nil => rfl
  | cons p H ih =>
    obtain ⟨i, ev⟩ := p
    cases ev <;> simp [withEnd, completedIn_cons, ih, next_beq_complete]

theorem terminalOf_withEnd (R : List Nat) (H : History) : terminalOf R (withEnd H) = terminalOf R H := by
  simp only [terminalOf, firstError_withEnd, funext (completedIn_withEnd H)]

theorem completedIn_absent (H : History) (j : Nat) (h : ∀ p ∈ H, p.1 ≠ j) : completedIn H j = false := by
  simp only [completedIn, List.any_eq_false, Bool.and_eq_true, beq_iff_eq, not_and]
  exact fun p hp q => absurd q (h p hp)

theorem endColumn_absent (H : History) (j : Nat) (h : ∀ p ∈ H, p.1 ≠ j) : endColumn j H = [] := by
  simp [endColumn, srcItems_eq_nil j H h, completedIn_absent H j h]

/-- what zip's observer `j` receives as items: the items of source `j`, then its end marker -/
theorem srcItems_withEnd (R : List Nat) (H : History) (j : Nat) (h : wfFrom R H = true) :
    srcItems j (withEnd H) = endColumn j H := by
  induction H generalizing R with
  | nil => rfl
  | cons p H ih =>
    obtain ⟨i, ev⟩ := p
    have ih' := ih _ (wf_cons.mp h).2
    by_cases hij : i = j
    · subst hij
      cases ev with
      | complete =>
        -- the end marker comes last: the source is silent afterwards
        have hab := (wf_term h rfl).2.2
        rw [endColumn_absent H i hab] at ih'
        simp [withEnd, srcItems_cons, ih', endColumn, srcItems_eq_nil i H hab, completedIn_cons, endNone]
      | _ => simp [withEnd, srcItems_cons, ih', endColumn, completedIn_cons, next_beq_complete, endSome]
    · cases ev <;> simp [withEnd, srcItems_cons, hij, ih', endColumn, completedIn_cons]

theorem columns_withEnd (k : Nat) (H : History) (h : WellFormed k H) :
    columns k (withEnd H) = endColumns k H :=
  List.map_congr_left fun j _ => srcItems_withEnd _ H j h

theorem wellFormed_beforeError (k : Nat) (H : History) (h : WellFormed k H) : WellFormed k (beforeError H) :=
  wellFormed_prefix k _ (H.dropWhile fun p => !p.2.isError) (by
    rwa [beforeError, List.takeWhile_append_dropWhile])

/-- **sequence_equal**: for every well-formed history over `k ≥ 1` hot sources the code is
    the ReactiveX operator — `false, complete` at the first position, reached by every source, at which two
    sequences (ends included) differ; the first error if it arrives before that; `true, complete` when all sources
    have completed with equal sequences. -/
theorem sequence_equal_spec (k : Nat) (hk : 0 < k) (H : History) (hwf : WellFormed k H) :
    sequenceEqual.run k H = sequenceEqualSpec k H := by
  rw [sequence_equal_run_eq, sequence_equal_code_eq, zip_spec k hk _ (withEnd_wf _ H hwf), zipSpec,
    beforeError_withEnd, columns_withEnd k _ (wellFormed_beforeError k H hwf), terminalOf_withEnd,
    seqPost_rows_then, sequenceEqualSpec]
  congr 1
  simp only [terminalOf, allCompleted]
  cases firstError H with
  | some e => rfl
  | none => by_cases hc : (List.range k).all (completedIn H) = true <;> simp [hc, seqPost]

end SeqEq

section Examples
private def n (i : Int) : Ev := .next (.int i)

example : WellFormed 2 [(0, n 1), (1, n 2), (0, .complete), (1, n 3), (1, .complete)] ∧
    merge.run 2 [(0, n 1), (1, n 2), (0, .complete), (1, n 3), (1, .complete)] = [n 1, n 2, n 3, .complete] := by
  decide +kernel
example : WellFormed 2 [(0, n 1), (1, .error 7), (0, n 2)] ∧
    merge.run 2 [(0, n 1), (1, .error 7), (0, n 2)] = [n 1, .error 7] := by decide +kernel
example : WellFormed 3 [(1, n 1), (0, n 2), (1, n 3), (2, .complete), (1, .complete), (0, n 5)] ∧
    amb.run 3 [(1, n 1), (0, n 2), (1, n 3), (2, .complete), (1, .complete), (0, n 5)] = [n 1, n 3, .complete] := by
  decide +kernel
example : WellFormed 2 [(0, n 1), (1, .complete), (0, n 2)] ∧
    takeUntil.run 2 [(0, n 1), (1, .complete), (0, n 2)] = [n 1, n 2] := by decide +kernel
example : WellFormed 2 [(0, n 1), (0, n 2), (1, n 9), (0, n 3)] ∧
    takeUntil.run 2 [(0, n 1), (0, n 2), (1, n 9), (0, n 3)] = [n 1, n 2, .complete] := by decide +kernel
example : WellFormed 2 [(1, n 5), (0, n 1), (0, .complete), (1, n 2), (1, .complete)] ∧
    concat.run 2 [(1, n 5), (0, n 1), (0, .complete), (1, n 2), (1, .complete)] = [n 1, n 2, .complete] := by
  decide +kernel
example : WellFormed 2 [(0, n 1), (0, n 2), (1, n 10), (0, .complete), (1, n 20), (1, .complete)] ∧
    zip.run 2 [(0, n 1), (0, n 2), (1, n 10), (0, .complete), (1, n 20), (1, .complete)] =
      [tupleEv [.int 1, .int 10], tupleEv [.int 2, .int 20], .complete] := by decide +kernel
example : ∀ i, i < 2 → 1 < (srcItems i (beforeError
    [(0, n 1), (0, n 2), (1, n 10), (0, .complete), (1, n 20), (1, .complete)])).length := by decide +kernel
example : WellFormed 2 [(0, n 1), (1, n 9), (0, n 2), (1, .complete), (0, .complete)] ∧
    skipUntil.run 2 [(0, n 1), (1, n 9), (0, n 2), (1, .complete), (0, .complete)] = [n 2, .complete] := by decide +kernel
example : WellFormed 2 [(0, n 1), (0, n 2), (1, n 9), (1, n 9), (0, n 3), (1, n 9), (0, .complete)] ∧
    sample.run 2 [(0, n 1), (0, n 2), (1, n 9), (1, n 9), (0, n 3), (1, n 9), (0, .complete)] =
      [n 2, n 3, .complete] := by decide +kernel
example : WellFormed 3 [(0, n 1), (1, n 10), (2, n 5), (0, n 2), (2, n 20), (1, .complete), (0, .complete), (2, .complete)] ∧
    (0 :: fmSel (flatMap.defaultInner 3)
      [(0, n 1), (1, n 10), (2, n 5), (0, n 2), (2, n 20), (1, .complete), (0, .complete), (2, .complete)]).Nodup ∧
    flatMap.run 3 [(0, n 1), (1, n 10), (2, n 5), (0, n 2), (2, n 20), (1, .complete), (0, .complete), (2, .complete)] =
      [n 10, n 20, .complete] := by decide +kernel
-- `sequenceEqualCode` (bare zip) on two completed sequences of equal length that differ
example : WellFormed 2 [(0, n 1), (1, n 1), (0, n 2), (1, n 3), (0, .complete), (1, .complete)] ∧
    firstError [(0, n 1), (1, n 1), (0, n 2), (1, n 3), (0, .complete), (1, .complete)] = none ∧
    allCompleted 2 [(0, n 1), (1, n 1), (0, n 2), (1, n 3), (0, .complete), (1, .complete)] = true ∧
    (∀ i, i < 2 → (srcItems i [(0, n 1), (1, n 1), (0, n 2), (1, n 3), (0, .complete), (1, .complete)]).length = 2) ∧
    sequenceEqualCode.run 2 [(0, n 1), (1, n 1), (0, n 2), (1, n 3), (0, .complete), (1, .complete)] =
      [.next (.bool false), .complete] := by decide +kernel
/-! combine_latest: a1 a2 b10 b20 a3 ⇒ (2,10) (2,20) (3,20); a source that has completed keeps its latest value; an
    error ends at once; a source completing without an item ⇒ no tuple is ever emitted -/
example : WellFormed 2 [(0, n 1), (0, n 2), (1, n 10), (1, n 20), (0, n 3), (0, .complete), (1, n 30), (1, .complete)] ∧
    combineLatest.run 2 [(0, n 1), (0, n 2), (1, n 10), (1, n 20), (0, n 3), (0, .complete), (1, n 30), (1, .complete)] =
      [tupleEv [.int 2, .int 10], tupleEv [.int 2, .int 20], tupleEv [.int 3, .int 20], tupleEv [.int 3, .int 30],
       .complete] ∧
    combineLatestSpec 2
        [(0, n 1), (0, n 2), (1, n 10), (1, n 20), (0, n 3), (0, .complete), (1, n 30), (1, .complete)] =
      [tupleEv [.int 2, .int 10], tupleEv [.int 2, .int 20], tupleEv [.int 3, .int 20], tupleEv [.int 3, .int 30],
       .complete] := by decide +kernel
example : combineLatest.run 2 [(0, n 1), (1, n 10), (1, .error 7), (0, n 2)] = [tupleEv [.int 1, .int 10], .error 7] ∧
    combineLatest.run 2 [(0, .complete), (1, n 10), (1, n 20), (1, .complete)] = [.complete] ∧
    combineLatestSpec 2 [(0, .complete), (1, n 10), (1, n 20), (1, .complete)] = [.complete] := by decide +kernel
/-! sequence_equal: a=1, a completes, b=1, b=2: undecided after `b 1`, `false` at `b 2` (b's second
    item meets a's end); equal sequences ⇒ `true` at the last completion; two empty sequences ⇒ `true`; an error first
    ⇒ that error; three sources: the position must be reached by all of them -/
example : WellFormed 2 [(0, n 1), (0, .complete), (1, n 1), (1, n 2), (1, .complete)] ∧
    sequenceEqual.run 2 [(0, n 1), (0, .complete), (1, n 1)] = [] ∧
    sequenceEqual.run 2 [(0, n 1), (0, .complete), (1, n 1), (1, n 2)] = [.next (.bool false), .complete] ∧
    sequenceEqualSpec 2 [(0, n 1), (0, .complete), (1, n 1), (1, n 2)] = [.next (.bool false), .complete] ∧
    sequenceEqual.run 2 [(0, n 1), (0, .complete), (1, n 1), (1, n 2), (1, .complete)] =
      [.next (.bool false), .complete] := by decide +kernel
example : WellFormed 2 [(0, n 1), (1, n 1), (0, .complete), (1, .complete)] ∧
    sequenceEqual.run 2 [(0, n 1), (1, n 1), (0, .complete), (1, .complete)] = [.next (.bool true), .complete] ∧
    sequenceEqualSpec 2 [(0, n 1), (1, n 1), (0, .complete), (1, .complete)] = [.next (.bool true), .complete] ∧
    sequenceEqual.run 2 [(0, .complete), (1, .complete)] = [.next (.bool true), .complete] ∧
    sequenceEqual.run 2 [(0, n 1), (1, .error 7), (0, .complete)] = [.error 7] ∧
    sequenceEqualSpec 2 [(0, n 1), (1, .error 7), (0, .complete)] = [.error 7] := by decide +kernel
example : WellFormed 3 [(0, n 1), (1, n 2), (2, n 1)] ∧
    sequenceEqual.run 3 [(0, n 1), (1, n 2)] = [] ∧
    sequenceEqual.run 3 [(0, n 1), (1, n 2), (2, n 1)] = [.next (.bool false), .complete] ∧
    sequenceEqualSpec 3 [(0, n 1), (1, n 2), (2, n 1)] = [.next (.bool false), .complete] := by decide +kernel
end Examples

#print axioms merge_spec
#print axioms amb_spec
#print axioms take_until_spec
#print axioms concat_spec
#print axioms zip_spec
#print axioms zip_items
#print axioms zip_items_none
#print axioms zip_timing
#print axioms zipRows_getElem?
#print axioms zip_completion_late
#print axioms combine_latest_spec
#print axioms skip_until_spec
#print axioms sample_spec
#print axioms flat_map_spec
#print axioms sequence_equal_code_eq
#print axioms sequence_equal_run_eq
#print axioms sequence_equal_spec
#print axioms ready_set_go_run
#print axioms ready_set_go_no_loss
#print axioms ready_set_go_all
#print axioms run_late_loses_all
#print axioms wellFormed_iff

end Rx.Comb
