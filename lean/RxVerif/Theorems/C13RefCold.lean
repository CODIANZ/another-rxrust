import RxVerif.Theorems.C13RefHot
/-
C13-REF: the source side over a COLD synchronous source.

The source is the harness' instrumented cold source `(cold 0 ev…)` = `oScript 0 true script` (Machine/Lib.lean):
it records the observer it is handed (probe 0), then plays `script`, asking `is_subscribed()` before every event
(probe 1) and stopping politely when the answer is no.  It never calls `set_on_unsubscribe`, so the source
observers have no teardown; its emissions happen INSIDE `source.subscribe(..)` (= the fold of `ConnM.connRecv` in
`ConnM.connectSource`), i.e. before the `Subscription` handle (its armed flag) exists: `armed` may be one shorter
than `conns`.  `Subscription::unsubscribe` of a source subscription only clears the callbacks.
-/
namespace Rx.CRef
open Rx.Sim Rx.SubjM Rx.Ref Rx.RefR

/-- an instrumented source with tag `t` records under `4 * t` the observer it is handed, under `4 * t + 1` the answer
    of `is_subscribed()` before an emission (`oScript`, `scriptLoop` in Machine/Lib.lean); this picks the former -/
def pickObs : Rec → Option Nat
  | .probe tag (.int o) => if tag % 4 == 0 then some o.toNat else none
  | _ => none

/-- observers handed to the instrumented source so far (`Rx.stashed` of Machine/Case.lean), oldest first -/
def coldObs (w : World) : List Nat := (probesOf w).filterMap pickObs

theorem coldObs_eq (w : World) : coldObs w = w.trace.filterMap pickObs := by
  unfold coldObs probesOf
  rw [List.filterMap_filter]
  congr 1; funext r; cases r <;> rfl

/-- source subscriptions ever made / is one of them still subscribed (what the harness prints for a cold source) -/
def coldSubsOf (w : World) : Nat := (coldObs w).length
def coldLiveOf (w : World) : Bool := (coldObs w).any fun o => (w.obs[o]?.map Obs.isSub).getD false

def connObsC (fn : Data → Prog) (fe : Nat → Prog) (fc : Prog) (live : Bool) : Obs :=
  ⟨if live then some (.code fn) else none, if live then some (.code fe) else none,
   if live then some (.code fc) else none, none⟩

theorem connObsC_isSub (fn fe fc) (b : Bool) : (connObsC fn fe fc b).isSub = b := by cases b <;> rfl

/-- The source side over a cold source: the source observers, the armed flags of the handles that exist. -/
structure ConnsPartC (fn : Data → Prog) (fe : Nat → Prog) (fc : Prog) (acell : Nat → Nat)
    (cobs : List Nat) (w : World) (conns armed : List Bool) : Prop where
  lenC : cobs.length = conns.length
  lenA : armed.length ≤ conns.length ∧ conns.length ≤ armed.length + 1
  obs : ∀ i, i < conns.length → w.obs[rootAt cobs i]? = some (connObsC fn fe fc (conns.getD i false))
  acell : ∀ i, i < armed.length → w.cells[acell i]? = some (.bool (armed.getD i false))
  liveArmed : ∀ i, i < armed.length → conns.getD i false = true → armed.getD i false = true
  probes : coldObs w = cobs

theorem ConnsPartC.frame {fn fe fc acell cobs w w' conns armed} (h : ConnsPartC fn fe fc acell cobs w conns armed)
    (hobs : ∀ i, i < conns.length → w'.obs[rootAt cobs i]? = w.obs[rootAt cobs i]?)
    (hac : ∀ i, i < armed.length → w'.cells[acell i]? = w.cells[acell i]?)
    (hp : coldObs w' = coldObs w) : ConnsPartC fn fe fc acell cobs w' conns armed :=
  { h with
    obs := fun i hi => (hobs i hi) ▸ h.obs i hi
    acell := fun i hi => (hac i hi) ▸ h.acell i hi
    probes := hp ▸ h.probes }

theorem coldObs_of_probes {w w' : World} (h : probesOf w' = probesOf w) : coldObs w' = coldObs w := by
  unfold coldObs; rw [h]

theorem ConnsPartC.touch {fn fe fc acell cobs w w' conns armed J K}
    (h : ConnsPartC fn fe fc acell cobs w conns armed) (t : Touch J K w w')
    (hJ : ∀ i, i < conns.length → ¬ J (rootAt cobs i)) (hK : ∀ i, i < armed.length → ¬ K (acell i)) :
    ConnsPartC fn fe fc acell cobs w' conns armed :=
  h.frame (fun i hi => t.obs _ (hJ i hi)) (fun i hi => t.cells _ (hK i hi)) (coldObs_of_probes t.probes)

/-- Source observer `i` loses its callbacks through `f` (a terminal went through it / its handle was used);
    `armed'` = the armed flags afterwards, changed at most at `i`. -/
theorem ConnsPartC.off {fn fe fc acell cobs w w' conns armed armed'} {roots : List Nat}
    (h : ConnsPartC fn fe fc acell cobs w conns armed) (g : Glob roots cobs w) {i : Nat} (hi : i < conns.length)
    (hl : armed'.length = armed.length) (hA : ∀ j, j ≠ i → armed'.getD j false = armed.getD j false) {f : Obs → Obs}
    (hf : ∀ b, f (connObsC fn fe fc b) = connObsC fn fe fc false) (hobs : w'.obs = w.obs.modify (rootAt cobs i) f)
    (hac : ∀ j, j < armed.length → w'.cells[acell j]? = some (.bool (armed'.getD j false)))
    (hp : coldObs w' = coldObs w) :
    ConnsPartC fn fe fc acell cobs w' (conns.set i false) armed' :=
  { lenC := by rw [List.length_set]; exact h.lenC
    lenA := by rw [List.length_set, hl]; exact h.lenA
    probes := hp ▸ h.probes
    acell := by rw [hl]; exact hac
    obs := by
      intro j hj
      rw [List.length_set] at hj
      rw [hobs]
      by_cases e : j = i
      · subst e
        rw [modify_get_same _ _ (h.obs j hj), hf, set_getD_same _ _ _ hj]
      · rw [modify_get_other _ _ fun x => e (g.cob_inj (h.lenC ▸ hj) (h.lenC ▸ hi) x.symm), h.obs j hj,
          set_getD_other _ _ (Ne.symm e)]
    liveArmed := by
      intro j hj hc
      rw [hl] at hj
      by_cases e : j = i
      · rw [e, set_getD_same _ _ _ hi] at hc; cases hc
      · rw [set_getD_other _ _ (Ne.symm e)] at hc
        rw [hA j e]; exact h.liveArmed j hj hc }

/-- clearing the callbacks of source observer `i` (a terminal went through it) -/
theorem ConnsPartC.clear {fn fe fc acell cobs w conns armed} {roots : List Nat}
    (h : ConnsPartC fn fe fc acell cobs w conns armed) (g : Glob roots cobs w) (i : Nat) (hi : i < conns.length)
    (f : Obs → Obs) (hf : ∀ b, f (connObsC fn fe fc b) = connObsC fn fe fc false) :
    ConnsPartC fn fe fc acell cobs (w.setObs (rootAt cobs i) f) (conns.set i false) armed :=
  h.off g hi rfl (fun _ _ => rfl) hf rfl h.acell rfl

theorem wp_probe {w : World} {Q : World → Prop} {t : Nat} {d : Data} {k : Prog}
    (hk : WP k (w.emit (.probe t d)) Q) : WP (.probe t d k) w Q :=
  Ref.wp_probe hk

theorem emitEv_eq (s : Nat) (ev : Ev) : emitEv s ev = evProg ev s .done := Ref.emitEv_eq s ev

theorem coldObs_probe1 (w : World) (t : Nat) (b : Bool) : coldObs (w.emit (.probe t (.bool b))) = coldObs w := by
  simp [coldObs_eq, World.emit, List.filterMap_append, pickObs]

theorem coldObs_probe0 (w : World) (o : Nat) : coldObs (w.emit (.probe 0 (.int (o : Nat)))) = coldObs w ++ [o] := by
  simp [coldObs_eq, World.emit, List.filterMap_append, pickObs]

/-- once the source observer's `fn_next` is gone, the rest of the script is skipped -/
theorem foldRecv_gate (k : ConnM.Kind) {m : Nat} {st : ConnM.State} (h : st.conns.getD m false = false) :
    ∀ script : List Ev, script.foldl (fun s ev => ConnM.connRecv k s m ev) st = st
  | [] => rfl
  | ev :: evs => by rw [List.foldl_cons, connRecv_off k h]; exact foldRecv_gate k h evs

theorem foldRecv_flags (k : ConnM.Kind) (m : Nat) : ∀ (script : List Ev) (st : ConnM.State),
    (script.foldl (fun s ev => ConnM.connRecv k s m ev) st).connecting = st.connecting ∧
    (script.foldl (fun s ev => ConnM.connRecv k s m ev) st).cancelled = st.cancelled ∧
    (script.foldl (fun s ev => ConnM.connRecv k s m ev) st).subscription = st.subscription
  | [], _ => ⟨rfl, rfl, rfl⟩
  | ev :: evs, st =>
    have h1 := foldRecv_flags k m evs (ConnM.connRecv k st m ev)
    have h2 := ConnM.connRecv_flags k st m ev
    ⟨h1.1.trans h2.1, h1.2.1.trans h2.2.1, h1.2.2.trans h2.2.2⟩

theorem foldRecv_len (k : ConnM.Kind) (m : Nat) : ∀ (script : List Ev) (st : ConnM.State),
    (script.foldl (fun s ev => ConnM.connRecv k s m ev) st).conns.length = st.conns.length
  | [], _ => rfl
  | ev :: evs, st => by
    rw [List.foldl_cons, foldRecv_len k m evs, ConnM.connRecv_conns_length]

/-- the state after the script: `connectSource` on `{ st with connecting := true }` -/
def coldFold (k : ConnM.Kind) (script : List Ev) (st : ConnM.State) : ConnM.State :=
  script.foldl (fun s ev => ConnM.connRecv k s st.conns.length ev)
    { st with connecting := true, conns := st.conns ++ [true] }

theorem onSubscribe_fire_cold (k : ConnM.Kind) (script) (st : ConnM.State) (h : st.connecting = false) :
    ConnM.onSubscribe k (.cold script) st (some 1) =
      { coldFold k script st with
        subscription := some st.conns.length
        conns := if st.cancelled then (coldFold k script st).conns.set st.conns.length false
                 else (coldFold k script st).conns } := by
  have hf := (foldRecv_flags k st.conns.length script
    { st with connecting := true, conns := st.conns ++ [true] }).2.1
  simp only [ConnM.onSubscribe, ConnM.connectSource, h, and_self, ↓reduceIte, coldFold, hf]

theorem ConnsPartC.init {fn fe fc acell} {w : World} (hp : coldObs w = []) : ConnsPartC fn fe fc acell [] w [] [] :=
  { lenC := rfl, lenA := ⟨Nat.le_refl _, Nat.le_succ _⟩, probes := hp
    obs := fun i hi => by cases hi
    acell := fun i hi => by cases hi
    liveArmed := fun i hi => by cases hi }

/-- the cold source side while the script runs -/
def ColdCP (fn : Data → Prog) (fe : Nat → Prog) (fc : Prog) (acell : Nat → Nat) (cobs : List Nat) (armed : List Bool)
    (w : World) (conns : List Bool) : Prop :=
  ConnsPartC fn fe fc acell cobs w conns armed

theorem coldLoop {V : UsersSide} {O : OwnSide} {src : ConnM.Src} {cobs : List Nat} {acell : Nat → Nat}
    {armed : List Bool} (ck : ConnM.Kind) (hk : ck.subj = V.kind) (m : Nat)
    (hfree : ∀ i, i < cobs.length → ¬ V.Kc (acell i)) :
    ∀ (script : List Ev) (st : ConnM.State) (w : World), m < st.conns.length →
      LoopInv V O src cobs (ColdCP V.fn V.fe V.fc acell cobs armed) w st →
      WP (scriptLoop 0 true (rootAt cobs m) script) w
        (fun w' => LoopInv V O src cobs (ColdCP V.fn V.fe V.fc acell cobs armed) w'
          (script.foldl (fun s ev => ConnM.connRecv ck s m ev) st)) := by
  intro script
  induction script with
  | nil => intro st w _ h; exact WP.done h
  | cons ev evs ih =>
    intro st w hm h
    have C : ConnsPartC .. := h.conns
    have hmc : m < cobs.length := by rw [C.lenC]; exact hm
    simp only [scriptLoop, List.foldl_cons]
    refine wp_obsIsSub (C.obs m hm) ?_
    rw [connObsC_isSub]
    refine wp_probe ?_
    -- the source asked `is_subscribed()` and recorded the answer
    have h0 : LoopInv V O src cobs (ColdCP V.fn V.fe V.fc acell cobs armed)
        (w.emit (.probe (0 * 4 + 1) (.bool (st.conns.getD m false)))) st :=
      ⟨h.held, h.uo.probe _ _, C.frame (fun _ _ => rfl) (fun _ _ => rfl) (coldObs_probe1 w _ _)⟩
    generalize (w.emit (.probe (0 * 4 + 1) (.bool (st.conns.getD m false)))) = w0 at h0
    cases hb : st.conns.getD m false with
    | false =>
      rw [connRecv_off ck hb, foldRecv_gate ck hb]
      simp only [Bool.not_false, Bool.and_self, ↓reduceIte]
      exact WP.done h0
    | true =>
      simp only [Bool.not_true, Bool.and_false, Bool.false_eq_true, ↓reduceIte, emitEv_eq]
      refine WP.seq ?_
      have hobs := ConnsPartC.obs h0.conns m hm
      rw [hb] at hobs
      refine wp_ev_code hobs rfl rfl rfl ?_
      refine (recv_step (CP := ColdCP V.fn V.fe V.fc acell cobs armed) ck hk hmc
        (fun g (c : ConnsPartC ..) => c.clear g m (c.lenC ▸ hmc) _ fun _ => rfl)
        (fun g (c : ConnsPartC ..) t => c.touch t (fun i hi hm' => g.disj _ hm' (rootAt_mem (c.lenC ▸ hi)))
          (fun i hi => hfree i (by have := c.lenA.1; have := c.lenC; omega))) h0 (getD_true.1 hb) ev).conseq fun w2 h2 =>
        WP.done (ih _ w2 (by rw [ConnM.connRecv_conns_length]; exact hm) h2)

/-- `source.subscribe(next, error, complete)` on the cold source, up to the point where the script starts:
    the new observer exists and has been recorded by the source's probe -/
def coldConnWorld (fn : Data → Prog) (fe : Nat → Prog) (fc : Prog) (w : World) : World :=
  ({ w with obs := w.obs ++ [connObsC fn fe fc true] } : World).emit (.probe (0 * 4) (.int (w.obs.length : Nat)))

theorem coldConn_obs_lt (fn fe fc) (w : World) {j : Nat} (hj : j < w.obs.length) :
    (coldConnWorld fn fe fc w).obs[j]? = w.obs[j]? :=
  get_app_lt _ _ _ hj

theorem connectCold_pre {script : List Ev} {fn : Data → Prog} {fe : Nat → Prog} {fc : Prog} {w : World}
    {k : Data → Prog} {Q Q1 : World → Prop} (hobsv : w.obsvs[0]? = some (coldSrc script))
    (hloop : WP (scriptLoop 0 true w.obs.length script) (coldConnWorld fn fe fc w) Q1)
    (hQ : ∀ w2, Q1 w2 → WP (k (.pair (.int (w.obs.length : Nat)) (.int (w2.cells.length : Nat))))
      { w2 with cells := w2.cells ++ [.bool true] } Q) :
    WP (subscribeWith (fun o => .obsvSub 0 o .done) fn fe fc k) w Q := by
  refine subscribeWith_pre hobsv ?_
  simp only [coldSrc, oScript]
  exact wp_probe (hloop.conseq hQ)

theorem coldConn_glob {fn fe fc roots cobs w} (g : Glob roots cobs w) :
    Glob roots (cobs ++ [w.obs.length]) (coldConnWorld fn fe fc w) :=
  g.newCob rfl (List.length_append ..)

/-- the source side when the script is about to start: one more source observer, its handle not made yet -/
theorem ConnsPartC.connect {fn fe fc acell roots cobs w conns armed}
    (h : ConnsPartC fn fe fc acell cobs w conns armed) (g : Glob roots cobs w) (hA : armed.length = conns.length) :
    ConnsPartC fn fe fc acell (cobs ++ [w.obs.length]) (coldConnWorld fn fe fc w) (conns ++ [true]) armed :=
  { lenC := by simp [h.lenC]
    lenA := by simp [hA]
    acell := h.acell
    obs := forall_getD_snoc
      (P := fun i c => (w.obs ++ [connObsC fn fe fc true])[rootAt (cobs ++ [w.obs.length]) i]? = some (connObsC fn fe fc c))
      (fun i hi => by
        rw [rootAt_append_lt _ _ (h.lenC ▸ hi), get_app_lt _ _ _ (g.cobsLt _ (rootAt_mem (h.lenC ▸ hi)))]
        exact h.obs i hi)
      (by rw [← h.lenC, rootAt_append_last, get_app0]; rfl)
    liveArmed := fun i hi hl => by
      rw [getD_append_lt _ _ _ (hA ▸ hi)] at hl
      exact h.liveArmed i hi hl
    probes := (coldObs_probe0 _ _).trans (congrArg (· ++ _) h.probes) }

/-- `source.subscribe(..)` returned: the handle's armed flag is allocated -/
theorem ConnsPartC.arm {fn fe fc acell cobs w conns armed}
    (h : ConnsPartC fn fe fc acell cobs w conns armed) (hA : armed.length + 1 = conns.length)
    (hnew : acell armed.length = w.cells.length) (hlt : ∀ i, i < armed.length → acell i < w.cells.length) :
    ConnsPartC fn fe fc acell cobs { w with cells := w.cells ++ [.bool true] } conns (armed ++ [true]) :=
  { lenC := h.lenC, obs := h.obs, probes := h.probes
    lenA := by simp; omega
    acell := forall_getD_snoc (P := fun i a => (w.cells ++ [.bool true])[acell i]? = some (.bool a))
      (fun i hi => (get_app_lt _ _ _ (hlt i hi)).trans (h.acell i hi)) (by rw [hnew, get_app0]; rfl)
    liveArmed := forall_getD_snoc (P := fun i a => conns.getD i false = true → a = true) h.liveArmed fun _ => rfl }

/-- `Subscription::unsubscribe` of source subscription `i` (its handle exists) -/
theorem srcUnsubCold_spec {fn fe fc acell roots cobs w conns armed} {K : Nat → Prop} (hh : SlotReads w.held)
    (h : ConnsPartC fn fe fc acell cobs w conns armed) (g : Glob roots cobs w)
    (hAinj : ∀ i j, i < armed.length → j < armed.length → acell i = acell j → i = j)
    (hK : ∀ i, i < armed.length → K (acell i)) {i : Nat} (hi : i < armed.length) :
    WP (subUnsub (.pair (.int (rootAt cobs i : Nat)) (.int (acell i : Nat)))) w (fun w' =>
      ConnsPartC fn fe fc acell cobs w' (conns.set i false) (armed.set i false) ∧
      Touch (InList cobs) K w w' ∧ w'.trace = w.trace) := by
  have hic : i < conns.length := Nat.lt_of_lt_of_le hi h.lenA.1
  refine subUnsub_pre hh (h.acell i hi) (fun har => ⟨?_, Touch.refl _ _ _, rfl⟩) fun har => ?_
  · have hc : conns.getD i false = false :=
      Bool.eq_false_iff.2 fun hc => by rw [h.liveArmed i hi hc] at har; cases har
    rw [set_false_self hc, set_false_self har]; exact h
  · refine wp_obsUnsub_none (show _ = some _ from h.obs i hic) rfl (WP.done
      ⟨h.off g hic (List.length_set ..) (fun j e => set_getD_other _ _ (Ne.symm e)) (fun _ => rfl) rfl
          (fun j hj => ?_) rfl,
        (touch_setCell w _ _ (hK i hi)).trans (Touch.setObs _ _ _ (rootAt_mem (h.lenC ▸ hic))), rfl⟩)
    show (w.cells.set _ _)[_]? = _
    by_cases e : j = i
    · rw [e, set_getD_same _ _ _ hi]; exact set_get_same _ (h.acell i hi)
    · rw [set_getD_other _ _ (Ne.symm e)]
      exact (set_get_other _ fun x => e (hAinj _ _ hi hj x).symm).trans (h.acell j hj)

/-- `AgreesC` for a cold source: the source has no subscriber map; what the harness prints instead is read off
    the observers its probe recorded (`coldSubsOf`, `coldLiveOf`) -/
structure AgreesCold (w : World) (st : ConnM.State) : Prop where
  status : w.status = .ok
  held : w.held = []
  logs : ∀ u, logOf w u = ConnM.logOf st u
  srcSubs : coldSubsOf w = ConnM.sourceSubscriptions st
  srcLive : coldLiveOf w = ConnM.sourceLive st
  reg : regCountOf w = (registered st.sub).length
  alive : ∀ u, w.isSubOf u = aliveOf st.sub u

theorem ConnsPartC.live_eq {fn fe fc acell cobs w conns armed} (h : ConnsPartC fn fe fc acell cobs w conns armed) :
    coldLiveOf w = conns.any id := by
  have : cobs.map (fun o => (w.obs[o]?.map Obs.isSub).getD false) = conns := by
    apply List.ext_getElem (by rw [List.length_map, h.lenC])
    intro i h1 h2
    have := h.obs i h2
    simp only [rootAt, List.getD_eq_getElem?_getD, List.getElem?_eq_getElem (h.lenC ▸ h2), List.getElem?_eq_getElem h2,
      Option.getD_some] at this
    rw [List.getElem_map, this]
    exact connObsC_isSub ..
  rw [coldLiveOf, h.probes, ← this, List.any_map]; rfl

theorem AgreesCold.of_parts {roots cobs w} {st : ConnM.State} {fn fe fc acell armed} (g : Glob roots cobs w)
    (hh : w.held = []) (a : UsersAgree w st.sub) (C : ConnsPartC fn fe fc acell cobs w st.conns armed) :
    AgreesCold w st :=
  ⟨g.status, hh, a.logs, by simp [coldSubsOf, C.probes, C.lenC, ConnM.sourceSubscriptions], C.live_eq, a.reg, a.alive⟩

end Rx.CRef
