/-
Delivery invariant of the `BehaviorSubject` LTS along QUIET runs (no `next` call overlaps a `subscribe` call).
-/
import RxVerif.Theorems.C12BehaviorA

namespace Rx.Conc.Behavior

def nextItems : List Call → List Data
  | [] => []
  | .next v :: r => v :: nextItems r
  | _ :: r => nextItems r

/-- the items thread `t` pushes, in program order -/
def progItems (progs : List (List Call)) (t : Nat) : List Data := nextItems (progs.getD t [])

/-- broadcast deliveries of producer `t` in a list of tagged entries (order preserved), as `(call index, item)` -/
def proj (t : Nat) (l : List Entry) : List (Nat × Data) := (l.filter (·.1 == some t)).map (·.2)

theorem proj_cons (t : Nat) (x : Entry) (l : List Entry) :
    proj t (x :: l) = if x.1 = some t then x.2 :: proj t l else proj t l := by
  simp only [proj, List.filter_cons]
  by_cases h : x.1 = some t <;> simp [h]

theorem proj_append (t : Nat) (l l' : List Entry) : proj t (l ++ l') = proj t l ++ proj t l' := by
  simp [proj]

@[simp] theorem proj_nil (t : Nat) : proj t [] = [] := rfl

def pos (th : Thread) (o : Nat) : Nat × Bool :=
  match th.pc with
  | .r0 k _ | .nx0 k _ => (k, false)
  | .nxL k _ snap => pend k snap o
  | .nxF k _ o' rest => pend k (o' :: rest) o
  | .nxD k _ o' rest => if o = o' then (k, true) else pend k rest o
  | _ => (th.cnt, false)

/-- number of values the thread has stored into `last_item` -/
def pushed (th : Thread) : Nat :=
  match th.pc with
  | .r0 k _ => k
  | _ => th.cnt

theorem pos_of_not_inNext {th : Thread} (h : th.pc.inNext = false) (o : Nat) :
    pos th o = (th.cnt, false) ∧ pushed th = th.cnt := by
  obtain ⟨_, pc, _⟩ := th
  cases pc
  case r0 | nx0 | nxL | nxF | nxD => cases h
  all_goals exact ⟨rfl, rfl⟩

/-- the observer a subscribing thread has already read `last_item` for -/
def subPhase : Pc → Option Nat
  | .s2 o _ | .s3 o _ | .s3d o _ | .s4 o | .s5 o | .s6 o | .s7 o | .s8 o | .s9 o => some o
  | _ => none

theorem inSub_of_subPhase {pc : Pc} {o : Nat} (h : subPhase pc = some o) : pc.inSub = true := by
  cases pc <;> cases h <;> rfl

def LocB (P : List Data) (th : Thread) : Prop :=
  th.cnt ≤ P.length ∧ nextItems th.todo = P.drop th.cnt ∧
  match th.pc with
  | .r0 k v | .nx0 k v | .nxL k v _ | .nxF k v _ _ | .nxD k v _ _ => th.cnt = k + 1 ∧ P[k]? = some v
  | _ => True

theorem locB_of_not_inNext {P : List Data} {th : Thread} (h : th.pc.inNext = false) :
    LocB P th ↔ th.cnt ≤ P.length ∧ nextItems th.todo = P.drop th.cnt := by
  obtain ⟨_, pc, _⟩ := th
  cases pc
  case r0 | nx0 | nxL | nxF | nxD => cases h
  all_goals exact ⟨fun h => ⟨h.1, h.2.1⟩, fun h => ⟨h.1, h.2, trivial⟩⟩

/-- once `o`'s `subscribe` call has returned and while `o` is live, the broadcast deliveries `o` got from `t` are
exactly `t`'s calls `base .. n-1`, each once, in order (`base` = calls `t` had made when `last_item` was read) -/
abbrev Full (P : List Data) (ob : Obs) (t : Nat) (p : Nat × Bool) : Prop :=
  FullAt P (ob.base t) (proj t ob.rlog) ob.subDone ob.fnNext p

structure InvB (progs : List (List Call)) (s : State) : Prop where
  loc : ∀ t : Nat, LocB (progItems progs t) (s.threads t)
  full : ∀ o t : Nat, Full (progItems progs t) (s.obs o) t (pos (s.threads t) o)
  phase1 : ∀ ts o : Nat, subPhase (s.threads ts).pc = some o →
    ∀ t, (s.obs o).base t = pushed (s.threads t) ∧ proj t (s.obs o).rlog = []
  lastIn : s.last ∈ s.vals
  handIn : ∀ (o : Nat) (x : Data), (s.obs o).hand = some x → x ∈ s.vals

theorem invB_init (progs : List (List Call)) (initial : Data) : InvB progs (init progs initial) := by
  constructor
  · intro t; simp [init, LocB, progItems]
  · intro o t; exact .of_not_sd rfl
  · intro ts o hh; simp [init, subPhase] at hh
  · simp [init]
  · intro o x h; simp [init] at h

/-- what a step may do to an observer record without `InvB` noticing -/
structure SameB (ob ob' : Obs) : Prop where
  proj : ∀ t, proj t ob'.rlog = proj t ob.rlog
  subDone : ob'.subDone = ob.subDone
  fnNext : ob'.fnNext = true → ob.fnNext = true
  base : ob'.base = ob.base
  hand : ob'.hand = ob.hand

theorem SameB.rfl {ob : Obs} : SameB ob ob := ⟨fun _ => _root_.rfl, _root_.rfl, id, _root_.rfl, _root_.rfl⟩

theorem Full.same {P : List Data} {ob ob' : Obs} {t : Nat} {p : Nat × Bool} (k : SameB ob ob') (h : Full P ob t p) :
    Full P ob' t p := by
  unfold Full
  rw [k.proj, k.base, k.subDone]
  exact fun h1 h2 => h h1 (h2.imp id k.fnNext)

theorem InvB.loc_setAt {progs : List (List Call)} {s : State} (hB : InvB progs s) {t : Nat} {th' : Thread}
    (hloc : LocB (progItems progs t) th') (t' : Nat) : LocB (progItems progs t') (setAt s.threads t th' t') :=
  setAt_ind (P := fun t' th => LocB (progItems progs t') th) hloc (fun j _ => hB.loc j) t'

theorem invB_move {progs : List (List Call)} {s s' : State} (hB : InvB progs s) {t : Nat} {th th' : Thread}
    (hth : s.threads t = th) (hthr : s'.threads = setAt s.threads t th') (hlast : s'.last = s.last)
    (hvals : s'.vals = s.vals) (hobs : ∀ o, SameB (s.obs o) (s'.obs o)) (hloc : LocB (progItems progs t) th')
    (hfull : ∀ o, Full (progItems progs t) (s.obs o) t (pos th' o)) (hpushed : pushed th' = pushed th)
    (hph : ∀ o, subPhase th'.pc = some o → subPhase th.pc = some o) : InvB progs s' := by
  refine ⟨fun t' => hthr ▸ hB.loc_setAt hloc t', fun o t' => ?_, fun ts o hh t' => ?_, hlast ▸ hvals ▸ hB.lastIn,
    fun o x h => hvals ▸ hB.handIn o x ((hobs o).hand ▸ h)⟩ <;> rw [hthr] at *
  · exact Full.same (hobs o) (setAt_ind (P := fun t' th => Full (progItems progs t') (s.obs o) t' (pos th o)) (hfull o)
      (fun j _ => hB.full o j) t')
  · rw [(hobs o).proj, (hobs o).base, setAt_congr pushed (hpushed.trans (hth ▸ rfl))]
    exact setAt_ind (P := fun ts (th : Thread) => subPhase th.pc = some o → _)
      (fun hh => hB.phase1 t o (hth ▸ hph o hh) t') (fun j _ hh => hB.phase1 j o hh t') ts hh

theorem invB_silent {progs : List (List Call)} {s : State} (hB : InvB progs s) {t : Nat} {pc pc' : Pc}
    {obs' : Nat → Obs} {todo todo' : List Call} {cnt : Nat} {map' : List (Nat × Nat)} {serial' : Nat}
    (hth : s.threads t = ⟨todo, pc, cnt⟩) (h0 : pc.inNext = false) (h1 : pc'.inNext = false)
    (hh : ∀ o, subPhase pc' = some o → subPhase pc = some o)
    (hobs : ∀ o, SameB (s.obs o) (obs' o)) (htodo : nextItems todo' = nextItems todo) :
    InvB progs { s with obs := obs', map := map', serial := serial', threads := setAt s.threads t ⟨todo', pc', cnt⟩ } := by
  have hl := (locB_of_not_inNext h0).mp (hth ▸ hB.loc t)
  refine invB_move hB hth rfl rfl rfl hobs ((locB_of_not_inNext h1).mpr ⟨hl.1, htodo ▸ hl.2⟩) (fun o => ?_) ?_ hh
  · rw [(pos_of_not_inNext h1 o).1]; exact (pos_of_not_inNext (th := ⟨todo, pc, cnt⟩) h0 o).1 ▸ hth ▸ hB.full o t
  · rw [(pos_of_not_inNext h1 0).2, (pos_of_not_inNext (th := ⟨todo, pc, cnt⟩) h0 0).2]

theorem proj_cons_self (t k : Nat) (v : Data) (l : List Entry) :
    proj t ((some t, k, v) :: l) = (k, v) :: proj t l := by
  rw [proj_cons, if_pos rfl]

theorem proj_cons_ne {t' : Nat} {x : Entry} (hne : x.1 ≠ some t') (l : List Entry) : proj t' (x :: l) = proj t' l := by
  rw [proj_cons, if_neg hne]

theorem used_of_subPhase {s : State} (hA : InvA s) {ts o : Nat} (h : subPhase (s.threads ts).pc = some o) :
    (s.obs o).used = some ts := by
  have h1 := hA.loc ts
  generalize (s.threads ts).pc = pc at h h1
  cases pc <;> cases h <;> exact h1.1

theorem invB_step {progs : List (List Call)} {s s' : State} {t : Nat} (hq : s.quiet) (hA : InvA s)
    (hB : InvB progs s) (hs : stepT s t = some s') : InvB progs s' := by
  cases hth : s.threads t with | mk todo pc cnt
  have hl := hB.loc t
  have hlA := hA.loc t
  have hf := fun o => hB.full o t
  rw [hth] at hl hlA hf
  cases pc <;> simp only [stepT, hth, Option.some.injEq] at hs
  case u1 | u2 | u7 | u8 | u9r => subst hs; exact invB_silent hB hth rfl rfl nofun (fun _ => .rfl) rfl
  case s0 | u3 | u4 | u9 => subst hs; split <;> exact invB_silent hB hth rfl rfl nofun (fun _ => .rfl) rfl
  case s2 => subst hs; exact invB_silent hB hth rfl rfl (fun _ h => h) (fun _ => .rfl) rfl
  case s3 => subst hs; split <;> exact invB_silent hB hth rfl rfl (fun _ h => h) (fun _ => .rfl) rfl
  case s4 =>
    subst hs
    split
    · exact invB_silent hB hth rfl rfl (fun _ h => h) (fun _ => .rfl) rfl
    · exact invB_silent hB hth rfl rfl nofun (fun _ => .rfl) rfl
  case u6 | u9c | u10 =>
    subst hs
    exact invB_silent hB hth rfl rfl nofun (setAt_rel (fun _ => .rfl) ⟨fun _ => rfl, rfl, id, rfl, rfl⟩) rfl
  case u0 =>
    subst hs
    exact invB_silent hB hth rfl rfl nofun (setAt_rel (fun _ => .rfl) ⟨fun _ => rfl, rfl, nofun, rfl, rfl⟩) rfl
  case u5 =>
    subst hs
    split <;> exact invB_silent hB hth rfl rfl nofun (setAt_rel (fun _ => .rfl) ⟨fun _ => rfl, rfl, id, rfl, rfl⟩) rfl
  case s5 | s6 | s7 | s8 =>
    subst hs
    exact invB_silent hB hth rfl rfl (fun _ h => h) (setAt_rel (fun _ => .rfl) ⟨fun _ => rfl, rfl, id, rfl, rfl⟩) rfl
  case s3d =>
    subst hs
    exact invB_silent hB hth rfl rfl (fun _ h => h)
      (setAt_rel (fun _ => .rfl) ⟨fun _ => by rw [proj_cons, if_neg nofun], rfl, id, rfl, rfl⟩) rfl
  case idle =>
    split at hs
    · cases hs
    · cases hs
      obtain ⟨h1, h2, h3⟩ := drop_cons_inv hl.2.1
      exact invB_move hB hth rfl rfl rfl (fun _ => .rfl) ⟨h1, h2, rfl, h3⟩ hf rfl nofun
    · split at hs
      · cases hs
      · cases hs
        exact invB_silent hB hth rfl rfl nofun (setAt_rel (fun _ => .rfl) ⟨fun _ => rfl, rfl, id, rfl, rfl⟩) rfl
    · cases hs; exact invB_silent hB hth rfl rfl nofun (fun _ => .rfl) rfl
  case nx0 k v =>
    subst hs
    exact invB_move hB hth rfl rfl rfl (fun _ => .rfl) hl (fun o => (hf o).snap fun hsd => hA.live o (hA.subIns o hsd))
      rfl nofun
  case nxL k v snap =>
    cases snap <;> simp only [Option.some.injEq] at hs <;> subst hs
    · obtain ⟨h1, h2, hc, _⟩ := hl
      subst hc
      exact invB_move hB hth rfl rfl rfl (fun _ => .rfl) ⟨h1, h2, trivial⟩ (fun o => (hf o).pend_nil) rfl nofun
    · split
      · exact invB_move hB hth rfl rfl rfl (fun _ => .rfl) hl hf rfl nofun
      · rename_i o _ hc
        exact invB_move hB hth rfl rfl rfl (fun _ => .rfl) hl
          (FullAt.skip hf fun _ => hA.fLive o ((Bool.not_eq_true _).mp hc)) rfl nofun
  case nxF k v o rest =>
    subst hs
    split <;> rename_i hc
    · exact invB_move hB hth rfl rfl rfl (fun _ => .rfl) hl (FullAt.hold hf hc) rfl nofun
    · exact invB_move hB hth rfl rfl rfl (fun _ => .rfl) hl (FullAt.skip hf fun _ => (Bool.not_eq_true _).mp hc) rfl
        nofun
  case r0 k v =>
    -- the store: `t` is inside `next`, so (quiet) no thread is between its read of `last_item` and its registration
    subst hs
    refine ⟨hB.loc_setAt hl, fun o =>
      setAt_ind (P := fun t' th => Full (progItems progs t') (s.obs o) t' (pos th o)) (hf o) fun j _ => hB.full o j,
      fun ts o => setAt_ind (P := fun ts (th : Thread) => subPhase th.pc = some o → _) nofun
        (fun j _ hh => (hq j t (inSub_of_subPhase hh) (by rw [hth]; rfl)).elim) ts,
      List.mem_append_right _ (List.mem_singleton.mpr rfl), fun o x h => List.mem_append_left _ (hB.handIn o x h)⟩
  case nxD k v o rest =>
    subst hs
    refine ⟨hB.loc_setAt hl, ?_,
      fun ts o => setAt_ind (P := fun ts (th : Thread) => subPhase th.pc = some o → _) nofun
        (fun j _ hh => (hq j t (inSub_of_subPhase hh) (by rw [hth]; rfl)).elim) ts, hB.lastIn,
      setAt_ind (P := fun _ (ob : Obs) => ∀ x, ob.hand = some x → x ∈ s.vals) (hB.handIn o) fun j _ => hB.handIn j⟩
    refine setAt_ind (P := fun o' ob => ∀ t', Full (progItems progs t') ob t' (pos (setAt s.threads t _ t') o'))
      (setAt_ind (P := fun t' th => Full (progItems progs t') _ t' (pos th o)) ?_ fun j hj => ?_)
      fun o' ho' => setAt_ind (P := fun t' th => Full (progItems progs t') (s.obs o') t' (pos th o')) ?_ fun j _ =>
        hB.full o' j
    · have := hf o
      simp only [pos, if_true] at this
      show FullAt _ _ (proj t ((some t, k, v) :: (s.obs o).rlog)) _ _ (pend k rest o)
      rw [proj_cons_self, pend_of_not_mem (List.nodup_cons.mp hlA.1).1]
      exact this.deliver hl.2.2.2
    · show FullAt _ _ (proj j ((some t, k, v) :: (s.obs o).rlog)) _ _ _
      rw [proj_cons_ne fun e => hj (Option.some.inj e).symm]
      exact hB.full o j
    · have := hf o'
      simp only [pos, ho', if_false] at this ⊢
      exact this
  case s1 o =>
    -- `last_item` is read: nobody is inside `next` (quiet), so `base` records every thread's calls so far
    subst hs
    have hnn : ∀ t', pushed (s.threads t') = (s.threads t').cnt := fun t' =>
      (pos_of_not_inNext ((Bool.not_eq_true _).mp fun h => hq t t' (by rw [hth]; rfl) h) 0).2
    refine ⟨hB.loc_setAt hl, fun o' t' => ?_, fun ts o' hh t' => ?_, hB.lastIn,
      setAt_ind (P := fun _ (ob : Obs) => ∀ x, ob.hand = some x → x ∈ s.vals)
        (fun x h => Option.some.inj h ▸ hB.lastIn) fun j _ => hB.handIn j⟩
    · show Full _ _ _ (pos (setAt s.threads t ⟨todo, .s2 o s.last, cnt⟩ t') o')
      rw [setAt_congr (a := ⟨todo, .s2 o s.last, cnt⟩) (pos · _) (hth ▸ rfl)]
      refine setAt_ind (P := fun o' ob => Full (progItems progs t') ob t' (pos (s.threads t') o'))
        ?_ (fun j _ => hB.full j t') o'
      exact .of_not_sd hlA.2.2.1
    · show (setAt s.obs o _ o').base t' = pushed (setAt s.threads t _ t') ∧ proj t' (setAt s.obs o _ o').rlog = []
      rw [setAt_congr (a := ⟨todo, .s2 o s.last, cnt⟩) pushed (hth ▸ rfl)]
      by_cases ho : o' = o
      · rw [ho, setAt_same]
        exact ⟨(hnn t').symm, by show proj t' (s.obs o).rlog = []; rw [hlA.2.2.2]; rfl⟩
      · rw [setAt_ne _ _ ho]
        exact setAt_ind (P := fun ts (th : Thread) => subPhase th.pc = some o' → _)
          (fun (hh : some o = some o') => absurd (Option.some.inj hh).symm ho) (fun j _ hh => hB.phase1 j o' hh t') ts hh
  case s9 o =>
    -- the subscription is installed: nobody was inside `next` since the read (quiet), so nothing was missed
    subst hs
    have hnn : ∀ t', (s.threads t').pc.inNext = false := fun t' =>
      (Bool.not_eq_true _).mp fun h => hq t t' (by rw [hth]; rfl) h
    have hsame := setAt_rel (R := fun ob ob' : Obs => ob'.rlog = ob.rlog ∧ ob'.base = ob.base ∧ ob'.hand = ob.hand)
      (f := s.obs) (o := o) (a := { s.obs o with sbsc := true, subDone := true }) (fun _ => ⟨rfl, rfl, rfl⟩)
      ⟨rfl, rfl, rfl⟩
    refine ⟨hB.loc_setAt hl, fun o' t' => ?_, fun ts o' hh t' => ?_, hB.lastIn, fun o' x h =>
      hB.handIn o' x ((hsame o').2.2 ▸ h)⟩
    · show Full _ _ _ (pos (setAt s.threads t ⟨todo, .idle, cnt⟩ t') o')
      rw [setAt_congr (a := ⟨todo, .idle, cnt⟩) (pos · _) (hth ▸ rfl)]
      refine setAt_ind (P := fun o' ob => Full (progItems progs t') ob t' (pos (s.threads t') o'))
        (fun _ _ => ?_) (fun j _ => hB.full j t') o'
      obtain ⟨hb, hp⟩ := hB.phase1 t o (by rw [hth]; rfl) t'
      show Asc _ ((s.obs o).base t') (proj t' (s.obs o).rlog).reverse ∧ (s.obs o).base t' + _ = _
      rw [hp, hb, (pos_of_not_inNext (hnn t') o).1, (pos_of_not_inNext (hnn t') o).2]
      exact ⟨trivial, rfl⟩
    · show (setAt s.obs o _ o').base t' = pushed (setAt s.threads t _ t') ∧ proj t' (setAt s.obs o _ o').rlog = []
      rw [(hsame o').1, (hsame o').2.1, setAt_congr (a := ⟨todo, .idle, cnt⟩) pushed (hth ▸ rfl)]
      exact setAt_ind (P := fun ts (th : Thread) => subPhase th.pc = some o' → _) nofun
        (fun j _ hh => hB.phase1 j o' hh t') ts hh

theorem quiet_init (progs : List (List Call)) (initial : Data) : (init progs initial).quiet := by
  intro t t' h; simp [init, Pc.inSub] at h

theorem ReachableQ.quiet {progs : List (List Call)} {initial : Data} {s : State} (h : ReachableQ progs initial s) :
    s.quiet := by
  cases h with
  | init => exact quiet_init progs initial
  | step _ _ hq => exact hq

theorem invB_reachableQ {progs : List (List Call)} {initial : Data} {s : State} (h : ReachableQ progs initial s) :
    InvB progs s := by
  induction h with
  | init => exact invB_init progs initial
  | step hr hs _ ih =>
    exact invB_step hr.quiet (invA_reachable hr.reachable) ih (stepT_of_step hs)

end Rx.Conc.Behavior
