import RxVerif.Theorems.Sim
import RxVerif.Kernel.Chain
/-
SIM for chains (pure side): what the subscriber of the flat chain machine sees is the composition
of the stages' `Kernel.run`s (`chainRun`), although an upstream stage that has been unsubscribed by a
downstream stage only ever produces a prefix of its un-cancelled run.

This file, the frame facts: (K) `unsubscribe`/`finalize` at observer `i` leave everything below `i` alone;
(C) the part at and below observer `k` evolves autonomously; (U) no step re-subscribes an observer, or changes
anything above an observer `k ≥ i` that it leaves alive; last, stage `j` leaves everything below it alone once
observer `j` is dead.
-/
namespace Rx.Chain
open Rx.Sim

@[simp] theorem clear_sub (x : CSt) (j k : Nat) : (x.clear j).sub k = if k = j then false else x.sub k := rfl
@[simp] theorem clear_ar (x : CSt) (j k : Nat) : (x.clear j).ar k = if k = j then false else x.ar k := rfl
@[simp] theorem clear_rg (x : CSt) (j : Nat) : (x.clear j).rg = x.rg := rfl
@[simp] theorem clear_st (x : CSt) (j : Nat) : (x.clear j).st = x.st := rfl
@[simp] theorem clear_out (x : CSt) (j : Nat) : (x.clear j).out = x.out := rfl
@[simp] theorem unreg_rg (x : CSt) (j k : Nat) : (x.unreg j).rg k = if k = j then false else x.rg k := rfl
@[simp] theorem unreg_sub (x : CSt) (j : Nat) : (x.unreg j).sub = x.sub := rfl
@[simp] theorem unreg_ar (x : CSt) (j : Nat) : (x.unreg j).ar = x.ar := rfl
@[simp] theorem unreg_st (x : CSt) (j : Nat) : (x.unreg j).st = x.st := rfl
@[simp] theorem unreg_out (x : CSt) (j : Nat) : (x.unreg j).out = x.out := rfl

theorem upd_apply {α} (f : Nat → α) (i k : Nat) (v : α) : upd f i v k = if k = i then v else f k := rfl
@[simp] theorem upd_same {α} (f : Nat → α) (i : Nat) (v : α) : upd f i v i = v := if_pos rfl
theorem upd_other {α} (f : Nat → α) {i k : Nat} (v : α) (h : k ≠ i) : upd f i v k = f k := if_neg h
theorem upd_self {α} (f : Nat → α) (i : Nat) (v : α) (h : f i = v) : upd f i v = f := by
  funext k; rw [upd_apply]; split
  · rename_i e; rw [e, h]
  · rfl

theorem upd_below {α} (f : Nat → α) {i k : Nat} (v : α) (h : k ≤ i) : ∀ a, a < k → upd f i v a = f a :=
  fun _ ha => upd_other f v (by omega)

theorem upd_congr {α} {P : Nat → Prop} {f g : Nat → α} (h : ∀ a, P a → f a = g a) (i : Nat) (v : α) :
    ∀ a, P a → upd f i v a = upd g i v a := fun a ha => by
  rw [upd_apply, upd_apply, h a ha]

def _root_.Rx.DK.handle (D : DK) (st : Data) : Ev → Data × List Act
  | .next d => D.onNext st d
  | .error e => D.onError st e
  | .complete => D.onComplete st

/-- observer `i` has been handed `ev`: a terminal takes its callbacks away -/
def got (x : CSt) (i : Nat) (ev : Ev) : CSt :=
  { x with sub := if ev.isTerminal then upd x.sub i false else x.sub }

theorem got_sub (x : CSt) (i : Nat) (ev : Ev) (k : Nat) :
    (got x i ev).sub k = if k = i then (!ev.isTerminal && x.sub i) else x.sub k := by
  unfold got
  cases ev.isTerminal <;> simp only [Bool.false_eq_true, ↓reduceIte, upd_apply] <;> split <;> simp [*]

theorem got_sub_self (x : CSt) (i : Nat) (ev : Ev) : (got x i ev).sub i = (!ev.isTerminal && x.sub i) := by
  rw [got_sub, if_pos rfl]

theorem got_sub_ne (x : CSt) (ev : Ev) {i k : Nat} (h : k ≠ i) : (got x i ev).sub k = x.sub k := by
  rw [got_sub, if_neg h]

theorem deliver_zero (n : Nat) (ks : Nat → DK) (ev : Ev) (x : CSt) :
    deliver n ks 0 ev x = if x.sub 0 then { got x 0 ev with out := x.out ++ [ev] } else x := rfl

theorem deliver_succ (n : Nat) (ks : Nat → DK) (j : Nat) (ev : Ev) (x : CSt) :
    deliver n ks (j + 1) ev x =
      if x.sub (j + 1) then
        actsC n (deliver n ks j) j ((ks j).handle (x.st j) ev).2
          { got x (j + 1) ev with st := upd x.st j ((ks j).handle (x.st j) ev).1 }
      else x := by
  cases ev <;> rfl

/-- the tail of `finalize` of stage `j`: forget the serial, unsubscribe the subscriber -/
def finTail (j : Nat) (y : CSt) : CSt := if y.sub j then (y.unreg j).clear j else y.unreg j

theorem finF_tail (up : CSt → CSt) (j : Nat) (x : CSt) :
    finF up j x = finTail j (if x.rg j then up x else x) := rfl

/-- the re-entrant `finalize` (empty map, subscriber gone) -/
theorem finF_dead (up : CSt → CSt) {j : Nat} {x : CSt} (hrg : x.rg j = false) (hs : x.sub j = false) :
    finF up j x = x := by
  rw [finF_tail, hrg, if_neg Bool.false_ne_true, finTail, hs, if_neg Bool.false_ne_true, CSt.unreg,
    upd_self _ _ _ hrg]

theorem finTail_sub (j : Nat) (y : CSt) : (finTail j y).sub j = false := by
  unfold finTail; cases h : y.sub j <;> simp [h]

theorem finF_sub_false (up : CSt → CSt) (i : Nat) (x : CSt) : (finF up i x).sub i = false := by
  rw [finF_tail]; exact finTail_sub _ _
theorem finC_sub_false (n i : Nat) (x : CSt) : (finC n i x).sub i = false := finF_sub_false _ _ _

theorem unsubO_sub_self (f i : Nat) (x : CSt) : (unsubO f i x).sub i = false := by
  cases f <;> simp only [unsubO] <;> (try split) <;> simp [finF_sub_false]

/-- (K) `y` and `z` agree strictly below observer `j`; `LoEq` (C) takes in observer `j` itself (`sub`: `i ≤ k`) -/
structure LoEqM (j : Nat) (y z : CSt) : Prop where
  out : y.out = z.out
  st : ∀ i, i < j → y.st i = z.st i
  rg : ∀ i, i < j → y.rg i = z.rg i
  ar : ∀ i, i < j → y.ar i = z.ar i
  sub : ∀ i, i < j → y.sub i = z.sub i

theorem LoEqM.refl (j : Nat) (x : CSt) : LoEqM j x x :=
  ⟨rfl, fun _ _ => rfl, fun _ _ => rfl, fun _ _ => rfl, fun _ _ => rfl⟩

theorem LoEqM.trans {j : Nat} {x y z : CSt} (h1 : LoEqM j x y) (h2 : LoEqM j y z) : LoEqM j x z :=
  ⟨h1.out.trans h2.out, fun i hi => (h1.st i hi).trans (h2.st i hi), fun i hi => (h1.rg i hi).trans (h2.rg i hi),
   fun i hi => (h1.ar i hi).trans (h2.ar i hi), fun i hi => (h1.sub i hi).trans (h2.sub i hi)⟩

theorem LoEqM.symm {j : Nat} {y z : CSt} (h : LoEqM j y z) : LoEqM j z y :=
  ⟨h.out.symm, fun i hi => (h.st i hi).symm, fun i hi => (h.rg i hi).symm, fun i hi => (h.ar i hi).symm,
   fun i hi => (h.sub i hi).symm⟩

theorem LoEqM.mono {j j' : Nat} {y z : CSt} (h : LoEqM j y z) (hj : j' ≤ j := by omega) : LoEqM j' y z :=
  ⟨h.out, fun i hi => h.st i (by omega), fun i hi => h.rg i (by omega), fun i hi => h.ar i (by omega),
   fun i hi => h.sub i (by omega)⟩

theorem keep_clear {k i : Nat} (x : CSt) (h : k ≤ i) : LoEqM k (x.clear i) x :=
  ⟨rfl, fun _ _ => rfl, fun _ _ => rfl, upd_below _ _ h, upd_below _ _ h⟩

theorem keep_unreg {k i : Nat} (x : CSt) (h : k ≤ i) : LoEqM k (x.unreg i) x :=
  ⟨rfl, fun _ _ => rfl, upd_below _ _ h, fun _ _ => rfl, fun _ _ => rfl⟩

theorem keep_setSt {k i : Nat} (x : CSt) (v : Data) (h : k ≤ i) : LoEqM k { x with st := upd x.st i v } x :=
  ⟨rfl, upd_below _ _ h, fun _ _ => rfl, fun _ _ => rfl, fun _ _ => rfl⟩

theorem keep_got {k i : Nat} (x : CSt) (ev : Ev) (h : k ≤ i) : LoEqM k (got x i ev) x :=
  ⟨rfl, fun _ _ => rfl, fun _ _ => rfl, fun _ _ => rfl, fun a ha => got_sub_ne x ev (by omega)⟩

theorem finTail_keep (i : Nat) (y : CSt) : LoEqM i (finTail i y) y := by
  unfold finTail; split
  · exact (keep_clear _ (Nat.le_refl _)).trans (keep_unreg y (Nat.le_refl _))
  · exact keep_unreg y (Nat.le_refl _)

theorem finF_keep {up : CSt → CSt} {i : Nat} (hup : ∀ x, LoEqM (i + 1) (up x) x) (x : CSt) :
    LoEqM i (finF up i x) x := by
  rw [finF_tail]
  refine (finTail_keep i _).trans ?_
  split
  · exact (hup x).mono
  · exact LoEqM.refl _ _

theorem unsubO_keep : ∀ (f i : Nat) (x : CSt), LoEqM i (unsubO f i x) x := by
  intro f
  induction f with
  | zero => intro i x; exact keep_clear x (Nat.le_refl _)
  | succ f ih =>
    intro i x
    simp only [unsubO]
    split
    · exact (finF_keep (ih (i + 1)) _).trans (keep_clear x (Nat.le_refl _))
    · exact keep_clear x (Nat.le_refl _)

theorem upO_keep (n i : Nat) (x : CSt) : LoEqM (i + 1) (upO n i x) x := unsubO_keep _ _ _
theorem finC_keep (n i : Nat) (x : CSt) : LoEqM i (finC n i x) x := finF_keep (upO_keep n i) x

/-- (C) `y` and `z` agree below `k` (stages `< k`, observers `≤ k`, the subscriber's log) -/
structure LoEq (k : Nat) (y z : CSt) : Prop where
  out : y.out = z.out
  st : ∀ i, i < k → y.st i = z.st i
  rg : ∀ i, i < k → y.rg i = z.rg i
  ar : ∀ i, i < k → y.ar i = z.ar i
  sub : ∀ i, i ≤ k → y.sub i = z.sub i

theorem LoEq.toM {j : Nat} {y z : CSt} (h : LoEq j y z) : LoEqM j y z :=
  ⟨h.out, h.st, h.rg, h.ar, fun i hi => h.sub i (Nat.le_of_lt hi)⟩

theorem LoEqM.withSub {k : Nat} {y z : CSt} (h : LoEqM k y z) (hs : y.sub k = z.sub k) : LoEq k y z :=
  ⟨h.out, h.st, h.rg, h.ar, fun i hi => by
    rcases Nat.lt_or_ge i k with hlt | hge
    · exact h.sub i hlt
    · have : i = k := by omega
      subst this; exact hs⟩

theorem LoEq.refl (k : Nat) (x : CSt) : LoEq k x x := (LoEqM.refl k x).withSub rfl
theorem LoEq.symm {k : Nat} {y z : CSt} (h : LoEq k y z) : LoEq k z y :=
  h.toM.symm.withSub (h.sub k (Nat.le_refl k)).symm
theorem LoEq.trans {k : Nat} {x y z : CSt} (h1 : LoEq k x y) (h2 : LoEq k y z) : LoEq k x z :=
  (h1.toM.trans h2.toM).withSub ((h1.sub k (Nat.le_refl k)).trans (h2.sub k (Nat.le_refl k)))

theorem LoEqM.lo {k j : Nat} {y z : CSt} (h : LoEqM j y z) (hj : k < j := by omega) : LoEq k y z :=
  h.mono.withSub (h.sub k hj)

theorem clear_congr {k : Nat} {y z : CSt} (i : Nat) (h : LoEq k y z) : LoEq k (y.clear i) (z.clear i) :=
  ⟨h.out, h.st, h.rg, upd_congr h.ar i false, upd_congr h.sub i false⟩

theorem unreg_congr {k : Nat} {y z : CSt} (i : Nat) (h : LoEq k y z) : LoEq k (y.unreg i) (z.unreg i) :=
  ⟨h.out, h.st, upd_congr h.rg i false, h.ar, h.sub⟩

theorem setSt_congr {k j : Nat} {y z : CSt} (v : Data) (h : LoEq k y z) :
    LoEq k { y with st := upd y.st j v } { z with st := upd z.st j v } :=
  ⟨h.out, upd_congr h.st j v, h.rg, h.ar, h.sub⟩

theorem got_congr {k : Nat} {y z : CSt} (i : Nat) (ev : Ev) (h : LoEq k y z) (hi : i ≤ k) :
    LoEq k (got y i ev) (got z i ev) :=
  ⟨h.out, h.st, h.rg, h.ar, fun a ha => by
    rw [got_sub, got_sub, h.sub a ha, h.sub i hi]⟩

theorem finTail_congr {k i : Nat} {y z : CSt} (h : LoEq k y z) (hi : i ≤ k) :
    LoEq k (finTail i y) (finTail i z) := by
  unfold finTail
  rw [h.sub i hi]
  split
  · exact clear_congr i (unreg_congr i h)
  · exact unreg_congr i h

theorem finF_congr_lt {k i : Nat} {up : CSt → CSt} (hi : i < k)
    (hup : ∀ y z, LoEq k y z → LoEq k (up y) (up z)) {y z : CSt} (h : LoEq k y z) :
    LoEq k (finF up i y) (finF up i z) := by
  rw [finF_tail, finF_tail]
  refine finTail_congr ?_ (Nat.le_of_lt hi)
  rw [h.rg i hi]
  split
  · exact hup _ _ h
  · exact h

/-- a step at observer `k` itself: it leaves what lies below `k` alone and observer `k` dead, whatever it reads above -/
theorem loEq_of_keep {k : Nat} {f : CSt → CSt} (hk : ∀ x, LoEqM k (f x) x) (hs : ∀ x, (f x).sub k = false)
    {y z : CSt} (h : LoEq k y z) : LoEq k (f y) (f z) :=
  ((hk y).trans (h.toM.trans (hk z).symm)).withSub ((hs y).trans (hs z).symm)

theorem unsubO_congr {k : Nat} : ∀ (f i : Nat) {y z : CSt}, LoEq k y z →
    LoEq k (unsubO f i y) (unsubO f i z) := by
  intro f
  induction f with
  | zero => intro i y z h; exact clear_congr i h
  | succ f ih =>
    intro i y z h
    rcases Nat.lt_trichotomy i k with hlt | heq | hgt
    · simp only [unsubO, h.ar i hlt]
      split
      · exact finF_congr_lt hlt (fun y z h => ih (i + 1) h) (clear_congr i h)
      · exact clear_congr i h
    · subst heq
      exact loEq_of_keep (unsubO_keep _ i) (unsubO_sub_self _ i) h
    · exact (unsubO_keep _ i y).lo.trans (h.trans (unsubO_keep _ i z).lo.symm)

def DnCongr (k : Nat) (dn : Ev → CSt → CSt) : Prop :=
  ∀ ev y z, LoEq k y z → LoEq k (dn ev y) (dn ev z)

section congr
variable {n k i : Nat} {dn : Ev → CSt → CSt}

theorem finC_congr (hi : i ≤ k) {y z : CSt} (h : LoEq k y z) : LoEq k (finC n i y) (finC n i z) := by
  rcases Nat.lt_or_ge i k with hlt | hge
  · exact finF_congr_lt hlt (fun y z h => unsubO_congr _ _ h) h
  · have : i = k := by omega
    subst this
    exact loEq_of_keep (finC_keep n i) (finC_sub_false n i) h

theorem sinkNextC_congr (hi : i ≤ k) (hd : DnCongr k dn) (d : Data) {y z : CSt} (h : LoEq k y z) :
    LoEq k (sinkNextC n dn i d y) (sinkNextC n dn i d z) := by
  simp only [sinkNextC, h.sub i hi]
  split
  · exact hd _ _ _ h
  · exact finC_congr hi h

theorem emitAllC_congr (hi : i ≤ k) (hd : DnCongr k dn) (ds : List Data) : ∀ {y z : CSt}, LoEq k y z →
    LoEq k (emitAllC n dn i ds y) (emitAllC n dn i ds z) := by
  induction ds with
  | nil => intro y z h; exact h
  | cons d ds ih =>
    intro y z h
    simp only [emitAllC, h.sub i hi]
    split
    · exact ih (sinkNextC_congr hi hd d h)
    · exact h

theorem actC_congr (hi : i < k) (hd : DnCongr k dn) (a : Act) {y z : CSt} (h : LoEq k y z) :
    LoEq k (actC n dn i a y) (actC n dn i a z) := by
  have hle := Nat.le_of_lt hi
  cases a with
  | emit d => exact sinkNextC_congr hle hd d h
  | emitAll ds => exact emitAllC_congr hle hd ds h
  | fail e =>
    simp only [actC, h.sub i hle]
    split
    · exact finC_congr hle (hd _ _ _ h)
    · exact finC_congr hle h
  | complete =>
    simp only [actC, h.sub i hle]
    split
    · exact finC_congr hle (hd _ _ _ (unreg_congr i h))
    · exact finC_congr hle h
  | abortSelf =>
    simp only [actC, h.rg i hi]
    split
    · exact unsubO_congr _ _ (unreg_congr i h)
    · exact unreg_congr i h
  | finalize => exact finC_congr hle h

theorem actsC_congr (hi : i < k) (hd : DnCongr k dn) (as : List Act) : ∀ {y z : CSt}, LoEq k y z →
    LoEq k (actsC n dn i as y) (actsC n dn i as z) := by
  induction as with
  | nil => intro y z h; exact h
  | cons a as ih => intro y z h; exact ih (actC_congr hi hd a h)

end congr

theorem deliver_congr (n : Nat) (ks : Nat → DK) (k : Nat) : ∀ i, i ≤ k → DnCongr k (deliver n ks i) := by
  intro i
  induction i with
  | zero =>
    intro hk ev y z h
    have hg := got_congr 0 ev h hk
    simp only [deliver_zero, h.sub 0 hk]
    split
    · exact ⟨by rw [h.out], hg.st, hg.rg, hg.ar, hg.sub⟩
    · exact h
  | succ j ih =>
    intro hj ev y z h
    simp only [deliver_succ, h.sub (j + 1) hj, h.st j hj]
    split
    · exact actsC_congr hj (ih (Nat.le_of_lt hj)) _ (setSt_congr _ (got_congr _ ev h hj))
    · exact h

/-- (U) `y` comes from `x` by a step at observer `i`: no observer is re-subscribed, the kernel states of stages
    `≥ s` are untouched, and from an observer `k ≥ i` that is still alive upwards `rg` and `sub` are unchanged -/
structure Fr (i s : Nat) (x y : CSt) : Prop where
  mono : ∀ k, x.sub k = false → y.sub k = false
  st : ∀ a, s ≤ a → y.st a = x.st a
  up : ∀ k, i ≤ k → y.sub k = true → (∀ a, k ≤ a → y.rg a = x.rg a) ∧ ∀ a, k < a → y.sub a = x.sub a

theorem Fr.refl (i s : Nat) (x : CSt) : Fr i s x x :=
  ⟨fun _ h => h, fun _ _ => rfl, fun _ _ _ => ⟨fun _ _ => rfl, fun _ _ => rfl⟩⟩

theorem Fr.trans {i s : Nat} {x y z : CSt} (h1 : Fr i s x y) (h2 : Fr i s y z) : Fr i s x z := by
  refine ⟨fun k h => h2.mono k (h1.mono k h), fun a ha => (h2.st a ha).trans (h1.st a ha), fun k hk hz => ?_⟩
  have hy : y.sub k = true := by
    cases hy : y.sub k
    · rw [h2.mono k hy] at hz; cases hz
    · rfl
  exact ⟨fun a ha => ((h2.up k hk hz).1 a ha).trans ((h1.up k hk hy).1 a ha),
    fun a ha => ((h2.up k hk hz).2 a ha).trans ((h1.up k hk hy).2 a ha)⟩

theorem Fr.lift {i s i' s' : Nat} {x y : CSt} (h : Fr i s x y) (hi : i ≤ i' := by omega)
    (hs : s ≤ s' := by omega) : Fr i' s' x y :=
  ⟨h.mono, fun a ha => h.st a (by omega), fun k hk => h.up k (by omega)⟩

/-- observer `i` dead afterwards: nothing is claimed about what lies above it -/
theorem Fr.low {i s : Nat} {x y : CSt} (h : Fr (i + 1) s x y) (hd : y.sub i = false) : Fr i s x y :=
  ⟨h.mono, h.st, fun k hk hy => h.up k (by
    rcases Nat.lt_or_ge i k with hlt | hge
    · exact hlt
    · have : k = i := by omega
      subst this; rw [hd] at hy; cases hy) hy⟩

theorem fr_clear (j : Nat) (x : CSt) : Fr j 0 x (x.clear j) := by
  refine ⟨fun k h => ?_, fun _ _ => rfl, fun k hk hy => ⟨fun _ _ => rfl, fun a ha => ?_⟩⟩
  · rw [clear_sub]; split
    · rfl
    · exact h
  · rw [clear_sub, if_neg (by omega)]

theorem fr_unreg (j : Nat) (x : CSt) : Fr (j + 1) 0 x (x.unreg j) :=
  ⟨fun _ h => h, fun _ _ => rfl, fun k hk _ => ⟨fun a ha => by rw [unreg_rg, if_neg (by omega)], fun _ _ => rfl⟩⟩

theorem fr_got (i : Nat) (ev : Ev) (x : CSt) : Fr i 0 x (got x i ev) := by
  refine ⟨fun k h => ?_, fun _ _ => rfl, fun k hk hy => ⟨fun _ _ => rfl, fun a ha => ?_⟩⟩
  · rw [got_sub]; split
    · rename_i e; rw [← e, h, Bool.and_false]
    · exact h
  · exact got_sub_ne x ev (by omega)

theorem fr_setSt (j : Nat) (v : Data) (x : CSt) : Fr 0 (j + 1) x { x with st := upd x.st j v } :=
  ⟨fun _ h => h, fun a ha => upd_other _ _ (by omega), fun _ _ _ => ⟨fun _ _ => rfl, fun _ _ => rfl⟩⟩

theorem fr_finF {up : CSt → CSt} {i : Nat} (hup : ∀ x, Fr (i + 1) 0 x (up x)) (x : CSt) :
    Fr i 0 x (finF up i x) := by
  have h1 : Fr (i + 1) 0 x (if x.rg i then up x else x) := by
    split
    · exact hup x
    · exact Fr.refl _ _ _
  have h2 : ∀ y, Fr (i + 1) 0 y (finTail i y) := by
    intro y; unfold finTail; split
    · exact (fr_unreg i y).trans (fr_clear i _).lift
    · exact fr_unreg i y
  exact (h1.trans (h2 _)).low (finTail_sub _ _)

theorem fr_unsubO : ∀ (f i : Nat) (x : CSt), Fr i 0 x (unsubO f i x) := by
  intro f
  induction f with
  | zero => intro i x; exact fr_clear i x
  | succ f ih =>
    intro i x
    simp only [unsubO]
    split
    · exact (fr_clear i x).trans (fr_finF (ih (i + 1)) _)
    · exact fr_clear i x

theorem fr_finC (n i : Nat) (x : CSt) : Fr i 0 x (finC n i x) := fr_finF (fr_unsubO _ _) x

section frame
variable {n i : Nat} {dn : Ev → CSt → CSt}

theorem fr_sinkNextC (hd : ∀ ev x, Fr i i x (dn ev x)) (d : Data) (x : CSt) :
    Fr (i + 1) i x (sinkNextC n dn i d x) := by
  unfold sinkNextC; split
  · exact (hd _ x).lift
  · exact (fr_finC n i x).lift

theorem fr_emitAllC (hd : ∀ ev x, Fr i i x (dn ev x)) (ds : List Data) : ∀ x,
    Fr (i + 1) i x (emitAllC n dn i ds x) := by
  induction ds with
  | nil => intro x; exact Fr.refl _ _ _
  | cons d ds ih =>
    intro x; simp only [emitAllC]; split
    · exact (fr_sinkNextC hd d x).trans (ih _)
    · exact Fr.refl _ _ _

theorem fr_actC (hd : ∀ ev x, Fr i i x (dn ev x)) (a : Act) (x : CSt) : Fr (i + 1) i x (actC n dn i a x) := by
  have hf : ∀ y, Fr (i + 1) i y (finC n i y) := fun y => (fr_finC n i y).lift
  cases a with
  | emit d => exact fr_sinkNextC hd d x
  | emitAll ds => exact fr_emitAllC hd ds x
  | fail e =>
    simp only [actC]; split
    · exact (hd _ x).lift.trans (hf _)
    · exact hf x
  | complete =>
    simp only [actC]; split
    · exact ((fr_unreg i x).lift.trans (hd _ _).lift).trans (hf _)
    · exact hf x
  | abortSelf =>
    simp only [actC]; split
    · exact (fr_unreg i x).lift.trans (fr_unsubO _ (i + 1) _).lift
    · exact (fr_unreg i x).lift
  | finalize => exact hf x

theorem fr_actsC (hd : ∀ ev x, Fr i i x (dn ev x)) (as : List Act) : ∀ x,
    Fr (i + 1) i x (actsC n dn i as x) := by
  induction as with
  | nil => intro x; exact Fr.refl _ _ _
  | cons a as ih => intro x; exact (fr_actC hd a x).trans (ih _)

end frame

theorem fr_deliver (n : Nat) (ks : Nat → DK) : ∀ i ev x, Fr i i x (deliver n ks i ev x) := by
  intro i
  induction i with
  | zero =>
    intro ev x
    rw [deliver_zero]; split
    · exact ⟨(fr_got 0 ev x).mono, fun _ _ => rfl, (fr_got 0 ev x).up⟩
    · exact Fr.refl _ _ _
  | succ j ih =>
    intro ev x
    rw [deliver_succ]; split
    · exact ((fr_got (j + 1) ev x).lift.trans (fr_setSt j _ _).lift).trans (fr_actsC ih _ _).lift
    · exact Fr.refl _ _ _

/-! once observer `j` is dead, stage `j` no longer touches anything below it -/

theorem emitAllC_dead (n : Nat) (dn : Ev → CSt → CSt) (j : Nat) (ds : List Data) (x : CSt)
    (hs : x.sub j = false) : emitAllC n dn j ds x = x := by
  cases ds <;> simp [emitAllC, hs]

theorem actC_dead (n : Nat) (dn : Ev → CSt → CSt) (j : Nat) (a : Act) (x : CSt) (hs : x.sub j = false) :
    LoEqM j (actC n dn j a x) x := by
  cases a with
  | emit d => simp only [actC, sinkNextC, hs]; exact finC_keep n j x
  | emitAll ds => simp only [actC, emitAllC_dead n dn j ds x hs]; exact LoEqM.refl _ _
  | fail e => simp only [actC, hs]; exact finC_keep n j x
  | complete => simp only [actC, hs]; exact finC_keep n j x
  | finalize => exact finC_keep n j x
  | abortSelf =>
    simp only [actC]
    split
    · exact (upO_keep n j (x.unreg j)).mono.trans (keep_unreg x (Nat.le_refl _))
    · exact keep_unreg x (Nat.le_refl _)

theorem actsC_dead (n : Nat) (ks : Nat → DK) (j : Nat) (as : List Act) : ∀ (x : CSt),
    x.sub j = false → LoEqM j (actsC n (deliver n ks j) j as x) x := by
  induction as with
  | nil => intro x _; exact LoEqM.refl _ _
  | cons a as ih =>
    intro x hs
    exact (ih _ ((fr_actC (fr_deliver n ks j) a x).mono j hs)).trans (actC_dead n _ j a x hs)

theorem deliver_dead (n : Nat) (ks : Nat → DK) (j : Nat) (ev : Ev) (x : CSt) (hs : x.sub j = false) :
    LoEqM j (deliver n ks (j + 1) ev x) x := by
  rw [deliver_succ]
  split
  · exact (actsC_dead n ks j _ { got x (j + 1) ev with st := upd x.st j ((ks j).handle (x.st j) ev).1 }
      ((got_sub_ne x ev (Nat.ne_of_lt (Nat.lt_succ_self j))).trans hs)).trans
      ((keep_setSt (got x (j + 1) ev) _ (Nat.le_refl j)).trans (keep_got x ev (Nat.le_succ j)))
  · exact LoEqM.refl _ _

theorem deliver_terminal (n : Nat) (ks : Nat → DK) (i : Nat) {ev : Ev} (x : CSt) (ht : ev.isTerminal = true) :
    (deliver n ks i ev x).sub i = false := by
  have hg : (got x i ev).sub i = false := by rw [got_sub_self, ht]; rfl
  cases i with
  | zero =>
    rw [deliver_zero]; split
    · exact hg
    · exact Bool.eq_false_iff.2 ‹_›
  | succ j =>
    rw [deliver_succ]; split
    · exact (fr_actsC (fr_deliver n ks j) _ _).mono _ hg
    · exact Bool.eq_false_iff.2 ‹_›

/-- nothing ever re-subscribes an observer -/
def Mono (f : CSt → CSt) : Prop := ∀ x k, x.sub k = false → (f x).sub k = false

theorem Mono.comp {f g : CSt → CSt} (hf : Mono f) (hg : Mono g) : Mono (fun x => g (f x)) :=
  fun x k h => hg _ k (hf x k h)

end Rx.Chain
