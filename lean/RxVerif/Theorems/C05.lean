import RxVerif.Machine.Closed
/-
C05 — Unsubscribe stops delivery, is idempotent, and is reflected by `is_subscribed` (sequential part;
the cross-thread clause is `Theorems/C05c.lean` on the lock-granularity LTS).

Generic over every client program of the machine, as C01.
-/
namespace Rx.C05
open Rx

/-- no observer holds a callback of subscriber `s` any more -/
def Silent (w : World) (s : Nat) : Prop := ∀ (o : Nat) (x : Obs), w.obs[o]? = some x → ¬ x.holds s

/-- the invariant of "silenced subscriber `s` whose log is `L`" -/
def Silenced (s : Nat) (L : List Ev) (w : World) : Prop :=
  Inv w ∧ s < w.users.length ∧ Silent w s ∧ logOf w s = L

theorem Silent.setObs {w : World} {s : Nat} (h : Silent w s) (o : Nat) {g : Obs → Obs} (hg : KeepsOrClears g) :
    Silent (w.setObs o g) s := by
  intro o' x hx hh
  obtain ⟨y, hy, ⟨_, rfl⟩ | ⟨_, rfl⟩⟩ := of_setObs hx
  · exact h o' _ hy hh
  · exact h o' y hy (hg.holds y s hh)

theorem Silent.push {w w' : World} {s : Nat} (h : Silent w s) {y : Obs} (hy : ¬ y.holds s)
    (e : w'.obs = w.obs ++ [y]) : Silent w' s := by
  intro o x hx hh
  rw [e] at hx
  rcases getElem?_append_singleton _ _ _ _ hx with h1 | ⟨_, rfl⟩
  · exact h o x h1 hh
  · exact hy hh

theorem silenced_closed (s : Nat) (L : List Ev) : Closed (Silenced s L) where
  status := fun w st ⟨h, a, b, c⟩ => ⟨inv_closed.status w st h, a, b, c⟩
  core := fun w w' ce ⟨h, a, b, c⟩ =>
    ⟨Inv.of_coreEq ce h, ce.len ▸ a, fun o x hx => b o x (ce.obs ▸ hx), by simpa [logOf, ce.trace] using c⟩
  setObs := fun w o g hg ⟨h, a, b, c⟩ => ⟨inv_setObs w o g hg h, a, b.setObs o hg, c⟩
  pushCode := fun w n e c ⟨h, a, b, cc⟩ =>
    ⟨inv_push_code w n e c h, a, b.push (by simp [Obs.holds, HN.user?, HE.user?, HC.user?]) rfl, cc⟩
  pushUser := fun w u hu ⟨h, a, b, c⟩ =>
    ⟨inv_push_user w u hu h, by simp only [List.length_append, List.length_singleton]; omega,
      b.push (by simp [Obs.holds, HN.user?, HE.user?, HC.user?]; omega) rfl, c⟩
  probe := fun w t d ⟨h, a, b, c⟩ => ⟨inv_emit_probe w t d h, a, b, (logOf_emit_probe ..).trans c⟩
  next := fun w o x s' d ⟨h, a, b, c⟩ hx hn =>
    have hne : s' ≠ s := fun e => b o x hx (e ▸ holds_next hn)
    ⟨inv_closed.next w o x s' d h hx hn, a, b, (logOf_emit_other _ _ _ _ hne).trans c⟩
  term := fun w o x s' e ⟨h, a, b, c⟩ hx hh he =>
    have hne : s' ≠ s := fun e' => b o x hx (e' ▸ hh)
    ⟨inv_closed.term w o x s' e h hx hh he, a, b.setObs o keepsOrClears_cleared,
      (logOf_emit_other _ _ _ _ hne).trans c⟩

/-- **C05, "no event after unsubscribe / after the terminal".**  Once no observer holds a callback of
    subscriber `s`, no program — whatever operators, sources, subjects or callbacks it consists of —
    ever delivers to `s` again, and `s` stays silenced. -/
theorem silent_forever (w : World) (s : Nat) (h : Inv w) (hs : s < w.users.length) (hq : Silent w s)
    (fuel : Nat) (progs : List Prog) :
    Silent (run fuel progs w) s ∧ logOf (run fuel progs w) s = logOf w s := by
  have := run_closed (silenced_closed s (logOf w s)) fuel progs w ⟨h, hs, hq, rfl⟩
  exact ⟨this.2.2.1, this.2.2.2⟩

/-- the step `Subscription::unsubscribe` performs on the root observer silences the subscriber -/
theorem unsub_silences (w : World) (s : Nat) (u : User) (h : Inv w) (hu : w.users[s]? = some u) :
    Silent (w.setObs u.obs fun x => { x.cleared with onUnsub := none }) s := by
  intro o x hx hh
  obtain ⟨y, hy, ⟨hne, rfl⟩ | ⟨_, rfl⟩⟩ := of_setObs hx
  · have := h.owner o x s hy hh
    simp [roots, hu] at this
    exact hne this
  · exact not_holds_cleared y s hh

theorem terminal_silences (w : World) (s : Nat) (h : Inv w) (ht : terminated (logOf w s) = true) :
    Silent w s := by
  intro o x hx hh
  have := h.live o x s hx hh
  rw [ht] at this; exact absurd this (by simp)

/-- **C05, unsubscribe as a whole.**  Running `Subscription::unsubscribe` of subscriber `s` (handle
    available, not yet used) and then ANY further programs: the subscriber's log never grows again. -/
theorem nothing_after_unsubscribe (w : World) (s : Nat) (u : User) (h : Inv w)
    (hu : w.users[s]? = some u) (hr : u.ready = true) (ha : u.armed = true)
    (fuel : Nat) (k : Prog) (rest : List Prog) :
    logOf (run (fuel + 1) (.userUnsub s k :: rest) w) s = logOf w s := by
  simp only [run, hu, hr, ha, Bool.and_self, if_true]
  -- the machine now runs `obsUnsub u.obs k`; one more unit of fuel performs the clearing step
  let w1 := w.setUser s fun u => { u with armed := false }
  have h1 : Inv w1 := Inv.of_coreEq (w := w) ⟨rfl, roots_setUser w _ _ (fun _ => rfl), rfl⟩ h
  have hu1 : w1.users[s]? = some { u with armed := false } := by
    simp [w1, World.setUser, hu]
  cases fuel with
  | zero => rfl
  | succ n =>
    obtain ⟨x, hx⟩ : ∃ x, w1.obs[u.obs]? = some x :=
      ⟨_, List.getElem?_eq_getElem (h1.rootsIn s u.obs (by simp [roots, hu1]))⟩
    have hinv := inv_setObs w1 u.obs (fun x => { x.cleared with onUnsub := none })
      (fun _ => Or.inr ⟨rfl, rfl, rfl⟩) h1
    have hs1 : s < w1.users.length := (List.getElem?_eq_some_iff.mp hu1).1
    show logOf (run (n + 1) (.obsUnsub u.obs k :: rest) w1) s = _
    simp only [run, hx]
    split <;> exact (silent_forever _ s hinv hs1 (unsub_silences w1 s { u with armed := false } h1 hu1) n _).2

/-- **C05, idempotence.**  A second `unsubscribe` (or one after the handle's callable was taken) is a
    no-op of the machine. -/
theorem unsubscribe_idempotent (w : World) (s : Nat) (u : User) (hu : w.users[s]? = some u)
    (ha : u.armed = false) (fuel : Nat) (k : Prog) (rest : List Prog) :
    run (fuel + 1) (.userUnsub s k :: rest) w = run fuel (k :: rest) w := by
  simp [run, hu, ha]

theorem root_empty_of_silent (w : World) (s : Nat) (u : User) (x : Obs) (h : Inv w)
    (hu : w.users[s]? = some u) (hx : w.obs[u.obs]? = some x) (hq : Silent w s) :
    x.next = none ∧ x.error = none ∧ x.complete = none := by
  have hroot := h.root s u.obs x (by simp [roots, hu]) hx
  have hnh := hq u.obs x hx
  exact ⟨hroot.1.resolve_right fun hn => hnh (holds_next hn),
    hroot.2.1.resolve_right fun hn => hnh (holds_error hn),
    hroot.2.2.resolve_right fun hn => hnh (holds_complete hn)⟩

theorem is_subscribed_false_of_silent (w : World) (s : Nat) (u : User) (x : Obs) (h : Inv w)
    (hu : w.users[s]? = some u) (hx : w.obs[u.obs]? = some x) (hq : Silent w s) : x.isSub = false := by
  simp [Obs.isSub, (root_empty_of_silent w s u x h hu hx hq).1]

/-- **C05, `is_subscribed` after the end.**  For a silenced subscriber (unsubscribed, or terminal
    delivered) `Subscription::is_subscribed` answers `false` after any further programs. -/
theorem is_subscribed_false_forever (w : World) (s : Nat) (h : Inv w) (hs : s < w.users.length)
    (hq : Silent w s) (fuel : Nat) (progs : List Prog) (u : User) (x : Obs)
    (hu : (run fuel progs w).users[s]? = some u) (hx : (run fuel progs w).obs[u.obs]? = some x) :
    x.isSub = false :=
  is_subscribed_false_of_silent _ s u x (run_closed inv_closed fuel progs w h) hu hx
    (silent_forever w s h hs hq fuel progs).1

end Rx.C05

-- non-vacuity: a hot source (a data cell holding the observer), subscriber 0 unsubscribes, the source
-- emits again: nothing arrives, `is_subscribed` is false
open Rx in
example :
    let prog : Prog :=
      .cellNew (.int 0) fun c =>
      .obsvNew (fun o => .cellWrite c false (.int o) .done) fun id =>
      .userSub id (fun _ _ _ => .done) <|
      .cellRead c false fun o => .obsNext o.toInt.toNat (.int 1) <|
      .userUnsub 0 <|
      .obsNext o.toInt.toNat (.int 2) <| .userIsSub 0 fun b => .probe 0 (.bool b) .done
    (run 100 [prog] {}).trace = [.ev 0 (.next (.int 1)), .probe 0 (.bool false)] := by
  decide

#print axioms Rx.C05.silent_forever
#print axioms Rx.C05.nothing_after_unsubscribe
#print axioms Rx.C05.unsubscribe_idempotent
#print axioms Rx.C05.is_subscribed_false_forever
#print axioms Rx.C05.terminal_silences
