import RxVerif.Theorems.C10Ref
/-
C10-REF, ReplaySubject — model A's `RSubj` macros (`Machine/Subjects.lean`, transliterating
src/subjects/replay_subject.rs on top of `Subj`) refine `SubjM` with kind `.replay`.

World layout of `progR` (everything is allocated in program order, so it is arithmetic):
  cells 0,1 = Subject.observers / serial   2 = items   3 = was_error   4 = was_completed
  cell 5+2u = `sbsc` of subscription u     cell 6+2u = the armed flag of its live `Subscription`
  observer 2u = root observer of user u    observer 2u+1 = the forwarding observer registered in the Subject
`RelR` is the users' part `RefU.UP` at that layout (`layR`) and the ReplaySubject's three cells (`RefU.RStore`), in a world
that holds nothing else (`RelR.up`, `RelR.mk'`, `RelR.of_up`).
-/
namespace Rx.RefR
open Rx.Sim Rx.SubjM Rx.Ref

def r0 : RSubj := ⟨sj0, 2, 3, 4⟩

/-- `s.set_on_unsubscribe(move || if let Some(sbsc) = &*sbsc.read().unwrap() { sbsc.unsubscribe() })`
    (replay_subject.rs:48-55) -/
def rootHook (u : Nat) : Prog := .cellRead (5 + 2 * u) false fun h => subUnsub h

def cbN (b : Bool) (u : Nat) : Option HN := if b then some (.user u) else none
def cbE (b : Bool) (u : Nat) : Option HE := if b then some (.user u) else none
def cbC (b : Bool) (u : Nat) : Option HC := if b then some (.user u) else none

def rootOf (u : Nat) (r : ObsSt) : Obs :=
  ⟨cbN r.alive u, cbE r.alive u, cbC r.alive u, if r.hook then some (rootHook u) else none⟩

def fwdN (u : Nat) : Data → Prog := fun x => .obsNext (2 * u) x .done
def fwdE (u : Nat) : Nat → Prog := fun e => .obsError (2 * u) e .done
def fwdC (u : Nat) : Prog := .obsComplete (2 * u) .done

/-- the forwarder `subject.observable().subscribe(next, error, complete)` builds (replay_subject.rs:87-93) -/
def fwdOf (u : Nat) (r : ObsSt) : Obs :=
  ⟨if r.inAlive then some (.code (fwdN u)) else none, if r.inAlive then some (.code (fwdE u)) else none,
   if r.inAlive then some (.code (fwdC u)) else none, r.inHook.map fun s => hookProg sj0 (s : Int)⟩

def handle (u : Nat) : Data := .pair (.int ((2 * u + 1 : Nat) : Int)) (.int ((6 + 2 * u : Nat) : Int))

/-- everything the world holds for subscription `u`, described by its `SubjM` record -/
structure UserOk (w : World) (u : Nat) (r : ObsSt) : Prop where
  user : w.users[u]? = some ⟨2 * u, noReact, true, r.hook⟩
  root : w.obs[2 * u]? = some (rootOf u r)
  fwd : w.obs[2 * u + 1]? = some (fwdOf u r)
  sb : w.cells[5 + 2 * u]? = some (handle u)
  ac : w.cells[6 + 2 * u]? = some (.bool r.armed)
  log : logOf w u = r.log
  seen : r.seen = true
  dead : r.hook = false → r.alive = false

/-- the map as stored: serial ↦ index of the forwarder -/
def mapR (l : List (Nat × Nat)) : List (Nat × Nat) := l.map fun p => (p.1, 2 * p.2 + 1)

structure RelR (n : Nat) (w : World) (st : State) : Prop where
  status : w.status = .ok
  held : w.held = []
  cellO : w.cells[0]? = some (encMap (mapR st.observers))
  cellS : w.cells[1]? = some (.int st.serial)
  cellI : w.cells[2]? = some (Data.ofList st.items)
  cellE : w.cells[3]? = some (Data.optEnc (st.wasError.map fun (e : Nat) => Data.int (e : Int)))
  cellC : w.cells[4]? = some (.bool st.wasCompleted)
  nCells : w.cells.length = 5 + 2 * n
  slotA : w.slots[0]? = some none
  slotB : w.slots[1]? = some none
  obsv : w.obsvs[0]? = some r0.observable
  nUsers : w.users.length = n
  nObs : w.obs.length = 2 * n
  users : ∀ u, u < n → UserOk w u (st.obs u)
  unseen : ∀ u, n ≤ u → st.obs u = {}
  quiet : ∀ u, n ≤ u → logOf w u = []
  keys : ∀ p ∈ st.observers, p.1 ≤ st.serial

section
open Rx.RefU Rx.CRef

def layR : RefU.Layout :=
  { dir := false, root := fun u => 2 * u, reg := fun _ => True, arm := fun _ => True, fwd := fun u => 2 * u + 1,
    sb := fun u => 5 + 2 * u, ac := fun u => 6 + 2 * u, armReg := fun a => a }

theorem sepR (n : Nat) : RefU.Sep sj0 layR n where
  ne := by decide
  obs := fun _ _ _ => ⟨by simp only [layR]; omega, fun _ => by simp only [layR]; omega, fun _ _ => by simp only [layR]; omega⟩
  cells := fun _ _ _ _ _ => ⟨by simp only [layR]; omega, fun _ => by simp only [layR]; omega⟩
  sbs := fun _ _ _ _ _ => by simp only [layR]; omega
  self := fun _ _ => ⟨by simp only [layR]; omega, by show 5 + _ ≠ 0; omega,
    fun _ => ⟨by simp only [layR]; omega, by show 6 + _ ≠ 0; omega, by show 6 + _ ≠ 1; omega⟩⟩
  sbS := fun _ _ => by show 5 + _ ≠ 1; omega
  dirNoReg := nofun

theorem rsepR (n : Nat) : RSep r0 layR n where
  ie := by decide
  ic := by decide
  ec := by decide
  free := fun i hi hk => by
    have h3 : i = 2 ∨ i = 3 ∨ i = 4 := hi
    rcases hk with e | e | ⟨u, _, ⟨_, e⟩ | ⟨_, e⟩⟩
    · change i = 0 at e; omega
    · change i = 1 at e; omega
    · change i = 5 + 2 * u at e; omega
    · change i = 6 + 2 * u at e; omega

variable {n : Nat} {w : World} {st : State}

theorem RelR.up (h : RelR n w st) : UPs sj0 layR True n none w st :=
  { cellO := h.cellO, cellS := h.cellS, nUsers := h.nUsers
    users := fun u hu =>
      have U := h.users u hu
      { user := ⟨true, _, U.user, fun _ => rfl, fun a => a, fun _ => rfl⟩
        root := U.root, fwd := fun _ => U.fwd, stored := fun _ => ⟨U.sb, U.ac⟩
        unstored := fun _ hn => absurd trivial hn, unreg := fun hn => absurd trivial hn
        log := U.log, seen := U.seen, dead := U.dead }
    unseen := h.unseen, quiet := h.quiet, keys := h.keys, regd := fun _ _ _ => trivial }

theorem RelR.store (h : RelR n w st) : RStore r0 w st := ⟨h.cellI, h.cellE, h.cellC⟩

/-- a closed world: the users' part, the ReplaySubject's cells, and nothing else -/
theorem RelR.mk' {n' : Nat} {w' : World} {st' : State} (h : RelR n w st) (hs : w'.status = w.status)
    (hh : w'.held = w.held) (hsl : w'.slots = w.slots) (hv : w'.obsvs = w.obsvs) (hc : w'.cells.length = 5 + 2 * n')
    (ho : w'.obs.length = 2 * n') (U : UPs sj0 layR True n' none w' st') (R : RStore r0 w' st') : RelR n' w' st' :=
  { status := hs ▸ h.status, held := hh ▸ h.held, cellO := U.cellO, cellS := U.cellS
    cellI := R.cellI, cellE := R.cellE, cellC := R.cellC, nCells := hc
    slotA := hsl ▸ h.slotA, slotB := hsl ▸ h.slotB, obsv := hv ▸ h.obsv, nUsers := U.nUsers, nObs := ho
    users := fun u hu =>
      have V := U.users u hu
      have S := V.stored trivial
      ⟨by obtain ⟨_, a, h1, hrd, _, h3⟩ := V.user; rw [← h3 trivial, ← hrd nofun]; exact h1, V.root, V.fwd trivial,
        S.1, S.2, V.log, V.seen, V.dead⟩
    unseen := U.unseen, quiet := U.quiet, keys := U.keys }

/-- what a closed world knows beyond the users' part survives an edit of the users' and the subject's objects -/
theorem RelR.of_up {w' : World} {st' : State} (h : RelR n w st) {J K : Nat → Prop} (e : Edit J K w w')
    (U : UPs sj0 layR True n none w' st') (R : RStore r0 w' st') : RelR n w' st' :=
  h.mk' e.status e.held e.slots e.obsvs (e.cellsLen ▸ h.nCells) (e.obsLen ▸ h.nObs) U R

theorem keys_mapR {l : List (Nat × Nat)} {s : Nat} (h : ∀ p ∈ l, p.1 ≤ s) : ∀ p ∈ mapR l, p.1 ≤ s :=
  RefU.keys_map (Λ := layR) h

theorem recvK_replay_dead (ev : Ev) (r : ObsSt) (h : r.inAlive = false) : recvK .replay ev r = r :=
  recvK_fwd_dead rfl ev h

end

theorem cb_alive (u : Nat) : cbN true u = some (.user u) ∧ cbE true u = some (.user u) ∧ cbC true u = some (.user u) :=
  ⟨rfl, rfl, rfl⟩

@[simp] theorem r0_items : r0.items = 2 := rfl
@[simp] theorem r0_wasError : r0.wasError = 3 := rfl
@[simp] theorem r0_wasCompleted : r0.wasCompleted = 4 := rfl
@[simp] theorem r0_inner : r0.inner = sj0 := rfl
@[simp] theorem sj0_observers : sj0.observers = 0 := rfl
@[simp] theorem sj0_serial : sj0.serial = 1 := rfl
@[simp] theorem sj0_onSub : sj0.onSub = 0 := rfl
@[simp] theorem sj0_onUnsub : sj0.onUnsub = 1 := rfl

theorem toNat_ac (u : Nat) : (Data.int ((6 + 2 * u : Nat) : Int)).toInt.toNat = 6 + 2 * u := toNat_int _

/-- the stored terminal (error wins, replay_subject.rs:77-83) -/
def termOf (we : Option Nat) (wc : Bool) : Option Ev :=
  match we with
  | some e => some (.error e)
  | none => if wc then some .complete else none

theorem handOver_eq (r : ObsSt) (hist : List Data) (we : Option Nat) (wc : Bool) (ha : r.alive = true) :
    handOver r hist we wc = match termOf we wc with
      | none => { r with log := r.log ++ hist.map .next }
      | some t => { r with log := r.log ++ hist.map .next ++ [t], alive := false } := by
  rw [SubjM.handOver_eq, if_pos ha]
  cases we with
  | some e => rfl
  | none => cases wc <;> simp [storedTerminal, termOf, ha]

theorem termOf_terminal {we : Option Nat} {wc : Bool} {t : Ev} (h : termOf we wc = some t) : t.isTerminal = true := by
  unfold termOf at h
  cases we with
  | some e => simp at h; subst h; rfl
  | none =>
    cases wc with
    | true => simp at h; subst h; rfl
    | false => simp at h

theorem filter_fresh (l : List (Nat × Nat)) (s o : Nat) (h : ∀ p ∈ l, p.1 ≤ s) :
    (l ++ [(s + 1, o)]).filter (fun p => p.1 != s + 1) = l := by
  rw [List.filter_append, List.filter_eq_self.2]
  · simp
  · intro p hp; have := h p hp; simp; omega

/-- the record of a subscriber that joined a ReplaySubject with no stored terminal … -/
def liveRec (serial : Nat) (items : List Data) : ObsSt :=
  { seen := true, alive := true, hook := true, inAlive := true, inHook := some (serial + 1), armed := true, log := items.map .next }

/-- … and of one that was ended by the hand-over (its forwarder taken out again, replay_subject.rs:95-99) -/
def deadRec (items : List Data) (t : Ev) : ObsSt :=
  { seen := true, alive := false, hook := true, inAlive := false, inHook := none, armed := false, log := items.map .next ++ [t] }

/-- `SubjM.step .replay _ (.subscribe n)` for an unused id, computed -/
theorem stepR_subscribe (st : State) (n : Nat) (hu : (st.obs n).seen = false)
    (hkeys : ∀ p ∈ st.observers, p.1 ≤ st.serial) :
    step .replay st (.subscribe n) = match termOf st.wasError st.wasCompleted with
      | none =>
        { st with
          serial := st.serial + 1
          observers := st.observers ++ [(st.serial + 1, n)]
          obs := upd st.obs n (liveRec st.serial st.items) }
      | some t =>
        { st with
          serial := st.serial + 1
          observers := st.observers
          obs := upd st.obs n (deadRec st.items t) } := by
  simp only [step, subscribeA, hu, Bool.false_eq_true, ↓reduceIte, subscribeB, Kind.isReplay, Bool.and_self,
    subscribeH, register, upd_same, upd_upd]
  rw [handOver_eq _ _ _ _ rfl]
  cases termOf st.wasError st.wasCompleted with
  | none => simp [reap, upd_upd, liveRec]
  | some t => simp [reap, upd_upd, filter_fresh _ _ _ hkeys, deadRec]

theorem logOf_trace_append (w : World) (tr : List Rec) (u : Nat) :
    logOf { w with trace := w.trace ++ tr } u = logOf w u ++ logOf { w with trace := tr } u := by
  simp [logOf, List.filterMap_append]

theorem logOf_evs (w : World) (evs : List Ev) (s u : Nat) :
    logOf { w with trace := evs.map (Rec.ev s) } u = if s = u then evs else [] := by
  simp only [logOf]
  induction evs with
  | nil => simp
  | cons e rest ih =>
    simp only [List.map_cons, List.filterMap_cons]
    split <;> simp_all

/-- the replay of the snapshot to a recording test subscriber (replay_subject.rs:71-76) -/
theorem replayLoop_spec (items : List Data) (o s : Nat) : ∀ (w : World) (x : Obs) (u : User),
    w.obs[o]? = some x → x.next = some (.user s) → x.error = some (.user s) → x.complete = some (.user s) →
    w.users[s]? = some u → u.react = noReact →
    WP (forEach items fun x => .obsNext o x .done) w
      (fun w' => w' = { w with trace := w.trace ++ items.map fun x => .ev s (.next x) }) := by
  induction items with
  | nil => intro w x u _ _ _ _ _ _; exact WP.done (by simp)
  | cons d rest ih =>
    intro w x u ho hn he hc hu hr
    simp only [forEach]
    refine WP.seq ?_
    refine wp_ev_user (ev := .next d) ho hn he hc hu hr (WP.done ?_)
    refine (ih (w.deliverTo o s (.next d)) x u ho hn he hc hu hr).conseq ?_
    intro w' hw'
    rw [hw']
    simp [World.deliverTo, Ev.isTerminal, World.emit]

/-- the stored terminal handed to the subscriber (replay_subject.rs:77-83) -/
theorem termProg_spec (we : Option Nat) (wc : Bool) (o s : Nat) (w : World) (x : Obs) (u : User)
    (ho : w.obs[o]? = some x) (hn : x.next = some (.user s)) (he : x.error = some (.user s))
    (hc : x.complete = some (.user s)) (hu : w.users[s]? = some u) (hr : u.react = noReact) :
    WP (match (Data.optEnc (we.map fun (e : Nat) => Data.int (e : Int))).optDec with
        | some e => Prog.obsError o e.toInt.toNat .done
        | none => if wc = true then Prog.obsComplete o .done else .done) w
      (fun w' => w' = match termOf we wc with
        | some t => w.deliverTo o s t
        | none => w) := by
  cases we with
  | some e =>
    simp only [Option.map_some, Data.optEnc, Data.optDec, toNat_int, termOf]
    exact wp_ev_user (ev := .error e) ho hn he hc hu hr (WP.done rfl)
  | none =>
    cases wc with
    | true =>
      simp only [Option.map_none, Data.optEnc, Data.optDec, termOf, ↓reduceIte]
      exact wp_ev_user (ev := .complete) ho hn he hc hu hr (WP.done rfl)
    | false =>
      simp only [Option.map_none, Data.optEnc, Data.optDec, termOf, Bool.false_eq_true, ↓reduceIte]
      exact WP.done rfl

section
open Rx.RefU Rx.CRef

theorem subscribeR_spec {n w st} (h : RelR n w st) :
    WP (.userSub 0 noReact .done) w (fun w' => RelR (n + 1) w' (step .replay st (.subscribe n))) := by
  have hu : (st.obs n).seen = false := by rw [h.unseen n (Nat.le_refl _)]
  rw [stepR_subscribe st n hu h.keys]
  refine wp_userSub h.obsv ?_
  unfold RSubj.observable
  simp only [r0_items, r0_wasError, r0_wasCompleted, r0_inner]
  refine wp_cellNew ?_
  dsimp only
  refine wp_obsSetOnUnsub h.held ?_
  dsimp only [World.setObs]
  rw [modify_app0]
  simp only [List.modify_cons, ↓reduceIte]
  generalize hrh : (Prog.cellRead w.cells.length false fun h => subUnsub h) = rh
  have hcl : w.cells.length = 5 + 2 * n := h.nCells
  -- the world once `subscribe` has returned: root observer, forwarder, `sbsc` and armed flag appended
  have fin : ∀ (w' : World) (rF : ObsSt) (O' : List (Nat × Nat)), w'.status = w.status → w'.held = w.held →
      w'.slots = w.slots → w'.obsvs = w.obsvs → w'.obs = w.obs ++ [rootOf n rF, fwdOf n rF] →
      w'.users = w.users ++ [⟨w.obs.length, noReact, true, true⟩] →
      w'.cells = (w.cells.set 1 (.int ((st.serial + 1 : Nat) : Int))).set 0 (encMap (mapR O')) ++
        [handle n, .bool rF.armed] →
      w'.trace = w.trace ++ rF.log.map (Rec.ev n) → rF.hook = true → rF.seen = true →
      (∀ p ∈ O', p.1 ≤ st.serial + 1) →
      RelR (n + 1) w' { st with serial := st.serial + 1, observers := O', obs := upd st.obs n rF } := by
    intro w' rF O' hs hh hsl hv hobs husers hcells htrace hk hseen hkeys
    have old : ∀ {i : Nat} {x : Data}, 2 ≤ i → w.cells[i]? = some x → w'.cells[i]? = some x := fun h2 hx => by
      rw [hcells]
      exact getElem?_append_some (by rw [set_get_other _ (by omega), set_get_other _ (by omega)]; exact hx)
    exact h.mk' hs hh hsl hv (by rw [hcells]; simp [hcl]; omega) (by rw [hobs]; simp [h.nObs]; omega)
      (h.up.extend (sepR n) (Ext.refl ..) (a := true) h.nObs.symm hobs husers hcells htrace
        (fun _ => ⟨trivial, by rw [h.nObs]; rfl, hcl.symm, by rw [hcl]; show 6 + 2 * n = _; omega, rfl, rfl⟩)
        (fun hn => absurd trivial hn) ⟨fun _ => rfl, fun _ => hk.symm⟩ hseen (fun e => by rw [hk] at e; cases e) hkeys
        fun _ _ _ => trivial)
      ⟨old (by decide) h.cellI, old (by decide) h.cellE, old (by decide) h.cellC⟩
  have g0 : ∀ l' : List Data, (w.cells ++ l')[0]? = some (encMap (mapR st.observers)) :=
    fun _ => getElem?_append_some h.cellO
  have g1 : ∀ l' : List Data, (w.cells ++ l')[1]? = some (.int st.serial) := fun _ => getElem?_append_some h.cellS
  have g2 : ∀ l' : List Data, (w.cells ++ l')[2]? = some (Data.ofList st.items) :=
    fun _ => getElem?_append_some h.cellI
  have g3 : ∀ l' : List Data, (w.cells ++ l')[3]? = some (Data.optEnc (st.wasError.map fun (e : Nat) => Data.int (e : Int))) :=
    fun _ => getElem?_append_some h.cellE
  have g4 : ∀ l' : List Data, (w.cells ++ l')[4]? = some (.bool st.wasCompleted) :=
    fun _ => getElem?_append_some h.cellC
  -- model A reads `was_error` / `was_completed` here, with `items`; replay_subject.rs:72-73 reads them after the live
  -- subscription.  No `on_subscribe` hook is installed here (`slotA`), so nothing runs in between; over a
  -- connectable's cold source a hook does: NOTE in C13RefAll's header
  refine wp_cellRead h.held ?_
  refine wp_cellRead h.held ?_
  refine wp_cellRead h.held ?_
  dsimp only
  rw [g2, g3, g4]
  simp only [Option.getD_some, Data.toList_ofList, Data.toBool]
  unfold subscribeWith
  refine wp_obsNew ?_
  dsimp only
  simp only [List.length_append, List.length_cons, List.length_nil, List.append_assoc, List.cons_append,
    List.nil_append, Nat.zero_add]
  simp only [Obsv.sub]
  refine WP.seq ?_
  refine wp_obsIsSub (by dsimp only; rw [get_app_ge _ _ 1]; rfl) ?_
  simp only [Obs.isSub, Option.isSome_some, Bool.and_self, ↓reduceIte]
  refine WP.seq ?_
  refine wp_obsIsSub (by dsimp only; rw [get_app_ge _ _ 1]; rfl) ?_
  simp only [Obs.isSub, Option.isSome_some, Bool.and_self, ↓reduceIte]
  refine observable_spec (sj := sj0) (serial := st.serial) (obsl := mapR st.observers) h.held
    (by dsimp only; rw [get_app_ge _ _ 1]; rfl) rfl (by decide) (g1 _) (g0 _) (keys_mapR h.keys)
    h.slotA ?_
  dsimp only [subWorld, World.setObs, sj0_serial, sj0_observers]
  rw [modify_app _ _ 1]
  simp only [List.modify_cons, ↓reduceIte, Nat.reduceEqDiff, Nat.add_one_sub_one]
  rw [set_app_lt _ _ _ _ (by omega), set_app_lt _ _ _ _ (by simp; omega)]
  refine WP.seq ?_
  refine (replayLoop_spec st.items w.obs.length w.users.length _ _ _ (by dsimp only; rw [get_app0]; rfl) rfl rfl rfl
    (by dsimp only; rw [get_app0]; rfl) rfl).conseq ?_
  intro w6 hw6
  subst hw6
  dsimp only
  refine (termProg_spec st.wasError st.wasCompleted w.obs.length w.users.length _ _ _
    (by dsimp only; rw [get_app0]; rfl) rfl rfl rfl (by dsimp only; rw [get_app0]; rfl) rfl).conseq ?_
  intro w7 hw7
  subst hw7
  cases hterm : termOf st.wasError st.wasCompleted with
  | none =>
    dsimp only
    refine wp_cellNew ?_
    dsimp only
    simp only [List.length_append, List.length_set, List.length_cons, List.length_nil, Nat.zero_add]
    refine wp_cellWrite h.held ?_
    dsimp only
    rw [List.append_assoc, set_app_at _ _ _ 0 _ (by simp)]
    simp only [List.cons_append, List.nil_append, List.set_cons_zero]
    refine wp_obsIsSub (by dsimp only; rw [get_app0]; rfl) ?_
    simp only [Obs.isSub, Option.isSome_some, Bool.and_self, ↓reduceIte]
    refine WP.done (wp_userReady (WP.done ?_))
    dsimp only [World.setUser]
    rw [modify_app0]
    simp only [List.modify_cons, ↓reduceIte]
    subst hrh
    refine fin _ (liveRec st.serial st.items) _ rfl rfl rfl rfl ?_ rfl ?_ ?_ rfl rfl ?_
    · dsimp only; rw [h.nObs, h.nUsers, hcl]; rfl
    · dsimp only; rw [h.nObs, hcl]
      simp [mapR, handle, liveRec]
      omega
    · dsimp only; rw [h.nUsers]; simp [liveRec, List.map_map, Function.comp_def]
    · intro p hp
      rcases List.mem_append.1 hp with hp | hp
      · have := h.keys p hp; omega
      · simp at hp; subst hp; simp
  | some t =>
    have ht := termOf_terminal hterm
    dsimp only [World.deliverTo]
    simp only [ht, ↓reduceIte]
    dsimp only [World.setObs, World.emit]
    rw [modify_app0]
    simp only [List.modify_cons, ↓reduceIte, Obs.cleared]
    refine wp_cellNew ?_
    dsimp only
    simp only [List.length_append, List.length_set, List.length_cons, List.length_nil, Nat.zero_add]
    refine wp_cellWrite h.held ?_
    dsimp only
    rw [List.append_assoc, set_app_at _ _ _ 0 _ (by simp)]
    simp only [List.cons_append, List.nil_append, List.set_cons_zero]
    refine wp_obsIsSub (by dsimp only; rw [get_app0]; rfl) ?_
    simp only [Obs.isSub, Option.isSome_none, Bool.and_self, Bool.false_eq_true, ↓reduceIte]
    refine subUnsub_pre (o := w.obs.length + 1) (a := w.cells.length + 1) (b := true) (.of_nil h.held)
      (by dsimp only; rw [get_app_at _ _ _ 1 (by simp)]; rfl) (fun x => nomatch x) fun _ => ?_
    dsimp only
    rw [set_app_at _ _ _ 1 _ (by simp)]
    simp only [List.set_cons_succ, List.set_cons_zero]
    refine wp_obsUnsub_some (f := hookProg sj0 ((st.serial + 1 : Nat) : Int))
      (by dsimp only; rw [get_app_ge _ _ 1]; rfl) rfl ?_
    dsimp only [World.setObs]
    rw [modify_app _ _ 1]
    simp only [List.modify_cons, ↓reduceIte, Nat.reduceEqDiff, Nat.add_one_sub_one, Obs.cleared]
    refine hookProg_spec (sj := sj0) (l := mapR st.observers ++ [(st.serial + 1, w.obs.length + 1)]) h.held
      (by dsimp only
          rw [get_app_lt _ _ _ (by simp; omega)]
          exact set_get_same _ (by rw [set_get_other _ (by omega)]; exact h.cellO))
      h.slotB (WP.done (wp_userReady (WP.done ?_)))
    rw [filter_fresh _ _ _ (keys_mapR h.keys)]
    dsimp only [sj0_observers]
    rw [set_app_lt _ _ _ _ (by simp; omega), List.set_set]
    dsimp only [World.setUser]
    rw [modify_app0]
    simp only [List.modify_cons, ↓reduceIte]
    subst hrh
    refine fin _ (deadRec st.items t) _ rfl rfl rfl rfl ?_ rfl ?_ ?_ rfl rfl fun p hp => Nat.le_succ_of_le (h.keys p hp)
    · dsimp only; rw [hcl]; rfl
    · dsimp only; rw [h.nObs, hcl]
      simp [mapR, handle, deadRec]
      omega
    · dsimp only; rw [h.nUsers]; simp [deadRec, List.map_map, Function.comp_def]

end

def callProgR (r : RSubj) (id : Nat) : Call → Prog
  | .subscribe _ => .userSub id noReact .done
  | .unsubscribe o => .userUnsub o .done
  | .next v => r.next v
  | .error e => r.error e
  | .complete => r.complete

open Rx.RefU Rx.CRef in
theorem callR_spec {n w st} (h : RelR n w st) (c : Call) (hc : wfFrom n [c] = true) :
    WP (callProgR r0 0 c) w (fun w' => RelR (n + subs [c]) w' (step .replay st c)) := by
  have hh : SlotReads w.held := .of_nil h.held
  have em : ∀ ev, WP (codeBody ev (fun v => r0.next v) (fun e => r0.error e) r0.complete) w fun w' =>
      RelR n w' (emit .replay st ev) := fun ev =>
    (rsEmit (sepR n) (rsepR n) hh h.up h.store rfl ev fun p _ hge => by
      rw [h.nObs]; show 2 * n ≤ 2 * p.2 + 1; omega).conseq fun _ ⟨U, R, t⟩ => h.of_up (.ofTouch t) U R
  cases c with
  | subscribe o =>
    have : o = n := by simpa [wfFrom] using hc
    subst this
    exact subscribeR_spec h
  | next v => exact em (.next v)
  | error e => exact em (.error e)
  | complete => exact em .complete
  | unsubscribe o =>
    refine RefU.unsubscribe (sepR n) hh h.up (k := .replay) rfl o nofun fun w' U e _ => ?_
    have h' : RelR n w' (unsubscribeN .replay st o).1 :=
      h.of_up e U (h.store.frame (fun i hi => e.cells i ((rsepR n).free i hi)) (unsubscribeN_mem ..))
    exact hookCall_none h'.held h'.slotB _ h'

/-- allocate a `ReplaySubject` (replay_subject.rs `new`: Subject, items, was_error, was_completed), make its
    observable, perform the calls in order -/
def progR (cs : List Call) : Prog :=
  subjNew fun sj => .cellNew .lnil fun it => .cellNew .lnil fun we => .cellNew (.bool false) fun wc =>
    .obsvNew (RSubj.observable ⟨sj, it, we, wc⟩) fun id => forEach cs (callProgR ⟨sj, it, we, wc⟩ id)

theorem relR_init :
    RelR 0 { cells := [.lnil, .int 0, .lnil, .lnil, .bool false], slots := [none, none], obsvs := [r0.observable] }
      (init .replay) :=
  { status := rfl, held := rfl, cellO := rfl, cellS := rfl, cellI := rfl, cellE := rfl, cellC := rfl, nCells := rfl
    slotA := rfl, slotB := rfl, obsv := rfl, nUsers := rfl, nObs := rfl
    users := fun u hu => by omega
    unseen := fun _ _ => rfl
    quiet := fun _ _ => rfl
    keys := fun p hp => by cases hp }

theorem progR_spec (cs : List Call) (hwf : wfFrom 0 cs = true) :
    WP (progR cs) {} (fun w' => RelR (subs cs) w' (SubjM.run .replay cs)) := by
  unfold progR subjNew
  refine wp_cellNew (wp_cellNew (wp_slotNew (wp_slotNew (wp_cellNew (wp_cellNew (wp_cellNew (wp_obsvNew ?_)))))))
  have := calls_gen (R := RelR) (fun c h hc => callR_spec h c hc) cs relR_init hwf
  rw [Nat.zero_add] at this
  exact this

def FinalR (cs : List Call) (w : World) : Prop := ∃ n0, ∀ fuel, n0 ≤ fuel → run fuel [progR cs] {} = w

/-- what the differential test compares (`O=` is `mapCount`); the map itself holds the forwarders `2u+1` -/
structure AgreesR (w : World) (st : State) : Prop where
  status : w.status = .ok
  held : w.held = []
  logs : ∀ u, logOf w u = SubjM.logOf st u
  reg : regOf w = (registered st).map fun u => 2 * u + 1
  count : mapCount w = (registered st).length
  alive : ∀ u, w.isSubOf u = aliveOf st u

theorem RelR.agrees {n w st} (h : RelR n w st) : AgreesR w st :=
  have ⟨a, b, c, d⟩ := RefU.UP.agrees h.up
  ⟨h.status, h.held, a, b, c, d⟩

/-- **C10-REF, ReplaySubject.**  For every call sequence whose `subscribe` calls are numbered in order, model A's
    program (allocate the replay subject, perform the calls through the transliterated macros of
    `Machine/Subjects.lean`) terminates with `status = ok` and agrees with `SubjM` (kind `.replay`, i.e. with the
    two-step hand-over `subscribeA / subscribeH / subscribeB`) on every user's log, on the observer map and on who
    is still subscribed. -/
theorem replay_refines (cs : List Call) (hwf : wfFrom 0 cs = true) :
    ∃ w, FinalR cs w ∧ AgreesR w (SubjM.run .replay cs) :=
  refines_of ((progR_spec cs hwf).conseq fun _ h => h.agrees)

theorem replay_refines_fuel (cs : List Call) (hwf : wfFrom 0 cs = true) :
    ∃ n0, ∀ fuel, n0 ≤ fuel →
      (run fuel [progR cs] {}).status = .ok ∧
      (∀ u, logOf (run fuel [progR cs] {}) u = SubjM.logOf (SubjM.run .replay cs) u) ∧
      mapCount (run fuel [progR cs] {}) = (registered (SubjM.run .replay cs)).length ∧
      (∀ u, (run fuel [progR cs] {}).isSubOf u = aliveOf (SubjM.run .replay cs) u) :=
  eventually_imp (WP.run_all (progR_spec cs hwf)) fun _ h =>
    let a := h.agrees; ⟨a.status, a.logs, a.count, a.alive⟩

theorem callR_run {n w st} (h : RelR n w st) (c : Call) (hc : wfFrom n [c] = true) :
    ∃ n0, ∀ fuel, n0 ≤ fuel → RelR (n + subs [c]) (run fuel [callProgR r0 0 c] w) (step .replay st c) :=
  WP.run_all (callR_spec h c hc)

/-- **`replay_handover` on model A**: a new user of the machine's ReplaySubject first records every past item in
    call order, then the stored terminal if there is one (and nothing more), otherwise exactly what a plain
    Subject gives an observer subscribed at that moment. -/
theorem machine_replay_handover (pre post : List Call) (o : Nat)
    (hwf : wfFrom 0 (pre ++ .subscribe o :: post) = true) {w : World}
    (h : FinalR (pre ++ .subscribe o :: post) w) :
    logOf w o = (pastItems pre).map .next ++
      match storedError none pre with
      | some e => [.error e]
      | none => if completedIn pre then [.complete] else plainExpect o post := by
  rw [(FinalOf.sat h (replay_refines _ hwf)).logs, replay_handover pre post o (wf_fresh pre post o hwf)]
  rw [plain_log_here]
  cases storedError none pre <;> rfl

theorem machine_replay_no_observer_after_terminal (cs : List Call) (c : Call) (ev : Ev) (hc : c.toEv? = some ev)
    (ht : ev.isTerminal = true) (hwf : wfFrom 0 (cs ++ [c]) = true) {w : World} (h : FinalR (cs ++ [c]) w) :
    regOf w = [] ∧ mapCount w = 0 := by
  have b := FinalOf.sat h (replay_refines _ hwf)
  have := no_observer_after_terminal .replay cs c ev hc ht
  rw [← run_snoc] at this
  rw [b.reg, b.count, this]; exact ⟨rfl, rfl⟩

/-- **`no_observer_after_unsubscribe` on model A** (replay): the forwarder of an unsubscribed user is never in the
    machine's map again -/
theorem machine_replay_no_observer_after_unsubscribe (pre post : List Call) (o : Nat)
    (hsub : Call.subscribe o ∈ pre) (hwf : wfFrom 0 (pre ++ .unsubscribe o :: post) = true) {w : World}
    (h : FinalR (pre ++ .unsubscribe o :: post) w) : 2 * o + 1 ∉ regOf w := by
  rw [(FinalOf.sat h (replay_refines _ hwf)).reg]
  intro hm
  obtain ⟨u, hu, e⟩ := List.mem_map.1 hm
  have : u = o := by omega
  subst this
  exact no_observer_after_unsubscribe .replay pre post u hsub hu

/-- a subscriber that arrives after the terminal is ended by the hand-over, and the machine's map does not hold its
    forwarder either (replay_subject.rs:95-99 unsubscribes it; without that check it would stay registered) -/
theorem machine_replay_late_subscriber_not_held {w : World}
    (h : FinalR [.next (.int 1), .complete, .subscribe 0] w) :
    logOf w 0 = [.next (.int 1), .complete] ∧ w.isSubOf 0 = false ∧ mapCount w = 0 := by
  have a := FinalOf.sat h (replay_refines _ (by decide))
  have := replay_late_subscriber_not_held
  simp only at this
  rw [a.logs, a.alive, a.count, this.1, this.2.1, this.2.2]
  exact ⟨rfl, rfl, rfl⟩

def demoR : List Call :=
  [.next (.int 1), .subscribe 0, .next (.int 2), .subscribe 1, .unsubscribe 0, .next (.int 3), .complete,
   .subscribe 2, .next (.int 4), .unsubscribe 1]

example : wfFrom 0 demoR = true := by decide
theorem demoR_run : (run 2000 [progR demoR] {}).status = .ok ∧ (List.range 4).map (logOf (run 2000 [progR demoR] {})) =
    [[.next (.int 1), .next (.int 2)],
     [.next (.int 1), .next (.int 2), .next (.int 3), .complete],
     [.next (.int 1), .next (.int 2), .next (.int 3), .complete], []] := by
  decide +kernel

example : (run 2000 [progR demoR] {}).status = .ok := demoR_run.1
example : (List.range 4).map (logOf (run 2000 [progR demoR] {})) =
    [[.next (.int 1), .next (.int 2)],
     [.next (.int 1), .next (.int 2), .next (.int 3), .complete],
     [.next (.int 1), .next (.int 2), .next (.int 3), .complete], []] :=
  demoR_run.2
example : (List.range 4).map (SubjM.logOf (SubjM.run .replay demoR)) =
    [[.next (.int 1), .next (.int 2)],
     [.next (.int 1), .next (.int 2), .next (.int 3), .complete],
     [.next (.int 1), .next (.int 2), .next (.int 3), .complete], []] := by
  decide +kernel
example : regOf (run 2000 [progR (demoR.take 6)] {}) = [3] ∧ registered (SubjM.run .replay (demoR.take 6)) = [1] := by
  decide +kernel
example : ∃ w, FinalR [.next (.int 1), .subscribe 0, .subscribe 1, .unsubscribe 0] w ∧
    RelR 2 w (SubjM.run .replay [.next (.int 1), .subscribe 0, .subscribe 1, .unsubscribe 0]) :=
  refines_of (progR_spec [.next (.int 1), .subscribe 0, .subscribe 1, .unsubscribe 0] (by decide))

#print axioms replay_refines
#print axioms replay_refines_fuel
#print axioms callR_run
#print axioms machine_replay_handover
#print axioms machine_replay_no_observer_after_terminal
#print axioms machine_replay_no_observer_after_unsubscribe
#print axioms machine_replay_late_subscriber_not_held

end Rx.RefR
