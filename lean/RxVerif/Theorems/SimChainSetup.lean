import RxVerif.Theorems.SimChainActs
import RxVerif.Machine.Chain
/-
SIM for chains (machine side): subscription set-up.  Each `stdOp` of the chain allocates its controller, its
state cell and its upstream observer, then subscribes the next stage to that observer (`stage_setup`, `opsFrom_setup`).
With the script loop at the top this gives `chain_simFlat`: the machine runs a chain as the flat chain machine says.
-/
namespace Rx.Chain
open Rx.Sim

/-- the world when `stdOp K src s` reaches `src.sub o`, `o` the new upstream observer (`new_observer` has found the
    downstream `s` subscribed) -/
def stageW (K : Kernel Data) (s : Nat) (w : World) : World :=
  let sc : Sctl := ⟨s, w.cells.length, w.cells.length + 1, w.slots.length⟩
  { w with
    obs := (w.obs.modify s fun x => { x with onUnsub := some sc.finalize }) ++
      [⟨some (.code (stdN K sc (w.cells.length + 2) 0)), some (.code (stdE K sc (w.cells.length + 2) 0)),
        some (.code (stdC K sc (w.cells.length + 2) 0)), none⟩]
    cells := w.cells ++ [.int 1, Data.ofList [.pair (.int 0) (.int (w.obs.length : Nat))], K.enc K.init]
    slots := w.slots ++ [none] }

theorem get_mod_concat {α} (l : List α) (s : Nat) (f : α → α) (a : α) :
    (l.modify s f ++ [a])[l.length]? = some a := by
  have : l.length = (l.modify s f).length := by simp
  rw [this, List.getElem?_concat_length]

theorem get_mod_left {α} (l : List α) (s : Nat) (f : α → α) (a x : α) (h : l[s]? = some x) :
    (l.modify s f ++ [a])[s]? = some (f x) := by
  rw [List.getElem?_append_left (by simpa using lt_of_getElem? h), List.getElem?_modify, h]; simp

/-- 12 steps: `sctlNew` (4), the state cell, `new_observer` (6), `src.sub`.  (The subscriber `s` is alive:
    `new_observer`'s re-check of the subscriber takes the live path.) -/
theorem stage_run (K : Kernel Data) (src : Obsv) (s : Nat) (w : World) (hh : w.held = [])
    (x : Obs) (hx : w.obs[s]? = some x) (hsub : x.isSub = true)
    (fuel : Nat) (st : List Prog) :
    run (fuel + 12) (stdOp K src s :: st) w = run fuel (src w.obs.length :: st) (stageW K s w) := by
  obtain ⟨obs, slots, cells, obsvs, users, held, trace, status⟩ := w
  simp only at hh hx
  subst hh
  have hsub' : (x.next.isSome && x.error.isSome && x.complete.isSome) = true := hsub
  simp only [stdOp, run, sctlNew, Sctl.newObserver, Obsv.sub,
    World.conflicts, List.any_nil, World.setObs, Bool.false_eq_true, ↓reduceIte, Bool.and_false,
    List.append_assoc, List.cons_append, List.nil_append, List.length_append, List.length_cons, List.length_nil,
    get3_0, get3_1, set3_0, set3_1, Option.getD_some, Data.toInt, Int.toNat_zero,
    Obs.isSub, Option.isSome_some, Bool.and_self, Nat.zero_add, Nat.reduceAdd, List.length_modify, stageW, get_mod_concat, get_mod_left _ _ _ _ _ hx, hsub']
  rfl

/-- `j` stages of the chain have been built and nothing has been delivered yet -/
structure Built (ly : Lay) (j : Nat) (w : World) : Prop where
  rep : CRep ly j (CSt.init j ly.ks) [] w
  lobs : w.obs.length = ly.L + j + 1
  lcells : w.cells.length = ly.c0 + 3 * j
  lslots : w.slots.length = ly.s0 + j

theorem obsAt_init_lt (ly : Lay) {j k : Nat} (hk : k < j) :
    ly.obsAt (CSt.init (j + 1) ly.ks) k = ly.obsAt (CSt.init j ly.ks) k := by
  have : k < j + 1 := by omega
  simp [Lay.obsAt, Lay.td, CSt.init, hk, this]

theorem built_step {ly : Lay} {j : Nat} {w : World} (hb : Built ly j w) :
    Built ly (j + 1) (stageW (ly.ks j).kernel (ly.L + j) w) := by
  have lo := hb.lobs
  have lc := hb.lcells
  have ls := hb.lslots
  have h := hb.rep
  refine ⟨⟨h.status, h.held, ?_, ?_, ?_, ?_, h.user, h.log, h.others, ?_⟩, ?_, ?_, ?_⟩
  · intro k hk
    show ((w.obs.modify (ly.L + j) _) ++ [_])[ly.L + k]? = _
    by_cases e : k = j + 1
    · subst e
      have : ly.L + (j + 1) = w.obs.length := by omega
      rw [this, get_mod_concat, lc, ls]
      simp [Lay.obsAt, Lay.td, CSt.init, Lay.hdlN, Lay.hdlE, Lay.hdlC, Lay.hn, Lay.he, Lay.hc, Lay.sc, Lay.cc]
    · have hk' : k ≤ j := by omega
      rw [List.getElem?_append_left (by simp; omega), List.getElem?_modify, h.obs k hk']
      by_cases e2 : k = j
      · subst e2
        simp [Lay.obsAt, Lay.td, CSt.init, lc, ls, Lay.sc]
      · have : ly.L + j ≠ ly.L + k := by omega
        rw [obsAt_init_lt ly (by omega)]
        simp only [if_neg this]
        rfl
  · intro k hk
    show (w.cells ++ [_, _, _])[ly.c0 + 3 * k + 1]? = _
    by_cases e : k = j
    · subst e
      have : ly.c0 + 3 * k + 1 = w.cells.length + 1 := by omega
      rw [this, get3_1, lo]; rfl
    · rw [List.getElem?_append_left (by omega)]; exact h.map k (by omega)
  · intro k hk
    show (w.cells ++ [_, _, _])[ly.c0 + 3 * k + 2]? = _
    by_cases e : k = j
    · subst e
      have : ly.c0 + 3 * k + 2 = w.cells.length + 2 := by omega
      rw [this, get3_2]; rfl
    · rw [List.getElem?_append_left (by omega)]; exact h.cst k (by omega)
  · intro k hk
    show (w.slots ++ [none])[ly.s0 + k]? = _
    by_cases e : k = j
    · subst e
      rw [← ls, List.getElem?_concat_length]
    · rw [List.getElem?_append_left (by omega)]; exact h.slot k (by omega)
  · simp [CSt.init]
  · simp [stageW]; omega
  · simp [stageW]; omega
  · simp [stageW]; omega

/-- building stage `j`: afterwards the next stage is subscribed to the new upstream observer -/
theorem stage_setup {ly : Lay} {j : Nat} {w : World} {Q : World → Prop} (src : Obsv) (hb : Built ly j w)
    (hk : ∀ w', Built ly (j + 1) w' → WP (src (ly.L + (j + 1))) w' Q) :
    WP (stdOp (ly.ks j).kernel src (ly.L + j)) w Q := by
  refine Ref.wp_steps 12 _ _ (stage_run _ _ _ _ hb.rep.held _ (hb.rep.obs j (Nat.le_refl _))
    (by rw [obsAt_isSub]; rfl)) ?_
  rw [show w.obs.length = ly.L + (j + 1) by have := hb.lobs; omega]
  exact hk _ (built_step hb)

theorem opsFrom_setup {ly : Lay} (src : Obsv) {Q : World → Prop} : ∀ (c j : Nat) (w : World),
    Built ly j w → (∀ w', Built ly (j + c) w' → WP (src (ly.L + (j + c))) w' Q) →
    WP (opsFrom ly.ks c j src (ly.L + j)) w Q := by
  intro c
  induction c with
  | zero => intro j w hb hk; exact hk w hb
  | succ c ih =>
    intro j w hb hk
    simp only [opsFrom]
    apply stage_setup _ hb
    intro w' hb'
    apply ih (j + 1) w' hb'
    intro w'' hb''
    have e : j + 1 + c = j + (c + 1) := by omega
    rw [e] at hb'' ⊢
    exact hk w'' hb''

/-! `chainOp` in stage numbering -/

theorem opsFrom_foldr (ks : Nat → DK) (src : Obsv) : ∀ (R : List AnyKernel) (j : Nat),
    (∀ k A, R[k]? = some A → ks (j + k) = A.K.dk) →
    opsFrom ks R.length j src = R.foldr (fun A s => stdOp A.K s) src := by
  intro R
  induction R with
  | nil => intro j _; rfl
  | cons A R ih =>
    intro j h
    simp only [List.length_cons, opsFrom, List.foldr_cons]
    have h0 : ks j = A.K.dk := h 0 A rfl
    rw [h0, ih (j + 1) (fun k B hB => by
      have := h (k + 1) B (by simpa using hB)
      rw [← this]; congr 1; omega)]
    rfl

theorem chainOp_eq (Ks : List AnyKernel) (src : Obsv) :
    chainOp Ks src = opsFrom (ksOf Ks) Ks.length 0 src := by
  have h := opsFrom_foldr (ksOf Ks) src Ks.reverse 0 (fun k A hA => by
    simp only [ksOf, Nat.zero_add, hA])
  rw [List.length_reverse] at h
  rw [h, List.foldr_reverse]
  rfl

/-! ### the machine runs a chain exactly as the flat chain machine says -/

def layOf (Ks : List AnyKernel) (w : World) : Lay :=
  ⟨w.obs.length, w.cells.length, w.slots.length, w.users.length, Ks.length, ksOf Ks, logOf w⟩

/-- the world right after `userSub` has created the subscriber and its root observer -/
def subW (f : Nat → Prog) (w : World) : World :=
  { w with
    obsvs := w.obsvs ++ [f]
    obs := w.obs ++ [⟨some (.user w.users.length), some (.user w.users.length), some (.user w.users.length), none⟩]
    users := w.users ++ [⟨w.obs.length, fun _ _ _ => .done, false, true⟩] }

theorem built_zero (Ks : List AnyKernel) (f : Nat → Prog) (w : World) (hw : Ready w) :
    Built (layOf Ks w) 0 (subW f w) where
  rep :=
    { status := hw.status
      held := hw.held
      obs := fun k hk => by
        have : k = 0 := by omega
        subst this
        show (w.obs ++ [_])[w.obs.length + 0]? = _
        rw [Nat.add_zero, List.getElem?_concat_length]
        simp [Lay.obsAt, Lay.td, CSt.init, Lay.hdlN, Lay.hdlE, Lay.hdlC, layOf]
      map := fun k hk => by omega
      cst := fun k hk => by omega
      slot := fun k hk => by omega
      user := ⟨⟨w.obs.length, fun _ _ _ => .done, false, true⟩, by simp [subW, layOf], rfl⟩
      log := hw.inv.quiet _ (Nat.le_refl _)
      others := fun _ _ => rfl
      arTop := by simp [CSt.init] }
  lobs := by simp [subW, layOf]
  lcells := by simp [subW, layOf]
  lslots := by simp [subW, layOf]

/-- No `AllWE`: the flat chain machine works on the encoded states (`DK`), as the object machine does;
    well-encodedness enters with `chainFlat_out`. -/
theorem chain_simFlat (Ks : List AnyKernel) (w : World) (hw : Ready w) (tag : Nat) (s : Stream) :
    ∃ N, ∀ fuel, N ≤ fuel →
      CRep (layOf Ks w) Ks.length (chainFlat Ks s) [] (run fuel [subscribeChain Ks tag s] w) := by
  let ly := layOf Ks w
  let f := chainOp Ks (oScript tag true s.toEvs)
  have hb0 : Built ly 0 (subW f w) := built_zero Ks f w hw
  have hwp : WP (f w.obs.length) (subW f w) (CRep ly Ks.length (chainFlat Ks s) []) := by
    show WP (chainOp Ks (oScript tag true s.toEvs) (ly.L + 0)) _ _
    rw [chainOp_eq]
    apply opsFrom_setup (ly := ly) _ Ks.length 0 _ hb0
    intro w' hb
    rw [Nat.zero_add] at hb ⊢
    simp only [oScript]
    apply c_probe hb.rep
    intro w'' h''
    exact loop_spec ly Ks.length tag s.toEvs _ _ h''
  refine (Ref.wp_obsvNew (Ref.wp_userSub List.getElem?_concat_length
    (hwp.conseq fun w2 h2 => Ref.wp_userReady (WP.done ?_)))).run_all
  obtain ⟨u, hu, hre⟩ := h2.user
  exact { h2 with
    user := ⟨{ u with ready := true }, by
      show (w2.users.modify w.users.length _)[w.users.length]? = _
      have : w2.users[w.users.length]? = some u := hu
      rw [List.getElem?_modify, this]
      simp, hre⟩ }

end Rx.Chain
