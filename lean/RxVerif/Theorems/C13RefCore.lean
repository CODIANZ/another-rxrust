import RxVerif.Theorems.C13RefSim
/-
C13-REF: the representation the connectables share (a connectable's subject S fed from a hot plain `Subject` H).
Observers are allocated in call order, users' observers and source observers interleaved, so the layout is carried
explicitly: `roots[u]` = root observer of user `u`, `cobs[i]` = the i-th source observer (made by
`source.subscribe(next → sbj.next, ..)`, publish.rs:31-39 / ref_count.rs:76-84 / replay.rs:75-83).
`Glob` and the source side `ConnsPart` serve `publish`, `ref_count` and `replay` (there with `roots ++ fwds` for
`roots`); `mapRoots` only the first two, whose subscribers' own observers sit in S's map.
-/
namespace Rx.CRef
open Rx.Sim Rx.SubjM Rx.Ref Rx.RefR

def rootAt (roots : List Nat) (o : Nat) : Nat := roots.getD o 0

/-- the connectable's subject map as stored: serial ↦ root observer of the user -/
def mapRoots (roots : List Nat) (l : List (Nat × Nat)) : List (Nat × Nat) := l.map fun p => (p.1, rootAt roots p.2)

@[simp] theorem length_mapRoots (roots : List Nat) (l : List (Nat × Nat)) : (mapRoots roots l).length = l.length :=
  List.length_map _

/-- the source observers still in H's map, with their serials: observer `i` was registered under serial `i+1` -/
def liveFrom (k : Nat) : List Nat → List Bool → List (Nat × Nat)
  | c :: cs, b :: bs => (if b then [(k + 1, c)] else []) ++ liveFrom (k + 1) cs bs
  | _, _ => []

/-- the i-th source observer: callbacks present while `live`, H's teardown present until its handle is used -/
def connObs (H : Subj) (fn : Data → Prog) (fe : Nat → Prog) (fc : Prog) (i : Nat) (live armed : Bool) : Obs :=
  ⟨if live then some (.code fn) else none, if live then some (.code fe) else none,
   if live then some (.code fc) else none, if armed then some (hookProg H ((i + 1 : Nat) : Int)) else none⟩

/-- The source side: H's two cells (`hmap` = content of its observer map), the source observers, the armed flags
    of their `Subscription` handles (`acell i`). -/
structure ConnsPart (H : Subj) (fn : Data → Prog) (fe : Nat → Prog) (fc : Prog) (acell : Nat → Nat)
    (cobs : List Nat) (w : World) (hmap : List (Nat × Nat)) (conns armed : List Bool) : Prop where
  ne : H.observers ≠ H.serial
  cellO : w.cells[H.observers]? = some (encMap hmap)
  cellS : w.cells[H.serial]? = some (.int conns.length)
  lenC : cobs.length = conns.length
  lenA : armed.length = conns.length
  obs : ∀ i, i < conns.length →
    w.obs[rootAt cobs i]? = some (connObs H fn fe fc i (conns.getD i false) (armed.getD i false))
  acell : ∀ i, i < conns.length → w.cells[acell i]? = some (.bool (armed.getD i false))
  liveArmed : ∀ i, conns.getD i false = true → armed.getD i false = true
  obsv : w.obsvs[0]? = some H.observable     -- the source the connectable was built over

/-- what both sides need of the world as a whole -/
structure Glob (roots cobs : List Nat) (w : World) : Prop where
  status : w.status = .ok
  nObs : w.obs.length = roots.length + cobs.length
  rootsLt : ∀ r ∈ roots, r < w.obs.length
  cobsLt : ∀ c ∈ cobs, c < w.obs.length
  nodup : (roots ++ cobs).Nodup

theorem rootAt_eq {l : List Nat} {i : Nat} (h : i < l.length) : rootAt l i = l[i] := by
  simp [rootAt, List.getD_eq_getElem?_getD, h]

theorem rootAt_mem {l : List Nat} {i : Nat} (h : i < l.length) : rootAt l i ∈ l :=
  rootAt_eq h ▸ List.getElem_mem h

theorem rootAt_ge_of {l : List Nat} {i : Nat} (hi : i < l.length) {P : Nat → Prop} (h : ∀ c ∈ l, P c) :
    P (rootAt l i) := h _ (rootAt_mem hi)

theorem rootAt_zero_or_mem (l : List Nat) (i : Nat) : rootAt l i = 0 ∨ rootAt l i ∈ l := by
  rcases Nat.lt_or_ge i l.length with hl | hl
  · exact Or.inr (rootAt_mem hl)
  · left; simp [rootAt, List.getD_eq_getElem?_getD, List.getElem?_eq_none hl]

theorem rootAt_inj {l : List Nat} (hn : l.Nodup) {i j : Nat} (hi : i < l.length) (hj : j < l.length)
    (h : rootAt l i = rootAt l j) : i = j :=
  (List.getElem_inj hn).mp (rootAt_eq hi ▸ rootAt_eq hj ▸ h)

theorem rootAt_append_lt (l : List Nat) (r : Nat) {i : Nat} (h : i < l.length) : rootAt (l ++ [r]) i = rootAt l i := by
  simp [rootAt, List.getD_eq_getElem?_getD, List.getElem?_append_left h]

theorem rootAt_append_last (l : List Nat) (r : Nat) : rootAt (l ++ [r]) l.length = r := by
  simp [rootAt, List.getD_eq_getElem?_getD]

theorem Glob.root_ne_cob {roots cobs w} (g : Glob roots cobs w) {u i : Nat} (hu : u < roots.length)
    (hi : i < cobs.length) : rootAt roots u ≠ rootAt cobs i :=
  (List.nodup_append.1 g.nodup).2.2 _ (rootAt_mem hu) _ (rootAt_mem hi)

theorem Glob.root_inj {roots cobs w} (g : Glob roots cobs w) {u v : Nat} (hu : u < roots.length)
    (hv : v < roots.length) (h : rootAt roots u = rootAt roots v) : u = v :=
  rootAt_inj (List.nodup_append.1 g.nodup).1 hu hv h

theorem Glob.cob_inj {roots cobs w} (g : Glob roots cobs w) {i j : Nat} (hi : i < cobs.length)
    (hj : j < cobs.length) (h : rootAt cobs i = rootAt cobs j) : i = j :=
  rootAt_inj (List.nodup_append.1 g.nodup).2.1 hi hj h

theorem Glob.of_obs_eq {roots cobs w w'} (g : Glob roots cobs w) (hs : w'.status = w.status)
    (ho : w'.obs.length = w.obs.length) : Glob roots cobs w' :=
  ⟨hs ▸ g.status, ho ▸ g.nObs, fun r hr => ho ▸ g.rootsLt r hr, fun c hc => ho ▸ g.cobsLt c hc, g.nodup⟩

theorem Glob.touch {roots cobs w w' J K} (g : Glob roots cobs w) (t : Touch J K w w') : Glob roots cobs w' :=
  g.of_obs_eq t.status t.obsLen

theorem Glob.push {roots cobs roots' cobs' w w'} (g : Glob roots cobs w) (hs : w'.status = w.status) {k : Nat}
    (ho : w'.obs.length = w.obs.length + k)
    (hp : (roots' ++ cobs').Perm (List.range' w.obs.length k ++ (roots ++ cobs))) : Glob roots' cobs' w' := by
  have old : ∀ x ∈ roots ++ cobs, x < w.obs.length := fun x hx => (List.mem_append.1 hx).elim (g.rootsLt x) (g.cobsLt x)
  have new : ∀ x ∈ roots' ++ cobs', x < w'.obs.length := fun x hx => by
    rw [ho]
    rcases List.mem_append.1 (hp.mem_iff.1 hx) with hx | hx
    · have := List.mem_range'_1.1 hx; omega
    · exact Nat.lt_add_right _ (old x hx)
  refine ⟨hs ▸ g.status, ?_, fun r hr => new r (List.mem_append_left _ hr),
    fun c hc => new c (List.mem_append_right _ hc),
    hp.nodup_iff.2 (List.nodup_append.2 ⟨List.nodup_range', g.nodup, fun a ha b hb e => by
      have := List.mem_range'_1.1 ha; have := old b hb; omega⟩)⟩
  have := hp.length_eq
  simp only [List.length_append, List.length_range'] at this
  rw [ho, g.nObs]; omega

theorem Glob.newRoot {roots cobs w w'} (g : Glob roots cobs w) (hs : w'.status = w.status)
    (ho : w'.obs.length = w.obs.length + 1) : Glob (roots ++ [w.obs.length]) cobs w' :=
  g.push hs ho (by rw [List.append_assoc]; exact List.perm_middle)

theorem Glob.newCob {roots cobs w w'} (g : Glob roots cobs w) (hs : w'.status = w.status)
    (ho : w'.obs.length = w.obs.length + 1) : Glob roots (cobs ++ [w.obs.length]) w' :=
  g.push hs ho (by rw [← List.append_assoc]; exact List.perm_append_singleton _ _)

theorem ConnsPart.frame {H fn fe fc acell cobs w w' hmap conns armed}
    (h : ConnsPart H fn fe fc acell cobs w hmap conns armed)
    (hO : w'.cells[H.observers]? = w.cells[H.observers]?) (hS : w'.cells[H.serial]? = w.cells[H.serial]?)
    (hobs : ∀ i, i < conns.length → w'.obs[rootAt cobs i]? = w.obs[rootAt cobs i]?)
    (hac : ∀ i, i < conns.length → w'.cells[acell i]? = w.cells[acell i]?)
    (hv : w'.obsvs = w.obsvs := by rfl) :
    ConnsPart H fn fe fc acell cobs w' hmap conns armed :=
  { h with
    cellO := hO ▸ h.cellO
    cellS := hS ▸ h.cellS
    obs := fun i hi => (hobs i hi) ▸ h.obs i hi
    acell := fun i hi => (hac i hi) ▸ h.acell i hi
    obsv := by rw [hv]; exact h.obsv }

theorem ConnsPart.touch {H fn fe fc acell cobs w w' hmap conns armed J K}
    (h : ConnsPart H fn fe fc acell cobs w hmap conns armed) (t : Touch J K w w')
    (hJ : ∀ i, i < conns.length → ¬ J (rootAt cobs i))
    (hK : ¬ K H.observers ∧ ¬ K H.serial ∧ ∀ i, i < conns.length → ¬ K (acell i)) :
    ConnsPart H fn fe fc acell cobs w' hmap conns armed :=
  h.frame (t.cells _ hK.1) (t.cells _ hK.2.1) (fun i hi => t.obs _ (hJ i hi)) (fun i hi => t.cells _ (hK.2.2 i hi))
    t.obsvs

theorem Glob.init {w : World} (hs : w.status = .ok) (ho : w.obs = []) : Glob [] [] w :=
  ⟨hs, by rw [ho]; rfl, nofun, nofun, List.nodup_nil⟩

theorem ConnsPart.init {H fn fe fc acell} {w : World} (hne : H.observers ≠ H.serial)
    (hO : w.cells[H.observers]? = some .lnil) (hS : w.cells[H.serial]? = some (.int 0))
    (hv : w.obsvs[0]? = some H.observable) : ConnsPart H fn fe fc acell [] w [] [] [] :=
  { ne := hne, cellO := hO, cellS := hS, lenC := rfl, lenA := rfl, obsv := hv
    obs := nofun
    acell := nofun
    liveArmed := nofun }

end Rx.CRef
