import RxVerif.Theorems.C03RefZip
/-
C03-REF, combine_latest: model A's `oCombineLatest` (Machine/Lib.lean, transliterating
src/operators/combine_latest.rs) over `k` plain hot subjects REFINES the pure history machine `Comb.combineLatest`
(with `combine_f` = the left fold of the case language's binary function).
-/
namespace Rx.CRef.CombineLatest
open Rx.Sim Rx.Ref Rx.Comb Rx.CRef Rx.GRef

/-- the `latest` vector as stored in cell `2k+2` -/
def encL (l : List (Option Data)) : Data := Data.ofList (l.map Data.optEnc)

theorem encL_ne (l : List (Option Data)) : encL l ≠ .unit := by
  cases l <;> simp [encL, Data.ofList]

/-- combine_latest.rs: source `i` gets serial `i` (`pop_front`), as in zip -/
def lay (f : Fn2) (k : Nat) : GLay :=
  GLay.std k id (fun i x => clRegister f (Merge.scOf k) (2 * k + 2) i x) (fun _ e => (Merge.scOf k).sinkError e)
    fun i => (Merge.scOf k).sinkComplete i

theorem lay_ok (f : Fn2) (k : Nat) : (lay f k).Ok := GLay.std_ok fun _ => rfl

abbrev RelL (f : Fn2) (k : Nat) (c : Ctl) (l : List (Option Data)) (out : List Ev) (w : World) : Prop :=
  SRel (lay f k) c ⟨encL l, k, 1 + k⟩ out w

/-- `register(&id, item)` (combine_latest.rs): the store and the snapshot happen under the write guard of the
    `latest` cell, the emission after its release = the `.next` case of `Comb.combineLatest.step` -/
theorem register_spec {f : Fn2} {k : Nat} {c : Ctl} {l : List (Option Data)} {out : List Ev} {w : World}
    (h : RelL f k c l out w) (i : Nat) (d : Data) :
    WP (clRegister f (Merge.scOf k) (2 * k + 2) i d) w
      (fun w' =>
        if (l.set i (some d)).all Option.isSome then
          RelL f k (c.sinkNext (combineLatest.foldFn2 f ((l.set i (some d)).map fun x => x.getD .unit))).1
            (l.set i (some d))
            (out ++ (c.sinkNext (combineLatest.foldFn2 f ((l.set i (some d)).map fun x => x.getD .unit))).2) w'
        else RelL f k c (l.set i (some d)) out w') := by
  have ok := lay_ok f k
  simp only [clRegister]
  refine wp_lockAcq (noconf_of_held_nil h.held _ _) ?_
  refine wp_cellRead_g ?_
  have hx : ({ w with held := (LockId.cell (2 * k + 2), true) :: w.held } : World).cells[2 * k + 2]?.getD .unit =
      encL l := by
    show w.cells[(lay f k).cx]?.getD .unit = _
    rw [h.xc_some (encL_ne _)]; rfl
  rw [hx]
  simp only [encL, Data.toList_ofList, ← List.map_set]
  refine wp_cellWrite_g (wp_lockRel ?_)
  rw [release_head _ _ _ w.held rfl]
  have h2 : RelL f k c (l.set i (some d)) out
      { w with cells := w.cells.set (2 * k + 2) (encL (l.set i (some d))) } := h.setX ok (encL_ne _) _
  have hall : ((l.set i (some d)).map Data.optEnc).all (fun o => (Data.optDec o).isSome) =
      (l.set i (some d)).all Option.isSome := by
    rw [List.all_map]; congr 1; funext o; simp only [Function.comp, optDec_optEnc]
  have hvals : ((l.set i (some d)).map Data.optEnc).map (fun o => (Data.optDec o).getD .unit) =
      (l.set i (some d)).map fun x => x.getD .unit := by
    rw [List.map_map]; congr 1; funext o; simp only [Function.comp, optDec_optEnc]
  rw [hall, hvals]
  cases hc : (l.set i (some d)).all Option.isSome with
  | true =>
    simp only [↓reduceIte]
    exact h2.sinkNext ok _
  | false =>
    simp only [Bool.false_eq_true, ↓reduceIte]
    exact WP.done h2

def sim (f : Fn2) (k : Nat) : StaticSim (lay f k) (combineLatest.step (combineLatest.foldFn2 f)) where
  ok := lay_ok f k
  ctl s := s.ctl
  fr s := ⟨encL s.latest, k, 1 + k⟩
  dead s p h := if_neg (by rw [show s.ctl.isLive p.1 = false from h]; decide)
  body s i ev out w _ _ hlv h := by
    refine WP.conseq ?_ fun _ q => ⟨q, trivial⟩
    simp only [combineLatest.step, Ctl.isLive, hlv, ↓reduceIte]
    cases ev with
    | next d =>
      refine (register_spec h i d).conseq fun w2 h2 => ?_
      cases hc : (s.latest.set i (some d)).all Option.isSome with
      | true => simp only [hc, ↓reduceIte] at h2 ⊢; exact h2
      | false => simp only [hc, Bool.false_eq_true, ↓reduceIte, List.append_nil] at h2 ⊢; exact h2
    | error e => exact h.sinkError (lay_ok f k) e
    | complete => exact h.sinkComplete (lay_ok f k) i

/-- `n+1` plain subjects; test user 0 subscribes to `s0.combine_latest(&[s1, .., sn], fold f)`; then the history -/
def prog (f : Fn2) (n : Nat) (H : History) : Prog :=
  subjsNew (n + 1) fun sjs =>
    .obsvNew (oCombineLatest f (sjs.headD default).observable (sjs.tail.map Subj.observable)) fun id =>
    .userSub id noReact (drive sjs H)

theorem encL_init (k : Nat) :
    Data.ofList (List.replicate k (Data.optEnc none)) = encL (List.replicate k none) := by
  simp [encL, List.map_replicate]

/-- For EVERY history the combine_latest program ends, for all sufficient fuel, with
    `status = ok`, no guard held, the user's log equal to the output of `Comb.combineLatest` (with the folded binary
    function), and subject `i` holding one observer iff `i` is in the machine's final `live` set. -/
theorem combine_latest_refines (f : Fn2) (n : Nat) (H : History) :
    ∃ n0, ∀ fuel, n0 ≤ fuel →
      Agrees (n + 1) (run fuel [prog f n H] {})
        (finalFrom (combineLatest.step (combineLatest.foldFn2 f)) (combineLatest.init (n + 1)) H).ctl.live
        (combineLatest.runFn2 f (n + 1) H) := by
  refine (sim f (n + 1)).refines
    (fun sjs => oCombineLatest f (sjs.headD default).observable (sjs.tail.map Subj.observable)) H
    (combineLatest.init (n + 1)) trivial ?_
  rw [show (lay f (n + 1)).k = n + 1 from rfl]
  simp only [oCombineLatest]
  rw [show ((sjs (n + 1)).tail.map Subj.observable).length + 1 = n + 1 by simp [sjs], encL_init]
  refine wp_sctlNew_start (wp_cellNew_ctl ?_)
  exact wp_setup (lay_ok f (n + 1)) (GLay.std_std (fun _ => rfl) fun _ h => h) _ (fun _ _ => rfl)
    (rel_ctlWorld (lay_ok f (n + 1)) (fun _ => rfl) [_] _)
    (congrArg subscribeAll (Zip.zip_eq n))

/-- the tuples of `combineLatestSpec`, folded by `f`: `combine_f` only changes the payload (`combine_latest_spec_of`) -/
theorem combine_latest_machine_spec (f : Fn2) (n : Nat) (H : History) (hwf : WellFormed (n + 1) H) :
    ∃ n0, ∀ fuel, n0 ≤ fuel → (run fuel [prog f n H] {}).status = .ok ∧
      logOf (run fuel [prog f n H] {}) 0 =
        (combineLatestSpec (n + 1) H).map (mapEv (combineLatest.foldFn2 f)) :=
  machine_spec_of (combine_latest_refines f n H) (combine_latest_spec_of _ (n + 1) (by omega) H hwf)

/-- a1 a2 b10 b20 a3, a completes, b30, b completes with `f = add` -/
def demo : History :=
  [(0, .next (.int 1)), (0, .next (.int 2)), (1, .next (.int 10)), (1, .next (.int 20)), (0, .next (.int 3)),
   (0, .complete), (1, .next (.int 30)), (1, .complete), (1, .next (.int 40))]

theorem demo_run : (run 4000 [prog .add 1 demo] {}).status = .ok ∧
    logOf (run 4000 [prog .add 1 demo] {}) 0 =
      [.next (.int 12), .next (.int 22), .next (.int 23), .next (.int 33), .complete] := by
  decide +kernel

example : (run 4000 [prog .add 1 demo] {}).status = .ok := demo_run.1
example : logOf (run 4000 [prog .add 1 demo] {}) 0 =
    [.next (.int 12), .next (.int 22), .next (.int 23), .next (.int 33), .complete] := demo_run.2
example : combineLatest.runFn2 .add 2 demo =
    [.next (.int 12), .next (.int 22), .next (.int 23), .next (.int 33), .complete] := by decide +kernel
example : (List.range 2).map (regCount (run 4000 [prog .add 1 (demo.take 6)] {})) = [0, 1] ∧
    (finalFrom (combineLatest.step (combineLatest.foldFn2 .add)) (combineLatest.init 2) (demo.take 6)).ctl.live = [1] := by
  decide +kernel
example : WellFormed 2 (demo.take 8) := by decide
example : logOf (run 4000 [prog .add 1 (demo.take 8)] {}) 0 =
    (combineLatestSpec 2 (demo.take 8)).map (mapEv (combineLatest.foldFn2 .add)) := by decide +kernel

#print axioms combine_latest_refines
#print axioms combine_latest_machine_spec

end Rx.CRef.CombineLatest
