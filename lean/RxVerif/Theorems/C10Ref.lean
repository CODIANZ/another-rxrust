import RxVerif.Theorems.C10RefUsers
/-
C10-REF — model A's `Subject` macros (`Machine/Core.lean`: `subjNew`, `Subj.next/error/complete/observable`,
transliterating src/subjects/subject.rs) REFINE the pure subject machine `SubjM` (kind `.plain`), for test
subscribers attached directly to `sj.observable` whose callbacks only record.

The simulation relation `Rel` (World ↔ SubjM.State) is the users' part `RefU.UP` (C10RefUsers) at the layout `idLay`, in
a world that holds nothing else (`RelC.up`, `RelC.mk'`, `RelC.of_up`); the lemma of each call kind is the closed-world
instance of C10RefUsers' (suffix `F`: with the frame on the other cells, which AsyncSubject needs for its own two);
`calls_ind` is the induction over the call sequence, for any relation and any subject kind; `plain_refines` the
theorem from the empty world; then C10's central statements transported to model A.
-/
namespace Rx.Ref
open Rx.Sim Rx.SubjM

/-- The simulation relation, on the components of a `SubjM.State` (so that it can be used in the middle of a
    broadcast, where the map cell is already cleared but the records are only partly updated).
    `n` = number of `subscribe` calls so far = number of users = number of observers;
    `ov` = the observable the users subscribe to (`sj.observable` for a plain Subject, `a.observable` for an
    AsyncSubject over `sj`). -/
structure RelC (sj : Subj) (ov : Obsv) (id n : Nat) (w : World) (observers : List (Nat × Nat)) (serial : Nat)
    (f : Nat → ObsSt) : Prop where
  status : w.status = .ok
  held : w.held = []
  ne : sj.observers ≠ sj.serial
  cellO : w.cells[sj.observers]? = some (encMap observers)
  cellS : w.cells[sj.serial]? = some (.int serial)
  slotA : w.slots[sj.onSub]? = some none
  slotB : w.slots[sj.onUnsub]? = some none
  obsv : w.obsvs[id]? = some ov
  nUsers : w.users.length = n
  nObs : w.obs.length = n
  /-- `a` = `Subscription.fn_unsubscribe` still there; it outlives the observer's hook for a subscriber that was
      handed a terminal at once (AsyncSubject after its end): hence only `hook → a` -/
  user : ∀ u, u < n → ∃ a, w.users[u]? = some ⟨u, noReact, true, a⟩ ∧ ((f u).hook = true → a = true)
  obs : ∀ u, u < n → w.obs[u]? = some (obsOf sj u (f u))
  seen : ∀ u, u < n → (f u).seen = true
  unseen : ∀ u, n ≤ u → View (f u) = View {}
  hookIff : ∀ u, (f u).hook = (f u).inHook.isSome
  deadNoHook : ∀ u, (f u).hook = false → (f u).alive = false
  log : ∀ u, logOf w u = (f u).log
  keys : ∀ p ∈ observers, p.1 ≤ serial

def Rel (sj : Subj) (ov : Obsv) (id n : Nat) (w : World) (st : State) : Prop :=
  RelC sj ov id n w st.observers st.serial st.obs

theorem RelC.users_none {sj ov id n w observers serial f} (h : RelC sj ov id n w observers serial f) (u : Nat)
    (hu : n ≤ u) : w.users[u]? = none := by
  apply List.getElem?_eq_none; rw [h.nUsers]; exact hu

section
open Rx.RefU Rx.CRef

/-- subscriber `u`'s own observer is observer `u`, and it is what the Subject's map holds -/
def idLay : RefU.Layout :=
  { dir := true, root := fun u => u, reg := fun _ => False, arm := fun _ => False, fwd := fun u => u, sb := fun u => u,
    ac := fun u => u, armReg := fun a => a }

theorem idLay_map (l : List (Nat × Nat)) : idLay.map l = l := by
  simp [Layout.map, Layout.inMap, idLay]

theorem sepId {sj : Subj} (hne : sj.observers ≠ sj.serial) (n : Nat) : RefU.Sep sj idLay n :=
  { ne := hne, obs := fun _ _ e => ⟨e, nofun, nofun⟩, cells := fun _ _ _ hr => hr.elim, sbs := fun _ _ _ hr => hr.elim
    self := fun _ hr => hr.elim, sbS := fun _ hr => hr.elim, dirNoReg := fun _ _ hr => hr }

variable {sj : Subj} {ov : Obsv} {id n : Nat} {w : World} {O : List (Nat × Nat)} {s : Nat} {f : Nat → ObsSt}

theorem RelC.up (h : RelC sj ov id n w O s f) : UP sj idLay False n none w O s f :=
  { cellO := (idLay_map O).symm ▸ h.cellO, cellS := h.cellS, nUsers := h.nUsers
    users := fun u hu =>
      { user := let ⟨a, h1, h2⟩ := h.user u hu; ⟨true, a, h1, fun _ => rfl, h2, False.elim⟩
        root := h.obs u hu
        fwd := False.elim, stored := False.elim, unstored := False.elim
        unreg := fun _ => h.hookIff u
        log := h.log u, seen := h.seen u hu, dead := h.deadNoHook u }
    unseen := h.unseen
    quiet := fun u hu => (h.log u).trans (View.eq (h.unseen u hu)).2.2.1
    keys := h.keys, regd := nofun }

/-- a closed world: the users' part, and nothing else -/
theorem RelC.mk' {n' : Nat} {w' : World} {O' : List (Nat × Nat)} {s' : Nat} {f' : Nat → ObsSt}
    (h : RelC sj ov id n w O s f) (hs : w'.status = w.status) (hh : w'.held = w.held) (hsl : w'.slots = w.slots)
    (hv : w'.obsvs = w.obsvs) (ho : w'.obs.length = n') (U : UP sj idLay False n' none w' O' s' f') :
    RelC sj ov id n' w' O' s' f' :=
  have un := fun u (hu : n' ≤ u) => View.eq (U.unseen u hu)
  { status := hs ▸ h.status, held := hh ▸ h.held, ne := h.ne
    cellO := (idLay_map O') ▸ U.cellO, cellS := U.cellS
    slotA := hsl ▸ h.slotA, slotB := hsl ▸ h.slotB, obsv := hv ▸ h.obsv
    nUsers := U.nUsers, nObs := ho
    user := fun u hu => let ⟨_, a, h1, hrd, h2, _⟩ := (U.users u hu).user; ⟨a, hrd nofun ▸ h1, h2⟩
    obs := fun u hu => (U.users u hu).root
    seen := fun u hu => (U.users u hu).seen
    unseen := U.unseen
    hookIff := fun u => (Nat.lt_or_ge u n').elim (fun hu => (U.users u hu).unreg fun a => a) fun hu => by
      rw [(un u hu).2.2.2.1, (un u hu).2.2.2.2]; rfl
    deadNoHook := fun u => (Nat.lt_or_ge u n').elim (fun hu => (U.users u hu).dead) fun hu _ => (un u hu).2.1
    log := fun u => (Nat.lt_or_ge u n').elim (fun hu => (U.users u hu).log) fun hu =>
      (U.quiet u hu).trans (un u hu).2.2.1.symm
    keys := U.keys }

/-- an edit of the users' objects leaves the rest of a closed world alone -/
theorem RelC.of_up {J K : Nat → Prop} {w' : World} {O' : List (Nat × Nat)} {f' : Nat → ObsSt}
    (h : RelC sj ov id n w O s f) (e : Edit J K w w') (U : UP sj idLay False n none w' O' s f') :
    RelC sj ov id n w' O' s f' :=
  h.mk' e.status e.held e.slots e.obsvs (e.obsLen ▸ h.nObs) U

end

theorem view_upd (f : Nat → ObsSt) (o : Nat) (r : ObsSt) (u : Nat) :
    View (upd f o r u) = if u = o then View r else View (f u) := by
  simp only [upd]; split <;> rfl

theorem deliverTo_obs (w : World) (o s : Nat) (ev : Ev) :
    (w.deliverTo o s ev).obs = if ev.isTerminal then w.obs.modify o Obs.cleared else w.obs := by
  rw [CRef.deliverTo_eq]

/-- `observer.next(d)` / `.error(e)` / `.complete()` on one entry of the snapshot = `ObsSt.recv` -/
theorem deliver1_spec {sj ov id n w observers serial f} (h : RelC sj ov id n w observers serial f) (ev : Ev) (o : Nat) :
    WP (evProg ev o .done) w (fun w' => RelC sj ov id n w' observers serial (upd f o ((f o).recv ev))) :=
  ((Nat.lt_or_ge o n).elim (fun lt => RefU.deliver1 (sepId h.ne n) h.up (k := .plain) rfl ev lt nofun)
    fun ge => RefU.deliver1_absent h.up (k := .plain) rfl ev ge (h.nObs ▸ ge)).conseq fun _ ⟨U, t⟩ =>
    h.of_up (.ofTouch t) U

theorem deliver_loop {sj ov id n observers serial} (ev : Ev) (l : List (Nat × Nat)) :
    ∀ (f : Nat → ObsSt) (w : World), RelC sj ov id n w observers serial f →
      WP (forEach (l.map fun p => Data.int p.2) fun o => evProg ev o.toInt.toNat .done) w
        (fun w' => RelC sj ov id n w' observers serial (deliver .plain ev l f)) :=
  fun f w h => by
    have := (RefU.deliver_loop (sepId h.ne n) (k := .plain) rfl ev n l (fun _ _ => ⟨nofun, fun a => a⟩) f w
      (Nat.le_of_eq h.nObs) h.up).conseq fun _ ⟨U, t⟩ => h.of_up (.ofTouch t) U
    rwa [idLay_map] at this

def callProg (sj : Subj) (id : Nat) : Call → Prog
  | .subscribe _ => .userSub id noReact .done
  | .unsubscribe o => .userUnsub o .done
  | .next v => sj.next v
  | .error e => sj.error e
  | .complete => sj.complete

/-- `Subject::next / error / complete` (subject.rs:37-52) = `SubjM.emit .plain` -/
theorem emit_specF {sj ov id n w st} (h : Rel sj ov id n w st) (ev : Ev) :
    WP (evCall sj ev) w (fun w' => Rel sj ov id n w' (emit .plain st ev) ∧
      ∀ i, i ≠ sj.observers → w'.cells[i]? = w.cells[i]?) :=
  (RefU.broadcast (sepId h.ne n) (.of_nil h.held) h.up (k := .plain) rfl ev
    fun p _ hge => by rw [h.nObs]; exact hge).conseq fun _ ⟨U, t⟩ => ⟨RelC.of_up h (.ofTouch t) U, fun i hi => t.cells i hi⟩

theorem emit_spec {sj ov id n w st} (h : Rel sj ov id n w st) (ev : Ev) :
    WP (evCall sj ev) w (fun w' => Rel sj ov id n w' (emit .plain st ev)) :=
  (emit_specF h ev).conseq fun _ h' => h'.1

/-- `Subject::observable`'s closure when no `on_subscribe` hook is installed -/
theorem observable_spec {sj : Subj} {w0 : World} {s serial : Nat} {x : Obs} {obsl : List (Nat × Nat)}
    {Q : World → Prop} (hh : w0.held = []) (hx : w0.obs[s]? = some x) (hsub : x.isSub = true)
    (hne : sj.observers ≠ sj.serial)
    (hS : w0.cells[sj.serial]? = some (.int serial)) (hO : w0.cells[sj.observers]? = some (encMap obsl))
    (hkeys : ∀ p ∈ obsl, p.1 ≤ serial) (hA : w0.slots[sj.onSub]? = some none)
    (hQ : Q (subWorld sj w0 s serial obsl)) : WP (sj.observable s) w0 Q :=
  CRef.observable_pre (.of_nil hh) hx hsub hne hS hO hkeys (CRef.slotTail_none (.of_nil hh) hA hQ)

theorem hookProg_spec {sj : Subj} {w : World} {l : List (Nat × Nat)} {k : Nat} {Q : World → Prop} (hh : w.held = [])
    (hO : w.cells[sj.observers]? = some (encMap l)) (hB : w.slots[sj.onUnsub]? = some none)
    (hQ : Q { w with cells := w.cells.set sj.observers (encMap (l.filter fun p => p.1 != k)) }) :
    WP (hookProg sj (k : Int)) w Q :=
  CRef.hookProg_pre (.of_nil hh) hO (CRef.slotTail_none (.of_nil hh) hB hQ)

/-- the relation after a fresh user `n` went through `Subject::observable`'s closure and `subscribe` returned -/
theorem RelC.afterSub {sj ov id n w} {st : State} (h : RelC sj ov id n w st.observers st.serial st.obs) :
    RelC sj ov id (n + 1)
      ((subWorld sj { w with
          obs := w.obs ++ [⟨some (.user n), some (.user n), some (.user n), none⟩]
          users := w.users ++ [⟨n, noReact, false, true⟩] } n st.serial st.observers).setUser n
        fun u => { u with ready := true })
      (register st n { seen := true, alive := true, hook := true }).observers
      (register st n { seen := true, alive := true, hook := true }).serial
      (register st n { seen := true, alive := true, hook := true }).obs := by
  refine h.mk' rfl rfl rfl rfl (by simp [World.setUser, subWorld, World.setObs, h.nObs])
    (h.up.extend (sepId h.ne n) (RefU.Ext.refl ..) (a := true) (fw := []) (nc := []) h.nObs.symm ?_ ?_
      (by rw [idLay_map, List.append_nil]; rfl) (by show w.trace = _; simp) nofun (fun _ => rfl)
      ⟨fun _ => rfl, False.elim⟩ rfl nofun ?_ nofun)
  · show (w.obs ++ [_]).modify n _ = _
    rw [← h.nObs, RefR.modify_app0]; simp [RefU.Layout.rootObs, idLay, obsOf]
  · show (w.users ++ [_]).modify n _ = _
    rw [← h.nUsers, RefR.modify_app0, h.nUsers, h.nObs]; rfl
  · intro p hp
    show p.1 ≤ st.serial + 1
    rcases List.mem_append.1 hp with hp | hp
    · have := h.keys p hp; omega
    · simp at hp; subst hp; simp

/-- an event handed to the root observer `userSub` has just appended for test subscriber `n`, before anything else
    is allocated (the hand-over of a stored value or terminal by `subscribe`) -/
theorem wp_ev_fresh {w : World} {us : List User} {tr : List Rec} {n : Nat} {u : User} {ev : Ev} {k : Prog}
    {Q : World → Prop} (hu : us[n]? = some u) (hr : u.react = noReact)
    (hk : WP k { w with
        obs := w.obs ++ [if ev.isTerminal then ⟨none, none, none, none⟩
          else ⟨some (.user n), some (.user n), some (.user n), none⟩]
        users := us, trace := tr ++ [.ev n ev] } Q) :
    WP (evProg ev w.obs.length k)
      { w with obs := w.obs ++ [⟨some (.user n), some (.user n), some (.user n), none⟩], users := us, trace := tr } Q := by
  refine wp_ev_user (s := n) (RefR.get_app0 ..) rfl rfl rfl hu hr ?_
  rw [CRef.deliverTo_eq]
  dsimp only
  rw [RefR.modify_app0]
  cases ev <;> exact hk

/-- `observable().subscribe(..)` of a fresh test subscriber (observable.rs `inner_subscribe`, subject.rs:61-93)
    = `SubjM.step .plain _ (.subscribe n)` for the next unused id -/
theorem subscribe_spec {sj id n w st} (h : Rel sj sj.observable id n w st) :
    WP (.userSub id noReact .done) w (fun w' => Rel sj sj.observable id (n + 1) w' (step .plain st (.subscribe n))) := by
  have hu : (st.obs n).seen = false := (View.eq (h.unseen n (Nat.le_refl _))).1
  have hst : step .plain st (.subscribe n) = register st n { seen := true, alive := true, hook := true } :=
    step_subscribe_unseen .plain rfl st n hu
  rw [hst]
  refine wp_userSub h.obsv ?_
  simp only [h.nObs, h.nUsers]
  refine observable_spec (x := ⟨some (.user n), some (.user n), some (.user n), none⟩) (serial := st.serial)
    (obsl := st.observers) h.held (by rw [← h.nObs]; simp) rfl h.ne h.cellS h.cellO h.keys h.slotA ?_
  refine wp_userReady (WP.done ?_)
  exact RelC.afterSub h

/-- `Subscription::unsubscribe` of a test subscriber's handle (subscription.rs, observer.rs:53-60,
    subject.rs:74-83) = `SubjM.step .plain _ (.unsubscribe u)`; ids that never subscribed are no-ops on both sides;
    a plain Subject installs no `on_unsubscribe` hook -/
theorem unsubscribe_specF {sj ov id n w st} (h : Rel sj ov id n w st) (u : Nat) :
    WP (.userUnsub u .done) w (fun w' => Rel sj ov id n w' (step .plain st (.unsubscribe u)) ∧
      ∀ i, i ≠ sj.observers → w'.cells[i]? = w.cells[i]?) := by
  refine RefU.unsubscribe (sepId h.ne n) (.of_nil h.held) h.up (k := .plain) rfl u nofun fun w' U e _ => ?_
  have U' : RefU.UP sj idLay False n none w' (unsubscribeN .plain st u).1.observers (unsubscribeN .plain st u).1.serial
      (unsubscribeN .plain st u).1.obs := U
  rw [unsub_serial] at U'
  have h' : Rel sj ov id n w' (step .plain st (.unsubscribe u)) := by
    have := RelC.of_up h e U'
    rwa [← unsub_serial .plain st u] at this
  have hc : ∀ i, i ≠ sj.observers → w'.cells[i]? = w.cells[i]? := fun i hi => by
    by_cases es : i = sj.serial
    · rw [es, U'.cellS, h.cellS]
    · exact e.cells i fun hk => by
        rcases hk with hk | hk | ⟨_, _, ⟨hr, _⟩ | ⟨hr, _⟩⟩
        · exact hi hk
        · exact es hk
        · exact hr
        · exact hr
  exact RefU.hookCall_none h'.held h'.slotB _ ⟨h', hc⟩

theorem unsubscribe_spec {sj ov id n w st} (h : Rel sj ov id n w st) (u : Nat) :
    WP (.userUnsub u .done) w (fun w' => Rel sj ov id n w' (step .plain st (.unsubscribe u))) :=
  (unsubscribe_specF h u).conseq fun _ h' => h'.1

def isSubscribe : Call → Bool
  | .subscribe _ => true
  | _ => false

def subs (cs : List Call) : Nat := (cs.filter isSubscribe).length

/-- RESTRICTION on the call sequences: the `subscribe` calls name the ids `n, n+1, …` in call order, i.e. every
    `subscribe` uses a fresh id and ids are numbered by first use — exactly what `userSub` does (it creates user
    number `users.length`) and what `Observable::subscribe` does (a fresh `Observer` per call).  `SubjM` makes the
    matching assumption by ignoring a repeated `subscribe o`.  `unsubscribe o` / events are unrestricted
    (`unsubscribe` of an id that has not subscribed yet is a no-op on both sides). -/
def wfFrom (n : Nat) : List Call → Bool
  | [] => true
  | .subscribe o :: cs => o == n && wfFrom (n + 1) cs
  | _ :: cs => wfFrom n cs

theorem call_spec {sj id n w st} (h : Rel sj sj.observable id n w st) (c : Call) (hc : wfFrom n [c] = true) :
    WP (callProg sj id c) w (fun w' => Rel sj sj.observable id (n + subs [c]) w' (step .plain st c)) := by
  cases c with
  | subscribe o =>
    have : o = n := by simpa [wfFrom] using hc
    subst this
    exact subscribe_spec h
  | unsubscribe o => exact unsubscribe_spec h o
  | next v => exact emit_spec h (.next v)
  | error e => exact emit_spec h (.error e)
  | complete => exact emit_spec h .complete

theorem wfFrom_cons (n : Nat) (c : Call) (cs : List Call) :
    wfFrom n (c :: cs) = (wfFrom n [c] && wfFrom (n + subs [c]) cs) := by
  cases c <;> simp [wfFrom, subs, isSubscribe, List.filter]

theorem subs_cons (c : Call) (cs : List Call) : subs (c :: cs) = subs [c] + subs cs := by
  cases c <;> simp [subs, isSubscribe, List.filter] <;> omega

/-- a relation kept by every call is kept by the sequence; `cnt` = the subscriptions a call adds, `wf` = the
    numbering restriction, of which only the two `cons` equations are used -/
theorem calls_ind {C σ : Type} {step : σ → C → σ} {cp : C → Prog} {R : Nat → World → σ → Prop}
    {wf : Nat → List C → Bool} {cnt : List C → Nat}
    (wf_cons : ∀ n c cs, wf n (c :: cs) = (wf n [c] && wf (n + cnt [c]) cs))
    (cnt_cons : ∀ c cs, cnt (c :: cs) = cnt [c] + cnt cs) (cnt_nil : cnt [] = 0)
    (hcall : ∀ {n w st} (c : C), R n w st → wf n [c] = true → WP (cp c) w fun w' => R (n + cnt [c]) w' (step st c)) :
    ∀ (cs : List C) {n w st}, R n w st → wf n cs = true →
      WP (forEach cs cp) w fun w' => R (n + cnt cs) w' (cs.foldl step st)
  | [], _, _, _, h, _ => WP.done (by rw [cnt_nil]; exact h)
  | c :: rest, n, w, st, h, hwf => by
    rw [wf_cons, Bool.and_eq_true] at hwf
    rw [cnt_cons, ← Nat.add_assoc]
    exact WP.seq ((hcall c h hwf.1).conseq fun w1 h1 => calls_ind wf_cons cnt_cons cnt_nil hcall rest h1 hwf.2)

theorem calls_gen {R : Nat → World → State → Prop} {cp : Call → Prog} {k : Kind}
    (hcall : ∀ {n w st} (c : Call), R n w st → wfFrom n [c] = true →
      WP (cp c) w fun w' => R (n + subs [c]) w' (step k st c)) :
    ∀ (cs : List Call) {n w st}, R n w st → wfFrom n cs = true →
      WP (forEach cs cp) w fun w' => R (n + subs cs) w' (runFrom k st cs) :=
  calls_ind wfFrom_cons subs_cons rfl hcall

/-- allocate a `Subject` (subject.rs `Subject::new`), make its observable, perform the calls in order -/
def prog (cs : List Call) : Prog :=
  subjNew fun sj => .obsvNew sj.observable fun id => forEach cs (callProg sj id)

/-- the subject `prog` allocates in the empty world, and its observable's id -/
def sj0 : Subj := ⟨0, 1, 0, 1⟩

theorem rel_init :
    Rel sj0 sj0.observable 0 0 { cells := [.lnil, .int 0], slots := [none, none], obsvs := [sj0.observable] } (init .plain) :=
  { status := rfl, held := rfl, ne := by decide, cellO := rfl, cellS := rfl, slotA := rfl, slotB := rfl,
    obsv := rfl, nUsers := rfl, nObs := rfl
    user := fun u hu => by omega
    obs := fun u hu => by omega
    seen := fun u hu => by omega
    unseen := fun _ _ => rfl
    hookIff := fun _ => rfl
    deadNoHook := fun _ _ => rfl
    log := fun _ => rfl
    keys := fun p hp => by cases hp }

theorem prog_spec (cs : List Call) (hwf : wfFrom 0 cs = true) :
    WP (prog cs) {} (fun w' => Rel sj0 sj0.observable 0 (subs cs) w' (SubjM.run .plain cs)) := by
  unfold prog subjNew
  refine wp_cellNew (wp_cellNew (wp_slotNew (wp_slotNew (wp_obsvNew ?_))))
  have := calls_gen (R := Rel sj0 sj0.observable 0) (fun c h hc => call_spec h c hc) cs rel_init hwf
  rw [Nat.zero_add] at this
  exact this

/-- "`prog cs` terminates in `w`": every sufficiently fuelled run from the empty world ends in `w` -/
def Final (cs : List Call) (w : World) : Prop := ∃ n0, ∀ fuel, n0 ≤ fuel → run fuel [prog cs] {} = w

/-- the ids in the subject's `observers` map, in map order (cell 0 of the world `prog` builds) -/
def regOf (w : World) : List Nat := (amapVals (w.cells[0]?.getD .lnil)).map fun d => d.toInt.toNat

/-- the harness' `O=` column -/
def mapCount (w : World) : Nat := amapLen (w.cells[0]?.getD .lnil)

/-- what the differential test compares, and more: the whole map, not only its size -/
structure Agrees (w : World) (st : State) : Prop where
  status : w.status = .ok
  held : w.held = []
  logs : ∀ u, logOf w u = SubjM.logOf st u
  reg : regOf w = registered st
  count : mapCount w = (registered st).length
  alive : ∀ u, w.isSubOf u = aliveOf st u

theorem RelC.agrees {ov n w} {st : State} (h : RelC sj0 ov 0 n w st.observers st.serial st.obs) : Agrees w st :=
  have ⟨a, b, c, d⟩ := RefU.UP.agrees h.up
  ⟨h.status, h.held, a, b.trans (List.map_id _), c, d⟩

/-- **C10-REF, plain Subject.**  For every call sequence whose `subscribe` calls are numbered in order, model A's
    program (allocate the subject, perform the calls through the transliterated macros) terminates with
    `status = ok`, no guard held, and agrees with the pure machine `SubjM` on every user's log, on the content of
    the observer map, and on who is still subscribed. -/
theorem plain_refines (cs : List Call) (hwf : wfFrom 0 cs = true) :
    ∃ w, Final cs w ∧ Agrees w (SubjM.run .plain cs) :=
  refines_of ((prog_spec cs hwf).conseq fun _ h => RelC.agrees h)

theorem plain_refines_fuel (cs : List Call) (hwf : wfFrom 0 cs = true) :
    ∃ n0, ∀ fuel, n0 ≤ fuel →
      (run fuel [prog cs] {}).status = .ok ∧
      (∀ u, logOf (run fuel [prog cs] {}) u = SubjM.logOf (SubjM.run .plain cs) u) ∧
      mapCount (run fuel [prog cs] {}) = (registered (SubjM.run .plain cs)).length ∧
      (∀ u, (run fuel [prog cs] {}).isSubOf u = aliveOf (SubjM.run .plain cs) u) :=
  eventually_imp (WP.run_all (prog_spec cs hwf)) fun _ h =>
    let a := RelC.agrees h; ⟨a.status, a.logs, a.count, a.alive⟩

/-- `Subscription::is_subscribed` asked through the machine (`userIsSub`) answers `SubjM.aliveOf` -/
theorem userIsSub_agrees {w st} (h : Agrees w st) (u : Nat) (k : Bool → Prog) (Q : World → Prop)
    (hk : WP (k (aliveOf st u)) w Q) : WP (.userIsSub u k) w Q := by
  refine wp_userIsSub ?_
  rw [h.alive u]; exact hk

/-- step-wise form (what the driver does: one `run` per call on the world left by the previous one) -/
theorem call_run {sj id n w st} (h : Rel sj sj.observable id n w st) (c : Call) (hc : wfFrom n [c] = true) :
    ∃ n0, ∀ fuel, n0 ≤ fuel → Rel sj sj.observable id (n + subs [c]) (run fuel [callProg sj id c] w) (step .plain st c) :=
  WP.run_all (call_spec h c hc)

-- non-vacuity: three observers, subscribe / unsubscribe / late joiner / terminal / call after terminal
def demo : List Call :=
  [.subscribe 0, .next (.int 1), .subscribe 1, .next (.int 2), .unsubscribe 0, .subscribe 2, .next (.int 3),
   .unsubscribe 7, .complete, .next (.int 4), .unsubscribe 1]

example : wfFrom 0 demo = true := by decide
theorem demo_run : (run 400 [prog demo] {}).status = .ok ∧ (List.range 4).map (logOf (run 400 [prog demo] {})) =
    [[.next (.int 1), .next (.int 2)], [.next (.int 2), .next (.int 3), .complete], [.next (.int 3), .complete], []] := by
  decide +kernel

example : (run 400 [prog demo] {}).status = .ok := demo_run.1
example : (List.range 4).map (logOf (run 400 [prog demo] {})) =
    [[.next (.int 1), .next (.int 2)], [.next (.int 2), .next (.int 3), .complete], [.next (.int 3), .complete], []] :=
  demo_run.2
example : (List.range 4).map (SubjM.logOf (SubjM.run .plain demo)) =
    [[.next (.int 1), .next (.int 2)], [.next (.int 2), .next (.int 3), .complete], [.next (.int 3), .complete], []] := by
  decide +kernel
/-- before the terminal: the map holds users 1 and 2 on both sides, user 0 is unsubscribed -/
example : regOf (run 400 [prog (demo.take 7)] {}) = [1, 2] ∧ registered (SubjM.run .plain (demo.take 7)) = [1, 2] ∧
    (List.range 3).map (run 400 [prog (demo.take 7)] {}).isSubOf = [false, true, true] ∧
    (List.range 3).map (aliveOf (SubjM.run .plain (demo.take 7))) = [false, true, true] := by
  decide +kernel
/-- the hypothesis of `call_run` / `call_spec` is satisfiable: a related pair with a live and a dead observer -/
example : ∃ w, Final [.subscribe 0, .subscribe 1, .unsubscribe 0] w ∧
    Rel sj0 sj0.observable 0 2 w (SubjM.run .plain [.subscribe 0, .subscribe 1, .unsubscribe 0]) :=
  refines_of (prog_spec [.subscribe 0, .subscribe 1, .unsubscribe 0] (by decide))

theorem wfFrom_append (a b : List Call) : ∀ n, wfFrom n (a ++ b) = (wfFrom n a && wfFrom (n + subs a) b) := by
  induction a with
  | nil => intro n; simp [wfFrom, subs]
  | cons c a ih =>
    intro n
    rw [List.cons_append, wfFrom_cons, ih, wfFrom_cons n c a, subs_cons c a, Bool.and_assoc, Nat.add_assoc]

theorem wf_ids (cs : List Call) : ∀ n, wfFrom n cs = true → ∀ o, Call.subscribe o ∈ cs → o < n + subs cs := by
  induction cs with
  | nil => intro n _ o ho; cases ho
  | cons c rest ih =>
    intro n hwf o ho
    rw [wfFrom_cons, Bool.and_eq_true] at hwf
    rw [subs_cons]
    rcases List.mem_cons.1 ho with rfl | ho
    · have h1 := hwf.1
      simp only [wfFrom, Bool.and_true, beq_iff_eq] at h1
      simp [subs, isSubscribe, List.filter]; omega
    · have := ih _ hwf.2 o ho; omega

theorem wf_fresh (pre post : List Call) (o : Nat) (hwf : wfFrom 0 (pre ++ .subscribe o :: post) = true) :
    Call.subscribe o ∉ pre := by
  rw [wfFrom_append, Bool.and_eq_true] at hwf
  have ho : o = 0 + subs pre := by
    have := hwf.2; simp only [wfFrom, Bool.and_eq_true, beq_iff_eq] at this; exact this.1
  intro hmem
  have := wf_ids pre 0 hwf.1 o hmem
  omega

/-- **`delivers_to_current` on model A**: one more `next` / `error` / `complete` appends exactly that event to
    the log of exactly the users that are in the machine's observer map, and to nobody else's. -/
theorem machine_delivers_to_current (cs : List Call) (c : Call) (ev : Ev) (hc : c.toEv? = some ev)
    (hwf : wfFrom 0 (cs ++ [c]) = true) {wA wB : World} (hA : Final cs wA) (hB : Final (cs ++ [c]) wB) (u : Nat) :
    logOf wB u = if u ∈ regOf wA then logOf wA u ++ [ev] else logOf wA u := by
  have hwfA : wfFrom 0 cs = true := by
    rw [wfFrom_append, Bool.and_eq_true] at hwf; exact hwf.1
  have a := FinalOf.sat hA (plain_refines cs hwfA)
  have b := FinalOf.sat hB (plain_refines _ hwf)
  rw [b.logs, a.logs, a.reg, run_snoc]
  exact delivers_to_current_plain cs c ev hc u

/-- **`no_observer_after_terminal` on model A**: right after `error` / `complete` the machine's map is empty. -/
theorem machine_no_observer_after_terminal (cs : List Call) (c : Call) (ev : Ev) (hc : c.toEv? = some ev)
    (ht : ev.isTerminal = true) (hwf : wfFrom 0 (cs ++ [c]) = true) {w : World} (h : Final (cs ++ [c]) w) :
    regOf w = [] ∧ mapCount w = 0 := by
  have b := FinalOf.sat h (plain_refines _ hwf)
  have := no_observer_after_terminal .plain cs c ev hc ht
  rw [← run_snoc] at this
  rw [b.reg, b.count, this]; exact ⟨rfl, rfl⟩

/-- **`no_observer_after_unsubscribe` on model A**: once user `o` has unsubscribed, the machine's map never
    holds it again, whatever is called afterwards. -/
theorem machine_no_observer_after_unsubscribe (pre post : List Call) (o : Nat) (hsub : Call.subscribe o ∈ pre)
    (hwf : wfFrom 0 (pre ++ .unsubscribe o :: post) = true) {w : World}
    (h : Final (pre ++ .unsubscribe o :: post) w) : o ∉ regOf w := by
  rw [(FinalOf.sat h (plain_refines _ hwf)).reg]
  exact no_observer_after_unsubscribe .plain pre post o hsub

/-- **`plain_log_spec` on model A**: what user `o` records is exactly the `next`s made while it was subscribed,
    in call order, closed by the first terminal unless it unsubscribed first. -/
theorem machine_plain_log_spec (pre post : List Call) (o : Nat)
    (hwf : wfFrom 0 (pre ++ .subscribe o :: post) = true) {w : World}
    (h : Final (pre ++ .subscribe o :: post) w) : logOf w o = plainExpect o post := by
  rw [(FinalOf.sat h (plain_refines _ hwf)).logs]
  exact plain_log_spec pre post o (wf_fresh pre post o hwf)

/-- **`registered_alive` on model A**: the machine's map holds no user whose `is_subscribed` is false. -/
theorem machine_registered_subscribed (cs : List Call) (hwf : wfFrom 0 cs = true) {w : World} (h : Final cs w)
    (u : Nat) (hu : u ∈ regOf w) : w.isSubOf u = true := by
  have a := FinalOf.sat h (plain_refines _ hwf)
  rw [a.alive]; rw [a.reg] at hu
  exact registered_alive .plain cs u hu

/-- non-vacuity of the corollaries' hypotheses -/
example : wfFrom 0 ([Call.subscribe 0, .subscribe 1, .unsubscribe 0] ++ [.next (.int 5)]) = true ∧
    wfFrom 0 ([Call.subscribe 0, .next (.int 1)] ++ .unsubscribe 0 :: [.subscribe 1, .next (.int 2)]) = true ∧
    wfFrom 0 ([Call.subscribe 0, .next (.int 1)] ++ .subscribe 1 :: [.next (.int 2), .complete]) = true := by decide
example : ∃ w, Final ([Call.subscribe 0, .subscribe 1, .unsubscribe 0] ++ [.next (.int 5)]) w :=
  let ⟨w, h, _⟩ := plain_refines _ (by decide); ⟨w, h⟩

#print axioms plain_refines
#print axioms plain_refines_fuel
#print axioms call_run
#print axioms userIsSub_agrees
#print axioms machine_delivers_to_current
#print axioms machine_no_observer_after_terminal
#print axioms machine_no_observer_after_unsubscribe
#print axioms machine_plain_log_spec
#print axioms machine_registered_subscribed

end Rx.Ref
