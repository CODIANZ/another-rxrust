import RxVerif.Theorems.SimInterval
/-
SIM for the CREATION FUNCTIONS (src/observables/{just,empty,error,from_iter,range,never,start,from_result,timer}.rs):
for EVERY standard operator `stdOp K` (any well-encoded kernel) subscribed in ANY ready world directly over a creation
function, the new subscriber sees exactly `K.run` of the stream the creation function denotes (C02: "each creation function
delivers exactly the items, in exactly the order, and exactly the terminal"), nobody else is disturbed, and the observer
handed to the source ends unsubscribed iff the kernel cancelled it or the source delivered its terminal (`stdOp_sim_srcX`;
the instances for empty, error, from_iter, range, defer leave this conjunct out).
`just`, `empty`, `error` (and `start`, `from_result`, `timer` over the default scheduler, which are those programs) do NOT
poll `is_subscribed`: what they deliver after the operator has cancelled falls on a cleared observer (`rep_*U_dead`).
`from_iter` and `range` poll before every item.
-/
namespace Rx.Sim
open Rx

section handlers
variable {σ : Type} {K : Kernel σ} {c : Cfg}

/-- `just(d)`: `s.next(d); s.complete()` with no poll -/
theorem plays_just (ok : c.Ok) (hh : Handlers K c) (hK : Kernel.WellEncoded K) (d : Data) :
    Plays K c (oJust d c.U) [d] .complete :=
  Plays.next ok hh hK (plays_terminal ok hh hK .complete rfl)

/-- `from_iter`: `for x in it { if s.is_subscribed() { s.next(x) } else { break } }; if s.is_subscribed() { s.complete() }` -/
theorem plays_fromIter (ok : c.Ok) (hh : Handlers K c) (hK : Kernel.WellEncoded K) :
    ∀ ds : List Data, Plays K c (fromIterLoop c.U ds) ds .complete
  | [] => Plays.poll (plays_terminal ok hh hK .complete rfl) WP.done
  | _ :: ds => Plays.poll (Plays.next ok hh hK (plays_fromIter ok hh hK ds)) fun h => rep_isSubU h (WP.done h)

/-- `range`: `for x in a..a+n { if !s.is_subscribed() { break }; s.next(x) }; s.complete()` -/
theorem plays_range (ok : c.Ok) (hh : Handlers K c) (hK : Kernel.WellEncoded K) :
    ∀ ds : List Data, Plays K c (rangeLoop c.U ds) ds .complete
  | [] => plays_terminal ok hh hK .complete rfl
  | _ :: ds => Plays.poll (Plays.next ok hh hK (plays_range ok hh hK ds)) fun h => rep_completeU_dead h (WP.done h)

/-- `defer(f)`: `f().inner_subscribe(s)` - one more `is_subscribed` poll, then the deferred source's own program -/
theorem plays_defer {f : Obsv} {xs : List Data} {e : Ending} (hf : Plays K c (f c.U) xs e) :
    Plays K c (oDefer f c.U) xs e :=
  Plays.poll hf WP.done

end handlers

/-- any UNPROBED source whose program, run against the closures of `stdOp K`, amounts to the stream `s` (`hbody`: `Plays`
    unfolded) -/
theorem stdOp_sim_srcX {σ} (K : Kernel σ) (_hK : Kernel.WellEncoded K) (w : World) (hw : Ready w)
    (body : Nat → Prog) (s : Stream)
    (hbody : ∀ (c : Cfg), c.Ok → Handlers K c → ∀ (st : σ) (r : KRun) (w : World), RepK c false r [] (K.enc st) w →
      WP (body c.U) w (fun w' => ∃ cs', RepK c (s.2 != .silent)
        (finishX K (feedX K st r s.1).1 (feedX K st r s.1).2 s.2) [] cs' w')) :
    ∃ N, ∀ fuel, N ≤ fuel →
      let w' := run fuel [subscribeOver K body] w
      w'.status = .ok ∧
      logOf w' w.users.length = K.run s ∧
      (∀ s', s' ≠ w.users.length → logOf w' s' = logOf w s') ∧
      upstreamCancelled w w' = ((runFullX K s).cancelled || s.2 != .silent) ∧
      w'.held = [] :=
  (stdOp_sim_of_plays K w hw body s hbody).run_all

/-- **`just(d)`** (also `start(|| d)`, `from_result(Ok(d))`) under EVERY standard operator, in ANY ready world -/
theorem stdOp_sim_just {σ} (K : Kernel σ) (hK : Kernel.WellEncoded K) (w : World) (hw : Ready w) (d : Data) :
    ∃ N, ∀ fuel, N ≤ fuel →
      let w' := run fuel [subscribeOver K (oJust d)] w
      w'.status = .ok ∧ logOf w' w.users.length = K.run ([d], .complete) ∧
      (∀ s', s' ≠ w.users.length → logOf w' s' = logOf w s') ∧
      upstreamCancelled w w' = true ∧ w'.held = [] := by
  refine eventually_imp (stdOp_sim_srcX K hK w hw (oJust d) ([d], .complete) fun _ ok hh => plays_just ok hh hK d)
    fun fuel h => ?_
  rw [complete_bne_silent, Bool.or_true] at h
  exact h

theorem stdOp_sim_empty {σ} (K : Kernel σ) (hK : Kernel.WellEncoded K) (w : World) (hw : Ready w) :
    ∃ N, ∀ fuel, N ≤ fuel →
      let w' := run fuel [subscribeOver K oEmpty] w
      w'.status = .ok ∧ logOf w' w.users.length = K.run ([], .complete) ∧
      (∀ s', s' ≠ w.users.length → logOf w' s' = logOf w s') ∧ w'.held = [] :=
  eventually_imp (stdOp_sim_srcX K hK w hw oEmpty ([], .complete) fun _ ok hh => plays_terminal ok hh hK .complete rfl)
    fun _ h => ⟨h.1, h.2.1, h.2.2.1, h.2.2.2.2⟩

/-- **`error(e)`** (also `from_result(Err(e))`): the payload `e` reaches the kernel's `on_error` unchanged (C04) -/
theorem stdOp_sim_error {σ} (K : Kernel σ) (hK : Kernel.WellEncoded K) (w : World) (hw : Ready w) (e : Nat) :
    ∃ N, ∀ fuel, N ≤ fuel →
      let w' := run fuel [subscribeOver K (oError e)] w
      w'.status = .ok ∧ logOf w' w.users.length = K.run ([], .error e) ∧
      (∀ s', s' ≠ w.users.length → logOf w' s' = logOf w s') ∧ w'.held = [] :=
  eventually_imp (stdOp_sim_srcX K hK w hw (oError e) ([], .error e) fun _ ok hh => plays_terminal ok hh hK (.error e) rfl)
    fun _ h => ⟨h.1, h.2.1, h.2.2.1, h.2.2.2.2⟩

theorem stdOp_sim_fromIter {σ} (K : Kernel σ) (hK : Kernel.WellEncoded K) (w : World) (hw : Ready w) (ds : List Data) :
    ∃ N, ∀ fuel, N ≤ fuel →
      let w' := run fuel [subscribeOver K (oFromIter ds)] w
      w'.status = .ok ∧ logOf w' w.users.length = K.run (ds, .complete) ∧
      (∀ s', s' ≠ w.users.length → logOf w' s' = logOf w s') ∧ w'.held = [] :=
  eventually_imp (stdOp_sim_srcX K hK w hw (oFromIter ds) (ds, .complete) fun _ ok hh => plays_fromIter ok hh hK ds)
    fun _ h => ⟨h.1, h.2.1, h.2.2.1, h.2.2.2.2⟩

/-- **`range(a, n)`**: `a, a+1, .., a+n-1`, complete — any start, any count -/
theorem stdOp_sim_range {σ} (K : Kernel σ) (hK : Kernel.WellEncoded K) (w : World) (hw : Ready w) (a : Int) (n : Nat) :
    ∃ N, ∀ fuel, N ≤ fuel →
      let w' := run fuel [subscribeOver K (oRange a n)] w
      w'.status = .ok ∧
      logOf w' w.users.length = K.run ((List.range n).map (fun (i : Nat) => Data.int (a + (i : Int))), .complete) ∧
      (∀ s', s' ≠ w.users.length → logOf w' s' = logOf w s') ∧ w'.held = [] :=
  eventually_imp (stdOp_sim_srcX K hK w hw (oRange a n) (_, .complete) fun _ ok hh => plays_range ok hh hK _)
    fun _ h => ⟨h.1, h.2.1, h.2.2.1, h.2.2.2.2⟩

theorem stdOp_sim_never {σ} (K : Kernel σ) (hK : Kernel.WellEncoded K) (w : World) (hw : Ready w) :
    ∃ N, ∀ fuel, N ≤ fuel →
      let w' := run fuel [subscribeOver K oNever] w
      w'.status = .ok ∧ logOf w' w.users.length = K.run ([], .silent) ∧
      (∀ s', s' ≠ w.users.length → logOf w' s' = logOf w s') ∧
      upstreamCancelled w w' = false ∧ w'.held = [] :=
  stdOp_sim_srcX K hK w hw oNever ([], .silent) fun _ _ _ => Plays.done

/-- with the list specification of the operator (C02a): e.g. `from_iter(ds).take(n)` on the machine IS `Spec.take` -/
theorem take_fromIter_spec (n : Nat) (ds : List Data) (w : World) (hw : Ready w) :
    ∃ N, ∀ fuel, N ≤ fuel →
      logOf (run fuel [subscribeOver (kTake n) (oFromIter ds)] w) w.users.length = (Spec.take n (ds, .complete)).toEvs :=
  eventually_imp (stdOp_sim_fromIter (kTake n) (we_kTake n) w hw ds) fun _ h => by rw [h.2.1, Rx.C02.take_spec]

theorem take_range_spec (n : Nat) (a : Int) (m : Nat) (w : World) (hw : Ready w) :
    ∃ N, ∀ fuel, N ≤ fuel →
      logOf (run fuel [subscribeOver (kTake n) (oRange a m)] w) w.users.length
        = (Spec.take n ((List.range m).map (fun (i : Nat) => Data.int (a + (i : Int))), .complete)).toEvs :=
  eventually_imp (stdOp_sim_range (kTake n) (we_kTake n) w hw a m) fun _ h => by rw [h.2.1, Rx.C02.take_spec]

/-- `timer(d)` over the default scheduler is `just(())`, `start(f)` is `just(f())`: the theorem for `just` applies as it
    stands (the programs are equal by unfolding); `defer(f)` subscribes what `f` returns after one more poll (`plays_defer`) -/
theorem stdOp_sim_timerD {σ} (K : Kernel σ) (hK : Kernel.WellEncoded K) (w : World) (hw : Ready w) :
    ∃ N, ∀ fuel, N ≤ fuel →
      let w' := run fuel [subscribeOver K oTimerD] w
      w'.status = .ok ∧ logOf w' w.users.length = K.run ([.unit], .complete) ∧
      (∀ s', s' ≠ w.users.length → logOf w' s' = logOf w s') ∧
      upstreamCancelled w w' = true ∧ w'.held = [] :=
  stdOp_sim_just K hK w hw .unit

theorem stdOp_sim_start {σ} (K : Kernel σ) (hK : Kernel.WellEncoded K) (w : World) (hw : Ready w) (d : Data) :
    ∃ N, ∀ fuel, N ≤ fuel →
      let w' := run fuel [subscribeOver K (oStart d)] w
      w'.status = .ok ∧ logOf w' w.users.length = K.run ([d], .complete) ∧
      (∀ s', s' ≠ w.users.length → logOf w' s' = logOf w s') ∧
      upstreamCancelled w w' = true ∧ w'.held = [] :=
  stdOp_sim_just K hK w hw d

theorem stdOp_sim_defer_fromIter {σ} (K : Kernel σ) (hK : Kernel.WellEncoded K) (w : World) (hw : Ready w) (ds : List Data) :
    ∃ N, ∀ fuel, N ≤ fuel →
      let w' := run fuel [subscribeOver K (oDefer (oFromIter ds))] w
      w'.status = .ok ∧ logOf w' w.users.length = K.run (ds, .complete) ∧
      (∀ s', s' ≠ w.users.length → logOf w' s' = logOf w s') ∧ w'.held = [] :=
  eventually_imp (stdOp_sim_srcX K hK w hw (oDefer (oFromIter ds)) (ds, .complete) fun _ ok hh => plays_defer (plays_fromIter ok hh hK ds))
    fun _ h => ⟨h.1, h.2.1, h.2.2.1, h.2.2.2.2⟩

/-- the objects the driver actually runs: `oRepeat d` and `oIntervalD` are the loops of SimInterval.lean with the bound 100000
    that stands for "endless"; under `take(n)`, n ≤ 100000, they deliver exactly n items, complete, and stop -/
theorem take_oRepeat (n : Nat) (d : Data) (hn : 1 ≤ n) (hle : n ≤ 100000) (w : World) (hw : Ready w) :
    ∃ N, ∀ fuel, N ≤ fuel →
      let w' := run fuel [subscribeOver (kTake n) (oRepeat d)] w
      w'.status = .ok ∧ logOf w' w.users.length = (List.replicate n d).map .next ++ [.complete] ∧
      upstreamCancelled w w' = true :=
  take_repeat n 100000 d hn hle w hw

theorem take_oIntervalD (n : Nat) (hn : 1 ≤ n) (hle : n ≤ 100000) (w : World) (hw : Ready w) :
    ∃ N, ∀ fuel, N ≤ fuel →
      let w' := run fuel [subscribeOver (kTake n) oIntervalD] w
      w'.status = .ok ∧ logOf w' w.users.length = (countFrom 0 n).map .next ++ [.complete] ∧
      upstreamCancelled w w' = true :=
  take_interval n 100000 hn hle w hw

/-- C14 for the creation functions: what a new subscriber of `stdOp K (from_iter ds)` sees does not depend on the world it
    subscribes in (how many subscriptions came before, what they did) -/
theorem fromIter_subscribe_independent {σ} (K : Kernel σ) (hK : Kernel.WellEncoded K) (w₁ w₂ : World)
    (h₁ : Ready w₁) (h₂ : Ready w₂) (ds : List Data) :
    ∃ N, ∀ fuel, N ≤ fuel →
      logOf (run fuel [subscribeOver K (oFromIter ds)] w₁) w₁.users.length
        = logOf (run fuel [subscribeOver K (oFromIter ds)] w₂) w₂.users.length :=
  eventually_imp (eventually_and (stdOp_sim_fromIter K hK w₁ h₁ ds) (stdOp_sim_fromIter K hK w₂ h₂ ds))
    fun _ h => h.1.2.1.trans h.2.2.1.symm

end Rx.Sim

-- non-vacuity: `take` over `range` and `just` on the machine
open Rx in
example : logOf (run 400 [Sim.subscribeOver (kTake 1) (oRange 5 3)] {}) 0 = [.next (.int 5), .complete] := by decide
open Rx in
example : logOf (run 400 [Sim.subscribeOver (kTake 3) (oJust (.int 7))] {}) 0 = [.next (.int 7), .complete] := by decide

#print axioms Rx.Sim.stdOp_sim_just
#print axioms Rx.Sim.stdOp_sim_empty
#print axioms Rx.Sim.stdOp_sim_error
#print axioms Rx.Sim.stdOp_sim_fromIter
#print axioms Rx.Sim.stdOp_sim_range
#print axioms Rx.Sim.stdOp_sim_never
#print axioms Rx.Sim.take_fromIter_spec
#print axioms Rx.Sim.take_range_spec
#print axioms Rx.Sim.stdOp_sim_timerD
#print axioms Rx.Sim.stdOp_sim_start
#print axioms Rx.Sim.stdOp_sim_defer_fromIter
#print axioms Rx.Sim.fromIter_subscribe_independent
#print axioms Rx.Sim.take_oRepeat
#print axioms Rx.Sim.take_oIntervalD
