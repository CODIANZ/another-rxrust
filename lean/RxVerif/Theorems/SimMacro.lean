import RxVerif.Theorems.SimBase
/-
The StreamController macros of `Machine/Core.lean` and `Machine/Lib.lean` (`finalize`, `sinkNext`, `sinkError`,
`sinkComplete`, `abortObserve`, `emitAllP`, `actP`, `actsP`) executed symbolically on a world described by `Rep`
(src/internals/stream_controller.rs: `finalize`, `sink_next`, `sink_error`, `sink_complete`,
`upstream_abort_observe`), and what they do to a run record: `actX` / `actsX`, which is `KRun.act` but for `abortSelf`;
`RepK` is `Rep` read off a run record, and what `SimLoop` and `Sim` are stated in.
-/
namespace Rx.Sim

@[simp] theorem sc_sub (c : Cfg) : c.sc.sub = c.R := rfl
@[simp] theorem sc_map (c : Cfg) : c.sc.map = c.cm := rfl
@[simp] theorem sc_fin (c : Cfg) : c.sc.fin = c.fin := rfl
@[simp] theorem sc_serial (c : Cfg) : c.sc.serial = c.cs := rfl

theorem amapVals_mapD_true (c : Cfg) : amapVals (mapD c true) = [.int c.U] := rfl
theorem amapVals_mapD_false (c : Cfg) : amapVals (mapD c false) = [] := rfl

theorem amapRemove_mapD (c : Cfg) (rg : Bool) : amapRemove (mapD c rg) (0 : Nat) = mapD c false := by
  cases rg <;> simp [amapRemove, mapD, Data.ofList, Data.toList]

theorem amapGet_mapD_true (c : Cfg) : amapGet (mapD c true) (0 : Nat) = some (.int c.U) := by
  simp [amapGet, mapD, Data.ofList, Data.toList]

theorem amapGet_mapD_false (c : Cfg) : amapGet (mapD c false) (0 : Nat) = none := by
  simp [amapGet, mapD, Data.toList]

theorem amapLen_mapD_false (c : Cfg) : amapLen (mapD c false) = 0 := rfl

theorem cm_ne (c : Cfg) (ok : c.Ok) : LockId.cell c.cm ≠ LockId.cell c.cc := by
  intro e; exact ok.mc (LockId.cell.inj e)

theorem slot_ne (c : Cfg) : LockId.slot c.fin ≠ LockId.cell c.cc := by
  intro e; cases e

section macros
variable {c : Cfg} {al ul rg : Bool} {H : List (LockId × Bool)} {cs : Data} {out : List Ev}
  {w : World}

/-- the `for (_, unsub) in unscribers { unsub() }` loop of `finalize` -/
theorem unsubAll_spec (ok : c.Ok) (h : Rep c al ul rg H cs out w) :
    WP (forEach (amapVals (mapD c rg)) fun o => .obsUnsub o.toInt.toNat .done) w
      (Rep c al (ul && !rg) rg H cs out) := by
  cases rg with
  | false => exact WP.done (by simpa using h)
  | true =>
    simp only [amapVals_mapD_true, forEach, Ref.toNat_int]
    exact WP.seq (rep_unsubU ok h fun _ h1 => WP.done (WP.done (by simpa using h1)))

/-- the tail of `finalize` after the downstream has been dealt with: `on_finalize` is empty -/
theorem finTail_spec (hH : OnlyCc c H) (h : Rep c al ul rg H cs out w) :
    WP (.lockAcq (.slot c.fin) true <| .slotCall c.fin .unit true <| .lockRel (.slot c.fin) .done) w
      (Rep c al ul rg H cs out) :=
  rep_lockAcq h (hH.noconf _ (slot_ne c) true) fun _ h1 =>
    rep_slotCall h1 (rep_lockRel h1 fun _ h2 => WP.done h2)

/-- `finalize` up to the test of the downstream: the map is emptied and what it held unsubscribed; `hk` is the rest -/
theorem finalize_head (ok : c.Ok) (hH : OnlyCc c H) (h : Rep c al ul rg H cs out w) {Q : World → Prop}
    (hk : ∀ w', Rep c al (ul && !rg) false H cs out w' →
      WP ((if al then Prog.obsUnsub c.R .done else .done) ;;
        (.lockAcq (.slot c.fin) true <| .slotCall c.fin .unit true <| .lockRel (.slot c.fin) .done)) w' Q) :
    WP c.sc.finalize w Q := by
  simp only [Sctl.finalize, sc_sub, sc_map, sc_fin]
  apply rep_lockAcq h (hH.noconf _ (cm_ne c ok) false)
  intro w1 h1
  apply rep_readMap h1 (Or.inl rfl) ok
  apply WP.seq
  apply (unsubAll_spec ok h1).conseq
  intro w2 h2
  apply rep_lockRel h2
  intro w3 h3
  apply rep_writeMap (rg' := false) h3 (Or.inr hH) ok
  intro w4 h4
  exact rep_isSubR h4 (hk w4 h4)

/-- `finalize` once the downstream observer is no longer subscribed -/
theorem finalize_dead (ok : c.Ok) (hH : OnlyCc c H) (h : Rep c false ul rg H cs out w) :
    WP c.sc.finalize w (Rep c false (ul && !rg) false H cs out) :=
  finalize_head ok hH h fun _ h4 => WP.seq (WP.done (finTail_spec hH h4))

/-- `finalize` in general: a live downstream is unsubscribed, which runs `finalize` once more -/
theorem finalize_spec (ok : c.Ok) (hH : OnlyCc c H) (h : Rep c al ul rg H cs out w) :
    WP c.sc.finalize w (Rep c false (ul && !rg) false H cs out) := by
  cases al with
  | false => exact finalize_dead ok hH h
  | true =>
    refine finalize_head ok hH h fun _ h4 => WP.seq (rep_unsubR ok h4 (fun _ h5 => ?_) fun _ h5 =>
      WP.done (finTail_spec hH h5))
    refine (finalize_dead ok hH h5).conseq fun _ h6 => WP.done (finTail_spec hH ?_)
    simpa using h6

theorem sinkNext_alive (ok : c.Ok) {d : Data} (h : Rep c true ul rg H cs out w) :
    WP (c.sc.sinkNext d) w (Rep c true ul rg H cs (out ++ [.next d])) :=
  rep_isSubR h (rep_evR_alive ok (ev := .next d) h fun _ h1 => WP.done h1)

theorem sink_dead (ok : c.Ok) (hH : OnlyCc c H) {p : Prog} (h : Rep c false ul rg H cs out w) :
    WP (.obsIsSub c.R fun b => if b then p else c.sc.finalize) w (Rep c false (ul && !rg) false H cs out) :=
  rep_isSubR h (finalize_dead ok hH h)

theorem sinkError_alive (ok : c.Ok) (hH : OnlyCc c H) {e : Nat} (h : Rep c true ul rg H cs out w) :
    WP (c.sc.sinkError e) w (Rep c false (ul && !rg) false H cs (out ++ [.error e])) :=
  rep_isSubR h (rep_evR_alive ok (ev := .error e) h fun _ h1 => finalize_dead ok hH h1)

/-- `sink_complete(&serial)` with a live downstream: the own entry leaves the map first, so the
    `finalize` that follows does NOT unsubscribe the upstream observer -/
theorem sinkComplete_alive (ok : c.Ok) (hH : OnlyCc c H) (h : Rep c true ul rg H cs out w) :
    WP (c.sc.sinkComplete 0) w (Rep c false ul false H cs (out ++ [.complete])) := by
  simp only [Sctl.sinkComplete, sc_sub, sc_map]
  apply rep_isSubR h
  simp only [↓reduceIte]
  apply rep_readMap h (Or.inr hH) ok
  rw [amapRemove_mapD]
  apply rep_writeMap (rg' := false) h (Or.inr hH) ok
  intro w1 h1
  simp only [amapLen_mapD_false, BEq.rfl, ↓reduceIte]
  apply rep_evR_alive ok (ev := .complete) h1
  intro w2 h2
  apply (finalize_dead ok hH h2).conseq
  intro w3 h3
  simpa using h3

theorem abortObserve_spec (ok : c.Ok) (hH : OnlyCc c H) (h : Rep c al ul rg H cs out w) :
    WP (c.sc.abortObserve 0) w (Rep c al (ul && !rg) false H cs out) := by
  simp only [Sctl.abortObserve, sc_map]
  apply rep_lockAcq h (hH.noconf _ (cm_ne c ok) true)
  intro w1 h1
  apply rep_readMap h1 (Or.inl rfl) ok
  rw [amapRemove_mapD]
  apply rep_writeMap (rg' := false) h1 (Or.inl rfl) ok
  intro w2 h2
  apply WP.seq
  cases rg with
  | true =>
    simp only [amapGet_mapD_true, Ref.toNat_int]
    exact rep_unsubU ok h2 fun _ h3 => WP.done (rep_lockRel h3 fun _ h4 => WP.done (by simpa using h4))
  | false =>
    rw [amapGet_mapD_false]
    exact WP.done (rep_lockRel h2 fun _ h4 => WP.done (by simpa using h4))

end macros

/-- What the machine really does for one action.  It is `KRun.act` except for `abortSelf`:
    `upstream_abort_observe` unsubscribes the upstream observer only if its serial is still in the map
    (stream_controller.rs: `if let Some(o) = observers.remove(serial) { o.call(()) }`), whereas
    `KRun.act` sets `cancelled := true` unconditionally. -/
def actX (r : KRun) : Act → KRun
  | .abortSelf => { r with cancelled := r.cancelled || r.registered, registered := false }
  | a => r.act a

def actsX (r : KRun) (as : List Act) : KRun := as.foldl actX r

/-- `t`: the upstream observer has consumed its own terminal (then it is dead whatever `cancelled` says) -/
def RepK (c : Cfg) (t : Bool) (r : KRun) (H : List (LockId × Bool)) (cs : Data) (w : World) : Prop :=
  Rep c r.alive (!(r.cancelled || t)) r.registered H cs r.out w

section acts
variable {c : Cfg} {t : Bool} {H : List (LockId × Bool)} {cs : Data} {w : World}

theorem emitAll_spec (ok : c.Ok) (ds : List Data) : ∀ (r : KRun) (w : World),
    RepK c t r H cs w → WP (emitAllP c.sc ds) w (RepK c t (r.act (.emitAll ds)) H cs) := by
  induction ds with
  | nil =>
    intro r w h
    exact WP.done (by cases hr : r.alive <;> simpa [KRun.act, hr, RepK] using h)
  | cons d ds ih =>
    intro r w h
    simp only [emitAllP, Sctl.isSub, sc_sub]
    unfold RepK at h
    apply rep_isSubR h
    cases hr : r.alive <;> rw [hr] at h
    · exact WP.done (by simpa [KRun.act, hr, RepK] using h)
    · refine WP.seq ((sinkNext_alive ok (d := d) h).conseq fun w1 h1 => ?_)
      have h1' : RepK c t { r with out := r.out ++ [.next d] } H cs w1 := by simpa [RepK, hr] using h1
      exact (ih _ _ h1').conseq fun w2 h2 => by simpa [KRun.act, hr] using h2

theorem act_spec (ok : c.Ok) (hH : OnlyCc c H) (a : Act) (r : KRun) (w : World)
    (h : RepK c t r H cs w) : WP (actP c.sc 0 a) w (RepK c t (actX r a) H cs) := by
  unfold RepK at h
  cases a with
  | emitAll ds => exact emitAll_spec ok ds r w h
  | abortSelf =>
    exact (abortObserve_spec ok hH h).conseq fun _ h1 => by simpa [actX, RepK, Bool.and_right_comm] using h1
  | finalize =>
    exact (finalize_spec ok hH h).conseq fun _ h1 => by simpa [actX, KRun.act, RepK, Bool.and_right_comm] using h1
  | emit d =>
    cases hr : r.alive <;> rw [hr] at h
    · exact (sink_dead ok hH h).conseq fun _ h1 => by simpa [actX, KRun.act, hr, RepK, Bool.and_right_comm] using h1
    · exact (sinkNext_alive ok h).conseq fun _ h1 => by simpa [actX, KRun.act, hr, RepK] using h1
  | fail e =>
    cases hr : r.alive <;> rw [hr] at h
    · exact (sink_dead ok hH h).conseq fun _ h1 => by simpa [actX, KRun.act, hr, RepK, Bool.and_right_comm] using h1
    · exact (sinkError_alive ok hH h).conseq fun _ h1 => by simpa [actX, KRun.act, hr, RepK, Bool.and_right_comm] using h1
  | complete =>
    cases hr : r.alive <;> rw [hr] at h
    · exact (sink_dead ok hH h).conseq fun _ h1 => by simpa [actX, KRun.act, hr, RepK, Bool.and_right_comm] using h1
    · exact (sinkComplete_alive ok hH h).conseq fun _ h1 => by simpa [actX, KRun.act, hr, RepK] using h1

theorem acts_spec (ok : c.Ok) (hH : OnlyCc c H) (as : List Act) : ∀ (r : KRun) (w : World),
    RepK c t r H cs w → WP (actsP c.sc 0 as) w (RepK c t (actsX r as) H cs) := by
  induction as with
  | nil => exact fun r w h => WP.done h
  | cons a as ih =>
    exact fun r w h => WP.seq ((act_spec ok hH a r w h).conseq fun _ h1 => ih _ _ h1)

end acts

end Rx.Sim
