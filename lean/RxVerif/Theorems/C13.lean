import RxVerif.Kernel.ConnM
import RxVerif.Theorems.C10
/-
C13 — publish / ref_count / replay.  Model: RxVerif/Kernel/ConnM.lean on top of RxVerif/Kernel/SubjM.lean.
The statements quantify over every call sequence, for a hot source and for every cold script (`first_arrival_connects`
and `disconnect_silences` speak of the hot source only).  A call acts on the inner subject through `subscribeA`,
broadcasts, `subscribeB` and `unsubscribeN` only (`step_pres`).
-/
namespace Rx.ConnM
open Rx.SubjM (registered emit subscribeA subscribeB subscribeH reap unsubscribeN Inv Armed LogOk Pending)

/-! ## how the pieces of a call act on the subject -/

theorem connRecv_sub (k : Kind) (st : State) (i : Nat) (ev : Ev) :
    (connRecv k st i ev).sub = if st.conns[i]? = some true then emit k.subj st.sub ev else st.sub := by
  unfold connRecv; split <;> rfl

theorem connRecv_conns_length (k : Kind) (st : State) (i : Nat) (ev : Ev) :
    (connRecv k st i ev).conns.length = st.conns.length := by
  unfold connRecv; split
  · dsimp only; split <;> simp
  · rfl

theorem connRecv_flags (k : Kind) (st : State) (i : Nat) (ev : Ev) :
    (connRecv k st i ev).connecting = st.connecting ∧ (connRecv k st i ev).cancelled = st.cancelled ∧
    (connRecv k st i ev).subscription = st.subscription := by
  unfold connRecv; split <;> simp

theorem hotEmit_pres {k : Kind} (P : State → Prop) (hP : ∀ s i ev, P s → P (connRecv k s i ev)) (st : State) (ev : Ev)
    (h : P st) : P (hotEmit k st ev) :=
  List.foldlRecOn _ _ h fun s hs i _ => hP s i ev hs

theorem connectSource_pres {k : Kind} (P : State → Prop) (hP : ∀ s i ev, P s → P (connRecv k s i ev)) (src : Src)
    (st : State) (h : P { st with conns := st.conns ++ [true] }) : P (connectSource k src st) := by
  unfold connectSource
  cases src with
  | hot => exact h
  | cold script => exact List.foldlRecOn _ _ h fun s hs ev _ => hP s _ ev hs

section sub
variable {k : Kind} {Q : SubjM.State → Prop} (hQ : ∀ s ev, Q s → Q (emit k.subj s ev))
include hQ

theorem connRecv_sub_pres (st : State) (i : Nat) (ev : Ev) (h : Q st.sub) : Q (connRecv k st i ev).sub := by
  rw [connRecv_sub]; split
  · exact hQ _ _ h
  · exact h

theorem onSubscribe_sub_pres (src : Src) (st : State) (len : Option Nat) (h : Q st.sub) :
    Q (onSubscribe k src st len).sub := by
  unfold onSubscribe; split
  · exact connectSource_pres (fun s => Q s.sub) (connRecv_sub_pres hQ) src _ h
  · exact h

end sub

theorem onUnsubscribe_sub (st : State) (len : Option Nat) : (onUnsubscribe st len).sub = st.sub := by
  unfold onUnsubscribe; split <;> rfl

theorem step_subscribe_sub_eq (k : Kind) (src : Src) (st : State) (o : Nat) :
    (step k src st (.subscribe o)).sub =
      (subscribeB k.subj
        (if k.counts = true then onSubscribe k src { st with sub := (subscribeA k.subj st.sub o).1 }
          (subscribeA k.subj st.sub o).2.len else { st with sub := (subscribeA k.subj st.sub o).1 }).sub o
        (subscribeA k.subj st.sub o).2).1 := by
  simp only [step]
  split
  · rw [onUnsubscribe_sub]
  · rfl

def srcEv : Call → Option Ev
  | .srcNext v => some (.next v)
  | .srcError e => some (.error e)
  | .srcComplete => some .complete
  | _ => none

theorem step_srcEv (k : Kind) (src : Src) (st : State) {c : Call} {ev : Ev} (hc : srcEv c = some ev) :
    step k src st c = match src with
      | .hot => hotEmit k st ev
      | .cold _ => st := by
  cases c <;> cases hc <;> rfl

@[elab_as_elim] theorem Call.cases3 {motive : Call → Prop} (c : Call)
    (subscribe : ∀ o, motive (.subscribe o)) (unsubscribe : ∀ o, motive (.unsubscribe o))
    (other : ∀ c, (∀ o, c ≠ .subscribe o) → (∀ o, c ≠ .unsubscribe o) → motive c) : motive c := by
  cases c with
  | subscribe o => exact subscribe o
  | unsubscribe o => exact unsubscribe o
  | _ => exact other _ nofun nofun

/-- ref_count / replay: apart from `subscribe` and `unsubscribe`, only an emission of the hot source does anything -/
theorem step_other {k : Kind} (hk : k.counts = true) (src : Src) (st : State) (c : Call) (h1 : ∀ o, c ≠ .subscribe o)
    (h2 : ∀ o, c ≠ .unsubscribe o) :
    step k src st c = match src, srcEv c with
      | .hot, some ev => hotEmit k st ev
      | _, _ => st := by
  cases c with
  | subscribe o => exact absurd rfl (h1 o)
  | unsubscribe o => exact absurd rfl (h2 o)
  | connect => cases src <;> simp only [step, hk, ↓reduceIte, srcEv]
  | disconnect => cases src <;> simp only [step, hk, ↓reduceIte, srcEv]
  | _ => cases src <;> rfl

section pres
variable {k : Kind} {P : SubjM.State → Prop} (src : Src) (st : State)

/-- `subscribe`: `subscribeA`, then (ref_count / replay) emissions of a cold source, then `subscribeB`; `Q` is
    what holds of the subject in between -/
theorem step_pres_sub {Q : SubjM.State → Prop} (o : Nat)
    (hA : Q (subscribeA k.subj st.sub o).1)
    (hQ : ∀ s ev, Q s → Q (emit k.subj s ev))
    (hB : ∀ s, Q s → P (subscribeB k.subj s o (subscribeA k.subj st.sub o).2).1) :
    P (step k src st (.subscribe o)).sub := by
  rw [step_subscribe_sub_eq]
  apply hB; split
  · exact onSubscribe_sub_pres hQ src _ _ hA
  · exact hA

theorem step_pres_unsub (o : Nat) (hU : P st.sub → P (unsubscribeN k.subj st.sub o).1) (h : P st.sub) :
    P (step k src st (.unsubscribe o)).sub := by
  simp only [step]; split
  · rw [onUnsubscribe_sub]; exact hU h
  · exact hU h

/-- every other call only makes the source emit -/
theorem step_pres_src (hE : ∀ s ev, P s → P (emit k.subj s ev)) (c : Call) (hc1 : ∀ o, c ≠ .subscribe o)
    (hc2 : ∀ o, c ≠ .unsubscribe o) (h : P st.sub) : P (step k src st c).sub := by
  cases hc : srcEv c with
  | some ev =>
    rw [step_srcEv k src st hc]
    cases src with
    | hot => exact hotEmit_pres (fun s => P s.sub) (connRecv_sub_pres hE) st ev h
    | cold script => exact h
  | none =>
    cases c with
    | subscribe o => exact absurd rfl (hc1 o)
    | unsubscribe o => exact absurd rfl (hc2 o)
    | connect =>
      simp only [step]; split
      · exact h
      · exact connectSource_pres (fun s => P s.sub) (connRecv_sub_pres hE) src st h
    | disconnect => simp only [step]; split <;> exact h
    | _ => cases hc

/-- a call acts on the subject through `subscribeA`, emissions, `subscribeB`, `unsubscribeN` only; `subscribeB` finds
    the subscriber marked `seen` (by `subscribeA`; broadcasts do not touch the mark) -/
theorem step_pres (Q : Nat → Pending → SubjM.State → Prop)
    (hE : ∀ s ev, P s → P (emit k.subj s ev))
    (hA : ∀ s o, P s → Q o (subscribeA k.subj s o).2 (subscribeA k.subj s o).1)
    (hQ : ∀ o p s ev, Q o p s → Q o p (emit k.subj s ev))
    (hB : ∀ o p s, Q o p s → (s.obs o).seen = true → P (subscribeB k.subj s o p).1)
    (hU : ∀ s o, P s → P (unsubscribeN k.subj s o).1)
    (c : Call) (h : P st.sub) : P (step k src st c).sub := by
  cases c using Call.cases3 with
  | subscribe o =>
    exact step_pres_sub (Q := fun s => Q o _ s ∧ (s.obs o).seen = true) src st o
      ⟨hA _ o h, SubjM.subscribeA_marks _ _ o⟩ (fun s ev q => ⟨hQ o _ s ev q.1, (SubjM.emit_seen _ s ev o).trans q.2⟩)
      (fun s q => hB o _ s q.1 q.2)
  | unsubscribe o => exact step_pres_unsub src st o (hU _ o) h
  | other c h1 h2 => exact step_pres_src src st hE c h1 h2 h

end pres

/-! ## the subject-level invariant that holds between any two callbacks of a connectable -/

open Rx.SubjM (nonTerminal contract) in
/-- `SubjM.Inv`, the contract on every log, and two facts about who is (no longer) subscribed -/
structure Base (k : SubjM.Kind) (s : SubjM.State) : Prop where
  inv : Inv k s
  logOk : ∀ (o : Nat), LogOk (s.obs o)
  /-- a subscriber that is still subscribed is in the map -/
  aliveReg : ∀ (o : Nat), (s.obs o).alive = true → o ∈ registered s
  /-- a subscriber that did not unsubscribe is dead only because it got a terminal -/
  deadWhy : ∀ (o : Nat), (s.obs o).seen = true → (s.obs o).hook = true → (s.obs o).alive = false →
    nonTerminal (s.obs o).log = false

/-- the terminal the inner ReplaySubject has stored (always `[]` for the plain Subject of ref_count) -/
def stored (s : SubjM.State) : List Ev := SubjM.storedTerminal s.wasError s.wasCompleted

theorem nonTerminal_stored (s : SubjM.State) (h : stored s ≠ []) : SubjM.nonTerminal (stored s) = false :=
  SubjM.nonTerminal_storedTerminal _ _ h

/-- `Base.aliveReg` and `Base.deadWhy` for one subscriber (`b`: it is in the map, `r`: its record) -/
def Sound (b : Prop) (r : SubjM.ObsSt) : Prop :=
  (r.alive = true → b) ∧ (r.seen = true → r.hook = true → r.alive = false → SubjM.nonTerminal r.log = false)

theorem sound_local (k : SubjM.Kind) : SubjM.Local k Sound where
  recv := fun r ev hf h => by
    refine ⟨fun ha => ?_, fun hs hh hd => ?_⟩ <;>
      simp only [SubjM.recvK_alive, SubjM.recvK_log, SubjM.recvK_seen, SubjM.recvK_hook, hf, if_true, Bool.true_and] at *
    · exact (by simpa using ha : _ ∧ _).2
    · cases ha : r.alive with
      | false => simpa [ha] using h.2 hs hh ha
      | true =>
        have ht : ev.isTerminal = true := by simpa [ha] using hd
        simp [SubjM.nonTerminal, ht]
  reject := fun _ _ _ => ⟨nofun, fun _ hh => nomatch hh⟩
  accept := fun _ _ _ _ => ⟨fun _ => trivial, fun _ _ hd => nomatch hd⟩
  hand := fun b r hist we wc h => by
    rw [SubjM.handOver_eq]
    cases ha : r.alive with
    | false => simpa [ha, Sound] using h
    | true =>
      refine ⟨fun _ => h.1 ha, fun _ _ hd => ?_⟩
      simp only [↓reduceIte] at hd ⊢
      rw [SubjM.nonTerminal_append]
      exact Bool.and_eq_false_imp.2 fun _ => SubjM.nonTerminal_storedTerminal we wc (by simpa using hd)
  reap := fun _ r h => ⟨fun ha => ⟨h.1 ha, by simp [SubjM.reaped, show r.alive = true from ha]⟩, h.2⟩
  unsub := fun _ _ _ _ => ⟨nofun, fun _ hh => nomatch hh⟩

/-- `s'` comes from `s` by something that keeps every local property -/
theorem Base.lift {k s s'} (h : Base k s) (hi : Inv k s')
    (hl : ∀ {R : Prop → SubjM.ObsSt → Prop}, SubjM.Local k R → ∀ o, SubjM.At R o s → SubjM.At R o s') : Base k s' :=
  have q := fun o => hl (sound_local k) o ⟨h.aliveReg o, h.deadWhy o⟩
  ⟨hi, fun o => hl (SubjM.logOk_local k) o (h.logOk o), fun o => (q o).1, fun o => (q o).2⟩

theorem Base.emit {k s} (h : Base k s) (ev : Ev) : Base k (emit k s ev) :=
  h.lift (h.inv.emit ev) fun hR _ q => SubjM.At.emit hR h.inv q ev

theorem Base.subscribeA {k s} (h : Base k s) (o : Nat) : Base k (subscribeA k s o).1 :=
  h.lift (h.inv.subscribeA o) fun hR _ q => SubjM.At.subscribeA hR h.inv q o

-- (for `C13RefReplayUser`)
theorem handOver_dead (r : SubjM.ObsSt) (hist : List Data) (we : Option Nat) (wc : Bool) (ha : r.alive = false) :
    SubjM.handOver r hist we wc = r := by
  rw [SubjM.handOver_eq, if_neg (by simp [ha])]

theorem Base.handed {k s} (h : Base k s) (hk : k.isReplay = true) (o : Nat) (p : Pending)
    (hs : (s.obs o).seen = true) : Base k (SubjM.handed s o p) :=
  h.lift (h.inv.handed hk o p hs) fun hR _ q => SubjM.At.handed hR q o p

theorem Base.reap {k s} (h : Base k s) (o : Nat) : Base k (reap s o).1 :=
  h.lift (h.inv.reap o) fun hR _ q => SubjM.At.reap hR h.inv q o

theorem Base.subscribeB {k s} (h : Base k s) (o : Nat) (p : Pending) (hs : (s.obs o).seen = true) :
    Base k (subscribeB k s o p).1 := by
  rw [SubjM.subscribeB_eq]; split
  · exact (h.handed (by simp_all) o p hs).reap o
  · exact h

theorem Base.unsubscribeN {k s} (h : Base k s) (o : Nat) : Base k (unsubscribeN k s o).1 :=
  h.lift (h.inv.unsubscribeN o) fun hR _ q => SubjM.At.unsubscribeN hR h.inv q o

theorem base_init (k : SubjM.Kind) : Base k (SubjM.init k) := by
  refine ⟨SubjM.inv_init k, ?_, ?_, ?_⟩ <;> cases k <;> simp [SubjM.init, SubjM.logOk_default]

theorem Base.step {k : Kind} (src : Src) {st : State} (h : Base k.subj st.sub) (c : Call) :
    Base k.subj (step k src st c).sub :=
  step_pres src st (fun _ _ s => Base k.subj s) (fun _ ev hs => hs.emit ev) (fun _ o hs => hs.subscribeA o)
    (fun _ _ _ ev hs => hs.emit ev) (fun o p _ hs hseen => hs.subscribeB o p hseen) (fun _ o hs => hs.unsubscribeN o) c h

theorem base_runFrom {k : Kind} (src : Src) {st : State} (h : Base k.subj st.sub) (cs : List Call) :
    Base k.subj (runFrom k src st cs).sub :=
  List.foldlRecOn (motive := fun s : State => Base k.subj s.sub) cs _ h fun _ hs c _ => hs.step src c

theorem base_run (k : Kind) (src : Src) (cs : List Call) : Base k.subj (run k src cs).sub :=
  base_runFrom src (by cases k <;> exact base_init _) cs

theorem run_append (k : Kind) (src : Src) (a b : List Call) : run k src (a ++ b) = runFrom k src (run k src a) b := by
  simp [run, runFrom, List.foldl_append]

theorem run_snoc (k : Kind) (src : Src) (a : List Call) (c : Call) : run k src (a ++ [c]) = step k src (run k src a) c :=
  run_append k src a [c]

theorem runFrom_cons (k : Kind) (src : Src) (st : State) (c : Call) (cs : List Call) :
    runFrom k src st (c :: cs) = runFrom k src (step k src st c) cs := rfl

/-! ## C13 `publish_connects_only_on_connect` -/

theorem hotEmit_conns_length (k : Kind) (st : State) (ev : Ev) : (hotEmit k st ev).conns.length = st.conns.length :=
  hotEmit_pres (fun s => s.conns.length = st.conns.length)
    (fun s i ev h => (connRecv_conns_length k s i ev).trans h) st ev rfl

theorem connectSource_conns_length (k : Kind) (src : Src) (st : State) :
    (connectSource k src st).conns.length = st.conns.length + 1 :=
  connectSource_pres (fun s => s.conns.length = st.conns.length + 1)
    (fun s i ev h => (connRecv_conns_length k s i ev).trans h) src st (by simp)

theorem connectSource_flags (k : Kind) (src : Src) (st : State) :
    (connectSource k src st).connecting = st.connecting ∧ (connectSource k src st).cancelled = st.cancelled ∧
    (connectSource k src st).subscription = st.subscription :=
  connectSource_pres (fun s => s.connecting = st.connecting ∧ s.cancelled = st.cancelled ∧ s.subscription = st.subscription)
    (fun s i ev h => have hf := connRecv_flags k s i ev; ⟨hf.1.trans h.1, hf.2.1.trans h.2.1, hf.2.2.trans h.2.2⟩)
    src st ⟨rfl, rfl, rfl⟩

def connects : List Call → Nat
  | [] => 0
  | .connect :: cs => connects cs + 1
  | .subscribe _ :: cs => connects cs
  | .unsubscribe _ :: cs => connects cs
  | .disconnect :: cs => connects cs
  | .srcNext _ :: cs => connects cs
  | .srcError _ :: cs => connects cs
  | .srcComplete :: cs => connects cs

theorem publish_step_subscriptions (src : Src) (st : State) (c : Call) :
    sourceSubscriptions (step .publish src st c) = sourceSubscriptions st + connects [c] := by
  unfold sourceSubscriptions
  cases c with
  | connect => simp [step, Kind.counts, connectSource_conns_length, connects]
  | subscribe o => simp [step, Kind.counts, connects]
  | unsubscribe o => simp [step, Kind.counts, connects]
  | disconnect => simp [step, Kind.counts, connects]
  | srcNext v => cases src <;> simp [step, hotEmit_conns_length, connects]
  | srcError e => cases src <;> simp [step, hotEmit_conns_length, connects]
  | srcComplete => cases src <;> simp [step, hotEmit_conns_length, connects]

theorem connects_cons (c : Call) (cs : List Call) : connects (c :: cs) = connects [c] + connects cs := by
  cases c <;> simp [connects] <;> omega

theorem publish_runFrom_subscriptions (src : Src) (st : State) (cs : List Call) :
    sourceSubscriptions (runFrom .publish src st cs) = sourceSubscriptions st + connects cs := by
  induction cs generalizing st with
  | nil => simp [runFrom, connects]
  | cons c cs ih => rw [runFrom_cons, ih, publish_step_subscriptions, connects_cons c cs]; omega

/-- **C13 `publish_connects_only_on_connect`**: for every call sequence, hot or cold source, the number of
    source subscriptions publish has ever made equals the number of `connect()` calls — subscribing, unsubscribing,
    disconnecting or source activity never subscribe the source, and each `connect()` subscribes it exactly once. -/
theorem publish_connects_only_on_connect (src : Src) (cs : List Call) :
    sourceSubscriptions (run .publish src cs) = connects cs := by
  simpa [run, sourceSubscriptions, init] using publish_runFrom_subscriptions src init cs

example : sourceSubscriptions (run .publish .hot [.subscribe 0, .srcNext (.int 1), .subscribe 1]) = 0 ∧
    logOf (run .publish .hot [.subscribe 0, .srcNext (.int 1), .subscribe 1]) 0 = [] := by decide
example : sourceSubscriptions (run .publish (.cold [.next (.int 1), .complete]) [.subscribe 0, .connect, .subscribe 1, .connect]) = 2 := by
  decide

/-! ## ref_count / replay: one source subscription, made by the first subscriber, never a second one -/

def isSubscribe : Call → Bool
  | .subscribe _ => true
  | _ => false

-- (for `C13RefCount`)
theorem foldIdx_flags (k : Kind) (ev : Ev) (is : List Nat) (st : State) :
    (is.foldl (fun s i => connRecv k s i ev) st).connecting = st.connecting ∧
    (is.foldl (fun s i => connRecv k s i ev) st).cancelled = st.cancelled ∧
    (is.foldl (fun s i => connRecv k s i ev) st).subscription = st.subscription :=
  List.foldlRecOn (motive := fun s => s.connecting = st.connecting ∧ s.cancelled = st.cancelled ∧
      s.subscription = st.subscription) is _ ⟨rfl, rfl, rfl⟩ fun s hs i _ =>
    have h := connRecv_flags k s i ev
    ⟨h.1.trans hs.1, h.2.1.trans hs.2.1, h.2.2.trans hs.2.2⟩

/-- Nothing at all happens before the first `subscribe`; from then on there is exactly one source observer, it
    is the stored `subscription`, `connecting` stays set, and `cancelled` is never set (it needs a subscriber
    that leaves while `source.subscribe` is still running, which a passive subscriber cannot do). -/
structure Busy (st : State) : Prop where
  connecting : st.connecting = true
  conns : st.conns.length = 1
  subscription : st.subscription = some 0
  cancelled : st.cancelled = false

theorem Busy.connRecv {k : Kind} {st : State} (h : Busy st) (i : Nat) (ev : Ev) : Busy (connRecv k st i ev) :=
  have hf := connRecv_flags k st i ev
  ⟨hf.1.trans h.1, (connRecv_conns_length k st i ev).trans h.2, hf.2.2.trans h.3, hf.2.1.trans h.4⟩

theorem Busy.onUnsubscribe {st : State} (h : Busy st) (n : Option Nat) : Busy (onUnsubscribe st n) := by
  unfold ConnM.onUnsubscribe; split
  · exact ⟨h.1, by simp [h.3, h.2], h.3, by simp [h.3, h.4]⟩
  · exact h

theorem step_subscribe_busy {k : Kind} (hk : k.counts = true) (src : Src) {st : State} (hc : st.connecting = true)
    (o : Nat) :
    step k src st (.subscribe o) =
      onUnsubscribe { st with sub := SubjM.step k.subj st.sub (.subscribe o) }
        (subscribeB k.subj (subscribeA k.subj st.sub o).1 o (subscribeA k.subj st.sub o).2).2 := by
  simp only [step, hk, ↓reduceIte, onSubscribe, hc, Bool.true_eq_false, and_false]; rfl

theorem Busy.setSub {st : State} (h : Busy st) (s : SubjM.State) : Busy { st with sub := s } := ⟨h.1, h.2, h.3, h.4⟩

theorem Busy.step {k : Kind} (hk : k.counts = true) (src : Src) {st : State} (h : Busy st) (c : Call) :
    Busy (step k src st c) := by
  cases c using Call.cases3 with
  | subscribe o => rw [step_subscribe_busy hk src h.1]; exact (h.setSub _).onUnsubscribe _
  | unsubscribe o => simp only [ConnM.step, hk, ↓reduceIte]; exact (h.setSub _).onUnsubscribe _
  | other c h1 h2 =>
    rw [step_other hk src st c h1 h2]; split
    · exact hotEmit_pres Busy (fun _ i ev hs => hs.connRecv i ev) st _ h
    · exact h

theorem subscribeA_len_seen (k : SubjM.Kind) (s : SubjM.State) (o : Nat) (hs : (s.obs o).seen = true) :
    (subscribeA k s o).2.len = none := by
  rw [SubjM.subscribeA_seen k s o hs]

theorem step_init {k : Kind} (hk : k.counts = true) (src : Src) (c : Call) (hc : isSubscribe c = false) :
    step k src init c = init := by
  cases c using Call.cases3 with
  | subscribe o => cases hc
  | unsubscribe o => simp [step, hk, SubjM.unsubscribeN_unseen _ init.sub o rfl, onUnsubscribe]
  | other c h1 h2 => rw [step_other hk src init c h1 h2]; split <;> rfl

theorem subscribeA_init (k : Kind) (hk : k.counts = true) (o : Nat) :
    subscribeA k.subj {} o = (SubjM.register {} o (SubjM.newcomer k.subj []), { fresh := true, len := some 1 }) := by
  cases k with
  | publish => cases hk
  | _ => rfl

theorem step_first (k : Kind) (hk : k.counts = true) (src : Src) (o : Nat) :
    step k src init (.subscribe o) =
      let X := connectSource k src { sub := SubjM.register {} o (SubjM.newcomer k.subj []), connecting := true }
      let b := subscribeB k.subj X.sub o { fresh := true, len := some 1 }
      onUnsubscribe { X with sub := b.1, subscription := some 0 } b.2 := by
  simp [step, hk, subscribeA_init k hk o, onSubscribe, init, (connectSource_flags k src _).2.1]

theorem first_busy {k : Kind} (hk : k.counts = true) (src : Src) (o : Nat) : Busy (step k src init (.subscribe o)) := by
  rw [step_first k hk src o]
  have hf := connectSource_flags k src { sub := SubjM.register {} o (SubjM.newcomer k.subj []), connecting := true }
  have hl := connectSource_conns_length k src { sub := SubjM.register {} o (SubjM.newcomer k.subj []), connecting := true }
  dsimp only
  generalize connectSource k src _ = X at hf hl ⊢
  exact Busy.onUnsubscribe (st := { X with sub := _, subscription := some 0 }) ⟨hf.1, hl, rfl, hf.2.1⟩ _

/-- induction over the calls of ref_count / replay: nothing happens before the first `subscribe`, which leaves `init`
    (`hfirst`); every later call starts in a `Busy` state (`hstep`) -/
theorem run_ind {k : Kind} (hk : k.counts = true) (src : Src) {P : State → Prop}
    (hfirst : ∀ o, P (step k src init (.subscribe o)))
    (hstep : ∀ st c, Busy st → P st → P (step k src st c)) (cs : List Call) :
    if cs.any isSubscribe then Busy (run k src cs) ∧ P (run k src cs) else run k src cs = init := by
  unfold run
  induction cs with
  | nil => rfl
  | cons c cs ih =>
    rw [runFrom_cons]
    cases hc : isSubscribe c with
    | false => rw [step_init hk src c hc]; simpa [hc] using ih
    | true =>
      simp only [List.any_cons, hc, Bool.true_or, if_true]
      cases c with
      | subscribe o =>
        exact List.foldlRecOn (motive := fun s => Busy s ∧ P s) cs _ ⟨first_busy hk src o, hfirst o⟩
          fun s hs c _ => ⟨hs.1.step hk src c, hstep s c hs.1 hs.2⟩
      | _ => cases hc

theorem busy_run {k : Kind} (hk : k.counts = true) (src : Src) (cs : List Call) :
    if cs.any isSubscribe then Busy (run k src cs) else run k src cs = init := by
  simpa only [and_true] using run_ind hk src (P := fun _ => True) (fun _ => trivial) (fun _ _ _ _ => trivial) cs

/-- **C13 `ref_count_first_last`, first half, and `at_most_one_source_subscription` in its strong form**:
    ref_count / replay have subscribed their source exactly once if any `subscribe` call was made so far, and
    not at all otherwise — the first arrival subscribes the source, nothing ever subscribes it again
    (`connecting` is never reset). -/
theorem ref_count_subscribes_once {k : Kind} (hk : k.counts = true) (src : Src) (cs : List Call) :
    sourceSubscriptions (run k src cs) = if cs.any isSubscribe then 1 else 0 := by
  have h := busy_run hk src cs
  unfold sourceSubscriptions; split at h
  · rw [if_pos ‹_›]; exact h.conns
  · rw [if_neg ‹_›, h]; rfl

theorem at_most_one_source_subscription {k : Kind} (hk : k.counts = true) (src : Src) (cs : List Call) :
    sourceSubscriptions (run k src cs) ≤ 1 := by
  rw [ref_count_subscribes_once hk src cs]; split <;> simp

/-- `cancelled` stays false for passive subscribers -/
theorem never_cancelled {k : Kind} (hk : k.counts = true) (src : Src) (cs : List Call) :
    (run k src cs).cancelled = false := by
  have h := busy_run hk src cs
  split at h
  · exact h.cancelled
  · rw [h]; rfl

/-- consequence (ReactiveX's refCount re-subscribes here; this one does not): after the count fell to 0 the
    source is gone for good — subscriber 1 below arrives, the hot source emits, 1 gets nothing. -/
theorem ref_count_never_reconnects :
    let st := run .refCount .hot [.subscribe 0, .unsubscribe 0, .subscribe 1, .srcNext (.int 5)]
    sourceSubscriptions st = 1 ∧ sourceLive st = false ∧ present st 1 ∧ logOf st 1 = [] := by
  refine ⟨by decide, by decide, ⟨by decide, by decide⟩, by decide⟩

example : sourceSubscriptions (run .replay (.cold [.next (.int 1)]) [.srcNext (.int 9), .subscribe 0, .subscribe 1, .unsubscribe 0, .unsubscribe 1, .subscribe 2]) = 1 := by
  decide

/-! ## C13 `same_items_for_present` -/

theorem step_subscribe_seen_sub (k : Kind) (src : Src) (st : State) (o : Nat) (hs : (st.sub.obs o).seen = true) :
    (step k src st (.subscribe o)).sub = st.sub := by
  rw [step_subscribe_sub_eq, SubjM.subscribeA_seen _ _ _ hs, SubjM.subscribeB_noop _ _ _ _ (by simp)]
  split
  · simp [onSubscribe]
  · rfl

/-- One call: every observer that is present when it is made gets the same events out of it — besides
    `subscribeA`, `subscribeB` and `unsubscribeN`, which write into the caller's record only, the subject moves by
    broadcasts alone, and a broadcast does not tell one present observer from another. -/
theorem same_items_step_all (k : Kind) (src : Src) (st : State) (c : Call) (hb : Base k.subj st.sub) :
    ∃ d, ∀ o, present st o → logOf (step k src st c) o = logOf st o ++ d := by
  let R := fun (s0 s : SubjM.State) => ∃ evs : List Ev, s = evs.foldl (emit k.subj) s0
  have hR : ∀ s0 s ev, R s0 s → R s0 (emit k.subj s ev) :=
    fun s0 s ev ⟨evs, e⟩ => ⟨evs ++ [ev], by rw [e, List.foldl_append]; rfl⟩
  cases c using Call.cases3 with
  | unsubscribe o =>
    refine ⟨[], fun o' _ => ?_⟩
    rw [List.append_nil]
    exact step_pres_unsub (P := fun s => SubjM.logOf s o' = logOf st o') src st o
      (fun _ => SubjM.unsubscribe_log k.subj st.sub o o') rfl
  | subscribe o =>
    cases hs : (st.sub.obs o).seen with
    | true => exact ⟨[], fun _ _ => by simp [logOf, step_subscribe_seen_sub k src st o hs]⟩
    | false =>
      obtain ⟨evs, e⟩ := step_pres_sub (Q := R (subscribeA k.subj st.sub o).1) src st o ⟨[], rfl⟩ (hR _)
        (P := fun s => ∃ evs : List Ev, s = (subscribeB k.subj (evs.foldl (emit k.subj) (subscribeA k.subj st.sub o).1) o
          (subscribeA k.subj st.sub o).2).1) (fun s ⟨evs, e⟩ => ⟨evs, by rw [e]⟩)
      obtain ⟨d, hd⟩ := SubjM.emits_log (hb.inv.subscribeA o) evs
      refine ⟨d, fun o' hp => ?_⟩
      have hne : o' ≠ o := by rintro rfl; rw [hb.inv.regSeen _ hp.1] at hs; cases hs
      have := hd o'
      rw [if_pos ⟨SubjM.subscribeA_mono _ _ _ _ hp.1, by
        simp only [SubjM.aliveOf, SubjM.subscribeA_obs_other _ _ _ _ hne]; exact hp.2⟩] at this
      simp only [logOf, SubjM.logOf, e, SubjM.subscribeB_obs_other _ _ _ _ _ hne] at this ⊢
      rw [this, SubjM.subscribeA_obs_other _ _ _ _ hne]
  | other c h1 h2 =>
    obtain ⟨evs, e⟩ := step_pres_src (P := R st.sub) src st (hR _) c h1 h2 ⟨[], rfl⟩
    obtain ⟨d, hd⟩ := SubjM.emits_log hb.inv evs
    exact ⟨d, fun o hp => by rw [logOf, e, hd o]; exact if_pos hp⟩

/-- Take any reachable state of publish / ref_count / replay and any further calls `seg`: all observers of a set
    `S` whose members are present before each call of `seg` receive the same events during `seg`. -/
theorem same_items_all (k : Kind) (src : Src) (cs seg : List Call) (S : Nat → Prop)
    (hp : ∀ n, n < seg.length → ∀ o, S o → present (runFrom k src (run k src cs) (seg.take n)) o) :
    ∃ d, ∀ o, S o → logOf (runFrom k src (run k src cs) seg) o = logOf (run k src cs) o ++ d := by
  have hb := base_run k src cs
  generalize run k src cs = st at hb hp
  induction seg generalizing st with
  | nil => exact ⟨[], fun _ _ => by simp [runFrom]⟩
  | cons c rest ih =>
    obtain ⟨d1, e1⟩ := same_items_step_all k src st c hb
    obtain ⟨d2, e2⟩ := ih (step k src st c) (hb.step src c) (fun n hn => hp (n + 1) (by simp; omega))
    exact ⟨d1 ++ d2, fun o ho => by rw [runFrom_cons, e2 o ho, e1 o (hp 0 (by simp) o ho), List.append_assoc]⟩

/-- **C13 `same_items_for_present`**: take any reachable state of publish / ref_count / replay (hot or cold
    source) and any further calls `seg`; two observers that are present (in the map, still subscribed) before
    each call of `seg` receive exactly the same events, in the same order, during `seg`. -/
theorem same_items_for_present (k : Kind) (src : Src) (cs seg : List Call) (o1 o2 : Nat)
    (hp : ∀ n, n < seg.length →
      present (runFrom k src (run k src cs) (seg.take n)) o1 ∧ present (runFrom k src (run k src cs) (seg.take n)) o2) :
    ∃ d, logOf (runFrom k src (run k src cs) seg) o1 = logOf (run k src cs) o1 ++ d ∧
         logOf (runFrom k src (run k src cs) seg) o2 = logOf (run k src cs) o2 ++ d :=
  have ⟨d, h⟩ := same_items_all k src cs seg (fun o => o = o1 ∨ o = o2)
    fun n hn _ ho => ho.elim (· ▸ (hp n hn).1) (· ▸ (hp n hn).2)
  ⟨d, h o1 (.inl rfl), h o2 (.inr rfl)⟩

/-- non-vacuity: 0 and 1 are present before each of the three calls and both get `n2 n2 n3 n3` (two live
    connections duplicate every item, for both alike) -/
example :
    let st := run .publish .hot [.subscribe 0, .connect, .srcNext (.int 1), .subscribe 1, .connect]
    let seg : List Call := [.srcNext (.int 2), .subscribe 2, .srcNext (.int 3)]
    (∀ n, n < seg.length → present (runFrom .publish .hot st (seg.take n)) 0 ∧ present (runFrom .publish .hot st (seg.take n)) 1) ∧
    logOf (runFrom .publish .hot st seg) 0 = logOf st 0 ++ [.next (.int 2), .next (.int 2), .next (.int 3), .next (.int 3)] ∧
    logOf (runFrom .publish .hot st seg) 1 = logOf st 1 ++ [.next (.int 2), .next (.int 2), .next (.int 3), .next (.int 3)] := by
  refine ⟨?_, by decide, by decide⟩
  intro n hn
  have : n = 0 ∨ n = 1 ∨ n = 2 := by simp at hn; omega
  rcases this with rfl | rfl | rfl <;> exact ⟨⟨by decide, by decide⟩, ⟨by decide, by decide⟩⟩

/-! ## ref_count / replay: the source lives only while somebody is subscribed; replay hands out the whole history -/

def itemsOf : List Ev → List Data
  | [] => []
  | .next v :: l => v :: itemsOf l
  | .error _ :: l => itemsOf l
  | .complete :: l => itemsOf l

theorem itemsOf_append (a b : List Ev) : itemsOf (a ++ b) = itemsOf a ++ itemsOf b := by
  induction a with
  | nil => rfl
  | cons e a ih => cases e <;> simp [itemsOf, ih]

theorem itemsOf_map_next (l : List Data) : itemsOf (l.map .next) = l := by
  induction l with
  | nil => rfl
  | cons x l ih => simp [itemsOf, ih]

theorem itemsOf_terminal (ev : Ev) (h : ev.isTerminal = true) : itemsOf [ev] = [] := by
  cases ev <;> simp_all [itemsOf, Ev.isTerminal]

theorem itemsOf_stored (s : SubjM.State) : itemsOf (stored s) = [] := by
  unfold stored SubjM.storedTerminal
  cases s.wasError with
  | some e => rfl
  | none => cases s.wasCompleted <;> rfl

/-- replay: every log is the recorded history, up to where its subscriber left -/
structure Hist (st : State) : Prop where
  aliveAll : ∀ (o : Nat), (st.sub.obs o).alive = true → (st.sub.obs o).log = st.sub.items.map .next
  doneAll : ∀ (o : Nat), SubjM.nonTerminal (st.sub.obs o).log = false →
    itemsOf (st.sub.obs o).log = st.sub.items ∧ stored st.sub ≠ []
  pre : ∀ (o : Nat), itemsOf (st.sub.obs o).log <+: st.sub.items
  emitted : st.sub.items = st.emitted

/-- what holds between any two callbacks of ref_count / replay -/
structure Core (k : Kind) (st : State) : Prop where
  base : Base k.subj st.sub
  one : st.conns.length ≤ 1
  liveReg : sourceLive st = true → registered st.sub ≠ []
  liveNoTerm : sourceLive st = true → stored st.sub = []
  regAliveOr : ∀ (o : Nat), o ∈ registered st.sub → (st.sub.obs o).alive = true ∨ stored st.sub ≠ []
  hist : k = .replay → Hist st

theorem conns_cases {conns : List Bool} {i : Nat} (h : conns.length ≤ 1) (hi : conns[i]? = some true) :
    conns = [true] ∧ i = 0 := by
  match conns, h with
  | [], _ => simp at hi
  | [b], _ =>
    cases i with
    | zero => simp at hi; simp [hi]
    | succ n => simp at hi

theorem emit_stored_next (k : SubjM.Kind) (s : SubjM.State) {ev : Ev} (ht : ev.isTerminal = false) :
    stored (emit k s ev) = stored s := by
  cases ev with
  | next v => cases k <;> rfl
  | _ => cases ht

theorem emit_stored_plain (s : SubjM.State) (ev : Ev) : stored (emit .plain s ev) = stored s := by
  cases ev <;> rfl

theorem emit_stored_replay_terminal (s : SubjM.State) (ev : Ev) (h : ev.isTerminal = true) :
    stored (emit .replay s ev) ≠ [] := by
  cases ev with
  | next v => cases h
  | error e => simp [stored, emit, SubjM.newWasError, SubjM.storedTerminal]
  | complete =>
    simp only [stored, emit, SubjM.newWasError, SubjM.newWasCompleted, SubjM.storedTerminal]
    cases s.wasError <;> simp

theorem emit_items_replay (s : SubjM.State) (ev : Ev) :
    (emit .replay s ev).items = match ev with
      | .next v => s.items ++ [v]
      | _ => s.items := by
  cases ev <;> rfl

/-- one callback of the (only) source observer -/
theorem Core.connRecv {k : Kind} {st : State} (h : Core k st) (i : Nat) (ev : Ev) :
    Core k (connRecv k st i ev) := by
  unfold ConnM.connRecv
  split
  · rename_i hi
    obtain ⟨hc, rfl⟩ := conns_cases h.one hi
    have hlive : sourceLive st = true := by simp [sourceLive, hc]
    have hst0 := h.liveNoTerm hlive
    have hb := h.base.emit ev
    have hlog : ∀ o, ((emit k.subj st.sub ev).obs o).log =
        if o ∈ registered st.sub ∧ SubjM.aliveOf st.sub o = true then (st.sub.obs o).log ++ [ev]
        else (st.sub.obs o).log := SubjM.emit_log h.base.inv ev
    have hnt : ∀ o, k = .replay → SubjM.nonTerminal (st.sub.obs o).log = true := by
      intro o hr
      cases hn : SubjM.nonTerminal (st.sub.obs o).log with
      | true => rfl
      | false => exact absurd hst0 ((h.hist hr).doneAll o hn).2
    cases ht : ev.isTerminal with
    | true =>
      have hreg : registered (emit k.subj st.sub ev) = [] := by rw [SubjM.emit_registered, if_pos ht]
      have hdead : ∀ o, ((emit k.subj st.sub ev).obs o).alive = false := by
        intro o
        cases ha : ((emit k.subj st.sub ev).obs o).alive with
        | false => rfl
        | true => have := hb.aliveReg o ha; rw [hreg] at this; cases this
      have hit : k = .replay → (emit k.subj st.sub ev).items = st.sub.items := by
        rintro rfl
        cases ev with
        | next v => cases ht
        | _ => rfl
      refine ⟨hb, by simp [hc], ?_, ?_, fun o ho => (by rw [hreg] at ho; cases ho), fun hr => ⟨?_, ?_, ?_, ?_⟩⟩
      · simp [sourceLive, hc]
      · simp [sourceLive, hc]
      · intro o ha; rw [hdead o] at ha; cases ha
      · intro o hn
        have hh := h.hist hr
        simp only [hlog, hit hr] at hn ⊢
        by_cases hp : o ∈ registered st.sub ∧ SubjM.aliveOf st.sub o = true
        · subst hr
          rw [if_pos hp, hh.aliveAll o hp.2, itemsOf_append, itemsOf_map_next, itemsOf_terminal ev ht, List.append_nil]
          exact ⟨rfl, emit_stored_replay_terminal _ _ ht⟩
        · rw [if_neg hp, hnt o hr] at hn; cases hn
      · intro o
        simp only [hlog, hit hr]
        by_cases hp : o ∈ registered st.sub ∧ SubjM.aliveOf st.sub o = true
        · rw [if_pos hp, itemsOf_append, itemsOf_terminal ev ht, List.append_nil]; exact (h.hist hr).pre o
        · rw [if_neg hp]; exact (h.hist hr).pre o
      · simp only [hit hr, (h.hist hr).emitted]
        cases ev with
        | next v => cases ht
        | _ => rfl
    | false =>
      obtain ⟨v, rfl⟩ : ∃ v, ev = .next v := by
        cases ev with
        | next v => exact ⟨v, rfl⟩
        | _ => cases ht
      have hreg : registered (emit k.subj st.sub (.next v)) = registered st.sub := by
        rw [SubjM.emit_registered, if_neg (by simp [ht])]
      have hal : ∀ o, ((emit k.subj st.sub (.next v)).obs o).alive = (st.sub.obs o).alive :=
        SubjM.emit_proj (·.alive) (SubjM.recvK_alive_next k.subj ht) st.sub
      refine ⟨hb, by simpa [Ev.isTerminal] using h.one, fun _ => hreg ▸ h.liveReg hlive,
        fun _ => (emit_stored_next _ _ ht).trans hst0, fun o ho => ?_, ?_⟩
      · rw [hal, emit_stored_next _ _ ht]; exact h.regAliveOr o (hreg ▸ ho)
      · rintro rfl
        have hh := h.hist rfl
        have hit : (emit Kind.replay.subj st.sub (.next v)).items = st.sub.items ++ [v] := rfl
        refine ⟨fun o ha => ?_, fun o hn => ?_, fun o => ?_, by simp only [hit, hh.emitted, accept]⟩
        · rw [hal] at ha
          simp only [hlog, hit, if_pos (show _ ∧ SubjM.aliveOf st.sub o = true from ⟨h.base.aliveReg o ha, ha⟩), hh.aliveAll o ha, List.map_append,
            List.map_cons, List.map_nil]
        · simp only [hlog] at hn
          have : SubjM.nonTerminal (st.sub.obs o).log = false := by
            by_cases hp : o ∈ registered st.sub ∧ SubjM.aliveOf st.sub o = true
            · rw [if_pos hp, SubjM.nonTerminal_append] at hn; simpa [SubjM.nonTerminal, Ev.isTerminal] using hn
            · rwa [if_neg hp] at hn
          rw [hnt o rfl] at this; cases this
        · simp only [hlog, hit]
          by_cases hp : o ∈ registered st.sub ∧ SubjM.aliveOf st.sub o = true
          · rw [if_pos hp, hh.aliveAll o hp.2, itemsOf_append, itemsOf_map_next]; simp [itemsOf]
          · rw [if_neg hp]; exact (hh.pre o).trans (List.prefix_append _ _)
  · exact h

/-- `Core` passes to a state with the same items, stored terminal, `emitted` and logs that has no subscriber alive or
    registered, and no source subscription live, that `st` did not have: `unsubscribe`, `reap`, `on_unsubscribe`,
    a hand-over that writes no log -/
theorem Core.shrink {k : Kind} {st st' : State} (h : Core k st) (hb : Base k.subj st'.sub)
    (hitems : st'.sub.items = st.sub.items) (hstored : stored st'.sub = stored st.sub) (hem : st'.emitted = st.emitted)
    (hlog : ∀ o, (st'.sub.obs o).log = (st.sub.obs o).log)
    (halive : ∀ o, (st'.sub.obs o).alive = true → (st.sub.obs o).alive = true)
    (hreg : ∀ o, o ∈ registered st'.sub → o ∈ registered st.sub ∧ ((st.sub.obs o).alive = true → (st'.sub.obs o).alive = true))
    (hone : st'.conns.length ≤ 1)
    (hlive : sourceLive st' = true → sourceLive st = true ∧ registered st'.sub ≠ []) : Core k st' := by
  refine ⟨hb, hone, fun hl => (hlive hl).2, fun hl => hstored.trans (h.liveNoTerm (hlive hl).1), fun o ho => ?_,
    fun hk => ?_⟩
  · rw [hstored]; exact (h.regAliveOr o (hreg o ho).1).imp_left (hreg o ho).2
  · obtain ⟨f1, f2, f3, f4⟩ := h.hist hk
    refine ⟨fun o ha => ?_, fun o hn => ?_, fun o => ?_, by rw [hitems, hem]; exact f4⟩
    · rw [hlog, hitems]; exact f1 o (halive o ha)
    · rw [hlog] at hn ⊢; rw [hitems, hstored]; exact f2 o hn
    · rw [hlog, hitems]; exact f3 o

theorem Core.congr {k : Kind} {st st' : State} (h : Core k st) (h1 : st'.sub = st.sub) (h2 : st'.conns = st.conns)
    (h3 : st'.emitted = st.emitted) : Core k st' :=
  h.shrink (h1 ▸ h.base) (by rw [h1]) (by rw [h1]) h3 (by simp [h1]) (by simp [h1]) (by simp [h1]) (h2 ▸ h.one)
    (fun hl => have : sourceLive st = true := by simpa [sourceLive, h2] using hl
      ⟨this, h1 ▸ h.liveReg this⟩)

theorem Core.hotEmit {k : Kind} {st : State} (h : Core k st) (ev : Ev) :
    Core k (ConnM.hotEmit k st ev) :=
  hotEmit_pres (Core k) (fun _ i ev h => h.connRecv i ev) st ev h

/-- a subscriber that is still subscribed has not been shown a stored terminal -/
def AliveNoTerm (s : SubjM.State) : Prop := ∀ (o : Nat), (s.obs o).alive = true → stored s = []

theorem AliveNoTerm.emit {k : SubjM.Kind} {s : SubjM.State} (hb : Base k s) (h : AliveNoTerm s) (ev : Ev) :
    AliveNoTerm (emit k s ev) := by
  intro o ha
  have hreg := (hb.emit ev).aliveReg o ha
  rw [SubjM.emit_registered] at hreg
  cases ht : ev.isTerminal with
  | true => rw [if_pos ht] at hreg; cases hreg
  | false =>
    rw [SubjM.emit_proj (·.alive) (SubjM.recvK_alive_next k ht)] at ha
    rw [emit_stored_next k s ht]; exact h o ha

/-- `subscribe` on the subject up to `*sbsc.write() = Some(live)` (before the reaping) -/
def stepH (k : SubjM.Kind) (s : SubjM.State) (o : Nat) : SubjM.State :=
  subscribeH k (subscribeA k s o).1 o (subscribeA k s o).2

theorem step_eq_reap (k : SubjM.Kind) (s : SubjM.State) (o : Nat) :
    SubjM.step k s (.subscribe o) =
      if k.isReplay && (subscribeA k s o).2.fresh then (reap (stepH k s o) o).1 else stepH k s o := by
  simp only [SubjM.step, SubjM.subscribeB_eq, stepH, SubjM.subscribeH_eq]; split <;> rfl

theorem Base.stepH {k : SubjM.Kind} {s : SubjM.State} (h : Base k s) (o : Nat) : Base k (stepH k s o) := by
  unfold ConnM.stepH; rw [SubjM.subscribeH_eq]; split
  · exact (h.subscribeA o).handed (by simp_all) o _ (SubjM.subscribeA_marks k s o)
  · exact h.subscribeA o

theorem stepH_unseen (k : Kind) (hk : k.counts = true) (s : SubjM.State) (o : Nat) (hu : (s.obs o).seen = false) :
    registered (stepH k.subj s o) = registered s ++ [o] ∧ (stepH k.subj s o).items = s.items ∧
    stored (stepH k.subj s o) = stored s ∧ (∀ o', o' ≠ o → (stepH k.subj s o).obs o' = s.obs o') ∧
    ((stepH k.subj s o).obs o).log = (if k = .replay then s.items.map .next ++ stored s else []) ∧
    ((stepH k.subj s o).obs o).alive = (if k = .replay then (stored s).isEmpty else true) := by
  cases k with
  | publish => cases hk
  | refCount =>
    have : stepH .plain s o = SubjM.register s o (SubjM.newcomer .plain []) := by
      simp [stepH, SubjM.subscribeA_eq, hu, SubjM.entry, SubjM.subscribeH_eq, SubjM.Kind.isReplay]
    rw [Kind.subj, this]
    exact ⟨SubjM.register_registered .., rfl, rfl, fun o' hne => if_neg hne, by simp [SubjM.register_obs, SubjM.newcomer],
      by simp [SubjM.register_obs, SubjM.newcomer]⟩
  | replay =>
    have : stepH .replay s o = SubjM.replayH s o := by
      simp [stepH, SubjM.subscribeA_eq, hu, SubjM.entry, SubjM.subscribeH_eq, SubjM.Kind.isReplay, SubjM.replayH]
    rw [Kind.subj, this, SubjM.replayH_obs]
    refine ⟨by simp [SubjM.replayH, SubjM.handed, registered, SubjM.register], rfl, rfl, fun o' hne => ?_,
      by simp [SubjM.newcomer, stored], by simp [stored]⟩
    rw [SubjM.replayH, SubjM.handed_obs, if_neg hne, SubjM.register_obs, if_neg hne]

/-- `subscribe` while the source subscription already exists (`connecting` set), up to the stored `sbsc` -/
theorem Core.subscribeLate {k : Kind} (hk : k.counts = true) {st : State} (h : Core k st) (o : Nat) :
    Core k { st with sub := stepH k.subj st.sub o } := by
  cases hs : (st.sub.obs o).seen with
  | true =>
    have : stepH k.subj st.sub o = st.sub := by
      simp [stepH, SubjM.subscribeA_seen _ _ _ hs, SubjM.subscribeH_eq]
    rw [this]; exact h
  | false =>
    obtain ⟨hreg, hitems, hstored, hoth, hlogo, halo⟩ := stepH_unseen k hk st.sub o hs
    refine ⟨h.base.stepH o, h.one, fun _ => by simp [hreg], fun hl => hstored.trans (h.liveNoTerm hl),
      fun o' ho' => ?_, ?_⟩
    · simp only [hreg, List.mem_append, List.mem_singleton] at ho'
      simp only [hstored]
      by_cases hne : o' = o
      · subst hne
        rw [halo]; split
        · cases hst : stored st.sub with
          | nil => left; rfl
          | cons t ts => right; simp
        · left; rfl
      · rw [hoth o' hne]; exact h.regAliveOr o' (ho'.resolve_right hne)
    · rintro rfl
      have hh := h.hist rfl
      simp only [if_true] at hlogo halo
      refine ⟨fun o' ha => ?_, fun o' hnt => ?_, fun o' => ?_, hitems.trans hh.emitted⟩ <;> simp only at *
        <;> by_cases hne : o' = o
      · subst hne
        rw [halo] at ha
        rw [hlogo, hitems, List.isEmpty_iff.1 ha, List.append_nil]
      · rw [hoth o' hne] at ha ⊢; rw [hitems]; exact hh.aliveAll o' ha
      · subst hne
        rw [hlogo, SubjM.nonTerminal_append, SubjM.nonTerminal_map_next, Bool.true_and] at hnt
        rw [hlogo, itemsOf_append, itemsOf_map_next, itemsOf_stored, hitems, hstored, List.append_nil]
        exact ⟨rfl, fun he => by rw [he] at hnt; cases hnt⟩
      · rw [hoth o' hne] at hnt ⊢; rw [hitems, hstored]; exact hh.doneAll o' hnt
      · subst hne
        rw [hlogo, itemsOf_append, itemsOf_map_next, itemsOf_stored, hitems, List.append_nil]
        exact List.prefix_refl _
      · rw [hoth o' hne, hitems]; exact hh.pre o'

/-- the hand-over of the subscriber that made ref_count / replay connect: its history snapshot is empty and it
    has already been shown, live, whatever terminal the cold source produced -/
theorem Core.handed0 {k : Kind} {st : State} (h : Core k st) (hk : k.subj.isReplay = true) (hnt : AliveNoTerm st.sub)
    (o : Nat) (p : Pending) (hp : p.history = []) (hs : (st.sub.obs o).seen = true) :
    Core k { st with sub := SubjM.handed st.sub o p } := by
  have hobs : ∀ o', ((SubjM.handed st.sub o p).obs o').log = (st.sub.obs o').log ∧
      ((SubjM.handed st.sub o p).obs o').alive = (st.sub.obs o').alive := by
    intro o'
    rw [SubjM.handed_obs]; split
    · subst_vars
      rw [SubjM.handOver_eq, hp]; split
      · rename_i ha
        have := hnt o' ha; unfold stored at this
        simp [this, ha]
      · exact ⟨rfl, rfl⟩
    · exact ⟨rfl, rfl⟩
  exact h.shrink (h.base.handed hk o p hs) rfl rfl rfl (fun o' => (hobs o').1) (fun o' ha => (hobs o').2 ▸ ha)
    (fun o' ho' => ⟨ho', fun ha => (hobs o').2.symm ▸ ha⟩) h.one (fun hl => ⟨hl, h.liveReg hl⟩)

theorem sourceLive_set_false (conns : List Bool) (i : Nat) (h : (conns.set i false).any id = true) :
    conns.any id = true := by
  simp only [List.any_eq_true, id] at *
  obtain ⟨b, hb, rfl⟩ := h
  exact ⟨true, (List.mem_or_eq_of_mem_set hb).resolve_right (by simp), rfl⟩

theorem Core.present_of_live {k : Kind} {st : State} (h : Core k st) (hl : sourceLive st = true) :
    ∃ o, present st o := by
  cases hr : registered st.sub with
  | nil => exact absurd hr (h.liveReg hl)
  | cons o rest =>
    have ho : o ∈ registered st.sub := by rw [hr]; simp
    exact ⟨o, ho, (h.regAliveOr o ho).resolve_right (fun hs => hs (h.liveNoTerm hl))⟩

/-- taking a dead subscriber's forwarder out of the map disturbs nothing the connectable relies on -/
theorem Core.reapSub {k : Kind} {st : State} (h : Core k st) (o : Nat) :
    Core k { st with sub := (reap st.sub o).1 } := by
  have hm := SubjM.reap_mem h.base.inv o
  have hf := SubjM.reap_fields st.sub o
  refine h.shrink (h.base.reap o) rfl rfl rfl (fun o' => (hf o').2.2.1) (fun o' ha => (hf o').2.1 ▸ ha)
    (fun o' ho' => ⟨((hm o').1 ho').1, fun ha => (hf o').2.1.symm ▸ ha⟩) h.one fun hl => ⟨hl, fun he => ?_⟩
  -- the reaping leaves a subscriber that is still subscribed in the map
  obtain ⟨o', _, ha⟩ := h.present_of_live hl
  have := (h.base.reap o).aliveReg o' ((hf o').2.1.trans ha)
  rw [show registered (reap st.sub o).1 = [] from he] at this; cases this

theorem Core.killConn {k : Kind} {st : State} (h : Core k st) (i : Nat) :
    Core k { st with conns := st.conns.set i false } :=
  h.shrink h.base rfl rfl rfl (fun _ => rfl) (fun _ => id) (fun _ ho => ⟨ho, id⟩) (by simpa using h.one)
    (fun hl => have := sourceLive_set_false st.conns i hl; ⟨this, h.liveReg this⟩)

/-- an `on_unsubscribe(len)` call can only take the source subscription down -/
theorem Core.onUnsubscribe {k : Kind} {st : State} (h : Core k st) (n : Option Nat) :
    Core k (ConnM.onUnsubscribe st n) := by
  unfold ConnM.onUnsubscribe
  split
  · cases hs : st.subscription with
    | none => exact h.congr rfl rfl rfl
    | some i => exact (h.killConn i).congr rfl rfl rfl
  · exact h

theorem stored_of_store {s s' : SubjM.State} (h : SubjM.SameStore s s') : stored s' = stored s := by
  have := h.mem; simp only [SubjM.mem, Prod.mk.injEq] at this
  unfold stored; rw [this.2.2.2.1, this.2.2.2.2]

/-- what the `on_unsubscribe(len)` argument returned by `unsubscribeN` tells about the map -/
theorem unsub_note (k : SubjM.Kind) (s : SubjM.State) (o : Nat) :
    ((unsubscribeN k s o).2 = none → (unsubscribeN k s o).1.observers = s.observers) ∧
    (∀ n, (unsubscribeN k s o).2 = some n → (unsubscribeN k s o).1.observers.length = n) := by
  unfold unsubscribeN
  cases hs : (s.obs o).seen with
  | false => simp
  | true =>
    simp only [Bool.not_true, Bool.false_eq_true, ↓reduceIte]
    cases hh : (s.obs o).inHook with
    | none => simp
    | some x =>
      cases hr : ((s.obs o).hook && (k.isPlain || (s.obs o).armed)) <;> simp

theorem Core.unsubscribe {k : Kind} (hk : k.counts = true) (src : Src) {st : State} (h : Core k st)
    (ha : Armed k.subj st.sub) (hsub : sourceLive st = true → st.subscription = some 0) (o : Nat) :
    Core k (step k src st (.unsubscribe o)) := by
  have hnote := unsub_note k.subj st.sub o
  have hst := SubjM.unsubscribeN_store k.subj st.sub o
  have hobs := SubjM.unsub_obs k.subj st.sub o
  -- the part that does not depend on the source flags
  have key : ∀ conns', conns'.length ≤ 1 → (conns'.any id = true → sourceLive st = true ∧
        (unsubscribeN k.subj st.sub o).1.observers ≠ []) →
      Core k { st with sub := (unsubscribeN k.subj st.sub o).1, conns := conns' } := by
    intro conns' hlen hlive
    refine h.shrink (h.base.unsubscribeN o) (congrArg (·.2.2.1) hst.mem) (stored_of_store hst) rfl
      (fun o' => SubjM.unsubscribe_log k.subj st.sub o o') (fun o' h' => ?_) (fun o' ho' => ?_) hlen
      (fun hl => by simpa [registered] using hlive hl)
    · rw [hobs] at h'; split at h'
      · cases h'
      · exact h'
    · have hm := h.base.inv.unsub_kept ha o ho'
      exact ⟨hm.1, fun hal => hm.2.symm ▸ hal⟩
  simp only [ConnM.step, hk, ↓reduceIte]
  unfold ConnM.onUnsubscribe
  split
  · rename_i hz
    refine (key (match st.subscription with | some i => st.conns.set i false | none => st.conns) ?_ ?_).congr rfl rfl rfl
    · cases st.subscription <;> simp [h.one]
    · intro hl
      have hlive : sourceLive st = true := by
        cases hsb : st.subscription with
        | none => simpa [hsb, sourceLive] using hl
        | some i => rw [hsb] at hl; exact sourceLive_set_false _ _ hl
      rw [hsub hlive] at hl
      have hc := h.one
      match hcs : st.conns, hc with
      | [], _ => simp [hcs] at hl
      | [b], _ => simp [hcs] at hl
  · rename_i hz
    refine (key st.conns h.one fun hl => ⟨hl, ?_⟩).congr rfl rfl rfl
    have hreg := h.liveReg hl
    cases hn : (unsubscribeN k.subj st.sub o).2 with
    | none => rw [hnote.1 hn]; simpa [registered] using hreg
    | some n =>
      have := hnote.2 n hn
      intro he; rw [he] at this; simp at this; rw [hn, ← this] at hz; exact hz rfl

/-! ### the call-level invariant of ref_count / replay -/

structure Full (k : Kind) (st : State) : Prop where
  core : Core k st
  good : SubjM.Good k.subj st.sub

theorem good_step {k : Kind} (src : Src) {st : State} (h : SubjM.Good k.subj st.sub) (c : Call) :
    SubjM.Good k.subj (step k src st c).sub :=
  step_pres src st (fun o p s => SubjM.GoodBut k.subj (SubjM.pending k.subj o p) s)
    (fun _ ev hs => hs.emit ev) (fun _ o hs => hs.subscribeA o) (fun _ _ _ ev hs => hs.emit ev)
    (fun _ _ _ hs hseen => hs.subscribeB hseen) (fun _ o hs => hs.unsubscribeN o) c h

theorem good_init (k : Kind) : SubjM.Good k.subj init.sub := by cases k <;> exact SubjM.good_init _

/-- `Core` across the subject-level `subscribe` (hand-over and reaping) when no source activity intervenes -/
theorem Core.subscribeSub {k : Kind} (hk : k.counts = true) {st : State} (h : Core k st) (o : Nat) :
    Core k { st with sub := SubjM.step k.subj st.sub (.subscribe o) } := by
  rw [step_eq_reap]
  split
  · exact (h.subscribeLate hk o).reapSub o
  · exact h.subscribeLate hk o

theorem Full.step {k : Kind} (hk : k.counts = true) (src : Src) {st : State} (hb : Busy st) (h : Full k st) (c : Call) :
    Full k (step k src st c) := by
  refine ⟨?_, good_step src h.good c⟩
  cases c using Call.cases3 with
  | subscribe o => rw [step_subscribe_busy hk src hb.1]; exact (h.core.subscribeSub hk o).onUnsubscribe _
  | unsubscribe o => exact h.core.unsubscribe hk src h.good.armed (fun _ => hb.3) o
  | other c h1 h2 =>
    rw [step_other hk src st c h1 h2]; split
    · exact h.core.hotEmit _
    · exact h.core

theorem Core.first {k : Kind} (hk : k.counts = true) (src : Src) (o : Nat) :
    Core k (step k src init (.subscribe o)) := by
  rw [step_first k hk src o]
  have hlog : ∀ o', ((SubjM.register {} o (SubjM.newcomer k.subj [])).obs o').log = [] := by
    intro o'; rw [SubjM.register_obs]; split <;> rfl
  have hb0 : Base k.subj (SubjM.register {} o (SubjM.newcomer k.subj [])) := by
    have := (base_init k.subj).subscribeA o
    rwa [show SubjM.init k.subj = {} by cases k <;> rfl, subscribeA_init k hk o] at this
  let Q := fun s => Base k.subj s ∧ AliveNoTerm s ∧ (s.obs o).seen = true
  have hQ : ∀ s ev, Q s → Q (emit k.subj s ev) := fun s ev h =>
    ⟨h.1.emit ev, h.2.1.emit h.1 ev, (SubjM.emit_seen _ s ev o).trans h.2.2⟩
  obtain ⟨hX, hq⟩ := connectSource_pres (k := k) (fun s => Core k s ∧ Q s.sub)
    (fun s i ev h => ⟨h.1.connRecv i ev, connRecv_sub_pres hQ s i ev h.2⟩) src
    { sub := SubjM.register {} o (SubjM.newcomer k.subj []), connecting := true }
    ⟨⟨hb0, Nat.le_refl 1, fun _ => by simp [SubjM.register_registered], fun _ => rfl,
      fun o' ho' => .inl (by
        rw [SubjM.register_registered] at ho'; obtain rfl : o' = o := by simpa [registered] using ho'
        simp [SubjM.register_obs, SubjM.newcomer]),
      fun _ => ⟨fun o' _ => hlog o', fun o' hn => (by rw [hlog] at hn; cases hn),
        fun o' => (by rw [hlog]; exact List.nil_prefix), rfl⟩⟩, hb0, fun _ _ => rfl,
      by simp [SubjM.register_obs, SubjM.newcomer]⟩
  dsimp only
  generalize connectSource k src _ = X at hX hq ⊢
  have hB : Core k { X with sub := (subscribeB k.subj X.sub o { fresh := true, len := some 1 }).1 } := by
    rw [SubjM.subscribeB_eq]; split
    · exact (hX.handed0 (by simp_all) hq.2.1 o _ rfl hq.2.2).reapSub o
    · exact hX
  exact Core.onUnsubscribe (hB.congr (st' := { X with sub := _, subscription := some 0 }) rfl rfl rfl) _

theorem full_run {k : Kind} (hk : k.counts = true) (src : Src) (cs : List Call) : Full k (run k src cs) := by
  have h := run_ind hk src (P := Full k) (fun o => ⟨Core.first hk src o, good_step src (good_init k) _⟩)
    (fun _ c hb h => h.step hk src hb c) cs
  split at h
  · exact h.2
  · rw [h]
    have hb : Base k.subj init.sub := by cases k <;> exact base_init _
    exact ⟨⟨hb, Nat.zero_le 1, nofun, fun _ => rfl, nofun, fun _ =>
      ⟨nofun, fun o hn => (by cases hn), fun o => List.nil_prefix, rfl⟩⟩, good_init k⟩

/-! ## C13 `disconnect_stops_source`, and the second half of `ref_count_first_last` (which closes the file) -/

/-- **C13 `ref_count_first_last`, second half** (ref_count and replay, hot or cold source, every call sequence):
    whenever the source subscription is live, some subscriber is present — so the source has been
    unsubscribed by the time the last subscriber has left (or the source has terminated). -/
theorem source_live_needs_subscriber {k : Kind} (hk : k.counts = true) (src : Src) (cs : List Call)
    (hl : sourceLive (run k src cs) = true) : ∃ o, present (run k src cs) o :=
  (full_run hk src cs).core.present_of_live hl

/-- **C13 `disconnect_stops_source`, ref_count / replay**: the `unsubscribe` that empties the map leaves no live
    source subscription behind. -/
theorem last_subscriber_stops_source {k : Kind} (hk : k.counts = true) (src : Src) (cs : List Call) (o : Nat)
    (hempty : registered (step k src (run k src cs) (.unsubscribe o)).sub = []) :
    sourceLive (step k src (run k src cs) (.unsubscribe o)) = false := by
  have h := (full_run hk src (cs ++ [.unsubscribe o])).core
  rw [run_snoc] at h
  cases hl : sourceLive (step k src (run k src cs) (.unsubscribe o)) with
  | false => rfl
  | true => exact absurd hempty (h.liveReg hl)

/-- the first arrival subscribes the (hot) source, which is live when that `subscribe` returns -/
theorem first_arrival_connects {k : Kind} (hk : k.counts = true) (cs : List Call) (o : Nat)
    (hnone : cs.any isSubscribe = false) :
    sourceSubscriptions (run k .hot cs) = 0 ∧
    sourceSubscriptions (run k .hot (cs ++ [.subscribe o])) = 1 ∧
    sourceLive (run k .hot (cs ++ [.subscribe o])) = true := by
  have h0 := ref_count_subscribes_once hk .hot cs
  have h1 := ref_count_subscribes_once hk .hot (cs ++ [.subscribe o])
  have hi := busy_run hk .hot cs
  rw [hnone] at h0 hi
  refine ⟨h0, by simpa [isSubscribe] using h1, ?_⟩
  -- nothing is stored yet: the hand-over leaves the new subscriber alive, so nothing is reaped
  rw [run_snoc, hi, step_first k hk .hot o]
  cases k with
  | publish => cases hk
  | refCount => simp [connectSource, SubjM.subscribeB_eq, Kind.subj, SubjM.Kind.isReplay, onUnsubscribe, sourceLive]
  | replay =>
    simp [connectSource, SubjM.subscribeB_eq, Kind.subj, SubjM.Kind.isReplay, onUnsubscribe, sourceLive, reap,
      SubjM.handed_obs, SubjM.handOver_eq, SubjM.register, SubjM.newcomer, SubjM.storedTerminal]

theorem connRecv_dead (k : Kind) (st : State) (i : Nat) (ev : Ev) (h : sourceLive st = false) :
    connRecv k st i ev = st := by
  unfold connRecv
  rw [if_neg]
  intro hi
  have : true ∈ st.conns := List.mem_of_getElem? hi
  simp only [sourceLive, List.any_eq_false, id] at h
  exact absurd rfl (h true this)

/-- a source nobody is subscribed to delivers nothing: its emissions leave the whole state unchanged -/
theorem dead_source_is_silent (k : Kind) (src : Src) (st : State) (c : Call) (ev : Ev) (hc : srcEv c = some ev)
    (h : sourceLive st = false) : step k src st c = st := by
  rw [step_srcEv k src st hc]
  cases src with
  | hot => exact hotEmit_pres (· = st) (fun s i ev hs => by rw [hs, connRecv_dead k st i ev h]) st ev rfl
  | cold script => rfl

/-- **C13 `disconnect_stops_source`, publish**: after `disconnect` (the connection handles are unsubscribed) no
    source subscription is live, whatever happened before … -/
theorem disconnect_stops_source (src : Src) (cs : List Call) :
    sourceLive (run .publish src (cs ++ [.disconnect])) = false := by
  rw [run_append]
  show sourceLive (step .publish src (run .publish src cs) .disconnect) = false
  simp [step, Kind.counts, sourceLive]

/-- … and from then on the source's emissions reach nobody until the next `connect` -/
theorem disconnect_silences (cs : List Call) (c : Call) (ev : Ev) (hc : srcEv c = some ev) :
    run .publish .hot (cs ++ [.disconnect, c]) = run .publish .hot (cs ++ [.disconnect]) := by
  have h := disconnect_stops_source .hot cs
  have : cs ++ [Call.disconnect, c] = (cs ++ [.disconnect]) ++ [c] := by simp
  rw [this, run_append .publish .hot (cs ++ [Call.disconnect]) [c]]
  exact dead_source_is_silent .publish .hot _ c ev hc h

example : sourceLive (run .publish .hot [.subscribe 0, .connect, .srcNext (.int 1)]) = true ∧
    logOf (run .publish .hot ([.subscribe 0, .connect, .srcNext (.int 1)] ++ [.disconnect, .srcNext (.int 2)])) 0
      = [.next (.int 1)] := by decide
example : sourceLive (run .refCount .hot [.subscribe 0, .subscribe 1, .unsubscribe 0]) = true ∧
    registered (step .refCount .hot (run .refCount .hot [.subscribe 0, .subscribe 1, .unsubscribe 0]) (.unsubscribe 1)).sub = [] ∧
    sourceLive (step .refCount .hot (run .refCount .hot [.subscribe 0, .subscribe 1, .unsubscribe 0]) (.unsubscribe 1)) = false := by
  decide

/-! ## C13 `replay_complete_history` -/

/-- **C13 `replay_complete_history`** (hot source or any cold script, every call sequence).  `items` is the
    sequence the source has emitted so far (`emitted`: what the one source observer let through, in order).
    * a subscriber that is still subscribed has received exactly that sequence — each item once, in order,
      however late it arrived;
    * a subscriber that was ended by a terminal has received exactly that sequence, then the terminal;
    * nobody ever has anything but a prefix of it (a subscriber that unsubscribed keeps what it had). -/
theorem replay_complete_history (src : Src) (cs : List Call) :
    (run .replay src cs).sub.items = (run .replay src cs).emitted ∧
    (∀ o, SubjM.aliveOf (run .replay src cs).sub o = true →
      logOf (run .replay src cs) o = (run .replay src cs).emitted.map .next) ∧
    (∀ o, SubjM.nonTerminal (logOf (run .replay src cs) o) = false →
      itemsOf (logOf (run .replay src cs) o) = (run .replay src cs).emitted) ∧
    (∀ o, itemsOf (logOf (run .replay src cs) o) <+: (run .replay src cs).emitted) := by
  have h := (full_run (k := .replay) rfl src cs).core.hist rfl
  rw [← h.emitted]
  exact ⟨rfl, h.aliveAll, fun o hn => (h.doneAll o hn).1, h.pre⟩

theorem step_unseen (k : Kind) (src : Src) (st : State) (c : Call) (o : Nat) (hc : c ≠ .subscribe o)
    (h : (st.sub.obs o).seen = false) : ((step k src st c).sub.obs o).seen = false := by
  have hE : ∀ s ev, (s.obs o).seen = false → ((emit k.subj s ev).obs o).seen = false :=
    fun s ev hs => (SubjM.emit_seen _ s ev o).trans hs
  cases c using Call.cases3 with
  | subscribe o' =>
    have hne : o ≠ o' := fun e => hc (by rw [e])
    exact step_pres_sub (P := fun s => (s.obs o).seen = false) src st o'
      ((SubjM.subscribeA_obs_other _ _ _ _ hne).symm ▸ h) hE
      (fun s hs => (SubjM.subscribeB_obs_other _ _ _ _ _ hne).symm ▸ hs)
  | unsubscribe o' =>
    refine step_pres_unsub (P := fun s => (s.obs o).seen = false) src st o' (fun hs => ?_) h
    rw [SubjM.unsub_obs]; split
    · rename_i hh; rw [hh.1, hh.2] at hs; cases hs
    · exact hs
  | other c h1 h2 => exact step_pres_src src st hE c h1 h2 h

theorem unseen_run (k : Kind) (src : Src) (cs : List Call) (o : Nat) (hc : Call.subscribe o ∉ cs) :
    ((run k src cs).sub.obs o).seen = false :=
  List.foldlRecOn (motive := fun s : State => (s.sub.obs o).seen = false) cs _ rfl
    fun s hs c hm => step_unseen k src s c o (fun e => hc (e ▸ hm)) hs

/-- **C13 `replay_complete_history`, at arrival**: the `subscribe` call of a new subscriber returns with the
    subscriber holding the complete item sequence from the beginning, each item once — whether it is the
    first subscriber (a cold source runs inside this very call) or a late one. -/
theorem replay_arrival (src : Src) (cs : List Call) (o : Nat) (hfresh : Call.subscribe o ∉ cs) :
    itemsOf (logOf (run .replay src (cs ++ [.subscribe o])) o) = (run .replay src (cs ++ [.subscribe o])).emitted := by
  have hfull := full_run (k := .replay) rfl src (cs ++ [.subscribe o])
  have hh := hfull.core.hist rfl
  have hu := unseen_run .replay src cs o hfresh
  -- the new subscriber has been created with its hook, and has not unsubscribed
  have hq : ((run .replay src (cs ++ [.subscribe o])).sub.obs o).seen = true ∧
      ((run .replay src (cs ++ [.subscribe o])).sub.obs o).hook = true := by
    rw [run_snoc]
    refine step_pres_sub (P := fun s => (s.obs o).seen = true ∧ (s.obs o).hook = true)
      (Q := fun s => (s.obs o).seen = true ∧ (s.obs o).hook = true) src (run .replay src cs) o ?_ ?_ ?_
    · simp [SubjM.subscribeA_eq, hu, SubjM.entry, Kind.subj, SubjM.register_obs, SubjM.newcomer]
    · exact fun s ev hs => ⟨(SubjM.emit_seen _ s ev o).trans hs.1,
        (SubjM.emit_proj (·.hook) (SubjM.recvK_hook _ ev) s o).trans hs.2⟩
    · intro s hs
      rw [(SubjM.subscribeB_seen_hook ..).1, (SubjM.subscribeB_seen_hook ..).2]; exact hs
  rw [← hh.emitted]
  cases ha : ((run .replay src (cs ++ [.subscribe o])).sub.obs o).alive with
  | true =>
    show itemsOf ((run .replay src (cs ++ [.subscribe o])).sub.obs o).log = _
    rw [hh.aliveAll o ha, itemsOf_map_next]
  | false => exact (hh.doneAll o (hfull.core.base.deadWhy o hq.1 hq.2 ha)).1

/-! ### a cold source: what `emitted` is -/

/-- the items a cold script delivers: those before its first terminal -/
def feed : List Ev → List Data
  | [] => []
  | .next v :: rest => v :: feed rest
  | .error _ :: _ => []
  | .complete :: _ => []

theorem foldEv_emitted (k : Kind) (evs : List Ev) (st : State) (h : st.conns = [true]) :
    (evs.foldl (fun s ev => connRecv k s 0 ev) st).emitted = st.emitted ++ feed evs := by
  induction evs generalizing st with
  | nil => simp [feed]
  | cons ev evs ih =>
    rw [List.foldl_cons]
    cases ht : ev.isTerminal with
    | false =>
      cases ev with
      | next v => rw [ih _ (by simp [connRecv, h, Ev.isTerminal])]; simp [connRecv, h, accept, feed]
      | _ => cases ht
    | true =>
      -- the terminal closes the source observer: the rest of the script reaches nobody
      have hd : sourceLive (connRecv k st 0 ev) = false := by simp [connRecv, h, ht, sourceLive]
      rw [List.foldlRecOn (motive := (· = connRecv k st 0 ev)) evs _ rfl
        fun s hs ev _ => by rw [hs, connRecv_dead k _ 0 ev hd]]
      cases ev with
      | next v => cases ht
      | _ => simp [connRecv, h, accept, feed]

theorem onUnsubscribe_emitted (st : State) (n : Option Nat) : (onUnsubscribe st n).emitted = st.emitted := by
  unfold onUnsubscribe; split <;> rfl

/-- with a cold source that emits synchronously inside the first `subscribe`: what has been emitted is, from
    the first `subscribe` on and for ever, the script's items up to its first terminal -/
theorem cold_emitted {k : Kind} (hk : k.counts = true) (script : List Ev) (cs : List Call) :
    (run k (.cold script) cs).emitted = if cs.any isSubscribe then feed script else [] := by
  have h := run_ind hk (.cold script) (P := fun st => st.emitted = feed script) (fun o => ?_) (fun st c hb h => ?_) cs
  · split at h
    · rw [if_pos ‹_›]; exact h.2
    · rw [if_neg ‹_›, h]; rfl
  · rw [step_first k hk, onUnsubscribe_emitted]
    exact (foldEv_emitted k script _ rfl).trans (List.nil_append _)
  · cases c using Call.cases3 with
    | subscribe o => rw [step_subscribe_busy hk _ hb.1, onUnsubscribe_emitted]; exact h
    | unsubscribe o => simp only [step, hk, ↓reduceIte, onUnsubscribe_emitted]; exact h
    | other c h1 h2 => rw [step_other hk _ st c h1 h2]; exact h

/-- **C13 replay, cold-synchronous source**: every subscriber that is still subscribed — the first one, who was
    inside `subscribe` while the source ran, and every later one — has exactly the script's items, each once. -/
theorem replay_cold_history (script : List Ev) (cs : List Call) (o : Nat)
    (ha : SubjM.aliveOf (run .replay (.cold script) cs).sub o = true) :
    logOf (run .replay (.cold script) cs) o = (feed script).map .next := by
  rw [(replay_complete_history (.cold script) cs).2.1 o ha, cold_emitted rfl script cs]
  cases hs : cs.any isSubscribe with
  | true => rfl
  | false =>
    -- nobody has subscribed yet, so `o` cannot be alive
    have hi := busy_run (k := .replay) rfl (.cold script) cs
    rw [hs] at hi; rw [hi] at ha; cases ha

/-- the first subscriber of a cold-synchronous replay is not handed the items twice (live + history), and the late
    one gets them all, then the terminal -/
example :
    logOf (run .replay (.cold [.next (.int 1), .next (.int 2), .complete]) [.subscribe 0, .subscribe 1]) 0
      = [.next (.int 1), .next (.int 2), .complete] ∧
    logOf (run .replay (.cold [.next (.int 1), .next (.int 2), .complete]) [.subscribe 0, .subscribe 1]) 1
      = [.next (.int 1), .next (.int 2), .complete] := by decide
example :
    logOf (run .replay .hot [.subscribe 0, .srcNext (.int 1), .unsubscribe 0, .subscribe 1, .srcNext (.int 2)]) 1
      = [.next (.int 1)] ∧
    SubjM.aliveOf (run .replay .hot [.subscribe 0, .srcNext (.int 1), .unsubscribe 0, .subscribe 1, .srcNext (.int 2)]).sub 1 = true := by
  decide

/-- **C13 `ref_count_first_last`** (ref_count and replay; hot source or any cold script; every call sequence),
    both halves together: the source has been subscribed exactly once iff somebody ever subscribed (so: at the
    first arrival, and never again), and a live source subscription implies a present subscriber. -/
theorem ref_count_first_last {k : Kind} (hk : k.counts = true) (src : Src) (cs : List Call) :
    sourceSubscriptions (run k src cs) = (if cs.any isSubscribe then 1 else 0) ∧
    (sourceLive (run k src cs) = true → ∃ o, present (run k src cs) o) :=
  ⟨ref_count_subscribes_once hk src cs, source_live_needs_subscriber hk src cs⟩

/-- non-vacuity: a run in which the source is live with two subscribers present, then dies with the last one -/
example :
    sourceLive (run .replay .hot [.subscribe 0, .srcNext (.int 1), .subscribe 1]) = true ∧
    present (run .replay .hot [.subscribe 0, .srcNext (.int 1), .subscribe 1]) 1 ∧
    sourceLive (run .replay .hot [.subscribe 0, .srcNext (.int 1), .subscribe 1, .unsubscribe 0, .unsubscribe 1]) = false := by
  refine ⟨by decide, ⟨by decide, by decide⟩, by decide⟩

#print axioms publish_connects_only_on_connect
#print axioms same_items_for_present
#print axioms ref_count_first_last
#print axioms ref_count_subscribes_once
#print axioms at_most_one_source_subscription
#print axioms source_live_needs_subscriber
#print axioms last_subscriber_stops_source
#print axioms first_arrival_connects
#print axioms ref_count_never_reconnects
#print axioms never_cancelled
#print axioms replay_complete_history
#print axioms replay_arrival
#print axioms cold_emitted
#print axioms replay_cold_history
#print axioms disconnect_stops_source
#print axioms disconnect_silences
#print axioms dead_source_is_silent
#print axioms full_run

end Rx.ConnM
