import RxVerif.Theorems.C13RefInv
/-
C13-REF: the own side of `ref_count` and `replay` (replay.rs = ref_count.rs over a `ReplaySubject`): the cells
`connecting`, `subscription`, `cancelled` and the two closures set as hooks of the connectable's subject S.
`on_subscribe(len)` (ref_count.rs:59-92) = `ConnM.onSubscribe`, `on_unsubscribe(len)` (ref_count.rs:41-50) =
`ConnM.onUnsubscribe`, for any users' side and any source; then the two places in S where they are called
(`RcInv.onSubCall`, `RcInv.onUnsubCall`) and a hot source event (`RcInv.hotEmit`).
-/
namespace Rx.CRef
open Rx.Sim Rx.SubjM Rx.Ref Rx.RefR

/-- the closure given to `set_on_unsubscribe` (ref_count.rs:41-50) -/
def onUnsubHook (rc : RefC) : Data → Prog := fun count =>
  if count.toInt == 0 then .cellRead rc.subscription false fun h =>
    match h with
    | .lnil => .cellWrite rc.cancelled false (.bool true) .done
    | h => subUnsub h
  else .done

/-- the closure given to `set_on_subscribe` (ref_count.rs:59-92) -/
def onSubHook (rc : RefC) (src : Obsv) (next : Data → Prog) (error : Nat → Prog) (complete : Prog) : Data → Prog :=
  fun count =>
    if count.toInt == 1 then
      .cellRead rc.connected false fun c =>
        if c.toBool then .done else
        .cellWrite rc.connected false (.bool true) <|
        subscribeWith src next error complete fun h => .cellWrite rc.subscription false h <|
          .cellRead rc.cancelled false fun c => if c.toBool then subUnsub h else .done
    else .done

theorem refCountHooks_eq (rc : RefC) (src : Obsv) (a b : Nat) (n : Data → Prog) (e : Nat → Prog) (c : Prog) :
    refCountHooks rc src a b n e c = .slotSet b (onUnsubHook rc) (.slotSet a (onSubHook rc src n e c) .done) := rfl

theorem toBool_bool (b : Bool) : (Data.bool b).toBool = b := rfl

/-- the handle stored in `self.subscription` -/
def subCellR (cobs cacs : List Nat) : Option Nat → Data
  | none => .lnil
  | some i => .pair (.int (rootAt cobs i : Nat)) (.int (rootAt cacs i : Nat))

/-- the three cells lie above the source's and are distinct -/
def RcOk (rc : RefC) : Prop :=
  2 ≤ rc.connected ∧ 2 ≤ rc.subscription ∧ 2 ≤ rc.cancelled ∧ rc.connected ≠ rc.subscription ∧
  rc.connected ≠ rc.cancelled ∧ rc.subscription ≠ rc.cancelled

def RcCells (rc : RefC) (i : Nat) : Prop := i = rc.connected ∨ i = rc.subscription ∨ i = rc.cancelled

/-- `Hd` = the guards held (S's slot read guard inside a hook); `cg`, `sb`, `cn` = the three flags of `ConnM.State` -/
structure RcPart (rc : RefC) (S : Subj) (fn : Data → Prog) (fe : Nat → Prog) (fc : Prog) (ov : Obsv)
    (cobs cacs : List Nat) (Hd : List (LockId × Bool)) (cg : Bool) (sb : Option Nat) (cn : Bool) (w : World) :
    Prop where
  held : w.held = Hd
  slotS : w.slots[S.onSub]? = some (some (onSubHook rc srcC fn fe fc))
  slotU : w.slots[S.onUnsub]? = some (some (onUnsubHook rc))
  obsvS : w.obsvs[1]? = some ov
  cellG : w.cells[rc.connected]? = some (.bool cg)
  cellB : w.cells[rc.subscription]? = some (subCellR cobs cacs sb)
  cellN : w.cells[rc.cancelled]? = some (.bool cn)
  sbLt : ∀ i, sb = some i → i < cobs.length ∧ i < cacs.length

theorem RcPart.step {rc S fn fe fc ov cobs cacs Hd cg sb cn w w' J K}
    (h : RcPart rc S fn fe fc ov cobs cacs Hd cg sb cn w) (t : Step J K w w') (hh : w'.held = w.held)
    (hK : ∀ i, RcCells rc i → ¬ K i) :
    RcPart rc S fn fe fc ov cobs cacs Hd cg sb cn w' :=
  have cell : ∀ {i d}, RcCells rc i → w.cells[i]? = some d → w'.cells[i]? = some d := fun hi e =>
    (t.cells _ (lt_of_getElem?_some e) (hK _ hi)).trans e
  { h with
    held := hh ▸ h.held, slotS := t.slots ▸ h.slotS, slotU := t.slots ▸ h.slotU, obsvS := t.obsvs ▸ h.obsvS
    cellG := cell (Or.inl rfl) h.cellG, cellB := cell (Or.inr (Or.inl rfl)) h.cellB
    cellN := cell (Or.inr (Or.inr rfl)) h.cellN }

def rcSide (rc : RefC) (hrc : RcOk rc) (S : Subj) (fn : Data → Prog) (fe : Nat → Prog) (fc : Prog) (ov : Obsv)
    (cobs cacs : List Nat) (Hd : List (LockId × Bool)) (cg : Bool) (sb : Option Nat) (cn : Bool) : OwnSide where
  X := RcPart rc S fn fe fc ov cobs cacs Hd cg sb cn
  Kc := RcCells rc
  kc2 := fun i hi => by
    rcases hi with rfl | rfl | rfl
    · exact hrc.1
    · exact hrc.2.1
    · exact hrc.2.2.1
  lt := fun h hi => by
    rcases hi with rfl | rfl | rfl
    · exact lt_of_getElem?_some h.cellG
    · exact lt_of_getElem?_some h.cellB
    · exact lt_of_getElem?_some h.cellN
  step := RcPart.step

def RcInv (src : ConnM.Src) (V : UsersSide) (rc : RefC) (hrc : RcOk rc) (S : Subj) (ov : Obsv)
    (cobs cacs : List Nat) (armed : List Bool) (Hd : List (LockId × Bool)) (w : World) (st : ConnM.State) : Prop :=
  Inv src V (rcSide rc hrc S V.fn V.fe V.fc ov cobs cacs Hd st.connecting st.subscription st.cancelled) cobs cacs
    armed w st

theorem Inv.setOwn {src V O O' cobs cacs armed w} {st st' : ConnM.State} (h : Inv src V O cobs cacs armed w st)
    {c : Nat} (d : Data) (hc : O.Kc c)
    (hX : O'.X { w with cells := w.cells.set c d }) (hsub : st'.sub = st.sub) (hconns : st'.conns = st.conns)
    (hK' : ∀ i, O'.Kc i → O.Kc i := by exact fun _ x => x) :
    Inv src V O' cobs cacs armed { w with cells := w.cells.set c d } st' :=
  have t := touch_setCell (J := NoObs) (K := IsCell c) w c d rfl
  h.step t.step (h.glob.touch t) h.held
    (hsub ▸ V.step h.users t.step rfl (fun _ => rfl) (fun _ _ x => x) fun i hi e => h.ownFree c hc (e ▸ hi)) hX hconns
    rfl (fun _ => False.elim) (fun i e s => (h.srcFree i s).2 (e ▸ hc)) (fun x hx => (h.caFree x hx).2.1) hK'
    fun i k => h.ownFree i (hK' i k)

theorem connectSource_flags (k : ConnM.Kind) (src : ConnM.Src) (st : ConnM.State) :
    (ConnM.connectSource k src st).connecting = st.connecting ∧ (ConnM.connectSource k src st).cancelled = st.cancelled ∧
    (ConnM.connectSource k src st).subscription = st.subscription :=
  ConnM.connectSource_pres
    (fun s => s.connecting = st.connecting ∧ s.cancelled = st.cancelled ∧ s.subscription = st.subscription)
    (fun s i ev h => let f := ConnM.connRecv_flags k s i ev; ⟨f.1.trans h.1, f.2.1.trans h.2.1, f.2.2.trans h.2.2⟩)
    src st ⟨rfl, rfl, rfl⟩

theorem onSubscribe_skip {src} (ck : ConnM.Kind) (st : ConnM.State) (len1 : Nat)
    (h : ¬ (len1 = 1 ∧ st.connecting = false)) : ConnM.onSubscribe ck src st (some len1) = st := by
  unfold ConnM.onSubscribe
  rw [if_neg]
  simpa using h

theorem onSubscribe_skip_cold (k : ConnM.Kind) (script) (st : ConnM.State) (len1 : Nat)
    (h : ¬ (len1 = 1 ∧ st.connecting = false)) :
    ConnM.onSubscribe k (.cold script) st (some len1) = st :=
  onSubscribe_skip k st len1 h

theorem onUnsubscribe_none (st : ConnM.State) : ConnM.onUnsubscribe st none = st := by
  simp [ConnM.onUnsubscribe]

section hooks
variable {src : ConnM.Src} {V : UsersSide} {rc : RefC} {hrc : RcOk rc} {S : Subj} {ov : Obsv}

theorem RcInv.flags {cobs cacs armed Hd w} {st st' : ConnM.State} (h : RcInv src V rc hrc S ov cobs cacs armed Hd w st)
    (h1 : st'.sub = st.sub) (h2 : st'.conns = st.conns) (h3 : st'.connecting = st.connecting)
    (h4 : st'.subscription = st.subscription) (h5 : st'.cancelled = st.cancelled) :
    RcInv src V rc hrc S ov cobs cacs armed Hd w st' := by
  unfold RcInv at *
  rw [h3, h4, h5]
  exact { h with users := h1 ▸ h.users, conns := h2 ▸ h.conns, full := h2 ▸ h.full }

theorem RcInv.srcUnsub {cobs cacs armed Hd w st} (h : RcInv src V rc hrc S ov cobs cacs armed Hd w st) {i : Nat}
    (hi : i < st.conns.length) :
    WP (subUnsub (subCellR cobs cacs (some i))) w (fun w' =>
      RcInv src V rc hrc S ov cobs cacs (armed.set i false) Hd w' { st with conns := st.conns.set i false }) :=
  Inv.srcUnsub h hi

/-- `on_unsubscribe(len)` = `ConnM.onUnsubscribe` -/
theorem onUnsubHook_spec {cobs cacs armed Hd w st} (h : RcInv src V rc hrc S ov cobs cacs armed Hd w st) (len0 : Nat) :
    WP (onUnsubHook rc (.int (len0 : Nat))) w (fun w' => ∃ armed',
      RcInv src V rc hrc S ov cobs cacs armed' Hd w' (ConnM.onUnsubscribe st (some len0))) := by
  have X : RcPart .. := h.own
  unfold onUnsubHook ConnM.onUnsubscribe
  by_cases h0 : len0 = 0
  · subst h0
    simp only [Data.toInt, Int.cast_ofNat_Int, beq_self_eq_true, ↓reduceIte]
    refine wp_cellReadG h.held ?_
    rw [X.cellB, Option.getD_some]
    cases hsb : st.subscription with
    | none =>
      refine wp_cellWriteG h.held (WP.done ⟨armed, ?_⟩)
      simp only [Option.isNone_none, Bool.or_true]
      exact Inv.setOwn h _ (Or.inr (Or.inr rfl))
        { X with
          cellG := (set_get_other _ (Ne.symm hrc.2.2.2.2.1)).trans X.cellG
          cellB := (set_get_other _ (Ne.symm hrc.2.2.2.2.2)).trans (hsb ▸ X.cellB)
          cellN := set_get_same _ X.cellN
          sbLt := nofun } rfl rfl
    | some i =>
      have hi : i < st.conns.length := by rw [← h.conns.lenC]; exact (X.sbLt i hsb).1
      exact (h.srcUnsub hi).conseq fun w' h' => ⟨_, h'.flags rfl rfl rfl hsb.symm (by simp)⟩
  · rw [if_neg (by simpa [Data.toInt] using h0), if_neg (by simpa using h0)]
    exact WP.done ⟨armed, h⟩

/-- `self.subscription = Some(handle)`; the handle is used at once if `cancelled` was set meanwhile
    (ref_count.rs:87-90) -/
theorem storeHandle_spec {cobs0 cacs0 cobs cacs armed Hd w st cg sb cn} {i : Nat}
    (h : Inv src V (rcSide rc hrc S V.fn V.fe V.fc ov cobs0 cacs0 Hd cg sb cn) cobs cacs armed w st)
    (hg : st.connecting = cg) (hn : st.cancelled = cn) (hi : i < st.conns.length) :
    WP (.cellWrite rc.subscription false (subCellR cobs cacs (some i)) <| .cellRead rc.cancelled false fun c =>
        if c.toBool then subUnsub (subCellR cobs cacs (some i)) else .done) w (fun w' => ∃ armed',
      RcInv src V rc hrc S ov cobs cacs armed' Hd w'
        { st with subscription := some i, conns := if st.cancelled then st.conns.set i false else st.conns }) := by
  subst hg hn
  have X : RcPart .. := h.own
  refine wp_cellWriteG h.held (wp_cellReadG h.held ?_)
  have hN := (set_get_other (subCellR cobs cacs (some i)) hrc.2.2.2.2.2).trans X.cellN
  have h3 : RcInv src V rc hrc S ov cobs cacs armed Hd _ { st with subscription := some i } :=
    Inv.setOwn h _ (Or.inr (Or.inl rfl))
      { X with
        cellG := (set_get_other _ (Ne.symm hrc.2.2.2.1)).trans X.cellG
        cellB := set_get_same _ X.cellB
        cellN := hN
        sbLt := fun j hj => by cases hj; exact ⟨h.conns.lenC ▸ hi, h.lenCaC ▸ hi⟩ } rfl rfl
  rw [hN, Option.getD_some, toBool_bool]
  by_cases hcn : st.cancelled = true
  · rw [if_pos hcn, if_pos hcn]
    exact (h3.srcUnsub hi).conseq fun w' h' => ⟨_, h'⟩
  · rw [if_neg hcn, if_neg hcn]
    exact WP.done ⟨_, h3⟩

/-- `on_subscribe(len)` = `ConnM.onSubscribe` -/
theorem onSubHook_spec {cobs cacs armed Hd w st} (ck : ConnM.Kind) (hk : ck.subj = V.kind)
    (h : RcInv src V rc hrc S ov cobs cacs armed Hd w st) (len1 : Nat) :
    WP (onSubHook rc srcC V.fn V.fe V.fc (.int (len1 : Nat))) w (fun w' => ∃ cobs' cacs' armed',
      RcInv src V rc hrc S ov cobs' cacs' armed' Hd w' (ConnM.onSubscribe ck src st (some len1))) := by
  have X : RcPart .. := h.own
  unfold onSubHook
  by_cases h1 : len1 = 1
  · subst h1
    simp only [Data.toInt, Int.cast_ofNat_Int, beq_self_eq_true, ↓reduceIte]
    refine wp_cellReadG h.held ?_
    rw [X.cellG, Option.getD_some, toBool_bool]
    by_cases hc : st.connecting = true
    · rw [if_pos hc, onSubscribe_skip ck st 1 (by simp [hc])]
      exact WP.done ⟨_, _, _, h⟩
    · unfold ConnM.onSubscribe
      rw [if_neg hc, if_pos ⟨rfl, by simpa using hc⟩]
      refine wp_cellWriteG h.held ?_
      have hg : RcInv src V rc hrc S ov cobs cacs armed Hd { w with cells := w.cells.set rc.connected (.bool true) }
          { st with connecting := true } :=
        Inv.setOwn h _ (Or.inl rfl)
          { X with
            cellG := set_get_same _ X.cellG
            cellB := (set_get_other _ hrc.2.2.2.1).trans X.cellB
            cellN := (set_get_other _ hrc.2.2.2.2.1).trans X.cellN } rfl rfl
      refine Inv.connect ck hk hg (fun w2 c h2 => ?_)
      obtain ⟨hf1, hf2, -⟩ := connectSource_flags ck src { st with connecting := true }
      -- the handle as it is read back from `self.subscription`
      rw [show Data.pair (.int (w.obs.length : Nat)) (.int (c : Nat)) =
          subCellR (cobs ++ [w.obs.length]) (cacs ++ [c]) (some st.conns.length) from by
        simp only [subCellR]
        rw [← h.conns.lenC, rootAt_append_last, h.conns.lenC, ← h.lenCaC, rootAt_append_last]]
      exact (storeHandle_spec h2 hf1 hf2 (by simp [ConnM.connectSource_conns_length])).conseq
        fun w' ⟨a, h'⟩ => ⟨_, _, a, h'⟩
  · rw [if_neg (by simp [Data.toInt]; omega), onSubscribe_skip ck st len1 (by simp [h1])]
    exact WP.done ⟨_, _, _, h⟩

theorem RcInv.held_swap {cobs cacs armed Hd w st} (h : RcInv src V rc hrc S ov cobs cacs armed Hd w st)
    {Hd' : List (LockId × Bool)} (hs : SlotReads Hd') :
    RcInv src V rc hrc S ov cobs cacs armed Hd' { w with held := Hd' } st :=
  Inv.held_swap h hs { (h.own : RcPart ..) with held := rfl }

/-- the `on_subscribe(len)` call of `Subject::observable`'s closure (subject.rs:69) on a counting connectable, reached
    with no guard held: the hook runs under the slot's read guard -/
theorem RcInv.onSubCall {cobs cacs armed w st} (ck : ConnM.Kind) (hk : ck.subj = V.kind)
    (h : RcInv src V rc hrc S ov cobs cacs armed [] w st) (len1 : Nat) :
    WP (slotTail S.onSub (.int (len1 : Nat))) w (fun w' => ∃ cobs' cacs' armed',
      RcInv src V rc hrc S ov cobs' cacs' armed' [] w' (ConnM.onSubscribe ck src st (some len1))) :=
  have X : RcPart .. := h.own
  slotTail_spec (T := fun Hd w2 => ∃ cobs' cacs' armed',
      RcInv src V rc hrc S ov cobs' cacs' armed' Hd w2 (ConnM.onSubscribe ck src st (some len1)))
    X.held X.slotS (onSubHook_spec ck hk (h.held_swap (SlotReads.nil.cons _)) len1)
    fun _ ⟨c, ca, a, h2⟩ => ⟨RcPart.held h2.own, c, ca, a, h2.held_swap SlotReads.nil⟩

/-- the `on_unsubscribe(len)` call of the Subject's teardown (subject.rs:82), if it makes one -/
theorem RcInv.onUnsubCall {cobs cacs armed w st} (h : RcInv src V rc hrc S ov cobs cacs armed [] w st)
    (len : Option Nat) :
    WP (RefU.hookCall S.onUnsub len) w (fun w' => ∃ armed',
      RcInv src V rc hrc S ov cobs cacs armed' [] w' (ConnM.onUnsubscribe st len)) := by
  cases len with
  | none => rw [onUnsubscribe_none]; exact WP.done ⟨armed, h⟩
  | some len =>
    have X : RcPart .. := h.own
    exact slotTail_spec
      (T := fun Hd w2 => ∃ a, RcInv src V rc hrc S ov cobs cacs a Hd w2 (ConnM.onUnsubscribe st (some len)))
      X.held X.slotU (onUnsubHook_spec (h.held_swap (SlotReads.nil.cons _)) len)
      fun _ ⟨a, h2⟩ => ⟨RcPart.held h2.own, a, h2.held_swap SlotReads.nil⟩

end hooks

theorem hotEmit_flags (k : ConnM.Kind) (st : ConnM.State) (ev : Ev) :
    (ConnM.hotEmit k st ev).connecting = st.connecting ∧ (ConnM.hotEmit k st ev).cancelled = st.cancelled ∧
    (ConnM.hotEmit k st ev).subscription = st.subscription := ConnM.foldIdx_flags k ev _ st

/-- a hot source event under a counting connectable: the three flags are constants of the broadcast -/
theorem RcInv.hotEmit {V rc hrc S ov cobs cacs armed Hd w st} (ck : ConnM.Kind) (hk : ck.subj = V.kind)
    (h : RcInv .hot V rc hrc S ov cobs cacs armed Hd w st) (ev : Ev) :
    WP (evCall Hp ev) w (fun w' => RcInv .hot V rc hrc S ov cobs cacs armed Hd w' (ConnM.hotEmit ck st ev)) := by
  have hf := hotEmit_flags ck st ev
  unfold RcInv
  rw [hf.1, hf.2.1, hf.2.2]
  exact Inv.hotEmit ck hk h ev

end Rx.CRef
