import RxVerif.Theorems.C13RefRc
/-
C13-REF: the users' side of `publish` and `ref_count` — a plain `Subject` S in cells 2, 3 (slots 2, 3 its hooks,
observable 1 its `observable()`) — as a `UsersSide`: the general users' part `RefU.UP` at the layout "subscriber `u`'s own
observer is `roots[u]` and sits in the map itself", and what `subscribe` / `unsubscribe` of a test user do to the
invariant up to the `on_subscribe(len)` / `on_unsubscribe(len)` call sites, whose hooks are kind specific (none for
publish, the connect / disconnect closures of ref_count.rs:41-92 for ref_count), for any own side and any source.
-/
namespace Rx.CRef
open Rx.Sim Rx.SubjM Rx.Ref Rx.RefR Rx.RefU

def Sp : Subj := ⟨2, 3, 2, 3⟩
def fnP : Data → Prog := fun x => Sp.next x
def feP : Nat → Prog := fun e => Sp.error e
def fcP : Prog := Sp.complete

theorem codeBody_P (ev : Ev) : codeBody ev fnP feP fcP = evCall Sp ev := by cases ev <;> rfl

def KS (i : Nat) : Prop := i = Sp.observers ∨ i = Sp.serial

def rootLay (roots : List Nat) : RefU.Layout :=
  { dir := true, root := rootAt roots, reg := fun _ => False, arm := fun _ => False, fwd := fun u => u, sb := fun u => u,
    ac := fun u => u, armReg := fun a => a }

theorem rootLay_map (roots : List Nat) (l : List (Nat × Nat)) : (rootLay roots).map l = mapRoots roots l := rfl

theorem sepP {roots cobs w} (g : Glob roots cobs w) : RefU.Sep Sp (rootLay roots) roots.length :=
  { ne := by decide
    obs := fun hu hu' e => ⟨fun x => e (g.root_inj hu hu' x), nofun, nofun⟩
    cells := fun _ _ _ hr => hr.elim, sbs := fun _ _ _ hr => hr.elim, self := fun _ hr => hr.elim
    sbS := fun _ hr => hr.elim, dirNoReg := fun _ _ hr => hr }

theorem J_roots {roots : List Nat} {j : Nat} (h : (rootLay roots).J roots.length j) : j ∈ roots := by
  obtain ⟨u, hu, rfl | ⟨hr, _⟩⟩ := h
  · exact rootAt_mem hu
  · exact hr.elim

theorem K_KS {roots : List Nat} {i : Nat} (h : (rootLay roots).K Sp roots.length i) : KS i := by
  rcases h with h | h | ⟨_, _, ⟨hr, _⟩ | ⟨hr, _⟩⟩
  · exact .inl h
  · exact .inr h
  · exact hr.elim
  · exact hr.elim

/-- The users' side of `publish` / `ref_count`; `pend` = a user whose `subscribe` has not returned yet. -/
structure UsersP (roots : List Nat) (pend : Option Nat) (w : World) (s : SubjM.State) : Prop where
  up : UPs Sp (rootLay roots) False roots.length pend w s
  regBound : ∀ p ∈ s.observers, p.2 < roots.length   -- `UP` does not bound the ids in the map; `broadcast` asks (`hb`)

theorem UsersP.init {w : World} (hO : w.cells[2]? = some .lnil) (hS : w.cells[3]? = some (.int 0)) (hu : w.users = [])
    (ht : w.trace = []) : UsersP [] none w {} :=
  ⟨UP.init hO hS hu ht, nofun⟩

theorem UsersAgree.of_up {Λ x n pend w} {s : SubjM.State} (h : UPs Sp Λ x n pend w s) : UsersAgree w s :=
  have ⟨a, _, c, d⟩ := h.agrees
  ⟨a, c, d⟩

theorem emit_observers_sub (k : SubjM.Kind) (s : SubjM.State) (ev : Ev) :
    ∀ p ∈ (SubjM.emit k s ev).observers, p ∈ s.observers := by
  intro p hp
  rw [emit_observers] at hp
  split at hp
  · cases hp
  · exact hp

theorem mapRoots_push (roots : List Nat) (r : Nat) (l : List (Nat × Nat)) (s : Nat)
    (hl : ∀ p ∈ l, p.2 < roots.length) :
    mapRoots (roots ++ [r]) (l ++ [(s, roots.length)]) = mapRoots roots l ++ [(s, r)] := by
  simp only [mapRoots, List.map_append, List.map_cons, List.map_nil, rootAt_append_last]
  rw [List.map_congr_left fun p hp => by rw [rootAt_append_lt _ _ (hl p hp)]]

/-- the world when `Subject::observable`'s closure reaches `on_subscribe(len)` for the new user -/
def subUserWorld (S : Subj) (w : World) (roots : List Nat) (observers : List (Nat × Nat)) (serial : Nat) : World :=
  subWorld S
    { w with
      obs := w.obs ++ [⟨some (.user w.users.length), some (.user w.users.length), some (.user w.users.length), none⟩]
      users := w.users ++ [⟨w.obs.length, noReact, false, true⟩] }
    w.obs.length serial (mapRoots roots observers)

theorem userSub_pre {sid : Nat} {roots : List Nat} {w : World} {s : SubjM.State} {Q : World → Prop}
    (hobsv : w.obsvs[sid]? = some Sp.observable) (hh : SlotReads w.held) (U : UsersP roots none w s)
    (hQ : WP (slotTail Sp.onSub (.int ((s.observers.length + 1 : Nat) : Int)))
      (subUserWorld Sp w roots s.observers s.serial) fun w2 => WP (.userReady roots.length .done) w2 Q) :
    WP (.userSub sid noReact .done) w Q := by
  rw [← U.up.nUsers] at hQ
  refine wp_userSub hobsv ?_
  refine observable_pre (x := ⟨some (.user w.users.length), some (.user w.users.length), some (.user w.users.length), none⟩)
    (serial := s.serial) (obsl := mapRoots roots s.observers) hh (by dsimp only; rw [get_app0]; rfl) rfl (by decide)
    U.up.cellS U.up.cellO (keys_map (Λ := rootLay roots) U.up.keys) ?_
  rw [length_mapRoots]
  exact hQ

/-- the record of a user that has just been registered in a plain subject -/
def freshRec (serial : Nat) : ObsSt := { seen := true, alive := true, hook := true, inHook := some (serial + 1) }

theorem subUserWorld_eq (S : Subj) (w : World) (roots : List Nat) (observers : List (Nat × Nat)) (serial : Nat) :
    subUserWorld S w roots observers serial =
      { w with
        obs := w.obs ++ [obsOf S w.users.length (freshRec serial)]
        users := w.users ++ [⟨w.obs.length, noReact, false, true⟩]
        cells := (w.cells.set S.serial (.int ((serial + 1 : Nat) : Int))).set S.observers
          (encMap (mapRoots roots observers ++ [(serial + 1, w.obs.length)])) } := by
  unfold subUserWorld subWorld
  dsimp only [World.setObs]
  rw [modify_app0]
  rfl

theorem subUser_obs_lt (S : Subj) (w : World) (roots observers serial) {j : Nat} (hj : j < w.obs.length) :
    (subUserWorld S w roots observers serial).obs[j]? = w.obs[j]? := by
  rw [subUserWorld_eq]; exact get_app_lt _ _ _ hj

theorem subUser_cells (S : Subj) (w : World) (roots observers serial) {i : Nat} (h1 : i ≠ S.observers)
    (h2 : i ≠ S.serial) : (subUserWorld S w roots observers serial).cells[i]? = w.cells[i]? := by
  rw [subUserWorld_eq]
  exact (set_get_other _ (Ne.symm h1)).trans (set_get_other _ (Ne.symm h2))

theorem subUser_cellsLen (S : Subj) (w : World) (roots observers serial) :
    (subUserWorld S w roots observers serial).cells.length = w.cells.length := by
  rw [subUserWorld_eq]; simp

theorem subUser_glob {S roots cobs w} (g : Glob roots cobs w) (observers serial) :
    Glob (roots ++ [w.obs.length]) cobs (subUserWorld S w roots observers serial) :=
  g.newRoot (by rw [subUserWorld_eq]) (by rw [subUserWorld_eq]; simp)

theorem ext_root (roots : List Nat) (r : Nat) : Ext (rootLay roots) (rootLay (roots ++ [r])) (· < roots.length) where
  dir := rfl
  root := fun _ hu => rootAt_append_lt _ _ hu
  reg := fun _ _ => Iff.rfl
  arm := fun _ _ => Iff.rfl
  fwd := fun _ _ hr => hr.elim
  sb := fun _ _ hr => hr.elim
  ac := fun _ _ hr => hr.elim

/-- the new user is registered, its `subscribe` has not returned -/
theorem UsersP.sub {roots cobs w} {s : SubjM.State} (g : Glob roots cobs w) (U : UsersP roots none w s) :
    UsersP (roots ++ [w.obs.length]) (some roots.length) (subUserWorld Sp w roots s.observers s.serial)
      { s with serial := s.serial + 1, observers := s.observers ++ [(s.serial + 1, roots.length)]
               obs := upd s.obs roots.length (freshRec s.serial) } := by
  have hlen : (roots ++ [w.obs.length]).length = roots.length + 1 := by simp
  refine ⟨?_, fun p hp => hlen ▸ (List.mem_append.1 hp).elim (fun h => Nat.lt_succ_of_lt (U.regBound p h))
    (fun h => by simp at h; simp [h])⟩
  rw [UPs, hlen, subUserWorld_eq]
  refine U.up.grow (sepP g) (ext_root roots _) (fun j hj => get_app_lt _ _ _ hj)
    (fun i _ h1 h2 => (set_get_other _ (Ne.symm h1)).trans (set_get_other _ (Ne.symm h2)))
    (fun u hu => get_app_lt _ _ _ (U.up.nUsers ▸ hu)) (by simp [U.up.nUsers]) (fun _ _ => rfl)
    (by rw [rootLay_map, mapRoots_push _ _ _ _ U.regBound]
        exact set_get_same _ ((set_get_other _ (by decide)).trans U.up.cellO))
    ((set_get_other _ (by decide)).trans (set_get_same _ U.up.cellS)) ?_
    (fun p hp => (List.mem_append.1 hp).elim (fun h => Nat.le_succ_of_le (U.up.keys p h)) (fun h => by simp at h; simp [h]))
    nofun
  have er : rootAt (roots ++ [w.obs.length]) roots.length = w.obs.length := rootAt_append_last ..
  exact
    { user := ⟨false, true, by
        show (w.users ++ _)[_]? = some (User.mk (rootAt (roots ++ _) _) _ _ _)
        rw [er, ← U.up.nUsers]; exact get_app0 .., fun e => absurd rfl e, fun _ => rfl, False.elim⟩
      root := by
        show (w.obs ++ _)[rootAt (roots ++ _) _]? = some (obsOf Sp _ _)
        rw [er, ← U.up.nUsers]; exact get_app0 ..
      fwd := False.elim, stored := False.elim, unstored := False.elim
      unreg := fun _ => rfl
      log := by show logOf w _ = _; rw [U.up.quiet _ (Nat.le_refl _)]; rfl
      seen := rfl
      dead := nofun }

def plainSide (roots : List Nat) (pend : Option Nat) : UsersSide where
  kind := .plain
  U := UsersP roots pend
  G := roots
  Kc := KS
  fn := fnP
  fe := feP
  fc := fcP
  kc2 := fun i hi => by rcases hi with rfl | rfl <;> decide
  lt := fun U hi => by
    rcases hi with rfl | rfl
    · exact lt_of_getElem?_some U.up.cellO
    · exact lt_of_getElem?_some U.up.cellS
  two := fun U => lt_of_getElem?_some U.up.cellO
  step := fun U t hu hl hJ hK => ⟨U.up.step t hu hl (fun j hj => hJ j (J_roots hj)) fun i hi => hK i (K_KS hi), U.regBound⟩
  emit := fun ev hh g U => by
    rw [codeBody_P]
    exact (RefU.broadcast (sepP g) hh U.up (k := .plain) rfl ev
      fun p hp hge => absurd (U.regBound p hp) (Nat.not_lt.2 hge)).conseq fun w' ⟨U', t⟩ =>
      ⟨⟨U', fun p hp => U.regBound p (emit_observers_sub _ _ _ p hp)⟩,
        t.mono (fun _ => J_roots) fun _ e => .inl e⟩

theorem step_subUser (w : World) (roots observers serial) :
    Step NoObs KS w (subUserWorld Sp w roots observers serial) :=
  ⟨by rw [subUserWorld_eq], by rw [subUserWorld_eq], by rw [subUserWorld_eq], by rw [subUserWorld_eq]; simp,
   fun _ hj _ => subUser_obs_lt Sp w roots observers serial hj, by rw [subUser_cellsLen]; exact Nat.le_refl _,
   fun _ _ hK => subUser_cells Sp w roots observers serial (fun e => hK (Or.inl e)) (fun e => hK (Or.inr e))⟩

section
variable {src : ConnM.Src} {O : OwnSide} {roots cobs cacs : List Nat} {armed : List Bool} {w : World}
  {st : ConnM.State}

theorem Inv.subUser (h : Inv src (plainSide roots none) O cobs cacs armed w st) :
    Inv src (plainSide (roots ++ [w.obs.length]) (some roots.length)) O cobs cacs armed
      (subUserWorld Sp w roots st.sub.observers st.sub.serial)
      { st with sub := { st.sub with serial := st.sub.serial + 1
                                     observers := st.sub.observers ++ [(st.sub.serial + 1, roots.length)]
                                     obs := upd st.sub.obs roots.length (freshRec st.sub.serial) } } :=
  h.ofUsers (step_subUser w roots _ _) (subUser_glob h.glob _ _) (by rw [subUserWorld_eq])
    (UsersP.sub h.glob h.users) rfl (by rw [subUserWorld_eq]; rfl) (fun _ _ x => x) (fun _ x => x) fun _ => .inl

theorem Inv.readyP {n : Nat} (h : Inv src (plainSide roots (some n)) O cobs cacs armed w st) :
    Inv src (plainSide roots none) O cobs cacs armed (w.setUser n fun u => { u with ready := true }) st :=
  have U : UsersP .. := h.users
  h.ofUsers (J := NoObs) (K := NoCell) (Step.same rfl rfl rfl rfl rfl) (h.glob.of_obs_eq rfl rfl) rfl
    ⟨U.up.ready, U.regBound⟩ rfl rfl (fun _ _ x => x) (fun _ x => x.elim) fun _ => .inl

/-- an edit inside the users' footprint, on the invariant of any connectable over a plain subject -/
theorem Inv.editP {pend w'} {s' : SubjM.State} (h : Inv src (plainSide roots pend) O cobs cacs armed w st)
    (e : Edit ((rootLay roots).J roots.length) ((rootLay roots).K Sp roots.length) w w')
    (U' : UPs Sp (rootLay roots) False roots.length pend w' s') (hsub : ∀ p ∈ s'.observers, p ∈ st.sub.observers) :
    Inv src (plainSide roots pend) O cobs cacs armed w' { st with sub := s' } :=
  have U : UsersP .. := h.users
  h.ofUsers (e.mono (fun _ => J_roots) fun _ => K_KS).step (h.glob.of_obs_eq e.status e.obsLen) e.held
    ⟨U', fun p hp => U.regBound p (hsub p hp)⟩ rfl e.probes (fun c hc hj => h.glob.disj c hj hc) (fun _ a => a)
    fun _ => .inl

/-- `Subscription::unsubscribe` of a test user, for any connectable over a plain subject, up to the
    `on_unsubscribe(len)` call -/
theorem Inv.unsubscribeP (h : Inv src (plainSide roots none) O cobs cacs armed w st) (u : Nat) {Q : World → Prop}
    (hQ : ∀ w', Inv src (plainSide roots none) O cobs cacs armed w' { st with sub := (unsubscribeN .plain st.sub u).1 } →
      WP (hookCall Sp.onUnsub (unsubscribeN .plain st.sub u).2) w' Q) :
    WP (.userUnsub u .done) w Q :=
  have U : UsersP .. := h.users
  RefU.unsubscribe (sepP h.glob) h.held U.up (k := .plain) rfl u nofun fun w' U' e _ =>
    hQ w' (h.editP e U' (unsub_sublist ..).subset)

end

theorem plain_subscribe_fresh (s : SubjM.State) (n : Nat) (hu : (s.obs n).seen = false) :
    SubjM.step .plain s (.subscribe n) =
      { s with serial := s.serial + 1, observers := s.observers ++ [(s.serial + 1, n)],
               obs := upd s.obs n (freshRec s.serial) } := by
  simp [SubjM.step, subscribeA, subscribeB, subscribeH, Kind.isReplay, hu, register, freshRec]

end Rx.CRef
