import RxVerif.Theorems.SimMacro
/-
The three closures `stdOp` hands to `new_observer` (src/operators/*.rs: every standard operator has this shape):
`hdl_spec`, the one lemma about them; the machine-exact kernel run they compute (`feedX`, `finishX`, `runFullX`);
what it means for a source program to play a stream into them (`Plays`), and the polite script source (`scriptLoop`).
-/
namespace Rx.Sim

/-- the state cell round-trips: what a closure writes is what the next closure reads -/
def _root_.Rx.Kernel.WellEncoded {σ} (K : Kernel σ) : Prop := ∀ st, K.dec (K.enc st) = st

/-- the machine-exact variant of `Kernel.feed` / `Kernel.finish` / `Kernel.runFull` (only `abortSelf`
    differs, see `actX`) -/
def feedX {σ} (K : Kernel σ) : σ → KRun → List Data → σ × KRun
  | st, r, [] => (st, r)
  | st, r, x :: xs =>
    if r.cancelled then (st, r)
    else feedX K (K.onNext st x).1 (actsX r (K.onNext st x).2) xs

def finishX {σ} (K : Kernel σ) (st : σ) (r : KRun) : Ending → KRun
  | .silent => r
  | .complete => if r.cancelled then r else actsX r (K.onComplete st).2
  | .error e => if r.cancelled then r else actsX r (K.onError st e).2

def runFullX {σ} (K : Kernel σ) (s : Stream) : KRun :=
  finishX K (feedX K K.init {} s.1).1 (feedX K K.init {} s.1).2 s.2

/-- the closures stored in the upstream observer are the ones `stdOp K` builds -/
structure Handlers {σ} (K : Kernel σ) (c : Cfg) : Prop where
  hn : ∀ x, c.hn x = .cellRead c.cc false fun st =>
      .cellWrite c.cc false (K.enc (K.onNext (K.dec st) x).1)
        (holdAcq K.holdNext c.cc ;; actsP c.sc 0 (K.onNext (K.dec st) x).2 ;; holdRel K.holdNext c.cc)
  he : ∀ e, c.he e = .cellRead c.cc false fun st =>
      .cellWrite c.cc false (K.enc (K.onError (K.dec st) e).1) (actsP c.sc 0 (K.onError (K.dec st) e).2)
  hc : c.hc = .cellRead c.cc false fun st =>
      .cellWrite c.cc false (K.enc (K.onComplete (K.dec st)).1)
        (holdAcq K.holdComplete c.cc ;; actsP c.sc 0 (K.onComplete (K.dec st)).2 ;;
          holdRel K.holdComplete c.cc)

section handlers
variable {σ : Type} {K : Kernel σ} {c : Cfg} {t : Bool}

/-- the actions of one closure, run under the guard the Rust closure keeps alive on its state cell -/
theorem held_body (ok : c.Ok) (hd : Hold) (as : List Act) (r : KRun) (cs : Data) (w : World)
    (h : RepK c t r [] cs w) :
    WP (holdAcq hd c.cc ;; actsP c.sc 0 as ;; holdRel hd c.cc) w (RepK c t (actsX r as) [] cs) := by
  have guarded : ∀ b, WP (.lockAcq (.cell c.cc) b .done ;; actsP c.sc 0 as ;; .lockRel (.cell c.cc) .done) w
      (RepK c t (actsX r as) [] cs) := fun b =>
    WP.seq (rep_lockAcq h rfl fun w1 h1 => WP.done (WP.seq
      ((acts_spec (t := t) ok (OnlyCc.one c b) as r w1 h1).conseq fun _ h2 =>
        rep_lockRel h2 fun _ h3 => WP.done h3)))
  cases hd with
  | none =>
    exact WP.seq (WP.done (WP.seq ((acts_spec ok (OnlyCc.nil c) as r w h).conseq fun _ h1 => WP.done h1)))
  | read => exact guarded false
  | write => exact guarded true

/-- the three closures as one, indexed by the event -/
def _root_.Rx.Kernel.handle {σ} (K : Kernel σ) (st : σ) : Ev → σ × List Act
  | .next d => K.onNext st d
  | .error e => K.onError st e
  | .complete => K.onComplete st

/-- one closure call: the state cell is read and written back, the acts run (under the kernel's hold, if any) -/
theorem hdl_spec (ok : c.Ok) (hh : Handlers K c) (hK : Kernel.WellEncoded K) (ev : Ev) (st : σ) (r : KRun)
    (w : World) (h : RepK c t r [] (K.enc st) w) :
    WP (Ref.codeBody ev c.hn c.he c.hc) w
      (RepK c t (actsX r (K.handle st ev).2) [] (K.enc (K.handle st ev).1)) := by
  cases ev <;> simp only [Ref.codeBody, hh.hn, hh.he, hh.hc] <;> refine rep_readSt h ?_ <;> rw [hK st]
  · exact rep_writeSt ok h fun w1 h1 => held_body ok _ _ r _ w1 h1
  · exact rep_writeSt ok h fun w1 h1 => acts_spec ok (OnlyCc.nil c) _ r w1 h1
  · exact rep_writeSt ok h fun w1 h1 => held_body ok _ _ r _ w1 h1

theorem silent_bne_silent : (Ending.silent != .silent) = false := rfl
theorem complete_bne_silent : (Ending.complete != .silent) = true := rfl
theorem error_bne_silent (e : Nat) : (Ending.error e != .silent) = true := rfl

theorem feedX_cancelled (K : Kernel σ) (xs : List Data) (st : σ) (r : KRun) (h : r.cancelled = true) :
    feedX K st r xs = (st, r) := by
  cases xs <;> simp [feedX, h]

theorem finishX_cancelled (st : σ) (r : KRun) (e : Ending) (h : r.cancelled = true) :
    finishX K st r e = r := by
  cases e <;> simp [finishX, h]

theorem feedX_cons (K : Kernel σ) (x : Data) (xs : List Data) (st : σ) (r : KRun) :
    feedX K st r (x :: xs) = feedX K (feedX K st r [x]).1 (feedX K st r [x]).2 xs := by
  cases hc : r.cancelled
  · simp [feedX, hc]
  · rw [feedX_cancelled K [x] st r hc, feedX_cancelled K (x :: xs) st r hc, feedX_cancelled K xs st r hc]

/-- a cancelled run looks the same whether or not the upstream observer also saw its terminal -/
theorem RepK.cancelled_any {r : KRun} {H cs w} (t' : Bool) (hc : r.cancelled = true)
    (h : RepK c t r H cs w) : RepK c t' r H cs w := by
  simpa [RepK, hc] using h

/-- running `body` against the closures of `stdOp K` amounts to delivering `xs` and then `e` the way a
    polite source does -/
def Plays (K : Kernel σ) (c : Cfg) (body : Prog) (xs : List Data) (e : Ending) : Prop :=
  ∀ (st : σ) (r : KRun) (w : World), RepK c false r [] (K.enc st) w →
    WP body w fun w' => ∃ cs', RepK c (e != .silent) (finishX K (feedX K st r xs).1 (feedX K st r xs).2 e) [] cs' w'

theorem played_of_cancelled {r : KRun} {cs : Data} {w : World} (xs : List Data) (e : Ending) (st : σ)
    (hc : r.cancelled = true) (h : RepK c t r [] cs w) :
    ∃ cs', RepK c (e != .silent) (finishX K (feedX K st r xs).1 (feedX K st r xs).2 e) [] cs' w := by
  rw [feedX_cancelled K xs st r hc, finishX_cancelled _ _ _ hc]
  exact ⟨_, h.cancelled_any _ hc⟩

theorem pollU {r : KRun} {H cs w} {Q : World → Prop} {k : Bool → Prog} (h : RepK c false r H cs w)
    (hk : WP (k !r.cancelled) w Q) : WP (.obsIsSub c.U k) w Q :=
  rep_isSubU h (by rwa [Bool.or_false])

/-- one event into the upstream observer is one step of the machine-exact run: nothing once the observer is
    cancelled, the acts of the closure otherwise -/
theorem evU_spec (ok : c.Ok) (hh : Handlers K c) (hK : Kernel.WellEncoded K) (ev : Ev) (k : Prog) (st : σ)
    (r : KRun) (w : World) (Q : World → Prop) (h : RepK c false r [] (K.enc st) w)
    (hk : ∀ w', RepK c ev.isTerminal (if r.cancelled then r else actsX r (K.handle st ev).2) []
      (K.enc (if r.cancelled then st else (K.handle st ev).1)) w' → WP k w' Q) :
    WP (Ref.evProg ev c.U k) w Q := by
  cases hc : r.cancelled <;> rw [hc] at hk
  · exact rep_evU_live ok (by simpa [RepK, hc] using h) fun w1 h1 =>
      (hdl_spec ok hh hK ev st r w1 (by simpa [RepK, hc] using h1)).conseq hk
  · exact rep_evU_dead (by simpa [RepK, hc] using h) (hk w (h.cancelled_any _ hc))

theorem nextU_spec (ok : c.Ok) (hh : Handlers K c) (hK : Kernel.WellEncoded K) (d : Data) (k : Prog) (st : σ)
    (r : KRun) (w : World) (Q : World → Prop) (h : RepK c false r [] (K.enc st) w)
    (hk : ∀ w', RepK c false (feedX K st r [d]).2 [] (K.enc (feedX K st r [d]).1) w' → WP k w' Q) :
    WP (.obsNext c.U d k) w Q :=
  evU_spec ok hh hK (.next d) k st r w Q h fun w' h' => hk w' (by
    cases hc : r.cancelled <;> simpa [feedX, hc, Kernel.handle, Ev.isTerminal] using h')

/-- how a stream ends whose last event is `ev` -/
def _root_.Rx.Ev.ending : Ev → Ending
  | .next _ => .silent
  | .error e => .error e
  | .complete => .complete

theorem plays_terminal (ok : c.Ok) (hh : Handlers K c) (hK : Kernel.WellEncoded K) (ev : Ev)
    (ht : ev.isTerminal = true) : Plays K c (Ref.evProg ev c.U .done) [] ev.ending := by
  intro st r w h
  refine evU_spec ok hh hK ev .done st r w _ h fun w1 h1 => WP.done ?_
  cases ev with
  | next _ => cases ht
  | _ => exact ⟨_, h1⟩

theorem Plays.done : Plays K c .done [] .silent := fun _ _ _ h => WP.done ⟨_, h⟩

theorem Plays.seq_done {p : Prog} {xs : List Data} {e : Ending} (h : Plays K c p xs e) :
    Plays K c (p ;; .done) xs e :=
  fun st r w hr => WP.seq ((h st r w hr).conseq fun _ h1 => WP.done h1)

theorem Plays.next (ok : c.Ok) (hh : Handlers K c) (hK : Kernel.WellEncoded K) {d : Data} {k : Prog}
    {xs : List Data} {e : Ending} (hk : Plays K c k xs e) : Plays K c (.obsNext c.U d k) (d :: xs) e :=
  fun st r w h => nextU_spec ok hh hK d k st r w _ h fun w1 h1 => feedX_cons K d xs st r ▸ hk _ _ w1 h1

/-- a source that finds its observer unsubscribed goes on with `k false`, which has nothing left to
    deliver to (`hdead`) -/
theorem Plays.poll {k : Bool → Prog} {xs : List Data} {e : Ending} (hlive : Plays K c (k true) xs e)
    (hdead : ∀ {al rg cs out w}, Rep c al false rg [] cs out w → WP (k false) w (Rep c al false rg [] cs out)) :
    Plays K c (.obsIsSub c.U k) xs e := by
  intro st r w h
  apply pollU h
  cases hc : r.cancelled
  · exact hlive st r w h
  · exact (hdead (by simpa [RepK, hc] using h)).conseq fun w1 h1 =>
      played_of_cancelled xs e st hc (t := false) (by simpa [RepK, hc] using h1)

/-- the polite script: `is_subscribed` probe, then delivery into the upstream observer -/
theorem loop_spec (ok : c.Ok) (hh : Handlers K c) (hK : Kernel.WellEncoded K) (tag : Nat) (e : Ending)
    (xs : List Data) : ∀ (st : σ) (r : KRun) (w : World), RepK c false r [] (K.enc st) w →
      WP (scriptLoop tag true c.U (xs.map .next ++ e.toEvs)) w
        (fun w' => ∃ cs', RepK c (e != .silent)
          (finishX K (feedX K st r xs).1 (feedX K st r xs).2 e) [] cs' w') := by
  have step : ∀ (ev : Ev) (evs : List Ev) (xs : List Data) (e : Ending),
      Plays K c (emitEv c.U ev ;; scriptLoop tag true c.U evs) xs e →
      Plays K c (scriptLoop tag true c.U (ev :: evs)) xs e := fun ev evs xs e hl =>
    Plays.poll (fun st r w h => rep_probe h fun w1 h1 => hl st r w1 h1)
      fun h => rep_probe h fun _ h1 => WP.done h1
  induction xs with
  | nil =>
    cases e with
    | silent => exact Plays.done
    | complete => exact step _ _ _ _ (plays_terminal ok hh hK .complete rfl).seq_done
    | error e => exact step _ _ _ _ (plays_terminal ok hh hK (.error e) rfl).seq_done
  | cons x xs ih =>
    exact step _ _ _ _ fun st r w h => WP.seq (nextU_spec ok hh hK x .done st r w _ h fun w1 h1 =>
      WP.done (feedX_cons K x xs st r ▸ ih _ _ w1 h1))

end handlers

end Rx.Sim
