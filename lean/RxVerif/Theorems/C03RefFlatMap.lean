import RxVerif.Theorems.C03RefFlatMapB
/-
C03-REF, flat_map: one history entry (`step_spec`), the program, the theorems.
-/
namespace Rx.GRef.FlatMap
open Rx.Sim Rx.Ref Rx.Comb Rx.CRef

abbrev R (k : Nat) (s : flatMap.State) (out : List Ev) (w : World) : Prop := RB k s [] out w

theorem pend_inv {k : Nat} {E : Ent} {s : flatMap.State} (h : Inv k E s []) (j : Nat) :
    Inv k (E.pendAll j) s (inMap E s.ctl j) :=
  { pos := h.pos, subs_eq := h.subs_eq, subK := h.subK, sorted := h.sorted, liveLt := h.liveLt, regLt := h.regLt
    ci := h.ci
    mode := by
      intro e he
      have hon : E.mode e = .on := by simpa using h.mode e he
      have hc : (inMap E s.ctl j).contains e = decide (E.sub e = j) := by
        rw [Bool.eq_iff_iff]
        simp [inMap, List.mem_filter, he, hon, Mode.isOn]
      rw [hc]
      simp only [Ent.pendAll, hon, and_true]
      by_cases q : E.sub e = j <;> simp [q] }

/-- one history entry = `Comb.flatMap.step` -/
theorem step_spec {k : Nat} (hk : 0 < k) (s : flatMap.State) (out : List Ev) (w : World) (p : Nat × Ev)
    (h : R k s out w) :
    WP (callOf (sjs k) p) w
      (R k (flatMap.step (flatMap.defaultInner k) s p).1 (out ++ (flatMap.step (flatMap.defaultInner k) s p).2)) := by
  obtain ⟨j, ev⟩ := p
  obtain ⟨E, hrel, hinv⟩ := h
  have ok := lay_ok k
  simp only [flatMap.step]
  rcases Nat.lt_or_ge j k with hj | hj
  · rw [callOf_lt hj]
    refine subj_call ok hrel (j := j) hj ev fun w1 h1 => ?_
    have hlt : ∀ e ∈ (s.subs.filter (·.2 == j)).map (·.1), e < s.nextSerial := by
      intro e he
      rw [attached_eq hinv j] at he
      exact List.mem_range.1 (List.mem_filter.1 he).1
    rw [broadcast_filter _ ev _ s hlt, snapshot_eq hinv j]
    refine bcast_spec hk ev (inMap E s.ctl j) s out w1 ?_
    cases ht : ev.isTerminal with
    | false => simp only [ht, Bool.false_eq_true, ↓reduceIte] at h1 ⊢; exact ⟨E, h1, hinv⟩
    | true => simp only [ht, ↓reduceIte] at h1 ⊢; exact ⟨_, h1, pend_inv hinv j⟩
  · rw [callOf_ge hj]
    have : (s.subs.filter (·.2 == j)).map (·.1) = [] := by
      rw [attached_eq hinv j, List.filter_eq_nil_iff]
      intro e he
      have := hinv.subK e (List.mem_range.1 he)
      simp only [beq_iff_eq]; omega
    rw [this]
    simp only [flatMap.broadcast, List.append_nil]
    exact WP.done ⟨E, hrel, hinv⟩

/-- `n+1` plain subjects; test user 0 subscribes to `s0.flat_map(|x| s_(x mod (n+1)))`; then the history -/
def prog (n : Nat) (H : History) : Prog :=
  subjsNew (n + 1) fun sjs =>
    .obsvNew (oFlatMap (fun x => (sjs.map Subj.observable).getD
        (x.toInt.emod (sjs.map Subj.observable).length).toNat oNever) (sjs.headD default).observable) fun id =>
    .userSub id noReact (drive sjs H)

theorem inv_init (k : Nat) (hk : 0 < k) : Inv k (Ent.grow (Ent.static fun _ => false) 0 0) flatMap.init [] where
  pos := Nat.le_refl 1
  subs_eq := by decide
  subK := by
    intro e he
    have : e = 0 := by have : e < 1 := he; omega
    subst this; rw [grow_sub_same]; exact hk
  sorted := by decide
  liveLt := by intro e he; have : e = 0 := by simpa [flatMap.init, Ctl.init] using he
               subst this; decide
  regLt := by intro e he; have : e = 0 := by simpa [flatMap.init, Ctl.init] using he
              subst this; decide
  mode := by
    intro e he
    have : e = 0 := by simpa [flatMap.init, Ctl.init] using he
    subst this; rfl
  ci := ⟨fun e he => he, fun q => by cases q⟩

theorem prog_spec (n : Nat) (H : History) :
    WP (prog n H) {} (R (n + 1) (finalFrom (flatMap.step (flatMap.defaultInner (n + 1))) flatMap.init H)
      (flatMap.run (n + 1) H)) := by
  have ok := lay_ok (n + 1)
  have hk : 0 < n + 1 := by omega
  refine harness_spec (step_spec hk) (fun sjs => oFlatMap (fun x => (sjs.map Subj.observable).getD
    (x.toInt.emod (sjs.map Subj.observable).length).toNat oNever) (sjs.headD default).observable) H flatMap.init ?_
  simp only [oFlatMap, fwdOp]
  refine wp_sctlNew_start ?_
  rw [show ((sjs (n + 1)).headD default).observable = (sjOf 0).observable by simp [sjs, List.range'_succ]]
  exact (newEntity_spec (L := lay (n + 1)) ok (rel_ctlWorld (E := Ent.static fun _ => false) ok (fun _ => rfl) [] _)
    rfl (e := 0) (j := 0) hk rfl rfl rfl _ _ _ (by simp [fullObs, lay, GLay.std, newInner, scOf, fOf])).conseq
    fun _ h => ⟨_, h.setUser _ fun _ => rfl, inv_init (n + 1) hk⟩

/-- `Agrees` for flat_map: subject `j` holds one observer per live serial attached to it -/
structure FAgrees (k : Nat) (w : World) (s : flatMap.State) (out : List Ev) : Prop where
  status : w.status = .ok
  held : w.held = []
  log : logOf w 0 = out
  counts : ∀ j, j < k → regCount w j = (s.subs.filter fun p => p.2 == j && s.ctl.live.contains p.1).length

/-- For EVERY history the flat_map program ends, for all sufficient fuel, with `status = ok`,
    no guard held, the user's log equal to the output of `Comb.flatMap`, and every subject holding exactly one observer
    per live serial the machine has attached to it. -/
theorem flat_map_refines (n : Nat) (H : History) :
    ∃ n0, ∀ fuel, n0 ≤ fuel →
      FAgrees (n + 1) (run fuel [prog n H] {})
        (finalFrom (flatMap.step (flatMap.defaultInner (n + 1))) flatMap.init H) (flatMap.run (n + 1) H) := by
  refine WP.run_all (Q := fun w => FAgrees (n + 1) w _ _) ((prog_spec n H).conseq fun w ⟨E, hrel, hinv⟩ => ?_)
  refine ⟨hrel.status, hrel.held, hrel.log, fun j hj => ?_⟩
  rw [hrel.regCount hj, ← snapshot_eq hinv j, List.filter_map, List.length_map,
    List.filter_filter]
  congr 1
  apply List.filter_congr
  intro a _
  rw [Bool.and_comm]; rfl

theorem flat_map_machine_spec (n : Nat) (H : History) (hwf : WellFormed (n + 1) H)
    (hsel : (0 :: fmSel (flatMap.defaultInner (n + 1)) H).Nodup) :
    ∃ n0, ∀ fuel, n0 ≤ fuel → (run fuel [prog n H] {}).status = .ok ∧
      logOf (run fuel [prog n H] {}) 0 = flatMapSpec (flatMap.defaultInner (n + 1)) H := by
  refine eventually_imp (flat_map_refines n H) fun fuel h => ⟨h.status, ?_⟩
  rw [h.log, flat_map_spec (flatMap.defaultInner (n + 1)) (n + 1) H hwf hsel]

/-- three subjects.  Items 1 and 4 both select subject 1 (two inner observers on one subject: its items
    are forwarded twice), item 3 selects the OUTER subject 0 (an inner observer on the outer subject: the next outer
    item 2 creates an inner on subject 2 and is also forwarded), the output completes with the last inner. -/
def demo : History :=
  [(0, .next (.int 1)), (1, .next (.int 10)), (0, .next (.int 4)), (1, .next (.int 11)), (0, .next (.int 3)),
   (0, .next (.int 2)), (1, .complete), (0, .complete), (2, .next (.int 20)), (2, .complete)]

theorem demo_run : (run 6000 [prog 2 demo] {}).status = .ok ∧
    logOf (run 6000 [prog 2 demo] {}) 0 =
      [.next (.int 10), .next (.int 11), .next (.int 11), .next (.int 2), .next (.int 20), .complete] := by
  decide +kernel

example : (run 6000 [prog 2 demo] {}).status = .ok := demo_run.1
example : logOf (run 6000 [prog 2 demo] {}) 0 =
    [.next (.int 10), .next (.int 11), .next (.int 11), .next (.int 2), .next (.int 20), .complete] := demo_run.2
example : flatMap.run 3 demo =
    [.next (.int 10), .next (.int 11), .next (.int 11), .next (.int 2), .next (.int 20), .complete] := by
  decide +kernel
example : (List.range 3).map (regCount (run 6000 [prog 2 (demo.take 6)] {})) = [2, 2, 1] ∧
    (finalFrom (flatMap.step (flatMap.defaultInner 3)) flatMap.init (demo.take 6)).subs =
      [(0, 0), (1, 1), (2, 1), (3, 0), (4, 2)] ∧
    (finalFrom (flatMap.step (flatMap.defaultInner 3)) flatMap.init (demo.take 6)).ctl.live = [0, 1, 2, 3, 4] := by
  decide +kernel

/-- a history within the hypotheses of the corollary: distinct selected subjects, none the outer one -/
def demoWf : History :=
  [(0, .next (.int 1)), (1, .next (.int 10)), (0, .next (.int 2)), (2, .next (.int 20)), (1, .next (.int 11)),
   (0, .complete), (1, .complete), (2, .next (.int 21)), (2, .complete)]
example : WellFormed 3 demoWf ∧ (0 :: fmSel (flatMap.defaultInner 3) demoWf).Nodup := by decide
example : logOf (run 6000 [prog 2 demoWf] {}) 0 = flatMapSpec (flatMap.defaultInner 3) demoWf := by decide +kernel

#print axioms flat_map_refines
#print axioms flat_map_machine_spec

end Rx.GRef.FlatMap
