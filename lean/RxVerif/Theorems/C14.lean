import RxVerif.Theorems.Sim
/-
C14 — Each subscribe() runs an independent pipeline.

Machine layer: what a new subscriber of a standard operator over a deterministic cold source sees is a
function of the kernel and the script alone — it does not depend on the world the subscription starts
in, i.e. not on any earlier or concurrent subscription of the same Observable value
(`subscribe_independent`), and a subscription leaves the world ready for the next one
(`stays_ready`), so the statement iterates to the 2nd, 3rd, … subscription.
The crate allocates operator state once per subscription (concat, default_if_empty, tap: a version that
allocates once per operator instance fails the C14 check), and so do the model's operators, inside
`stdOp`/`create`; the per-run correspondence subscribes every pipeline 2–3 times (sequentially,
interleaved on a hot source, under retry).
-/
namespace Rx.C14
open Rx

/-- **C14.** The k-th subscriber gets what a sole subscriber would have got. -/
theorem subscribe_independent {σ} (K : Kernel σ) (hK : Kernel.WellEncoded K) (w₁ w₂ : World)
    (h₁ : Sim.Ready w₁) (h₂ : Sim.Ready w₂) (tag₁ tag₂ : Nat) (s : Stream) :
    ∃ N, ∀ fuel, N ≤ fuel →
      logOf (run fuel [Sim.subscribeScript K tag₁ s] w₁) w₁.users.length
        = logOf (run fuel [Sim.subscribeScript K tag₂ s] w₂) w₂.users.length :=
  Sim.subscribe_independent K hK w₁ w₂ h₁ h₂ tag₁ tag₂ s

/-- in particular it equals the kernel run, which mentions no world at all -/
theorem every_subscription_is_the_kernel_run {σ} (K : Kernel σ) (hK : Kernel.WellEncoded K) (w : World)
    (hw : Sim.Ready w) (tag : Nat) (s : Stream) :
    ∃ N, ∀ fuel, N ≤ fuel → logOf (run fuel [Sim.subscribeScript K tag s] w) w.users.length = K.run s :=
  Sim.eventually_imp (Sim.stdOp_sim K hK w hw tag s) fun _ h => h.2.1

theorem others_undisturbed {σ} (K : Kernel σ) (hK : Kernel.WellEncoded K) (w : World)
    (hw : Sim.Ready w) (tag : Nat) (s : Stream) :
    ∃ N, ∀ fuel, N ≤ fuel → ∀ s', s' ≠ w.users.length →
      logOf (run fuel [Sim.subscribeScript K tag s] w) s' = logOf w s' :=
  Sim.eventually_imp (Sim.stdOp_sim K hK w hw tag s) fun _ h => h.2.2.1

theorem stays_ready {σ} (K : Kernel σ) (hK : Kernel.WellEncoded K) (w : World) (hw : Sim.Ready w)
    (tag : Nat) (s : Stream) :
    ∃ N, ∀ fuel, N ≤ fuel → Sim.Ready (run fuel [Sim.subscribeScript K tag s] w) :=
  Sim.stdOp_ready K hK w hw tag s

end Rx.C14

-- non-vacuity: two successive subscriptions of `take 2` over the same script see the same thing
open Rx in
example :
    let p := Sim.subscribeScript (kTake 2) 0 ([.int 1, .int 2, .int 3], .complete)
    let w1 := run 400 [p] {}
    let w2 := run 400 [p] w1
    logOf w1 0 = logOf w2 1 ∧ logOf w2 0 = logOf w1 0 := by
  decide

#print axioms Rx.C14.subscribe_independent
#print axioms Rx.C14.every_subscription_is_the_kernel_run
#print axioms Rx.C14.others_undisturbed
#print axioms Rx.C14.stays_ready
