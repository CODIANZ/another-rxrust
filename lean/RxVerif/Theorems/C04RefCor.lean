import RxVerif.Theorems.C04RefResume
import RxVerif.Theorems.C04r
/-
C04-REF: the central C04r theorems (about the pure mirror) transported to model A through the
refinement theorems `retry_refines` / `retryWhen_refines` / `resume_refines`; non-vacuity.
-/
namespace Rx.RetryRef
open Rx.Sim Rx.Ref Rx.Spec Rx.C04

-- the machine run of the retry test / of the retry_when test / of the resume test
def retryW (max tag : Nat) (scripts : List (List Ev)) (w : World) (fuel : Nat) : World :=
  run fuel [subscribeFlaky (oRetry max) tag scripts] w
def retryWhenW (p : EPred) (tag : Nat) (scripts : List (List Ev)) (w : World) (fuel : Nat) : World :=
  run fuel [subscribeFlaky (oRetryWhen p) tag scripts] w
def resumeW (tag : Nat) (evs : List Ev) (tagF : Nat → Nat) (fs : Nat → List Ev) (w : World) (fuel : Nat) : World :=
  run fuel [subscribeResume tag evs tagF fs] w

theorem ofScript_error_mem : ∀ (l : List Ev) (e : Nat), (Stream.ofScript l).2 = .error e → Ev.error e ∈ l
  | [], e, h => by simp [Stream.ofScript] at h
  | .next d :: l, e, h => by
    simp only [Stream.ofScript] at h
    exact List.mem_cons_of_mem _ (ofScript_error_mem l e h)
  | .error e' :: l, e, h => by
    simp only [Stream.ofScript, Ending.error.injEq] at h
    subst h; simp
  | .complete :: l, e, h => by simp [Stream.ofScript] at h

/-- the refinement theorem against the mirror run with ANY sufficient mirror fuel (inputs on which the mirror
    terminates: `max ≠ 0`, or some attempt does not fail) -/
theorem retry_refines_fuel (max tag : Nat) (scripts : List (List Ev)) (w : World) (hw : Ready w) (F : Nat)
    (hne : scripts ≠ [])
    (hfin : max ≠ 0 ∨ ∃ k, firstStop failed (scripts.map Stream.ofScript) = some k)
    (hF : retryCount max (scripts.map Stream.ofScript) ≤ F)
    (hM : retryCount max (scripts.map Stream.ofScript) ≤ 100000) :
    ∃ N, ∀ fuel, N ≤ fuel →
      logOf (retryW max tag scripts w fuel) w.users.length = (retryRun max (scripts.map Stream.ofScript) F).1 ∧
      (retryW max tag scripts w fuel).cells[w.cells.length]?
        = some (.int (retryRun max (scripts.map Stream.ofScript) F).2) := by
  refine eventually_imp (retry_refines max tag scripts w hw) fun fuel h => ?_
  have hA : scripts.map Stream.ofScript ≠ [] := by simpa using hne
  rw [retry_run_eq max _ F hA hfin hF, ← retry_run_eq max _ 100000 hA hfin hM]
  exact ⟨h.2.1, h.2.2.1⟩

/-- **C04 on model A, retry(max), max ≠ 0**: the subscriber sees the items of attempts 1..m in order, then the
    terminal of attempt m, and the source has been subscribed exactly m = `retryCount` times. -/
theorem retry_machine_spec (max tag : Nat) (scripts : List (List Ev)) (w : World) (hw : Ready w)
    (hne : scripts ≠ []) (hmax : max ≠ 0) (hM : max ≤ 100000) :
    ∃ N, ∀ fuel, N ≤ fuel →
      logOf (retryW max tag scripts w fuel) w.users.length = (retrySpec max (scripts.map Stream.ofScript)).1 ∧
      (retryW max tag scripts w fuel).cells[w.cells.length]?
        = some (.int (retryCount max (scripts.map Stream.ofScript))) := by
  refine eventually_imp (retry_refines max tag scripts w hw) fun fuel h => ?_
  have hA : scripts.map Stream.ofScript ≠ [] := by simpa using hne
  have e := retry_spec' max _ 100000 hA hmax hM
  have := h
  simp only [e] at this
  exact ⟨this.2.1, this.2.2.1⟩

/-- **subscription count on model A**: `min k max`, k the number of the first attempt not ending in an error -/
theorem retry_machine_count (max tag : Nat) (scripts : List (List Ev)) (w : World) (hw : Ready w)
    (hne : scripts ≠ []) (hmax : max ≠ 0) (hM : max ≤ 100000) :
    ∃ N, ∀ fuel, N ≤ fuel →
      (retryW max tag scripts w fuel).cells[w.cells.length]? = some (.int (
        match firstStop failed (scripts.map Stream.ofScript) with
        | some k => min k max
        | none => max : Nat)) := by
  refine eventually_imp (retry_refines max tag scripts w hw) fun fuel h => ?_
  have hA : scripts.map Stream.ofScript ≠ [] := by simpa using hne
  have e := retry_count_exact max _ 100000 hA hmax hM
  have := h.2.2.1
  simp only [e] at this
  exact this

/-- **never more than `max` subscriptions on model A** -/
theorem retry_machine_subscriptions_le (max tag : Nat) (scripts : List (List Ev)) (w : World) (hw : Ready w)
    (hne : scripts ≠ []) (hmax : max ≠ 0) :
    ∃ N, ∀ fuel, N ≤ fuel → ∃ n : Nat, n ≤ max ∧
      (retryW max tag scripts w fuel).cells[w.cells.length]? = some (.int n) := by
  have hA : scripts.map Stream.ofScript ≠ [] := by simpa using hne
  exact eventually_imp (retry_refines max tag scripts w hw) fun fuel h =>
    ⟨_, retry_subscriptions_le max _ 100000 hA hmax, h.2.2.1⟩

/-- **error identity on model A**: an error event the subscriber logs is an error event of one of the source's
    scripts, same payload (no restriction on `max` or the scripts) -/
theorem retry_machine_error_identity (max tag : Nat) (scripts : List (List Ev)) (w : World) (hw : Ready w) :
    ∃ N, ∀ fuel, N ≤ fuel → ∀ e, Ev.error e ∈ logOf (retryW max tag scripts w fuel) w.users.length →
      ∃ sc ∈ scripts, Ev.error e ∈ sc := by
  refine eventually_imp (retry_refines max tag scripts w hw) fun fuel h e he => ?_
  have h1 : logOf (retryW max tag scripts w fuel) w.users.length = _ := h.2.1
  rw [h1] at he
  obtain ⟨s, hs, hse⟩ := retry_error_identity max _ 100000 e he
  obtain ⟨sc, hsc, rfl⟩ := List.mem_map.1 hs
  exact ⟨sc, hsc, ofScript_error_mem sc e hse⟩

/-- **retry(0)** over a source one of whose attempts does not fail (within the unrolling depth) -/
theorem retry_machine_unbounded (tag : Nat) (scripts : List (List Ev)) (w : World) (hw : Ready w)
    (hok : ∃ s ∈ scripts.map Stream.ofScript, failed s = false)
    (hM : retryCount 0 (scripts.map Stream.ofScript) ≤ 100000) :
    ∃ N, ∀ fuel, N ≤ fuel →
      logOf (retryW 0 tag scripts w fuel) w.users.length = (retrySpec 0 (scripts.map Stream.ofScript)).1 ∧
      (retryW 0 tag scripts w fuel).cells[w.cells.length]?
        = some (.int (retryCount 0 (scripts.map Stream.ofScript))) := by
  refine eventually_imp (retry_refines 0 tag scripts w hw) fun fuel h => ?_
  have e := retry_unbounded_spec _ 100000 hok hM
  have := h
  simp only [e] at this
  exact ⟨this.2.1, this.2.2.1⟩

/-- **C04 on model A, retry_when(p)**: k = number of the first attempt that does not fail with an error satisfying
    `p`; the subscriber sees the items of attempts 1..k in order and the terminal of attempt k; k subscriptions -/
theorem retryWhen_machine_spec (p : EPred) (tag : Nat) (scripts : List (List Ev)) (w : World) (hw : Ready w)
    (k : Nat) (hk : firstStop (failedWith p.app) (scripts.map Stream.ofScript) = some k) (hM : k ≤ 100000) :
    ∃ N, ∀ fuel, N ≤ fuel →
      logOf (retryWhenW p tag scripts w fuel) w.users.length
        = (attemptsUpTo (scripts.map Stream.ofScript) k).1 ∧
      (retryWhenW p tag scripts w fuel).cells[w.cells.length]? = some (.int k) := by
  refine eventually_imp (retryWhen_refines p tag scripts w hw) fun fuel h => ?_
  have e := (retry_when_spec p.app _ 100000 k hk hM).1
  have := h
  simp only [e, retryWhenSpec, hk, Option.getD_some] at this
  exact ⟨this.2.1, this.2.2.1⟩

theorem retryWhen_machine_error_identity (p : EPred) (tag : Nat) (scripts : List (List Ev)) (w : World)
    (hw : Ready w) :
    ∃ N, ∀ fuel, N ≤ fuel → ∀ e, Ev.error e ∈ logOf (retryWhenW p tag scripts w fuel) w.users.length →
      ∃ sc ∈ scripts, Ev.error e ∈ sc := by
  refine eventually_imp (retryWhen_refines p tag scripts w hw) fun fuel h e he => ?_
  have h1 : logOf (retryWhenW p tag scripts w fuel) w.users.length = _ := h.2.1
  rw [h1] at he
  obtain ⟨s, hs, hse⟩ := retry_when_error_identity p.app _ 100000 e he
  obtain ⟨sc, hsc, rfl⟩ := List.mem_map.1 hs
  exact ⟨sc, hsc, ofScript_error_mem sc e hse⟩

/-- an error the subscriber logs is one the predicate rejected -/
theorem retryWhen_machine_error_rejected (p : EPred) (tag : Nat) (scripts : List (List Ev)) (w : World)
    (hw : Ready w) (k : Nat) (hk : firstStop (failedWith p.app) (scripts.map Stream.ofScript) = some k)
    (hM : k ≤ 100000) :
    ∃ N, ∀ fuel, N ≤ fuel → ∀ e, Ev.error e ∈ logOf (retryWhenW p tag scripts w fuel) w.users.length →
      p.app e = false := by
  refine eventually_imp (retryWhen_refines p tag scripts w hw) fun fuel h e he => ?_
  have h1 : logOf (retryWhenW p tag scripts w fuel) w.users.length = _ := h.2.1
  rw [h1] at he
  exact retry_when_error_rejected p.app _ 100000 k e hk hM he

/-- **C04 on model A, on_error_resume_next**: the items of the source, then — if it ends with `error e` — everything
    `f e` plays, otherwise the source's terminal -/
theorem resume_machine_spec (tag : Nat) (evs : List Ev) (tagF : Nat → Nat) (fs : Nat → List Ev) (w : World)
    (hw : Ready w) :
    ∃ N, ∀ fuel, N ≤ fuel →
      logOf (resumeW tag evs tagF fs w fuel) w.users.length
        = resumeSpec (fun e => Stream.ofScript (fs e)) (Stream.ofScript evs) := by
  refine eventually_imp (resume_refines tag evs tagF fs w hw) fun fuel h => ?_
  rw [← resume_spec]
  exact h.2.1

/-- an error the subscriber logs occurs in the script `fs e` of a resumed observable, `e` an error in the source's script -/
theorem resume_machine_error_identity (tag : Nat) (evs : List Ev) (tagF : Nat → Nat) (fs : Nat → List Ev)
    (w : World) (hw : Ready w) :
    ∃ N, ∀ fuel, N ≤ fuel → ∀ e', Ev.error e' ∈ logOf (resumeW tag evs tagF fs w fuel) w.users.length →
      ∃ e, Ev.error e ∈ evs ∧ Ev.error e' ∈ fs e := by
  refine eventually_imp (resume_refines tag evs tagF fs w hw) fun fuel h e' he => ?_
  have h1 : logOf (resumeW tag evs tagF fs w fuel) w.users.length = _ := h.2.1
  rw [h1] at he
  obtain ⟨e, h2, h3⟩ := resume_error_identity _ _ e' he
  exact ⟨e, ofScript_error_mem _ _ h2, ofScript_error_mem _ _ h3⟩

/-! ### non-vacuity: a flaky source with three differing attempts (the first script goes on after its error:
    a polite source never gets to emit that), evaluated on both sides -/

def demo : List (List Ev) :=
  [[.next (.int 1), .next (.int 2), .error 7, .next (.int 99)], [.next (.int 3), .error 8],
   [.next (.int 4), .complete]]

-- the hypothesis `Ready w` of every theorem is satisfiable
example : Ready ({} : World) := ready_empty
theorem demo_retry5 : (retryW 5 0 demo {} 400).status = .ok ∧ (retryW 5 0 demo {} 400).held = [] ∧
    logOf (retryW 5 0 demo {} 400) 0 = [.next (.int 1), .next (.int 2), .next (.int 3), .next (.int 4), .complete] ∧
    (retryW 5 0 demo {} 400).cells[0]? = some (.int 3) := by decide +kernel

-- the world such a run leaves: status ok, no guard held (two of Ready's three fields; used as a start world below)
example : (retryW 5 0 demo {} 400).status = .ok ∧ (retryW 5 0 demo {} 400).held = [] :=
  ⟨demo_retry5.1, demo_retry5.2.1⟩

-- retry(5): machine and mirror evaluate to the same log and the same count
example : logOf (retryW 5 0 demo {} 400) 0 = (retryRun 5 (demo.map Stream.ofScript) 100000).1 :=
  demo_retry5.2.2.1.trans (by decide +kernel)
example : (retryW 5 0 demo {} 400).cells[0]? = some (.int (retryRun 5 (demo.map Stream.ofScript) 100000).2) :=
  demo_retry5.2.2.2.trans (by decide +kernel)
example : logOf (retryW 5 0 demo {} 400) 0
    = [.next (.int 1), .next (.int 2), .next (.int 3), .next (.int 4), .complete] := demo_retry5.2.2.1
example : (retryW 5 0 demo {} 400).cells[0]? = some (.int 3) := demo_retry5.2.2.2
-- retry(2): budget exhausted at the second attempt, whose error (payload 8) is forwarded
example : logOf (retryW 2 0 demo {} 400) 0 = (retryRun 2 (demo.map Stream.ofScript) 100000).1 ∧
    logOf (retryW 2 0 demo {} 400) 0 = [.next (.int 1), .next (.int 2), .next (.int 3), .error 8] ∧
    (retryW 2 0 demo {} 400).cells[0]? = some (.int 2) := by decide +kernel
-- hypotheses of the corollaries
example : demo ≠ [] ∧ (5 : Nat) ≠ 0 ∧ 5 ≤ 100000 ∧ retryCount 5 (demo.map Stream.ofScript) = 3 := by decide +kernel
example : (∃ s ∈ demo.map Stream.ofScript, failed s = false) ∧ retryCount 0 (demo.map Stream.ofScript) ≤ 100000 :=
  ⟨⟨([.int 4], .complete), by decide, by decide⟩, by decide⟩
-- retry_when(e < 8): attempt 1 (error 7) is retried, attempt 2 (error 8) is not
example : firstStop (failedWith (EPred.lt 8).app) (demo.map Stream.ofScript) = some 2 := by decide +kernel
example : logOf (retryWhenW (.lt 8) 0 demo {} 400) 0
      = (retryWhenRun (EPred.lt 8).app (demo.map Stream.ofScript) 100000).1 ∧
    logOf (retryWhenW (.lt 8) 0 demo {} 400) 0 = [.next (.int 1), .next (.int 2), .next (.int 3), .error 8] ∧
    (retryWhenW (.lt 8) 0 demo {} 400).cells[0]? = some (.int 2) := by decide +kernel
-- on_error_resume_next: the source fails with 7, `f 7` plays [5, error 9]
def demoF : Nat → List Ev := fun e => if e = 7 then [.next (.int 5), .error 9] else [.complete]
example : logOf (resumeW 0 [.next (.int 1), .error 7, .next (.int 99)] (fun _ => 1) demoF {} 400) 0
      = resumeRun (fun e => Stream.ofScript (demoF e)) (Stream.ofScript [.next (.int 1), .error 7, .next (.int 99)]) ∧
    logOf (resumeW 0 [.next (.int 1), .error 7, .next (.int 99)] (fun _ => 1) demoF {} 400) 0
      = [.next (.int 1), .next (.int 5), .error 9] := by decide +kernel
-- a second subscription from the world the first one left: the other subscriber's log is untouched
example : logOf (retryW 2 1 demo (retryW 5 0 demo {} 400) 400) 0 = logOf (retryW 5 0 demo {} 400) 0 ∧
    logOf (retryW 2 1 demo (retryW 5 0 demo {} 400) 400) 1
      = [.next (.int 1), .next (.int 2), .next (.int 3), .error 8] := by decide +kernel

#print axioms retry_refines
#print axioms retryWhen_refines
#print axioms resume_refines
#print axioms retry_refines_fuel
#print axioms retry_machine_spec
#print axioms retry_machine_count
#print axioms retry_machine_subscriptions_le
#print axioms retry_machine_error_identity
#print axioms retry_machine_unbounded
#print axioms retryWhen_machine_spec
#print axioms retryWhen_machine_error_identity
#print axioms retryWhen_machine_error_rejected
#print axioms resume_machine_spec
#print axioms resume_machine_error_identity

end Rx.RetryRef
