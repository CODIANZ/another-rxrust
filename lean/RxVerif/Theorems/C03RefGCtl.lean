import RxVerif.Theorems.C03RefGBase
import RxVerif.Theorems.C03
/-
C03-REF (general form): the `StreamController` sinks and `upstream_abort_observe` on `Rel`; the operator's
own cell (`xc_some`, `Rel.setX`).
-/
namespace Rx.GRef
open Rx.Sim Rx.Ref Rx.Comb Rx.CRef

variable {L : GLay} {E : Ent} {hl : List (LockId × Bool)} {c : Ctl} {x : Fr} {out : List Ev} {w : World}

theorem Rel.emit (h : Rel L E hl c x out w) (ev : Ev) : Rel L E hl c x (out ++ [ev]) (w.emit (.ev 0 ev)) :=
  { h with log := by rw [logOf_emit_same, h.log] }

theorem Rel.rootTerminal (ok : L.Ok) (h : Rel L E hl c x out w) (ev : Ev) :
    Rel L E hl { c with alive := false } x (out ++ [ev]) ((w.setObs 0 Obs.cleared).emit (.ev 0 ev)) :=
  { h with
    root := by
      show (w.obs.modify 0 _)[0]? = _
      rw [modify_get_same _ _ h.root]; cases c.alive <;> rfl
    ex := by intro e he; show _ < (w.obs.modify _ _).length; rw [List.length_modify]; exact h.ex e he
    nObs := by show (w.obs.modify _ _).length = _; rw [List.length_modify]; exact h.nObs
    inner := by
      intro e o ho
      have ho' : (w.obs.modify 0 Obs.cleared)[L.ob e]? = some o := ho
      rw [modify_get_other _ _ (by have := ok.obPos e; omega)] at ho'
      exact h.inner e o ho'
    log := by rw [logOf_emit_same]; show logOf w 0 ++ _ = _; rw [h.log] }

theorem root_deliver {k : Prog} {Q : World → Prop} (h : Rel L E hl c x out w) (ha : c.alive = true) (ev : Ev)
    (hk : WP k (w.deliverTo 0 0 ev) Q) : WP (evProg ev 0 k) w Q := by
  obtain ⟨u, hu, hr⟩ := h.user
  have hroot := h.root
  rw [ha] at hroot
  exact wp_ev_user hroot rfl rfl rfl hu hr hk

/-- stream_controller.rs:98-104 -/
theorem sinkNext_spec (ok : L.Ok) (h : Rel L E [] c x out w) (d : Data) :
    WP (L.sc.sinkNext d) w (fun w' => Rel L E [] (c.sinkNext d).1 x (out ++ (c.sinkNext d).2) w') := by
  simp only [Sctl.sinkNext, GLay.sc]
  refine h.wp_isSub ?_
  cases ha : c.alive with
  | true => simp only [↓reduceIte, Ctl.sinkNext_alive ha]; exact root_deliver h ha (.next d) (WP.done (h.emit _))
  | false => simp only [Bool.false_eq_true, ↓reduceIte, Ctl.sinkNext_dead ha, List.append_nil]; exact finalize_spec ok h ha

theorem terminal_spec (ok : L.Ok) (h : Rel L E [] c x out w) (ha : c.alive = true) (ev : Ev)
    (hev : ev.isTerminal = true) : WP (evProg ev 0 L.sc.finalize) w (Rel L E [] c.finalize x (out ++ [ev])) := by
  refine root_deliver h ha ev ?_
  rw [World.deliverTo, if_pos hev]
  exact finalize_spec (c := { c with alive := false }) ok (h.rootTerminal ok ev) rfl

/-- stream_controller.rs:106-113 -/
theorem sinkError_spec (ok : L.Ok) (h : Rel L E [] c x out w) (e : Nat) :
    WP (L.sc.sinkError e) w (fun w' => Rel L E [] (c.sinkError e).1 x (out ++ (c.sinkError e).2) w') := by
  simp only [Sctl.sinkError, GLay.sc]
  refine h.wp_isSub ?_
  cases ha : c.alive with
  | true => simp only [↓reduceIte, Ctl.sinkError_alive ha]; exact terminal_spec ok h ha (.error e) rfl
  | false => simp only [Bool.false_eq_true, ↓reduceIte, Ctl.sinkError_dead ha, List.append_nil]; exact finalize_spec ok h ha

/-- stream_controller.rs:131-136 -/
theorem sinkCompleteForce_spec (ok : L.Ok) (h : Rel L E [] c x out w) :
    WP L.sc.sinkCompleteForce w
      (fun w' => Rel L E [] c.sinkCompleteForce.1 x (out ++ c.sinkCompleteForce.2) w') := by
  simp only [Sctl.sinkCompleteForce, GLay.sc]
  refine h.wp_isSub ?_
  cases ha : c.alive with
  | true => simp only [↓reduceIte, Ctl.sinkCompleteForce_alive ha]; exact terminal_spec ok h ha .complete rfl
  | false =>
    simp only [Bool.false_eq_true, ↓reduceIte, Ctl.sinkCompleteForce_dead ha, List.append_nil]; exact finalize_spec ok h ha

/-- stream_controller.rs:115-129 -/
theorem sinkComplete_spec (ok : L.Ok) (h : Rel L E [] c x out w) (i : Nat) :
    WP (L.sc.sinkComplete (L.ser i)) w
      (fun w' => Rel L E [] (c.sinkComplete i).1 x (out ++ (c.sinkComplete i).2) w') := by
  simp only [Sctl.sinkComplete, GLay.sc]
  refine h.wp_isSub ?_
  cases ha : c.alive with
  | false =>
    simp only [Bool.false_eq_true, ↓reduceIte, Ctl.sinkComplete_dead ha, List.append_nil]; exact finalize_spec ok h ha
  | true =>
    simp only [↓reduceIte, Ctl.sinkComplete, ha]
    refine wp_cellRead h.held ?_
    obtain ⟨l, hm, hmem⟩ := h.mapC
    simp only [hm, Option.getD_some]
    rw [amapRemove_encMap, filter_map_key fun _ _ => ok.serInj _ _]
    refine wp_cellWrite h.held ?_
    have hmem' : ∀ j, j ∈ l.filter (· != i) ↔ j ∈ c.reg.filter (· != i) := by
      intro j; simp only [List.mem_filter, hmem j]
    have h1 := h.setReg ok (l.filter (· != i)) (c.reg.filter (· != i)) (fun j hj => (List.mem_filter.1 hj).1) hmem'
    rw [amapLen_encMap, List.length_map]
    have hl : ((l.filter (· != i)).length == 0) = (c.reg.filter (· != i)).isEmpty := by
      rw [Bool.eq_iff_iff, beq_iff_eq, List.length_eq_zero_iff, List.isEmpty_iff, List.eq_nil_iff_forall_not_mem,
        List.eq_nil_iff_forall_not_mem]
      exact forall_congr' fun j => not_congr (hmem' j)
    rw [hl]
    cases hr : (c.reg.filter (· != i)).isEmpty with
    | true => simp only [↓reduceIte]; exact terminal_spec ok h1 ha .complete rfl
    | false => simp only [Bool.false_eq_true, ↓reduceIte, List.append_nil]; rw [ha] at h1; exact WP.done h1

theorem find_reg (ok : L.Ok) (i : Nat) : ∀ (l : List Nat),
    (l.map fun j => (L.ser j, L.ob j)).find? (fun p => p.1 == L.ser i) =
      if l.contains i then some (L.ser i, L.ob i) else none := by
  intro l
  induction l with
  | nil => rfl
  | cons j rest ih =>
    simp only [List.map_cons, List.find?_cons, List.contains_cons]
    by_cases e : L.ser j = L.ser i
    · have := ok.serInj _ _ e
      subst this; simp
    · have hji : (i == j) = false := by
        rw [beq_eq_false_iff_ne]; intro q; exact e (by rw [q])
      have hse : (L.ser j == L.ser i) = false := by rw [beq_eq_false_iff_ne]; exact e
      simp only [hse, hji, Bool.false_or]
      exact ih

/-- `upstream_abort_observe` (stream_controller.rs:138-144) -/
theorem abort_spec (ok : L.Ok) (h : Rel L E [] c x out w) (i : Nat) :
    WP (L.sc.abortObserve (L.ser i)) w (Rel L E [] (c.abort i) x out) := by
  simp only [Sctl.abortObserve, GLay.sc]
  refine wp_lockAcq (noconf_of_held_nil h.held _ _) (wp_cellRead_g ?_)
  rw [h.held]
  have h1 := h.setHeld [(.cell L.cm, true)] (by simp)
  obtain ⟨l, hm, hmem⟩ := h1.mapC
  simp only [hm, Option.getD_some]
  rw [amapRemove_encMap, filter_map_key fun _ _ => ok.serInj _ _, amapGet_encMap, find_reg ok i l]
  refine wp_cellWrite_g ?_
  have h2 := h1.setReg ok (l.filter (· != i)) (c.reg.filter (· != i)) (fun j hj => (List.mem_filter.1 hj).1)
    fun j => by simp only [List.mem_filter, hmem j]
  rw [show l.contains i = c.reg.contains i by rw [Bool.eq_iff_iff]; simp [hmem i]]
  apply WP.seq
  cases hr : c.reg.contains i with
  | true =>
    simp only [↓reduceIte, Option.map_some, toNat_int, Ctl.abort, hr]
    have hk := known_reg hr
    refine (unsub_inner_aux ok h2 (h.subLt i hk) (List.getElem?_eq_getElem (h.ex i hk))
      (fun hm => h.hkey hk hm)).conseq fun w3 h3 => wp_lockRel ?_
    rw [release_head _ _ _ _ h3.held]
    exact WP.done (h3.setHeld [] nofun)
  | false =>
    simp only [Bool.false_eq_true, ↓reduceIte, Option.map_none, Ctl.abort, hr]
    refine WP.done (wp_lockRel ?_)
    rw [release_head _ _ _ _ h2.held]
    have e : c.reg.filter (· != i) = c.reg := by
      rw [List.filter_eq_self]; intro a ha
      simp only [bne_iff_ne]; intro q; subst q
      have : c.reg.contains a = true := by simpa using ha
      rw [hr] at this; cases this
    rw [e] at h2
    exact WP.done (h2.setHeld [] nofun)

/-- `Rel.xc` reads the cell through `getD .unit`: only a value other than `.unit` shows that the cell is there -/
theorem xc_some (h : Rel L E hl c x out w) (hx : x.x ≠ .unit) : w.cells[L.cx]? = some x.x := by
  have := h.xc
  cases hc : w.cells[L.cx]? with
  | none => rw [hc] at this; exact absurd this.symm hx
  | some v => rw [hc] at this; exact congrArg some this

theorem Rel.setX (ok : L.Ok) (h : Rel L E hl c x out w) (hx : x.x ≠ .unit) (x' : Data) :
    Rel L E hl c { x with x := x' } out { w with cells := w.cells.set L.cx x' } := by
  have h3' := ok.cx; have h4' := ok.ne2; have h5' := ok.ne3
  exact
  { h with
    subjO := by
      intro i hi; show (w.cells.set _ _)[_]? = _
      rw [set_get_other _ (by omega)]; exact h.subjO i hi
    subjS := by
      intro i hi; show (w.cells.set _ _)[_]? = _
      rw [set_get_other _ (by omega)]; exact h.subjS i hi
    mapC := by
      obtain ⟨l, hm, hmem⟩ := h.mapC
      exact ⟨l, by show (w.cells.set _ _)[_]? = _; rw [set_get_other _ (Ne.symm h5')]; exact hm, hmem⟩
    serC := ⟨by show (w.cells.set _ _)[_]? = _; rw [set_get_other _ (Ne.symm h4')]; exact h.serC.1, h.serC.2⟩
    xc := by
      show (w.cells.set _ _)[_]?.getD _ = _
      rw [set_get_same _ (xc_some h hx)]; rfl }

end Rx.GRef
