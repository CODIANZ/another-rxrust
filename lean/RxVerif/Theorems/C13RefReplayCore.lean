import RxVerif.Theorems.C13RefCount
/-
C13-REF, replay (replay.rs = ref_count.rs over a `ReplaySubject`): the users' side `UsersR` — the general users' part
`RefU.UP` at the layout the lists give, the ReplaySubject's three cells, the bookkeeping of the lists — the `UsersSide` it
makes (`replaySide`), the simulation relation `RelR`, and the users' side while a test user's `subscribe` is under way.
Everything is allocated in call order and the first `subscribe` also allocates the source subscription, so the layout
is carried in lists: for user `u`  `roots[u]` root observer, `fwds[u]` forwarder registered in the inner Subject,
`sbs[u]` its `sbsc` cell, `acs[u]` the armed flag of its live `Subscription`.
Fixed: cells 0,1 = hot source H, 2,3 = inner Subject S, 4 = items, 5 = was_error, 6 = was_completed,
7 = `connecting`, 8 = `subscription`, 9 = `cancelled`; slots 2,3 = the hooks on S.
-/
namespace Rx.CRef
open Rx.Sim Rx.SubjM Rx.Ref Rx.RefR Rx.RefU

def rR : RSubj := ⟨Sp, 4, 5, 6⟩
def fnR : Data → Prog := fun x => rR.next x
def feR : Nat → Prog := fun e => rR.error e
def fcR : Prog := rR.complete

structure LayR where
  roots : List Nat
  fwds : List Nat
  sbs : List Nat
  acs : List Nat

def LayR.n (L : LayR) : Nat := L.roots.length

/-- the layout the lists give; `unst`: the subscription whose `sbsc` is not stored yet -/
def LayR.lay (L : LayR) (unst : Option Nat) : RefU.Layout :=
  { dir := false, root := rootAt L.roots, reg := fun _ => True, arm := fun u => unst ≠ some u,
    fwd := rootAt L.fwds, sb := rootAt L.sbs, ac := rootAt L.acs, armReg := fun _ => trivial }

/-- the inner Subject's map as stored: serial ↦ forwarder -/
def mapL (L : LayR) (l : List (Nat × Nat)) : List (Nat × Nat) := l.map fun p => (p.1, rootAt L.fwds p.2)

theorem lay_map (L : LayR) (unst : Option Nat) (l : List (Nat × Nat)) : (L.lay unst).map l = mapL L l := rfl

theorem mapL_filter (L : LayR) (l : List (Nat × Nat)) (s : Nat) :
    (mapL L l).filter (fun p => p.1 != s) = mapL L (l.filter fun p => p.1 != s) :=
  map_filter (Λ := L.lay none) l s

theorem GlobR.root_ne_fwd {L : LayR} {cobs w} (g : Glob (L.roots ++ L.fwds) cobs w) {u v : Nat}
    (hu : u < L.roots.length) (hv : v < L.fwds.length) : rootAt L.roots u ≠ rootAt L.fwds v :=
  (List.nodup_append.1 (List.nodup_append.1 g.nodup).1).2.2 _ (rootAt_mem hu) _ (rootAt_mem hv)

theorem GlobR.root_inj {L : LayR} {cobs w} (g : Glob (L.roots ++ L.fwds) cobs w) {u v : Nat}
    (hu : u < L.roots.length) (hv : v < L.roots.length) (h : rootAt L.roots u = rootAt L.roots v) : u = v :=
  rootAt_inj (List.nodup_append.1 (List.nodup_append.1 g.nodup).1).1 hu hv h

theorem GlobR.fwd_inj {L : LayR} {cobs w} (g : Glob (L.roots ++ L.fwds) cobs w) {u v : Nat}
    (hu : u < L.fwds.length) (hv : v < L.fwds.length) (h : rootAt L.fwds u = rootAt L.fwds v) : u = v :=
  rootAt_inj (List.nodup_append.1 (List.nodup_append.1 g.nodup).1).2.1 hu hv h

theorem GlobR.root_mem {L : LayR} {u : Nat} (hu : u < L.roots.length) : rootAt L.roots u ∈ L.roots ++ L.fwds :=
  List.mem_append_left _ (rootAt_mem hu)

theorem GlobR.fwd_mem {L : LayR} {u : Nat} (hu : u < L.fwds.length) : rootAt L.fwds u ∈ L.roots ++ L.fwds :=
  List.mem_append_right _ (rootAt_mem hu)

theorem rootAt_mem_append_idx {l1 l2 : List Nat} {i : Nat} (h : i < l1.length) :
    rootAt (l1 ++ l2) i = rootAt l1 i := by
  simp [rootAt, List.getD_eq_getElem?_getD, List.getElem?_append_left h]

theorem GlobR.root_ne_cob {L : LayR} {cobs w} (g : Glob (L.roots ++ L.fwds) cobs w) {u i : Nat}
    (hu : u < L.roots.length) (hi : i < cobs.length) : rootAt L.roots u ≠ rootAt cobs i :=
  (List.nodup_append.1 g.nodup).2.2 _ (GlobR.root_mem hu) _ (rootAt_mem hi)

theorem GlobR.fwd_ne_cob {L : LayR} {cobs w} (g : Glob (L.roots ++ L.fwds) cobs w) {u i : Nat}
    (hu : u < L.fwds.length) (hi : i < cobs.length) : rootAt L.fwds u ≠ rootAt cobs i :=
  (List.nodup_append.1 g.nodup).2.2 _ (GlobR.fwd_mem hu) _ (rootAt_mem hi)

theorem cells_fresh {l l' : List Nat} {n : Nat} (hn : l.Nodup) (hg : ∀ c ∈ l, 10 ≤ c ∧ c < n) (h10 : 10 ≤ n)
    (p : l'.Perm (n :: l)) : l'.Nodup ∧ ∀ c ∈ l', 10 ≤ c ∧ c < n + 1 := by
  refine ⟨p.nodup_iff.2 (List.nodup_cons.2 ⟨fun hm => Nat.lt_irrefl _ (hg n hm).2, hn⟩), fun c hc => ?_⟩
  rcases List.mem_cons.1 (p.mem_iff.1 hc) with rfl | hc
  · omega
  · have := hg c hc; omega

def JR (L : LayR) : Nat → Prop := InList (L.roots ++ L.fwds)
/-- the cells of a replay connectable's users' side: the `ReplaySubject`'s five and the per-subscription ones -/
def KRL (L : LayR) (i : Nat) : Prop := (2 ≤ i ∧ i ≤ 6) ∨ (10 ≤ i ∧ i ∈ L.sbs ++ L.acs)

/-- the bookkeeping of the lists: allocated, distinct, above the fixed cells; the armed flag of the subscription whose
    `sbsc` is not stored yet has not been allocated -/
structure LayOk (L : LayR) (unst : Option Nat) (w : World) : Prop where
  lenF : L.fwds.length = L.roots.length
  lenS : L.sbs.length = L.roots.length
  lenA : L.acs.length + (if unst.isSome then 1 else 0) = L.roots.length
  unstLast : ∀ n, unst = some n → n + 1 = L.roots.length
  cellsNodup : (L.sbs ++ L.acs).Nodup
  cellsGe : ∀ c ∈ L.sbs ++ L.acs, 10 ≤ c ∧ c < w.cells.length

section layok
variable {L : LayR} {unst : Option Nat} {w : World}

theorem LayOk.stored_lt (h : LayOk L unst w) {u : Nat} (hu : u < L.roots.length) (hst : unst ≠ some u) :
    u < L.acs.length := by
  have hl := h.lenA
  cases unst with
  | none => simp at hl; omega
  | some n =>
    have := h.unstLast n rfl
    have : u ≠ n := fun e => hst (e ▸ rfl)
    simp at hl; omega

theorem LayOk.sb_mem (h : LayOk L unst w) {u : Nat} (hu : u < L.roots.length) : rootAt L.sbs u ∈ L.sbs ++ L.acs :=
  List.mem_append_left _ (rootAt_mem (h.lenS ▸ hu))

theorem LayOk.ac_mem (h : LayOk L unst w) {u : Nat} (hu : u < L.roots.length) (hst : unst ≠ some u) :
    rootAt L.acs u ∈ L.sbs ++ L.acs :=
  List.mem_append_right _ (rootAt_mem (h.stored_lt hu hst))

theorem LayOk.sep {cobs} (h : LayOk L unst w) (g : Glob (L.roots ++ L.fwds) cobs w) :
    Sep Sp (L.lay unst) L.roots.length := by
  obtain ⟨hs, ha, hsa⟩ := List.nodup_append.1 h.cellsNodup
  have lf := fun {u} (hu : u < L.roots.length) => (h.lenF ▸ hu : u < L.fwds.length)
  have ls := fun {u} (hu : u < L.roots.length) => (h.lenS ▸ hu : u < L.sbs.length)
  exact
    { ne := by decide
      obs := fun hu hu' e =>
        ⟨fun x => e (GlobR.root_inj g hu hu' x), fun _ => GlobR.root_ne_fwd g hu (lf hu'),
         fun _ _ x => e (GlobR.fwd_inj g (lf hu) (lf hu') x)⟩
      cells := fun hu hu' e _ hst' =>
        ⟨hsa _ (rootAt_mem (ls hu)) _ (rootAt_mem (h.stored_lt hu' hst')),
         fun hst x => e (rootAt_inj ha (h.stored_lt hu hst) (h.stored_lt hu' hst') x)⟩
      sbs := fun hu hu' e _ _ x => e (rootAt_inj hs (ls hu) (ls hu') x)
      self := fun hu _ =>
        ⟨GlobR.root_ne_fwd g hu (lf hu),
         fun x => by have := (h.cellsGe _ (h.sb_mem hu)).1; change rootAt L.sbs _ = 2 at x; omega,
         fun hst => ⟨hsa _ (rootAt_mem (ls hu)) _ (rootAt_mem (h.stored_lt hu hst)),
           fun x => by have := (h.cellsGe _ (h.ac_mem hu hst)).1; change rootAt L.acs _ = 2 at x; omega,
           fun x => by have := (h.cellsGe _ (h.ac_mem hu hst)).1; change rootAt L.acs _ = 3 at x; omega⟩⟩
      sbS := fun hu _ x => by have := (h.cellsGe _ (h.sb_mem hu)).1; change rootAt L.sbs _ = 3 at x; omega
      dirNoReg := nofun }

theorem LayOk.J_sub (h : LayOk L unst w) {j : Nat} (hj : (L.lay unst).J L.roots.length j) : j ∈ L.roots ++ L.fwds := by
  obtain ⟨u, hu, rfl | ⟨_, rfl⟩⟩ := hj
  · exact GlobR.root_mem hu
  · exact GlobR.fwd_mem (h.lenF ▸ hu)

theorem LayOk.K_sub (h : LayOk L unst w) {i : Nat} (hi : (L.lay unst).K Sp L.roots.length i) : KRL L i := by
  rcases hi with rfl | rfl | ⟨u, hu, ⟨_, rfl⟩ | ⟨hst, rfl⟩⟩
  · exact .inl ⟨by decide, by decide⟩
  · exact .inl ⟨by decide, by decide⟩
  · exact .inr ⟨(h.cellsGe _ (h.sb_mem hu)).1, h.sb_mem hu⟩
  · exact .inr ⟨(h.cellsGe _ (h.ac_mem hu hst)).1, h.ac_mem hu hst⟩

theorem LayOk.touch {w'} (h : LayOk L unst w) (hl : w.cells.length ≤ w'.cells.length) : LayOk L unst w' :=
  { h with cellsGe := fun c hc => ⟨(h.cellsGe c hc).1, Nat.lt_of_lt_of_le (h.cellsGe c hc).2 hl⟩ }

theorem rsepR (h : LayOk L unst w) : RSep rR (L.lay unst) L.roots.length where
  ie := by decide
  ic := by decide
  ec := by decide
  free := fun i hi hk => by
    have h6 : i = 4 ∨ i = 5 ∨ i = 6 := hi
    rcases hk with e | e | ⟨u, hu, ⟨_, e⟩ | ⟨hst, e⟩⟩
    · change i = 2 at e; omega
    · change i = 3 at e; omega
    · have := (h.cellsGe _ (h.sb_mem hu)).1; change i = rootAt L.sbs u at e; omega
    · have := (h.cellsGe _ (h.ac_mem hu hst)).1; change i = rootAt L.acs u at e; omega

end layok

/-- The users' side of a replay connectable; `pend` = a user whose `subscribe` has not returned yet. -/
structure UsersR (L : LayR) (pend unst : Option Nat) (w : World) (s : SubjM.State) : Prop where
  up : UPs Sp (L.lay unst) False L.roots.length pend w s
  store : RStore rR w s
  lay : LayOk L unst w
  regBound : ∀ p ∈ s.observers, p.2 < L.roots.length   -- for `rsEmit`'s `hb`, as in `UsersP`

theorem UsersR.init {w : World} (h2 : w.cells[2]? = some Data.lnil) (h3 : w.cells[3]? = some (Data.int 0))
    (h4 : w.cells[4]? = some Data.lnil) (h5 : w.cells[5]? = some Data.lnil) (h6 : w.cells[6]? = some (Data.bool false))
    (hu : w.users = []) (ht : w.trace = []) : UsersR ⟨[], [], [], []⟩ none none w {} :=
  ⟨UP.init h2 h3 hu ht, ⟨h4, h5, h6⟩, ⟨rfl, rfl, rfl, nofun, List.nodup_nil, nofun⟩, nofun⟩

section side
variable {L : LayR} {pend unst : Option Nat} {w : World} {s : SubjM.State}

theorem UsersR.step {J K : Nat → Prop} {w' : World} (U : UsersR L pend unst w s) (t : Step J K w w')
    (hu : w'.users = w.users) (hl : ∀ u, logOf w' u = logOf w u) (hJ : ∀ j ∈ L.roots ++ L.fwds, ¬ J j)
    (hK : ∀ i, KRL L i → ¬ K i) : UsersR L pend unst w' s :=
  { up := U.up.step t hu hl (fun j hj => hJ j (U.lay.J_sub hj)) fun i hi => hK i (U.lay.K_sub hi)
    store := U.store.frame fun i hi => by
      have six : 6 < w.cells.length := lt_of_getElem?_some U.store.cellC
      have h6 : i = 4 ∨ i = 5 ∨ i = 6 := hi
      exact t.cells i (by omega) (hK i (.inl (by omega)))
    lay := U.lay.touch t.cellsLen
    regBound := U.regBound }

/-- the source observer's callback on a replay connectable = `SubjM.emit .replay` -/
theorem emitR_spec {cobs} (hh : SlotReads w.held) (g : Glob (L.roots ++ L.fwds) cobs w) (U : UsersR L pend unst w s)
    (ev : Ev) :
    WP (codeBody ev fnR feR fcR) w (fun w' => UsersR L pend unst w' (emit .replay s ev) ∧ Touch (JR L) (KRL L) w w') :=
  (rsEmit (U.lay.sep g) (rsepR U.lay) hh U.up U.store rfl ev
    fun p hp hge => absurd (U.regBound p hp) (Nat.not_lt.2 hge)).conseq fun w' ⟨U', R', t⟩ =>
    ⟨⟨U', R', U.lay.touch (Nat.le_of_eq t.cellsLen.symm), fun p hp => U.regBound p (emit_observers_sub _ _ _ p hp)⟩,
      t.mono (fun _ => U.lay.J_sub) fun i hi => .inl (by rcases hi with rfl | rfl | rfl | rfl <;> decide)⟩

end side

def replaySide (L : LayR) (pend unst : Option Nat) : UsersSide where
  kind := .replay
  U := UsersR L pend unst
  G := L.roots ++ L.fwds
  Kc := KRL L
  fn := fnR
  fe := feR
  fc := fcR
  kc2 := fun i hi => by rcases hi with hi | hi <;> omega
  lt := fun U hi => by
    rcases hi with hi | hi
    · have := lt_of_getElem?_some U.store.cellC; show _ < _; have : rR.wasCompleted = 6 := rfl; omega
    · exact (U.lay.cellsGe _ hi.2).2
  two := fun U => by have := lt_of_getElem?_some U.store.cellC; have : rR.wasCompleted = 6 := rfl; omega
  step := UsersR.step
  emit := fun ev hh g U => emitR_spec hh g U ev

def rcR : RefC := ⟨7, 8, 9⟩

theorem rcR_ok : RcOk rcR := ⟨by decide, by decide, by decide, by decide, by decide, by decide⟩

theorem rcR_KRL (L : LayR) : ∀ i, RcCells rcR i → ¬ KRL L i := by
  intro i hi hk
  rcases hi with rfl | rfl | rfl <;> rcases hk with ⟨_, h⟩ | ⟨h, _⟩ <;> exact absurd h (by decide)

def RelR (src : ConnM.Src) (L : LayR) (cobs cacs : List Nat) (armed : List Bool) (pend unst : Option Nat)
    (Hd : List (LockId × Bool)) (w : World) (st : ConnM.State) : Prop :=
  RcInv src (replaySide L pend unst) rcR rcR_ok Sp rR.observable cobs cacs armed Hd w st

/-! ### a test user's `subscribe` under way

`reg`: `Subject::observable`'s closure has reached `on_subscribe(len)` for the freshly made forwarder (root observer, `sbsc`
cell, forwarder allocated; the forwarder is in the inner map; `sbsc` is still `None`); `stored`: `sbsc` is stored for the
pending subscription; `ready`: `subscribe` has returned. -/

def LayR.store (L : LayR) (a : Nat) : LayR := { L with acs := L.acs ++ [a] }

/-- the record of a subscription that `subscribeA .replay` has just registered under serial `s1` -/
def regRec (s1 : Nat) : ObsSt := { seen := true, alive := true, hook := true, inAlive := true, inHook := some s1 }

def LayR.reg (L : LayR) (w : World) : LayR :=
  ⟨L.roots ++ [w.obs.length], L.fwds ++ [w.obs.length + 1], L.sbs ++ [w.cells.length], L.acs⟩

theorem LayR.reg_root (L : LayR) (w : World) : rootAt (L.reg w).roots L.roots.length = w.obs.length :=
  rootAt_append_last ..

theorem LayR.reg_fwd {L : LayR} (w : World) (h : L.fwds.length = L.roots.length) :
    rootAt (L.reg w).fwds L.roots.length = w.obs.length + 1 :=
  h ▸ rootAt_append_last ..

theorem LayR.reg_sb {L : LayR} (w : World) (h : L.sbs.length = L.roots.length) :
    rootAt (L.reg w).sbs L.roots.length = w.cells.length :=
  h ▸ rootAt_append_last ..

def regWorld (L : LayR) (w : World) (observers : List (Nat × Nat)) (serial : Nat) : World :=
  { w with
    obs := w.obs ++ [ownObs w.users.length w.cells.length (regRec (serial + 1)),
                     fwdObs Sp w.obs.length (regRec (serial + 1))]
    users := w.users ++ [⟨w.obs.length, noReact, false, true⟩]
    cells := ((w.cells ++ [Data.lnil]).set 3 (.int ((serial + 1 : Nat) : Int))).set 2
      (encMap (mapL L observers ++ [(serial + 1, w.obs.length + 1)])) }

theorem mapL_reg (L : LayR) (w : World) (l : List (Nat × Nat)) (k : Nat) (hlenF : L.fwds.length = L.roots.length)
    (hl : ∀ p ∈ l, p.2 < L.roots.length) :
    mapL (L.reg w) (l ++ [(k, L.roots.length)]) = mapL L l ++ [(k, w.obs.length + 1)] := by
  simp only [mapL, List.map_append, List.map_cons, List.map_nil]
  congr 1
  · exact List.map_congr_left fun p hp => by
      show (p.1, rootAt (L.fwds ++ [_]) p.2) = _; rw [rootAt_append_lt _ _ (hlenF ▸ hl p hp)]
  · show [(k, rootAt (L.fwds ++ [_]) L.roots.length)] = _; rw [← hlenF, rootAt_append_last]

theorem glob_reg {L : LayR} {cobs w} (g : Glob (L.roots ++ L.fwds) cobs w) (observers serial) :
    Glob ((L.reg w).roots ++ (L.reg w).fwds) cobs (regWorld L w observers serial) := by
  have hp : ((L.roots ++ [w.obs.length]) ++ (L.fwds ++ [w.obs.length + 1])).Perm
      (w.obs.length :: (w.obs.length + 1) :: (L.roots ++ L.fwds)) := by
    rw [List.append_assoc]
    exact List.perm_middle.trans ((List.append_assoc .. ▸ List.perm_append_singleton _ (L.roots ++ L.fwds)).cons _)
  exact g.push (k := 2) (w' := regWorld L w observers serial) rfl (by simp [regWorld]) (hp.append_right cobs)

theorem ext_reg (L : LayR) (w : World) (hF : L.fwds.length = L.roots.length) (hS : L.sbs.length = L.roots.length) :
    Ext (L.lay none) ((L.reg w).lay (some L.roots.length)) (· < L.roots.length) where
  dir := rfl
  root := fun _ hu => rootAt_append_lt _ _ hu
  reg := fun _ _ => Iff.rfl
  arm := fun _ hu => ⟨fun _ => nofun, fun _ e => Nat.lt_irrefl _ (Option.some.inj e ▸ hu)⟩
  fwd := fun _ hu _ => rootAt_append_lt _ _ (hF ▸ hu)
  sb := fun _ hu _ => rootAt_append_lt _ _ (hS ▸ hu)
  ac := fun _ _ _ => rfl

theorem UsersR.reg {L cobs w} {s : SubjM.State} (g : Glob (L.roots ++ L.fwds) cobs w) (U : UsersR L none none w s)
    (h9 : 9 < w.cells.length) :
    UsersR (L.reg w) (some L.roots.length) (some L.roots.length) (regWorld L w s.observers s.serial)
      { s with serial := s.serial + 1
               observers := s.observers ++ [(s.serial + 1, L.roots.length)]
               obs := upd s.obs L.roots.length (regRec (s.serial + 1)) } := by
  have Y := U.lay
  have hacsl : L.acs.length = L.roots.length := by have := Y.lenA; simpa using this
  have hlen : (L.reg w).roots.length = L.roots.length + 1 := by simp [LayR.reg]
  have er := L.reg_root w
  have es := LayR.reg_sb w Y.lenS
  have ef := LayR.reg_fwd w Y.lenF
  have hcells : ∀ i, i < w.cells.length → i ≠ 2 → i ≠ 3 → (regWorld L w s.observers s.serial).cells[i]? = w.cells[i]? := by
    intro i hi h2 h3
    show (((w.cells ++ [_]).set 3 _).set 2 _)[i]? = _
    rw [set_get_other _ (Ne.symm h2), set_get_other _ (Ne.symm h3), get_app_lt _ _ _ hi]
  obtain ⟨hnd, hge⟩ := cells_fresh (l' := (L.reg w).sbs ++ (L.reg w).acs) Y.cellsNodup Y.cellsGe (by omega)
    (by simp [LayR.reg])
  refine
    { up := ?_
      store := U.store.frame fun i hi => by
        have h6 : i = 4 ∨ i = 5 ∨ i = 6 := hi
        exact hcells i (by omega) (by omega) (by omega)
      lay :=
        { lenF := by simp [LayR.reg, Y.lenF], lenS := by simp [LayR.reg, Y.lenS], lenA := by simp [LayR.reg, hacsl]
          unstLast := fun m hm => by rw [hlen, ← Option.some.inj hm]
          cellsNodup := hnd
          cellsGe := fun c hc => by simpa [regWorld] using hge c hc }
      regBound := fun p hp => by
        rw [hlen]
        rcases List.mem_append.1 hp with hp | hp
        · have := U.regBound p hp; omega
        · simp at hp; subst hp; simp }
  rw [UPs, hlen]
  refine U.up.grow (Y.sep g) (ext_reg L w Y.lenF Y.lenS) (fun j hj => get_app_lt _ _ _ hj) hcells
    (fun u hu => get_app_lt _ _ _ (U.up.nUsers ▸ hu)) (by simp [regWorld, U.up.nUsers]) (fun _ _ => rfl)
    (by rw [lay_map, mapL_reg L w _ _ Y.lenF U.regBound]
        exact set_get_same _ (by rw [set_get_other _ (by decide), get_app_lt _ _ _ (by omega)]; exact U.up.cellO))
    (by show (((w.cells ++ [_]).set 3 _).set 2 _)[3]? = _
        rw [set_get_other _ (by decide)]
        exact set_get_same _ (by rw [get_app_lt _ _ _ (by omega)]; exact U.up.cellS))
    ?_
    (fun p hp => by
      rcases List.mem_append.1 hp with hp | hp
      · have := U.up.keys p hp; show p.1 ≤ s.serial + 1; omega
      · simp at hp; subst hp; exact Nat.le_refl _)
    (fun _ _ _ => trivial)
  exact
    { user := by
        refine ⟨false, true, ?_, fun e => absurd rfl e, fun _ => rfl, False.elim⟩
        show (regWorld ..).users[_]? = some (User.mk (rootAt (L.reg w).roots _) _ _ _)
        rw [er, ← U.up.nUsers]; simp [regWorld]
      root := by
        show (regWorld ..).obs[rootAt (L.reg w).roots _]? = some (ownObs _ (rootAt (L.reg w).sbs _) _)
        rw [er, es, ← U.up.nUsers]; simp [regWorld]
      fwd := fun _ => by
        show (regWorld ..).obs[rootAt (L.reg w).fwds _]? = some (fwdObs Sp (rootAt (L.reg w).roots _) _)
        rw [ef, er]; simp [regWorld]
      stored := fun ha => absurd rfl ha
      unstored := fun _ _ => ⟨by
        show (regWorld ..).cells[rootAt (L.reg w).sbs _]? = _
        rw [es]
        show (((w.cells ++ [_]).set 3 _).set 2 _)[_]? = _
        rw [set_get_other _ (by omega), set_get_other _ (by omega), get_app0]; rfl, rfl⟩
      unreg := fun hn => absurd trivial hn
      log := by show logOf w _ = _; rw [U.up.quiet _ (Nat.le_refl _)]; rfl
      seen := rfl
      dead := fun hh => by cases hh }

theorem rootAt_getD_lt {l : List Nat} {x i : Nat} (h : i < l.length) : rootAt (l ++ [x]) i = rootAt l i :=
  rootAt_append_lt l x h

theorem ext_store (L : LayR) (a n : Nat) (hA : L.acs.length = n) :
    Ext (L.lay (some n)) ((L.store a).lay none) (fun u => u < n + 1 ∧ u ≠ n) where
  dir := rfl
  root := fun _ _ => rfl
  reg := fun _ _ => Iff.rfl
  arm := fun u hu => ⟨fun _ e => hu.2 (Option.some.inj e).symm, fun _ => nofun⟩
  fwd := fun _ _ _ => rfl
  sb := fun _ _ _ => rfl
  ac := fun u hu _ => rootAt_append_lt _ _ (by omega)

/-- the world once `sbsc` of the pending subscription `n` is stored: the armed flag is allocated at the end -/
def storeWorld (L : LayR) (w : World) (n : Nat) : World :=
  { w with cells := (w.cells ++ [Data.bool true]).set (rootAt L.sbs n) (hdl (rootAt L.fwds n) w.cells.length) }

theorem UsersR.stored {L cobs pend w n} {s : SubjM.State} (g : Glob (L.roots ++ L.fwds) cobs w)
    (U : UsersR L pend (some n) w s) :
    UsersR (L.store w.cells.length) pend none (storeWorld L w n)
      { s with obs := upd s.obs n { s.obs n with armed := true } } := by
  have Y := U.lay
  have hn : n + 1 = L.roots.length := Y.unstLast n rfl
  have hnl : n < L.roots.length := by omega
  have hacsl : L.acs.length = n := by have := Y.lenA; simp at this; omega
  have hsbn := Y.cellsGe _ (Y.sb_mem hnl)
  have UN := U.up.users n hnl
  have hc : ∀ i, i < w.cells.length → i ≠ rootAt L.sbs n → (storeWorld L w n).cells[i]? = w.cells[i]? :=
    fun i h2 h1 => by show ((w.cells ++ _).set _ _)[i]? = _; rw [set_get_other _ (Ne.symm h1), get_app_lt _ _ _ h2]
  have hacn : rootAt (L.acs ++ [w.cells.length]) n = w.cells.length := by rw [← hacsl, rootAt_append_last]
  obtain ⟨hnd, hge⟩ := cells_fresh Y.cellsNodup Y.cellsGe (by omega)
    (List.append_assoc .. ▸ List.perm_append_singleton w.cells.length (L.sbs ++ L.acs) :
      (L.sbs ++ (L.acs ++ [w.cells.length])).Perm _)
  refine
    { up := ?_
      store := U.store.frame fun i hi => by
        have h6 : i = 4 ∨ i = 5 ∨ i = 6 := hi
        exact hc i (by omega) (by omega)
      lay :=
        { Y with
          lenA := by simp [LayR.store, hacsl]; omega
          unstLast := fun _ hx => by cases hx
          cellsNodup := hnd
          cellsGe := fun c hc => by simpa [storeWorld] using hge c hc }
      regBound := U.regBound }
  have X := ext_store L w.cells.length n hacsl
  rw [hn] at X
  refine U.up.patchL (Y.sep g) hnl X ((hc 2 (by omega) (by omega)).trans U.up.cellO)
    (fun i hi _ h2 _ => hc i hi fun e => h2 ⟨trivial, e⟩) rfl (fun _ _ => rfl) (fun _ _ _ => rfl) (fun _ _ => rfl) ?_
    U.up.keys fun _ _ _ => trivial
  exact
    { UN with
      stored := fun _ =>
        ⟨by show (storeWorld L w n).cells[rootAt L.sbs n]? = some (hdl (rootAt L.fwds n) (rootAt (L.acs ++ _) n))
            rw [hacn]
            exact set_get_same (x := Data.lnil) _ (by
              rw [get_app_lt _ _ _ hsbn.2]; exact (UN.unstored trivial (fun a => a rfl)).1),
         by show (storeWorld L w n).cells[rootAt (L.acs ++ _) n]? = _
            rw [hacn]
            exact (set_get_other _ (by omega)).trans (get_app0 ..)⟩
      unstored := fun _ hna => absurd nofun hna }

theorem UsersR.ready {L unst w n} {s : SubjM.State} (U : UsersR L (some n) unst w s) :
    UsersR L none unst (w.setUser n fun u => { u with ready := true }) s :=
  { U with up := U.up.ready, store := U.store.frame fun _ _ => rfl, lay := { U.lay with } }

end Rx.CRef
