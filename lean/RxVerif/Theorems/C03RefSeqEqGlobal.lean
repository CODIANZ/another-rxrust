import RxVerif.Theorems.C03RefSeqEqChain
/-
C03-REF, sequence_equal: the global relation (test user, outer controller, zip controller, the `k` chains) and
the frame rule: a step confined to chain `j` leaves everything else alone; by it the chain's teardowns hold of `GRel`.
-/
namespace Rx.SeqRef
open Rx.Sim Rx.Ref Rx.Comb Rx.CRef

/-- an abstraction of the WORLD (the pure machine's state is `Over`; the two meet in `QRel`, C03RefSeqEqStep.lean) -/
structure GS where
  alive : Bool              -- the test user's root observer has its callbacks
  oL : Bool                 -- the outer controller's observer on zip has its callbacks
  oH : Bool                 -- ... its teardown (`zip.finalize`)
  oR : Bool                 -- the outer controller's map holds it
  reg : List Nat            -- the sources in zip's map
  qs : List (List Data)     -- zip's queues
  ch : Nat → CB             -- the chains
  out : List Ev             -- what the test user has received

def encQ (qs : List (List Data)) : Data := Data.ofList (qs.map Data.ofList)

/-- the world, with guards `hl` held, is the one `σ` describes; `jInj`: chains do not share a `just(None)` observer -/
structure GRel (k : Nat) (σ : GS) (hl : List (LockId × Bool)) (w : World) : Prop where
  status : w.status = .ok
  held : w.held = hl
  hlOk : ∀ p ∈ hl, p.1 = .cell (omap k) ∨ p.1 = .cell (zmap k)
  root : w.obs[0]? = some (rootObs k σ.alive)
  user : ∃ u, w.users[0]? = some u ∧ u.react = noReact
  log : logOf w 0 = σ.out
  oS : w.cells[oser k]? = some (.int ((1 : Nat) : Int))
  oM : w.cells[omap k]? = some (encMap (if σ.oR then [(0, 1)] else []))
  oF : w.slots[ofin k]? = some none
  o1 : w.obs[1]? = some (if σ.oL then outerObs k (optHook σ.oH (scZ k).finalize)
        else deadObs (optHook σ.oH (scZ k).finalize))
  zS : w.cells[zser k]? = some (.int (k : Int))
  zM : w.cells[zmap k]? = some (encMap (σ.reg.map fun i => (i, Zo i)))
  zQ : w.cells[zq k]? = some (encQ σ.qs)
  zF : w.slots[zfin k]? = some none
  regLt : ∀ i ∈ σ.reg, i < k
  chains : ∀ j, j < k → ChainAt k j (σ.ch j) w
  jInj : ∀ j j' p p', j < k → j' < k → (σ.ch j).jx = some p → (σ.ch j').jx = some p' → p.1 = p'.1 → j = j'

variable {k : Nat} {σ : GS} {hl : List (LockId × Bool)} {w : World}

def topAddrs (k : Nat) : List Nat := [oser k, omap k, zser k, zmap k, zq k]

def topVals (k : Nat) (σ : GS) : List Data :=
  [.int ((1 : Nat) : Int), encMap (if σ.oR then [(0, 1)] else []), .int (k : Int),
   encMap (σ.reg.map fun i => (i, Zo i)), encQ σ.qs]

theorem GRel.topTab (h : GRel k σ hl w) : Tab w.cells (topAddrs k) (topVals k σ) :=
  .cons h.oS (.cons h.oM (.cons h.zS (.cons h.zM (.cons h.zQ .nil))))

theorem topAddrs_range {c : Nat} (hc : c ∈ topAddrs k) : 2 * k ≤ c ∧ c < 2 * k + 5 := by
  simp only [topAddrs, oser, omap, zser, zmap, zq, List.mem_cons, List.not_mem_nil, or_false] at hc; omega

theorem GRel.chain_at (h : GRel k σ hl w) {j : Nat} (hj : j < k) {b : CB} (hb : σ.ch j = b) : ChainAt k j b w :=
  hb ▸ h.chains j hj

/-- `mser k j`, map_j's serial counter, lies in the block of chain `j` though `ChainAt` says nothing of it -/
theorem frame_range {j c : Nat} (hc : c ∈ cellAddrs k j ∨ c = mser k j) :
    (c = 2 * j ∨ c = 2 * j + 1) ∨ (2 * k + 5 + 6 * j ≤ c ∧ c < 2 * k + 5 + 6 * j + 6) :=
  hc.elim cellAddrs_range fun q => .inr (by rw [q, mser]; omega)

/-- chains `j ≠ j'` do not share cells -/
theorem cells_disj {j j' : Nat} (hj : j < k) (hj' : j' < k) (hne : j ≠ j') :
    ∀ c ∈ cellAddrs k j', ¬(c ∈ cellAddrs k j ∨ c = mser k j) := by
  intro c hc q
  have := cellAddrs_range hc; have := frame_range q
  omega

def GS.setCh (σ : GS) (j : Nat) (b : CB) : GS := { σ with ch := GRef.fupd σ.ch j b }

theorem GS.setCh_ch (σ : GS) (j : Nat) (b : CB) : (σ.setCh j b).ch j = b := GRef.fupd_same ..

theorem GS.setCh_setCh (σ : GS) (j : Nat) (a b : CB) : (σ.setCh j a).setCh j b = σ.setCh j b := by
  simp only [GS.setCh, GRef.fupd_fupd]

theorem jx_bound {j : Nat} {b : CB} {w : World} (h : ChainAt k j b w) {o : Nat} (ho : o ∈ (jl b).map (·.2)) :
    3 * k + 2 ≤ o :=
  (chainAt_iff.1 h).2.2.2 o ho

theorem mem_chainObs {j : Nat} {b : CB} {w : World} (h : ChainAt k j b w) {o : Nat} (ho : o ∈ chainObs k j b) :
    (o = 2 + j ∨ o = k + 2 + 2 * j ∨ o = k + 2 + 2 * j + 1) ∨ (3 * k + 2 ≤ o ∧ o ∈ (jl b).map (·.2)) := by
  simp only [chainObs, lowObs, List.mem_cons, Zo, Co, Mo] at ho
  rcases ho with q | q | q | q
  · exact .inl (.inl q)
  · exact .inl (.inr (.inl q))
  · exact .inl (.inr (.inr q))
  · exact .inr ⟨jx_bound h q, q⟩

/-- the observers of two different chains are different -/
theorem obs_disj (h : GRel k σ hl w) {j j' : Nat} (hj : j < k) (hj' : j' < k) (hne : j ≠ j') :
    ∀ o ∈ chainObs k j' (σ.ch j'), o ∉ chainObs k j (σ.ch j) := by
  intro o ho hq
  rcases mem_chainObs (h.chains j' hj') ho with q' | ⟨b', q'⟩ <;>
    rcases mem_chainObs (h.chains j hj) hq with q | ⟨b, q⟩
  · omega
  · omega
  · omega
  · -- both are `just(None)` observers
    cases hx : (σ.ch j).jx with
    | none => simp [jl, hx] at q
    | some p =>
      cases hx' : (σ.ch j').jx with
      | none => simp [jl, hx'] at q'
      | some p' =>
        simp only [jl, hx, hx', List.map_cons, List.map_nil, List.mem_singleton] at q q'
        exact hne (h.jInj j j' p p' hj hj' hx hx' (by rw [← q, ← q']))

/-- **frame rule**: a step that only touched cells and observers of chain `j`; `hJ`: its observer on `just(None)`, if
    it has one afterwards, is none of the other chains' -/
theorem GRel.chain_step_core (h : GRel k σ hl w) {j : Nat} (hj : j < k) {b' : CB} {w' : World} {cs os : List Nat}
    (hc : ChainAt k j b' w') (s : Same w w' cs os) (hcs : ∀ c ∈ cs, c ∈ cellAddrs k j ∨ c = mser k j)
    (hos : ∀ o ∈ os, o ∈ chainObs k j (σ.ch j))
    (hJ : ∀ a p p', a < k → a ≠ j → (σ.ch a).jx = some p → b'.jx = some p' → p.1 ≠ p'.1) :
    GRel k (σ.setCh j b') hl w' := by
  have T : Tab w'.cells (topAddrs k) (topVals k σ) := h.topTab.congr fun c hc => s.cells c fun q => by
    have := frame_range (hcs c q); have := topAddrs_range hc
    omega
  have ho0 : ∀ {o x}, o < 2 → w.obs[o]? = some x → w'.obs[o]? = some x := by
    intro o x h1 hx
    refine (s.obs o fun q => ?_).trans hx
    rcases mem_chainObs (h.chains j hj) (hos o q) with q | ⟨q, _⟩ <;> omega
  exact
  { status := s.status.trans h.status
    held := s.held.trans h.held
    hlOk := h.hlOk
    root := ho0 (by omega) h.root
    user := by rw [s.users]; exact h.user
    log := by have : logOf w' 0 = logOf w 0 := by simp only [logOf, s.trace]
              rw [this]; exact h.log
    oS := T.get (i := 0) rfl rfl
    oM := T.get (i := 1) rfl rfl
    oF := by rw [s.slots]; exact h.oF
    o1 := ho0 (by omega) h.o1
    zS := T.get (i := 2) rfl rfl
    zM := T.get (i := 3) rfl rfl
    zQ := T.get (i := 4) rfl rfl
    zF := by rw [s.slots]; exact h.zF
    regLt := h.regLt
    chains := by
      intro j' hj'
      show ChainAt k j' (GRef.fupd σ.ch j b' j') w'
      by_cases e : j' = j
      · subst e; rw [GRef.fupd_same]; exact hc
      · rw [GRef.fupd_other _ _ e]
        exact (h.chains j' hj').of_same s (fun c hc q => cells_disj hj hj' (Ne.symm e) c hc (hcs c q))
          fun o ho q => obs_disj h hj hj' (Ne.symm e) o ho (hos o q)
    jInj := by
      intro a a' p p' ha ha' hp hp' hpp
      change (GRef.fupd σ.ch j b' a).jx = some p at hp
      change (GRef.fupd σ.ch j b' a').jx = some p' at hp'
      by_cases e : a = j <;> by_cases e' : a' = j
      · rw [e, e']
      · rw [e, GRef.fupd_same] at hp; rw [GRef.fupd_other _ _ e'] at hp'
        exact absurd hpp.symm (hJ a' p' p ha' e' hp' hp)
      · rw [GRef.fupd_other _ _ e] at hp; rw [e', GRef.fupd_same] at hp'
        exact absurd hpp (hJ a p p' ha e hp hp')
      · rw [GRef.fupd_other _ _ e] at hp; rw [GRef.fupd_other _ _ e'] at hp'
        exact h.jInj a a' p p' ha ha' hp hp' hpp }

/-- ... that left the `just(None)` observer of the chain where it was -/
theorem GRel.chain_step (h : GRel k σ hl w) {j : Nat} (hj : j < k) {b b' : CB} (hb : σ.ch j = b) {w' : World}
    {cs os : List Nat} (hc : ChainAt k j b' w') (s : Same w w' cs os)
    (hcs : ∀ c ∈ cs, c ∈ cellAddrs k j ∨ c = mser k j) (hos : ∀ o ∈ os, o ∈ chainObs k j b)
    (hjx : b'.jx.map (·.1) = b.jx.map (·.1)) :
    GRel k (σ.setCh j b') hl w' := by
  subst hb
  refine h.chain_step_core hj hc s hcs hos fun a p p' ha e hp hp' hpp => ?_
  have hr : (σ.ch j).jx.map (·.1) = some p'.1 := by rw [← hjx, hp']; rfl
  obtain ⟨r, hr, e'⟩ := Option.map_eq_some_iff.1 hr
  exact e (h.jInj a j p r ha hj hp hr (hpp.trans e'.symm))

theorem chainCells_sub (k j : Nat) : ∀ c ∈ chainCells k j, c ∈ cellAddrs k j := by
  intro c hc; simp only [chainCells, cellAddrs, List.mem_cons, List.not_mem_nil, or_false] at hc ⊢
  rcases hc with q | q | q <;> simp [q]

/-- the guards held are on the maps of the two upper controllers, outside every chain -/
theorem GRel.hf (h : GRel k σ hl w) (j : Nat) : HF (chainCells k j) w := by
  intro p hp
  rw [h.held] at hp
  have hn : ∀ c ∈ chainCells k j, c ≠ omap k ∧ c ≠ zmap k := by
    simp only [chainCells, omap, zmap, mmap, cmap, List.mem_cons, List.not_mem_nil, or_false]; omega
  rcases h.hlOk p hp with q | q
  · exact ⟨_, q, fun r => (hn _ r).1 rfl⟩
  · exact ⟨_, q, fun r => (hn _ r).2 rfl⟩

/-- the teardowns of chain `j` that the upper controllers and the paths back from a terminal event run, in the global
    relation -/
theorem GRel.unsubZ (h : GRel k σ hl w) {j : Nat} (hj : j < k) {b : CB} (hb : σ.ch j = b) :
    WP (.obsUnsub (Zo j) .done) w (GRel k (σ.setCh j (tZ b)) hl) :=
  (unsubZ_spec (h.chain_at hj hb) hj (h.hf j)).conseq fun _ ⟨c, s⟩ =>
    h.chain_step hj hb c s (fun c hc => .inl (chainCells_sub k j c hc)) (fun _ q => q) (tZ_le _).jx

theorem GRel.finConcat (h : GRel k σ hl w) {j : Nat} (hj : j < k) {b : CB} (hb : σ.ch j = b) (hz : b.zL = false) :
    WP (scC k j).finalize w (GRel k (σ.setCh j (tFC b)) hl) :=
  (finConcat_spec (h.chain_at hj hb) hj hz (h.hf j)).conseq fun _ ⟨c, s⟩ =>
    h.chain_step hj hb c s (fun c hc => .inl (chainCells_sub k j c hc)) (fun _ q => .tail _ q) (tFC_jx _)

theorem GRel.finMap (h : GRel k σ hl w) {j : Nat} (hj : j < k) {b : CB} (hb : σ.ch j = b) (hc : b.cL = false) :
    WP (scM k j).finalize w (GRel k (σ.setCh j (tFM b)) hl) :=
  (finMap_spec (h.chain_at hj hb) hj hc ((h.hf j).mono fun _ q => .tail _ q)).conseq fun _ ⟨c, s⟩ =>
    h.chain_step hj hb c s (fun c hc => .inl (chainCells_sub k j c (.tail _ hc)))
      (fun o ho => by simp only [List.mem_singleton] at ho; simp [chainObs, lowObs, ho]) (tFM_le _).jx

end Rx.SeqRef
