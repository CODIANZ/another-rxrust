import RxVerif.Theorems.SimChainStage
import RxVerif.Theorems.C04k
/-
SIM for chains (pure side): composition over the stages — the subscriber of the flat chain machine sees
`chainRun Ks s`.
-/
namespace Rx.Chain
open Rx.Sim

theorem evsStream_toEvs (s : Stream) : evsStream s.toEvs = s := by
  obtain ⟨xs, e⟩ := s
  induction xs with
  | nil => cases e <;> rfl
  | cons x xs ih =>
    simp only [Stream.toEvs, List.map_cons, List.cons_append, evsStream] at ih ⊢
    rw [ih]

/-- nothing has happened yet at or below observer `j` -/
structure Fresh (ks : Nat → DK) (j : Nat) (x : CSt) : Prop where
  sub : ∀ i, i ≤ j → x.sub i = true
  rg : ∀ i, i < j → x.rg i = true
  st : ∀ i, i < j → x.st i = (ks i).init

/-- a log with its terminal (if any) last is recorded by the subscriber as it is -/
theorem pf0_out (n : Nat) (ks : Nat → DK) : ∀ (l : List Ev) (x : CSt), C04.TerminalLast l → x.sub 0 = true →
    (pf n ks 0 l x).out = x.out ++ l
  | [], _, _, _ => (List.append_nil _).symm
  | [e], x, _, hs => by rw [pf_cons, pf_nil, deliver_zero]; simp only [hs, ↓reduceIte]
  | e :: e' :: l, x, h, hs => by
    have ht : e.isTerminal = false := h e (by simp)
    rw [pf_cons, deliver_zero]
    simp only [hs, ↓reduceIte]
    rw [pf0_out n ks (e' :: l) _ (fun ev hev => h ev (by simp [hev]))
      (by show (got x 0 e).sub 0 = true; rw [got_sub_self, ht, hs]; rfl)]
    simp

/-- a kernel seen through its state cell runs like the kernel itself -/
theorem dk_feed {σ} (K : Kernel σ) (hK : Kernel.WellEncoded K) (xs : List Data) : ∀ (st : σ) (r : KRun),
    K.dk.kernel.feed (K.enc st) r xs = (K.enc (K.feed st r xs).1, (K.feed st r xs).2) := by
  induction xs with
  | nil => intro st r; rfl
  | cons x xs ih =>
    intro st r
    simp only [Kernel.feed]
    split
    · rfl
    · have e1 : (K.dk.kernel.onNext (K.enc st) x) = (K.enc (K.onNext st x).1, (K.onNext st x).2) := by
        show (K.enc (K.onNext (K.dec (K.enc st)) x).1, (K.onNext (K.dec (K.enc st)) x).2) = _
        rw [hK st]
      show K.dk.kernel.feed (K.dk.kernel.onNext (K.enc st) x).1
        (r.acts (K.dk.kernel.onNext (K.enc st) x).2) xs = _
      rw [e1]
      exact ih _ _

theorem dk_run {σ} (K : Kernel σ) (hK : Kernel.WellEncoded K) (s : Stream) : K.dk.kernel.run s = K.run s := by
  obtain ⟨xs, e⟩ := s
  have hf' : K.dk.kernel.feed K.dk.kernel.init {} xs = (K.enc (K.feed K.init {} xs).1, (K.feed K.init {} xs).2) :=
    dk_feed K hK xs K.init {}
  simp only [Kernel.run, hf']
  cases e with
  | silent => rfl
  | complete =>
    simp only [Kernel.finish]
    show (if _ then _ else KRun.acts _ (K.onComplete (K.dec (K.enc _))).2).out = _
    rw [hK]
  | error e =>
    simp only [Kernel.finish]
    show (if _ then _ else KRun.acts _ (K.onError (K.dec (K.enc _)) e).2).out = _
    rw [hK]

def AllWE (Ks : List AnyKernel) : Prop := ∀ A ∈ Ks, Kernel.WellEncoded A.K

theorem ksOf_cons_last (A : AnyKernel) (Ks : List AnyKernel) : ksOf (A :: Ks) Ks.length = A.K.dk := by
  have : (A :: Ks).reverse[Ks.length]? = some A := by
    rw [List.reverse_cons, ← List.length_reverse, List.getElem?_concat_length]
  simp only [ksOf, this]

theorem ksOf_cons_lt (A : AnyKernel) (Ks : List AnyKernel) (i : Nat) (hi : i < Ks.length) :
    ksOf (A :: Ks) i = ksOf Ks i := by
  have : (A :: Ks).reverse[i]? = Ks.reverse[i]? := by
    rw [List.reverse_cons, List.getElem?_append_left (by simpa using hi)]
  simp only [ksOf, this]

/-- one stage after the other from the source's end (`stage_sim`): `ks` need only agree with `ksOf Ks` on the stages
    of `Ks`, so that it can stay fixed while the list gets shorter -/
theorem stages_out (n : Nat) (ks : Nat → DK) : ∀ (Ks : List AnyKernel) (l : List Ev) (x : CSt), AllWE Ks →
    (∀ i, i < Ks.length → ks i = ksOf Ks i) → Fresh ks Ks.length x → C04.TerminalLast l →
    (pf n ks Ks.length l x).out = x.out ++ chainRunEvs Ks l := by
  intro Ks
  induction Ks with
  | nil => intro l x _ _ h hl; exact pf0_out n ks l x hl (h.sub 0 (Nat.le_refl _))
  | cons A Ks ih =>
    intro l x hK hks (h : Fresh ks (Ks.length + 1) x) _
    have hA : ks Ks.length = A.K.dk := (hks _ (Nat.lt_succ_self _)).trans (ksOf_cons_last A Ks)
    have hs := stage_sim n ks Ks.length x (h.sub _ (Nat.le_succ _)) (h.sub _ (Nat.le_refl _))
      (h.rg _ (Nat.lt_succ_self _)) (h.st _ (Nat.lt_succ_self _)) l
    rw [List.length_cons, hs.out, hA, dk_run A.K (hK A (by simp))]
    exact ih _ x (fun B hB => hK B (by simp [hB]))
      (fun i hi => (hks i (Nat.lt_succ_of_lt hi)).trans (ksOf_cons_lt A Ks i hi))
      ⟨fun i hi => h.sub i (by omega), fun i hi => h.rg i (by omega), fun i hi => h.st i (by omega)⟩
      (C04.run_terminalLast A.K _)

theorem fresh_init (n : Nat) (ks : Nat → DK) : Fresh ks n (CSt.init n ks) :=
  ⟨fun _ _ => rfl, fun _ _ => rfl, fun _ _ => rfl⟩

/-- model B for chains = the specification: the flat chain machine shows its subscriber `chainRun Ks s` -/
theorem chainFlat_out (Ks : List AnyKernel) (hK : AllWE Ks) (s : Stream) :
    (chainFlat Ks s).out = chainRun Ks s := by
  unfold chainFlat
  rw [scriptC_eq_pf,
    stages_out _ _ Ks _ _ hK (fun _ _ => rfl) (fresh_init _ _)
      (C02.id_spec s ▸ C04.run_terminalLast kId s)]
  exact List.nil_append _

end Rx.Chain
