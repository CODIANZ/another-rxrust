import RxVerif.Theorems.SimChainSetup
import RxVerif.Theorems.SimChainComp
import RxVerif.Theorems.SimChainCancel
/-
SIM for CHAINS: the object machine (model A) runs `src.op₁()…opₙ()` — any number of standard operators,
each the shape of src/operators/{map,filter,take,skip,…}.rs: one `StreamController::new`, one state cell,
one `new_observer`, `source.inner_subscribe` — exactly as the composition of the operators' kernel runs
(model B, `chainRun`) says, from ANY ready world, for ANY well-encoded kernels.

This file: the main theorems, from `chain_simFlat` (machine = flat chain machine of Kernel/Chain.lean), `chainFlat_out`
(flat chain machine = `chainRun`) and the cancellation cascade of `SimChainCancel`.
-/
namespace Rx.Chain
open Rx.Sim

/-- the observer handed to the script source (created last, `Ks.length` after the subscriber's root
    observer) is no longer subscribed -/
def sourceCancelled (Ks : List AnyKernel) (w w' : World) : Bool :=
  (w'.obs[w.obs.length + Ks.length]?.map Obs.isSub) == some false

theorem sourceCancelled_eq {Ks : List AnyKernel} {w w' : World} {b : Bool}
    (h : (w'.obs[w.obs.length + Ks.length]?).map Obs.isSub = some b) : sourceCancelled Ks w w' = !b := by
  simp only [sourceCancelled, h]; cases b <;> rfl

/-- SIM for chains, with the full flat state: status, guards, the subscriber's log, everybody else's log,
    and for EVERY observer of the chain whether it is still subscribed. -/
theorem chain_sim_full (Ks : List AnyKernel) (hK : AllWE Ks) (w : World) (hw : Ready w) (tag : Nat) (s : Stream) :
    ∃ N, ∀ fuel, N ≤ fuel →
      let w' := run fuel [subscribeChain Ks tag s] w
      w'.status = .ok ∧ w'.held = [] ∧
      logOf w' w.users.length = chainRun Ks s ∧
      (∀ s', s' ≠ w.users.length → logOf w' s' = logOf w s') ∧
      (∀ j, j ≤ Ks.length → (w'.obs[w.obs.length + j]?).map Obs.isSub = some ((chainFlat Ks s).sub j)) :=
  eventually_imp (chain_simFlat Ks w hw tag s) fun _ hr =>
    ⟨hr.status, hr.held, chainFlat_out Ks hK s ▸ hr.log, hr.others, fun _ hj => hr.isSub hj⟩

theorem chain_sim (Ks : List AnyKernel) (hK : AllWE Ks) (w : World) (hw : Ready w) (tag : Nat) (s : Stream) :
    ∃ N, ∀ fuel, N ≤ fuel →
      let w' := run fuel [subscribeChain Ks tag s] w
      w'.status = .ok ∧
      logOf w' w.users.length = chainRun Ks s ∧
      (∀ s', s' ≠ w.users.length → logOf w' s' = logOf w s') ∧
      Ready w' :=
  eventually_imp (chain_sim_full Ks hK w hw tag s) fun _ hr =>
    ⟨hr.1, hr.2.2.1, hr.2.2.2.1, ⟨hr.1, hr.2.1, run_closed inv_closed _ _ _ hw.inv⟩⟩

/-- C14 for chains: what a new subscriber of a chain sees does not depend on the world it subscribes in -/
theorem chain_subscribe_independent (Ks : List AnyKernel) (hK : AllWE Ks) (w₁ w₂ : World)
    (h₁ : Ready w₁) (h₂ : Ready w₂) (tag₁ tag₂ : Nat) (s : Stream) :
    ∃ N, ∀ fuel, N ≤ fuel →
      logOf (run fuel [subscribeChain Ks tag₁ s] w₁) w₁.users.length
        = logOf (run fuel [subscribeChain Ks tag₂ s] w₂) w₂.users.length :=
  eventually_imp (eventually_and (chain_sim Ks hK w₁ h₁ tag₁ s) (chain_sim Ks hK w₂ h₂ tag₂ s))
    fun _ h => h.1.2.1.trans h.2.2.1.symm

/-- C06 for chains, exact form: the source's observer ends up unsubscribed iff the flat chain machine
    (model B for chains, executable) says so. -/
theorem chain_sim_cancel_flat (Ks : List AnyKernel) (hK : AllWE Ks) (w : World) (hw : Ready w) (tag : Nat)
    (s : Stream) :
    ∃ N, ∀ fuel, N ≤ fuel →
      sourceCancelled Ks w (run fuel [subscribeChain Ks tag s] w) = !(chainFlat Ks s).sub Ks.length :=
  eventually_imp (chain_sim_full Ks hK w hw tag s) fun _ h => sourceCancelled_eq (h.2.2.2.2 Ks.length (Nat.le_refl _))

/-- C06 for chains: if the source delivered its own terminal, or the subscriber's log is terminated, or ANY
    observer of the chain (the subscriber's root observer, or the upstream observer of any stage) has been
    unsubscribed — i.e. some stage terminated early —, then the observer handed to the script source
    ends up unsubscribed: the cancellation has travelled all the way up.  (`AllAF`: every kernel aborts
    before it completes, true of every kernel of Kernel/Basic.lean; without it the claim is false, see
    `kBad_not_cancelled` in Theorems/Sim.lean.) -/
theorem chain_sim_cancel (Ks : List AnyKernel) (hK : AllWE Ks) (hA : AllAF Ks) (w : World) (hw : Ready w)
    (tag : Nat) (s : Stream) :
    ∃ N, ∀ fuel, N ≤ fuel →
      let w' := run fuel [subscribeChain Ks tag s] w
      (s.2 ≠ .silent ∨ terminated (chainRun Ks s) = true ∨
        (∃ j, j ≤ Ks.length ∧ (w'.obs[w.obs.length + j]?).map Obs.isSub = some false)) →
      sourceCancelled Ks w w' = true := by
  refine eventually_imp (chain_simFlat Ks w hw tag s) fun fuel hr => ?_
  intro w' hcase
  have hsrc : sourceCancelled Ks w w' = !(chainFlat Ks s).sub Ks.length :=
    sourceCancelled_eq (hr.isSub (Nat.le_refl _))
  have hdead : ∀ j, j ≤ Ks.length → (chainFlat Ks s).sub j = false → sourceCancelled Ks w w' = true := by
    intro j hj hd
    rw [hsrc, chainFlat_cascade Ks hA s j hj hd]; rfl
  rcases hcase with hs | ht | ⟨j, hj, hd⟩
  · rw [hsrc, chainFlat_source_terminal Ks s hs]; rfl
  · apply hdead 0 (Nat.zero_le _)
    cases hs0 : (chainFlat Ks s).sub 0 with
    | false => rfl
    | true =>
      -- an observer that still holds the subscriber's callbacks contradicts a terminated log (`Inv.live`)
      exfalso
      have hinv : Inv w' := run_closed inv_closed _ _ _ hw.inv
      have hh : ((layOf Ks w).obsAt (chainFlat Ks s) 0).holds w.users.length := by
        simp [Lay.obsAt, hs0, Obs.holds, HN.user?, Lay.hdlN, layOf]
      have hl := hinv.live _ _ _ (hr.obs 0 (Nat.zero_le _)) hh
      rw [show logOf w' w.users.length = chainRun Ks s from chainFlat_out Ks hK s ▸ hr.log, ht] at hl
      cases hl
  · exact hdead j hj (Option.some.inj ((hr.isSub hj).symm.trans hd))

/-! ### non-vacuity: a concrete 3-stage chain `map(inc).filter(even).take(2)` over a 5-item script -/

def AK {σ} (K : Kernel σ) : AnyKernel := ⟨σ, K⟩

def ex3 : List AnyKernel := [AK (kMap .inc), AK (kFilter .even), AK (kTake 2)]
def s5 : Stream := ([.int 1, .int 2, .int 3, .int 4, .int 5], .complete)

theorem ex3_we : AllWE ex3 := by
  intro A hA
  simp only [ex3, List.mem_cons, List.mem_nil_iff, or_false] at hA
  rcases hA with rfl | rfl | rfl
  · exact we_kMap _
  · exact we_kFilter _
  · exact we_kTake _

theorem ex3_af : AllAF ex3 := by
  intro A hA
  simp only [ex3, List.mem_cons, List.mem_nil_iff, or_false] at hA
  rcases hA with rfl | rfl | rfl
  · exact af_kMap _
  · exact af_kFilter _
  · exact af_kTake _

/-- the hypotheses of `chain_sim` / `chain_sim_cancel` are satisfiable -/
example : AllWE ex3 ∧ AllAF ex3 ∧ Ready ({} : World) := ⟨ex3_we, ex3_af, ready_empty⟩

/-- both sides of `chain_sim` evaluated: the machine's log, the specification, the flat chain machine -/
example :
    let w' := run 2000 [subscribeChain ex3 7 s5] {}
    w'.status = .ok ∧ w'.held = [] ∧
    logOf w' 0 = [.next (.int 2), .next (.int 4), .complete] ∧
    chainRun ex3 s5 = [.next (.int 2), .next (.int 4), .complete] ∧
    (chainFlat ex3 s5).out = [.next (.int 2), .next (.int 4), .complete] ∧
    terminated (chainRun ex3 s5) = true ∧
    sourceCancelled ex3 {} w' = true ∧ (chainFlat ex3 s5).sub 3 = false := by decide +kernel

/-- `take(2)` finishes early: over a SILENT 5-item source the source's observer is unsubscribed by the
    cascade alone (three `finalize`s up the chain), and the source was pulled only 3 times -/
example :
    let s : Stream := ([.int 1, .int 2, .int 3, .int 4, .int 5], .silent)
    let w' := run 2000 [subscribeChain ex3 7 s] {}
    logOf w' 0 = chainRun ex3 s ∧ logOf w' 0 = [.next (.int 2), .next (.int 4), .complete] ∧
    sourceCancelled ex3 {} w' = true ∧
    (w'.trace.filter fun r => r == .probe (7 * 4 + 1) (.bool true)).length = 3 := by decide +kernel

/-- a second chain subscribed in the world the first one left behind (hypothesis `Ready` of a non-empty world) -/
example :
    let w1 := run 2000 [subscribeChain ex3 7 s5] {}
    let w2 := run 2000 [subscribeChain [AK (kSkip 1), AK kCount] 8 s5] w1
    w1.status = .ok ∧ w1.held = [] ∧ logOf w2 0 = logOf w1 0 ∧
    logOf w2 1 = chainRun [AK (kSkip 1), AK kCount] s5 ∧ logOf w2 1 = [.next (.int 4), .complete] := by
  decide +kernel

/-- the empty chain is the script itself -/
example (s : Stream) : chainRun [] s = s.toEvs := rfl

/-- internal hypotheses are satisfiable: the world right after `userSub`, the fresh flat state -/
example : Built (layOf ex3 {}) 0 (subW (chainOp ex3 (oScript 7 true s5.toEvs)) {}) :=
  built_zero ex3 _ {} ready_empty
example : Fresh (ksOf ex3) 3 (CSt.init 3 (ksOf ex3)) := fresh_init _ _
example : HB 3 (fun j => j = 3) (CSt.init 3 (ksOf ex3)) := init_HB _ _

/-! ### the crate's derived operators ARE chains (Machine/Lib.lean), so `chain_sim` covers them -/

theorem oFirst_chain (src : Obsv) : oFirst src = chainOp [AK (kTake 1), AK kId] src := rfl
theorem oLast_chain (src : Obsv) : oLast src = chainOp [AK (kTakeLast 1), AK kId] src := rfl
theorem oElementAt_chain (k : Nat) (src : Obsv) :
    oElementAt k src = chainOp [AK (kTake k), AK (kSkip (k - 1)), AK kId] src := rfl

/-- e.g. `element_at(3)` (1-based) of a 5-item script: exactly the third item, then complete -/
example : chainRun [AK (kTake 3), AK (kSkip 2), AK kId] s5 = [.next (.int 3), .complete] := by decide +kernel

/-! ### Without `AllAF` `chain_sim_cancel` is false: a stage that completes first and aborts afterwards (`kBad`)
    terminates its subscriber, but the cancellation does not reach the source (cf. `kBad_not_cancelled`) -/
theorem chain_kBad_not_cancelled :
    let Ks := [AK (kMap .inc), AK kBad, AK kId]
    let s : Stream := ([.int 1, .int 2], .silent)
    let w' := run 2000 [subscribeChain Ks 0 s] {}
    logOf w' 0 = chainRun Ks s ∧ terminated (chainRun Ks s) = true ∧ sourceCancelled Ks {} w' = false := by
  decide +kernel

end Rx.Chain

#print axioms Rx.Chain.unsubO_spec
#print axioms Rx.Chain.deliver_spec
#print axioms Rx.Chain.loop_spec
#print axioms Rx.Chain.chain_simFlat
#print axioms Rx.Chain.stage_sim
#print axioms Rx.Chain.chainFlat_out
#print axioms Rx.Chain.chainFlat_cascade
#print axioms Rx.Chain.chain_sim_full
#print axioms Rx.Chain.chain_sim
#print axioms Rx.Chain.chain_subscribe_independent
#print axioms Rx.Chain.chain_sim_cancel_flat
#print axioms Rx.Chain.chain_sim_cancel
#print axioms Rx.Chain.chain_kBad_not_cancelled
