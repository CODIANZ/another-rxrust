import RxVerif.Theorems.C04Ref
/-
C04-REF: `oOnErrorResumeNext f (oScript ..)` of model A (Machine/Lib.lean, transliteration of
src/operators/on_error_resume_next.rs l.24-64) with the resume function mapping an error to another scripted
source REFINES the pure mirror `resumeRun` of Kernel/Retry.lean.
-/
namespace Rx.RetryRef
open Rx.Sim Rx.Ref

/-- the error closure of `on_error_resume_next` (on_error_resume_next.rs l.45-60): abort the failed observer,
    subscribe `f e` through a new one -/
def resumeE (sc : Sctl) (f : Nat → Obsv) (serial e : Nat) : Prog :=
  sc.abortObserve serial ;;
  sc.newObserver (fun _ xx => sc.sinkNext xx) (fun _ ee => sc.sinkError ee) (fun serial => sc.sinkComplete serial)
    fun o => (f e).sub o

/-- what `oOnErrorResumeNext f src` runs once its controller exists -/
def resumeP (sc : Sctl) (f : Nat → Obsv) (src : Obsv) : Prog :=
  sc.newObserver (fun _ x => sc.sinkNext x) (resumeE sc f) (fun serial => sc.sinkComplete serial) fun o => src.sub o

/-- the mirror's error closure of on_error_resume_next: abort the failed observer, subscribe `f e` -/
def resumeK (f : Nat → Stream) (s : Nat) : Nat → Ctl → Ctl := fun e c2 =>
  attempt (fun ee c5 => c5.sinkError ee) (c2.abortObserve s) ((c2.abortObserve s).subs + 1) (f e)

theorem resumeGo_eq (f : Nat → Stream) (st : Stream) (c : Ctl) :
    resumeGo f st c = attempt (resumeK f c.serial) c (c.subs + 1) st := by
  simp only [resumeGo, attempt, begun, playK, resumeK, Ctl.newObserver]
  split <;> rename_i h <;> simp only [h]
  split <;> rename_i h2 <;> simp only [h2]

theorem Rel.setSubs {g : G} {c : Ctl} {lv : Nat → Bool} {w : World} (hcv : ∀ k, g.cvf k = none)
    (h : Rel g c lv w) (k : Nat) : Rel g { c with subs := k } lv w :=
  ⟨by have := h.rep; rw [hcv] at this ⊢; exact this, h.dead, h.regLt, h.canLt⟩

/-- one subscription to a plain scripted source; it has no counter (`hcv`), so the world represents any count -/
theorem script_sub {g : G} (hcv : ∀ k, g.cvf k = none) (tag : Nat) (evs : List Ev) (s : Nat) (c : Ctl) (k : Nat) :
    SubAs g (oScript tag true evs) tag evs s c { c with subs := k } := by
  intro lv w Q h hs hl hk
  simp only [Obsv.sub, oScript]
  apply rep_isSubU h.rep hs
  rw [hl]
  simp only [↓reduceIte]
  apply wp_probe
  exact hk _ ((h.probe _ _).setSubs hcv k)

theorem resume_spec_wp {g : G} (ok : g.Ok) (hcv : ∀ k, g.cvf k = none) (tag : Nat) (evs : List Ev)
    (tagF : Nat → Nat) (fs : Nat → List Ev)
    (hn : ∀ i, g.hn i = fun x => g.sc.sinkNext x) (hc : ∀ i, g.hc i = g.sc.sinkComplete i)
    {c : Ctl} {lv : Nat → Bool} {w : World} (h : Rel g c lv w) (ha : c.alive = true)
    (he0 : g.he c.serial = resumeE g.sc (fun e => oScript (tagF e) true (fs e)) c.serial)
    (he1 : g.he (c.serial + 1) = fun ee => g.sc.sinkError ee) :
    WP (resumeP g.sc (fun e => oScript (tagF e) true (fs e)) (oScript tag true evs)) w
      (Post g c lv (resumeGo (fun e => Stream.ofScript (fs e)) (Stream.ofScript evs) c)) := by
  rw [resumeGo_eq]
  refine attempt_spec ok h ha (by rw [hn]) he0.symm (by rw [hc]) (hn _) (hc _) (script_sub hcv tag evs _ _ _) _
    fun e o' lv2 w3 h3 => ?_
  rw [he0]
  simp only [resumeE, resumeK]
  apply WP.seq
  have hmem : c.serial ∈ c.serial :: c.registered := by simp
  apply (abortObserve_spec ok h3 c.serial hmem).conseq
  intro w4 h4
  simp only [begun, Ctl.abortObserve, Ctl.newObserver, hmem, ↓reduceIte] at h4 ⊢
  refine (attempt_spec ok h4 ha (by rw [hn]) (by rw [he1]) (by rw [hc]) (hn _) (hc _)
    (script_sub hcv (tagF e) (fs e) _ _ _) _ fun ee o'' lv7 w7 h7 => ?_).conseq
      fun w5 h5 => h5.mono (fun j _ hjl => by simp [hjl]) (Nat.le_refl _)
  rw [he1]
  exact sinkError_post ok h7 ha ee

/-- configuration of one subscription through `on_error_resume_next` over scripted sources; these have no counter:
    `resume_wp` points `cnt` past the last cell, where `none` (`cvf`) is what is read -/
def resumeG (w : World) (cnt : Nat) (tagF : Nat → Nat) (fs : Nat → List Ev) : G :=
  let sc : Sctl := ⟨w.obs.length, w.cells.length, w.cells.length + 1, w.slots.length⟩
  G.at w cnt (fun _ x => sc.sinkNext x)
    (fun i e =>
      match i with
      | 0 => resumeE sc (fun e => oScript (tagF e) true (fs e)) 0 e
      | _ => sc.sinkError e)
    (fun i => sc.sinkComplete i) fun _ => none

/-- the test: `src.on_error_resume_next(f)` with `src` playing `evs` and `f e` playing `fs e`, one passive subscriber -/
def subscribeResume (tag : Nat) (evs : List Ev) (tagF : Nat → Nat) (fs : Nat → List Ev) : Prog :=
  .obsvNew (oOnErrorResumeNext (fun e => oScript (tagF e) true (fs e)) (oScript tag true evs)) fun id =>
    .userSub id noReact .done

theorem resume_wp (tag : Nat) (evs : List Ev) (tagF : Nat → Nat) (fs : Nat → List Ev) (w : World) (hw : Ready w) :
    WP (subscribeResume tag evs tagF fs) w fun w' =>
      w'.status = .ok ∧
      logOf w' w.users.length = resumeRun (fun e => Stream.ofScript (fs e)) (Stream.ofScript evs) ∧
      (∀ s', s' ≠ w.users.length → logOf w' s' = logOf w s') ∧ w'.held = [] := by
  unfold subscribeResume
  refine wp_obsvNew ?_
  let w' : World :=
    { w with obsvs := w.obsvs ++ [oOnErrorResumeNext (fun e => oScript (tagF e) true (fs e)) (oScript tag true evs)] }
  let g : G := resumeG w' (w.cells.length + 2) tagF fs
  have ok : g.Ok := ⟨by show w.cells.length ≠ w.cells.length + 1; omega,
    by show w.cells.length + 2 ≠ w.cells.length; omega, by show w.cells.length + 2 ≠ w.cells.length + 1; omega⟩
  refine userSub_sctlNew (w := w') (cnt := w.cells.length + 2)
    (f := oOnErrorResumeNext (fun e => oScript (tagF e) true (fs e)) (oScript tag true evs))
    (body := fun sc => resumeP sc (fun e => oScript (tagF e) true (fs e)) (oScript tag true evs))
    hw.status hw.held (hw.inv.quiet _ (Nat.le_refl _)) (by simp [w']) rfl (by simp [w'])
    fun w1 (h1 : Rel g _ _ _) => ?_
  refine (resume_spec_wp (g := g) ok (fun _ => rfl) tag evs tagF fs (fun _ => rfl) (fun _ => rfl)
    (c := {}) (lv := fun _ => false) h1 rfl rfl rfl).conseq ?_
  rintro w2 ⟨lv2, h2, _, _⟩
  exact wp_userReady (WP.done ⟨h2.rep.status, h2.rep.log, h2.rep.others, h2.rep.held⟩)

theorem resume_refines (tag : Nat) (evs : List Ev) (tagF : Nat → Nat) (fs : Nat → List Ev) (w : World)
    (hw : Ready w) :
    ∃ N, ∀ fuel, N ≤ fuel →
      let w' := run fuel [subscribeResume tag evs tagF fs] w
      w'.status = .ok ∧
      logOf w' w.users.length = resumeRun (fun e => Stream.ofScript (fs e)) (Stream.ofScript evs) ∧
      (∀ s', s' ≠ w.users.length → logOf w' s' = logOf w s') ∧ w'.held = [] :=
  (resume_wp tag evs tagF fs w hw).run_all

end Rx.RetryRef

-- non-vacuity examples (concrete runs, `decide`) are in C04RefCor.lean
#print axioms Rx.RetryRef.resume_spec_wp
#print axioms Rx.RetryRef.resume_refines
