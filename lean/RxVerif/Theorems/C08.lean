import RxVerif.Conc.Queue
import RxVerif.Theorems.ListFacts
/-
C08 — theorems about the scheduler queue LTS of `RxVerif/Conc/Queue.lean`
(`/repo/src/schedulers/async_function_queue.rs`, `new_thread_scheduler.rs`, `default_scheduler.rs`).

All statements quantify over every configuration (any number of poster threads, any programs, any task bodies) and
every reachable state (any interleaving), and are proved from three inductive invariants:
`Inv` (control: mutex ownership, program-point facts, wake-up bookkeeping), `EInv` (ghost event log) and
`DInv` (data: FIFO / partition / uniqueness; needs `cfg.Unique`).  The invariants see a step through `Adv` (the
transition function in rule form) and its footprint lemmas `Adv.*` (which rules touch which field).
-/
namespace Rx.Queue

/-- the program points at which the thread owns the queue mutex -/
def Pc.holds : Pc → Bool
  | .pPush _ | .pNotify | .pUnlock | .sClear | .sWrite | .sNotify | .sUnlock
  | .wCond | .wWait | .wRead2 | .wPop | .wUnlock _ => true
  | _ => false

/-- the program points of `post` / `stop` and between calls (everything a poster thread can be at) -/
def Pc.isCall : Pc → Bool
  | .idle | .pLock _ | .pPush _ | .pNotify | .pUnlock | .pRet
  | .sLock | .sClear | .sWrite | .sNotify | .sUnlock | .sRet => true
  | _ => false

/-- mutex held, a `notify_one` is still ahead in the same critical section -/
def Pc.beforeNotify : Pc → Bool
  | .pPush _ | .pNotify | .sClear | .sWrite | .sNotify => true
  | _ => false

/-- the task popped from the queue and not yet started (the local `f` of `scheduling`) -/
def Pc.inflight : Pc → List Nat
  | .wUnlock (some t) => [t]
  | .wStart t => [t]
  | _ => []

def inflight (s : State) : List Nat :=
  match s.threads[0]? with
  | some th => th.pc.inflight
  | none => []

/-- the task ids posted by a call list -/
def ids : List Call → List Nat
  | [] => []
  | .post t :: cs => t :: ids cs
  | .abort :: cs => ids cs

/-- the id a thread is in the middle of posting -/
def Pc.ids : Pc → List Nat
  | .pLock t => [t]
  | .pPush t => [t]
  | _ => []

/-- ids the thread will still push (current call + remaining calls) -/
def Thread.fut (th : Thread) : List Nat := th.pc.ids ++ ids th.todo

/-- `adv` in rule form, with the branches of the worker's tests resolved: `Adv cfg s i th s0 th'` is the step of
thread `i` from record `th` to record `th'` that leaves the rest of the state as `s0`. -/
inductive Adv (cfg : Config) (s : State) (i : Nat) : Thread → State → Thread → Prop
  | post {t rest cur} : Adv cfg s i ⟨.post t :: rest, .idle, cur⟩ s ⟨rest, .pLock t, cur⟩
  | stop {rest cur} : Adv cfg s i ⟨.abort :: rest, .idle, cur⟩ s ⟨rest, .sLock, cur⟩
  | taskEnd {t} : Adv cfg s i ⟨[], .idle, some t⟩ { s with finished := s.finished ++ [t] } ⟨[], .wLock, none⟩
  | pLock {todo t cur} : s.holder = none →
      Adv cfg s i ⟨todo, .pLock t, cur⟩ { s with holder := some i } ⟨todo, .pPush t, cur⟩
  | pPush {todo t cur} : Adv cfg s i ⟨todo, .pPush t, cur⟩
      { s with queue := s.queue ++ [t], pushed := s.pushed ++ [t] } ⟨todo, .pNotify, cur⟩
  | pNotify {todo cur} : Adv cfg s i ⟨todo, .pNotify, cur⟩ { s with waiters := s.waiters.tail } ⟨todo, .pUnlock, cur⟩
  | pUnlock {todo cur} : Adv cfg s i ⟨todo, .pUnlock, cur⟩ { s with holder := none } ⟨todo, .pRet, cur⟩
  | pRet {todo cur} : Adv cfg s i ⟨todo, .pRet, cur⟩ s ⟨todo, .idle, cur⟩
  | sLock {todo cur} : s.holder = none →
      Adv cfg s i ⟨todo, .sLock, cur⟩ { s with holder := some i } ⟨todo, .sClear, cur⟩
  | sClear {todo cur} : Adv cfg s i ⟨todo, .sClear, cur⟩
      { s with queue := [], discarded := s.discarded ++ s.queue } ⟨todo, .sWrite, cur⟩
  | sWrite {todo cur} : Adv cfg s i ⟨todo, .sWrite, cur⟩
      { s with abort := true, events := s.events ++ [.abortSet] } ⟨todo, .sNotify, cur⟩
  | sNotify {todo cur} : Adv cfg s i ⟨todo, .sNotify, cur⟩ { s with waiters := s.waiters.tail } ⟨todo, .sUnlock, cur⟩
  | sUnlock {todo cur} : Adv cfg s i ⟨todo, .sUnlock, cur⟩ { s with holder := none } ⟨todo, .sRet, cur⟩
  | sRet {todo cur} : Adv cfg s i ⟨todo, .sRet, cur⟩
      { s with abortReturned := true, events := s.events ++ [.abortRet] } ⟨todo, .idle, cur⟩
  | wLock {todo cur} : s.holder = none →
      Adv cfg s i ⟨todo, .wLock, cur⟩ { s with holder := some i } ⟨todo, .wCond, cur⟩
  | wCondWait {todo cur} : s.abort = false → s.queue = [] → Adv cfg s i ⟨todo, .wCond, cur⟩ s ⟨todo, .wWait, cur⟩
  | wCondGo {todo cur} : s.abort = true ∨ s.queue ≠ [] → Adv cfg s i ⟨todo, .wCond, cur⟩ s ⟨todo, .wRead2, cur⟩
  | wWait {todo cur} : Adv cfg s i ⟨todo, .wWait, cur⟩
      { s with holder := none, waiters := s.waiters ++ [i] } ⟨todo, .wParked, cur⟩
  | wParked {todo cur} : Adv cfg s i ⟨todo, .wParked, cur⟩ { s with waiters := s.waiters.erase i } ⟨todo, .wReacq, cur⟩
  | wReacq {todo cur} : s.holder = none →
      Adv cfg s i ⟨todo, .wReacq, cur⟩ { s with holder := some i } ⟨todo, .wCond, cur⟩
  | wRead2Stop {todo cur} : s.abort = true → Adv cfg s i ⟨todo, .wRead2, cur⟩ s ⟨todo, .wUnlock none, cur⟩
  | wRead2Go {todo cur} : s.abort = false → Adv cfg s i ⟨todo, .wRead2, cur⟩ s ⟨todo, .wPop, cur⟩
  | wPop {todo t q cur} : s.queue = t :: q → Adv cfg s i ⟨todo, .wPop, cur⟩
      { s with queue := q, events := s.events ++ [.pop t] } ⟨todo, .wUnlock (some t), cur⟩
  | wPopNone {todo cur} : s.queue = [] →
      Adv cfg s i ⟨todo, .wPop, cur⟩ { s with queue := [] } ⟨todo, .wUnlock none, cur⟩
  | wUnlock {todo t cur} : Adv cfg s i ⟨todo, .wUnlock (some t), cur⟩ { s with holder := none } ⟨todo, .wStart t, cur⟩
  | wUnlockNone {todo cur} : Adv cfg s i ⟨todo, .wUnlock none, cur⟩ { s with holder := none } ⟨todo, .wExit, cur⟩
  | wStart {todo t cur} : Adv cfg s i ⟨todo, .wStart t, cur⟩
      { s with started := s.started ++ [t], runner := s.runner ++ [(t, i)], events := s.events ++ [.start t] }
      ⟨cfg.body t, .idle, some t⟩
  | wExit {todo cur} : Adv cfg s i ⟨todo, .wExit, cur⟩ s ⟨todo, .wExited, cur⟩

theorem adv_Adv {cfg s i th s'} (h : adv cfg s i th = some s') :
    ∃ s0 th', s' = upd s0 i th' ∧ Adv cfg s i th s0 th' := by
  obtain ⟨todo, pc, cur⟩ := th
  cases pc <;> simp only [adv, Option.ite_none_right_eq_some, Option.some.injEq, reduceCtorEq] at h
  case idle =>
    split at h
    · cases h; exact ⟨_, _, rfl, .post⟩
    · cases h; exact ⟨_, _, rfl, .stop⟩
    · split at h
      · cases h; exact ⟨_, _, rfl, .taskEnd⟩
      · cases h
  case pLock => exact ⟨_, _, h.2.symm, .pLock h.1⟩
  case sLock => exact ⟨_, _, h.2.symm, .sLock h.1⟩
  case wLock => exact ⟨_, _, h.2.symm, .wLock h.1⟩
  case wReacq => exact ⟨_, _, h.2.symm, .wReacq h.1⟩
  case wCond =>
    subst h
    cases hab : s.abort
    · cases hq : s.queue
      · exact ⟨_, _, rfl, .wCondWait hab hq⟩
      · exact ⟨_, _, rfl, .wCondGo (.inr (by simp [hq]))⟩
    · exact ⟨_, _, rfl, .wCondGo (.inl hab)⟩
  case wRead2 =>
    subst h
    cases hab : s.abort
    · exact ⟨_, _, rfl, .wRead2Go hab⟩
    · exact ⟨_, _, rfl, .wRead2Stop hab⟩
  case wPop =>
    subst h
    cases hq : s.queue
    · exact ⟨_, _, by simp only [List.tail_nil, List.head?_nil, List.append_nil], .wPopNone hq⟩
    · exact ⟨_, _, rfl, .wPop hq⟩
  case wUnlock f => subst h; cases f <;> exact ⟨_, _, rfl, by constructor⟩
  all_goals subst h; exact ⟨_, _, rfl, by constructor⟩

/-! ### footprints: which steps touch which field

Each lemma reads one column of the rule table: the rules named in its proof are the ones that touch the field,
`all_goals` is every other rule. -/

namespace Adv
section
variable {cfg : Config} {s s0 : State} {i : Nat} {th th' : Thread} (hA : Adv cfg s i th s0 th')
include hA

theorem threads : s0.threads = s.threads := by cases hA <;> rfl

theorem upd_threads : (upd s0 i th').threads = s.threads.set i th' := congrArg (·.set i th') hA.threads

theorem get_self (hth : s.threads[i]? = some th) : (upd s0 i th').threads[i]? = some th' :=
  hA.upd_threads ▸ List.getElem?_set_self (lt_of_getElem? hth)

theorem holder :
    s0.holder = s.holder ∨ (s.holder = none ∧ s0.holder = some i) ∨ (th.pc.holds = true ∧ s0.holder = none) := by
  cases hA
  case pLock h | sLock h | wLock h | wReacq h => exact .inr (.inl ⟨h, rfl⟩)
  case pUnlock | sUnlock | wUnlock | wUnlockNone | wWait => exact .inr (.inr ⟨rfl, rfl⟩)
  all_goals exact .inl rfl

theorem guarded (hh : th.pc.holds = false) : s0.queue = s.queue ∧ s0.abort = s.abort := by
  cases hA
  case pPush | sClear | sWrite | wPop | wPopNone => cases hh
  all_goals exact ⟨rfl, rfl⟩

theorem abort_mono (ha : s.abort = true) : s0.abort = true := by
  cases hA
  case sWrite => rfl
  all_goals exact ha

theorem waiters : s0.waiters = s.waiters ∨ s0.waiters = s.waiters.tail ∨ s0.waiters = s.waiters.erase i ∨
    (th.pc = .wWait ∧ s0.waiters = s.waiters ++ [i]) := by
  cases hA
  case pNotify | sNotify => exact .inr (.inl rfl)
  case wParked => exact .inr (.inr (.inl rfl))
  case wWait => exact .inr (.inr (.inr ⟨rfl, rfl⟩))
  all_goals exact .inl rfl

theorem started : (s0.started = s.started ∧ s0.runner = s.runner) ∨
    ∃ t, th.pc = .wStart t ∧ s0.started = s.started ++ [t] ∧ s0.runner = s.runner ++ [(t, i)] := by
  cases hA
  case wStart => exact .inr ⟨_, rfl, rfl, rfl⟩
  all_goals exact .inl ⟨rfl, rfl⟩

theorem queue : s0.queue = s.queue ∨ (∃ x, s0.queue = s.queue ++ [x]) ∨ s0.queue = [] ∨ th.pc = .wPop := by
  cases hA
  case pPush => exact .inr (.inl ⟨_, rfl⟩)
  case sClear => exact .inr (.inr (.inl rfl))
  case wPop | wPopNone => exact .inr (.inr (.inr rfl))
  all_goals exact .inl rfl

theorem finished : s0.finished = s.finished ∨ th.cur ≠ none := by
  cases hA
  case taskEnd => exact .inr nofun
  all_goals exact .inl rfl

/-- whoever changes the queue or `abort` (the worker's `pop_front` apart) still has its `notify_one` ahead -/
theorem written : (s0.queue = s.queue ∧ s0.abort = s.abort) ∨
    (th.pc.beforeNotify = true ∧ th'.pc.beforeNotify = true) ∨ th.pc = .wPop := by
  cases hA
  case pPush | sClear | sWrite => exact .inr (.inl ⟨rfl, rfl⟩)
  case wPop | wPopNone => exact .inr (.inr rfl)
  all_goals exact .inl ⟨rfl, rfl⟩

theorem notified (h : th.pc.beforeNotify = true) (h' : th'.pc.beforeNotify = false) :
    s0.waiters = s.waiters.tail := by
  cases hA
  case pNotify | sNotify => rfl
  case pPush | sClear | sWrite => cases h'
  all_goals cases h

end
end Adv

theorem step_Adv {cfg s l s'} (h : step cfg s l = some s') :
    ∃ th s0 th', s.threads[l.tid]? = some th ∧ th.kind = some l.kind ∧ s' = upd s0 l.tid th' ∧
      Adv cfg s l.tid th s0 th' := by
  unfold step at h
  split at h
  · cases h
  · rename_i th hth
    split at h
    · rename_i hk
      obtain ⟨s0, th', e, hA⟩ := adv_Adv h
      exact ⟨th, s0, th', hth, hk, e, hA⟩
    · cases h

/-- per thread; `inTask` / `outTask`: thread 0 is at a program point of `post` / `stop` (or between calls) exactly while
it is inside a task -/
structure LocalInv (s : State) (i : Nat) (th : Thread) : Prop where
  holds : th.pc.holds = true ↔ s.holder = some i
  poster : i ≠ 0 → th.pc.isCall = true ∧ th.cur = none
  inTask : i = 0 → th.pc.isCall = true → ∃ u, th.cur = some u ∧ s.started = s.finished ++ [u]
  outTask : i = 0 → th.pc.isCall = false → th.cur = none ∧ th.todo = [] ∧ s.started = s.finished
  wWait : th.pc = .wWait → s.queue = [] ∧ s.abort = false
  wRead2 : th.pc = .wRead2 → s.abort = true ∨ s.queue ≠ []
  wPop : th.pc = .wPop → s.abort = false ∧ s.queue ≠ []
  wNone : th.pc = .wUnlock none ∨ th.pc = .wExit ∨ th.pc = .wExited → s.abort = true
  sDone : th.pc = .sNotify ∨ th.pc = .sUnlock ∨ th.pc = .sRet → s.abort = true
  parked : i ∈ s.waiters → th.pc = .wParked

/-- `nlw`: while the worker is in the condvar's waiter list, either there is nothing for it to do or some thread
is still in front of its `notify_one` -/
structure Inv (s : State) : Prop where
  loc : ∀ (i : Nat) (th : Thread), s.threads[i]? = some th → LocalInv s i th
  holderValid : ∀ (j : Nat), s.holder = some j → j < s.threads.length
  waiters : s.waiters = [] ∨ s.waiters = [0]
  nlw : 0 ∈ s.waiters → (s.queue = [] ∧ s.abort = false) ∨
    ∃ (j : Nat) (thj : Thread), s.threads[j]? = some thj ∧ thj.pc.beforeNotify = true
  runner : s.runner.map Prod.fst = s.started ∧ ∀ p ∈ s.runner, p.2 = 0
  nonempty : 0 < s.threads.length

theorem inv_init (cfg : Config) : Inv (init cfg) := by
  refine ⟨fun i th h => ?_, nofun, .inl rfl, nofun, ⟨rfl, nofun⟩, Nat.succ_pos _⟩
  cases i with
  | zero =>
    cases h
    exact ⟨⟨nofun, nofun⟩, (absurd rfl ·), nofun, fun _ _ => ⟨rfl, rfl, rfl⟩, nofun, nofun, nofun, nofun, nofun, nofun⟩
  | succ i =>
    obtain ⟨p, _, rfl⟩ := Option.map_eq_some_iff.1 (List.getElem?_map.symm.trans h)
    exact ⟨⟨nofun, nofun⟩, fun _ => ⟨rfl, rfl⟩, nofun, nofun, nofun, nofun, nofun, nofun, nofun, nofun⟩

theorem LocalInv.frame {s s' : State} {j : Nat} {thj : Thread} (hL : LocalInv s j thj)
    (hh : s'.holder = some j ↔ s.holder = some j)
    (ht : j = 0 → s'.started = s.started ∧ s'.finished = s.finished)
    (hd : thj.pc.holds = true → s'.queue = s.queue ∧ s'.abort = s.abort)
    (ha : s.abort = true → s'.abort = true)
    (hw : j ∈ s'.waiters → j ∈ s.waiters) : LocalInv s' j thj where
  holds := hL.holds.trans hh.symm
  poster := hL.poster
  inTask h0 hc := by rw [(ht h0).1, (ht h0).2]; exact hL.inTask h0 hc
  outTask h0 hc := by rw [(ht h0).1, (ht h0).2]; exact hL.outTask h0 hc
  wWait hpc := by rw [(hd (by rw [hpc]; rfl)).1, (hd (by rw [hpc]; rfl)).2]; exact hL.wWait hpc
  wRead2 hpc := by rw [(hd (by rw [hpc]; rfl)).1, (hd (by rw [hpc]; rfl)).2]; exact hL.wRead2 hpc
  wPop hpc := by rw [(hd (by rw [hpc]; rfl)).1, (hd (by rw [hpc]; rfl)).2]; exact hL.wPop hpc
  wNone h := ha (hL.wNone h)
  sDone h := ha (hL.sDone h)
  parked h := hL.parked (hw h)

theorem worker_of_not_isCall {s i th} (hL : LocalInv s i th) (hc : th.pc.isCall = false) : i = 0 :=
  Decidable.by_contra fun hi => by rw [((hL.poster hi).1)] at hc; cases hc

section
variable {cfg : Config} {s s0 : State} {i : Nat} {th th' : Thread}

theorem Adv.mem_waiters (hA : Adv cfg s i th s0 th') {j : Nat} (hj : j ∈ s0.waiters) :
    j ∈ s.waiters ∨ (th.pc = .wWait ∧ j = i) := by
  rcases hA.waiters with e | e | e | ⟨hpc, e⟩ <;> rw [e] at hj
  · exact .inl hj
  · exact .inl (List.mem_of_mem_tail hj)
  · exact .inl (List.mem_of_mem_erase hj)
  · exact (List.mem_append.1 hj).imp_right fun h => ⟨hpc, List.mem_singleton.1 h⟩

theorem inv_other (hA : Adv cfg s i th s0 th') (hL : LocalInv s i th) {j : Nat} {thj : Thread} (hji : j ≠ i)
    (hLj : LocalInv s j thj) : LocalInv (upd s0 i th') j thj := by
  have hnh : thj.pc.holds = true → th.pc.holds = false := fun hj => by
    cases hh : th.pc.holds with
    | false => rfl
    | true => exact absurd (Option.some.inj ((hLj.holds.1 hj).symm.trans (hL.holds.1 hh))) hji
  refine hLj.frame ?_ ?_ (fun hj => hA.guarded (hnh hj)) hA.abort_mono
    (fun hw => (hA.mem_waiters hw).resolve_right fun h => hji h.2)
  · show s0.holder = some j ↔ _
    rcases hA.holder with e | ⟨e, e'⟩ | ⟨hh, e'⟩
    · rw [e]
    · rw [e, e']; exact ⟨fun h => absurd (Option.some.inj h).symm hji, nofun⟩
    · rw [hL.holds.1 hh, e']; exact ⟨nofun, fun h => absurd (Option.some.inj h).symm hji⟩
  · rintro rfl
    have hp := hL.poster (Ne.symm hji)
    constructor
    · rcases hA.started with e | ⟨t, hpc, _⟩
      · exact e.1
      · rw [hpc] at hp; cases hp.1
    · exact hA.finished.resolve_right (fun h => h hp.2)

theorem not_mem_erase_self {w : List Nat} (hW : w = [] ∨ w = [0]) (i : Nat) : i ∉ w.erase i := by
  rcases hW with rfl | rfl
  · nofun
  · cases i <;> simp

/-- `nofun`: the new program point is not the one the field speaks of -/
theorem inv_self (hA : Adv cfg s i th s0 th') (hL : LocalInv s i th) (hW : s.waiters = [] ∨ s.waiters = [0]) :
    LocalInv (upd s0 i th') i th' := by
  obtain ⟨h1, h2, h3, h4, h5, h6, h7, h8, h9, h10⟩ := hL
  have hp : ∀ {pc : Pc}, i ∈ s.waiters → th.pc ≠ .wParked → pc = .wParked := fun hw hne => absurd (h10 hw) hne
  cases hA
  case post | stop => exact ⟨h1, h2, h3, nofun, nofun, nofun, nofun, nofun, nofun, (hp · nofun)⟩
  case taskEnd =>
    refine ⟨h1, (fun hi => nomatch (h2 hi).2), nofun, fun h0 _ => ?_, nofun, nofun, nofun, nofun, nofun, (hp · nofun)⟩
    obtain ⟨u, hu, e⟩ := h3 h0 rfl
    cases hu; exact ⟨rfl, rfl, e⟩
  case wStart t _ =>
    exact ⟨h1, (fun hi => nomatch (h2 hi).1), fun h0 _ => ⟨t, rfl, congrArg (· ++ [t]) (h4 h0 rfl).2.2⟩, nofun,
      nofun, nofun, nofun, nofun, nofun, (hp · nofun)⟩
  case pLock | sLock | wLock | wReacq =>
    exact ⟨⟨fun _ => rfl, fun _ => rfl⟩, h2, h3, h4, nofun, nofun, nofun, nofun, nofun, (hp · nofun)⟩
  case pUnlock | wUnlock => exact ⟨⟨nofun, nofun⟩, h2, h3, h4, nofun, nofun, nofun, nofun, nofun, (hp · nofun)⟩
  case sUnlock =>
    exact ⟨⟨nofun, nofun⟩, h2, h3, h4, nofun, nofun, nofun, nofun, fun _ => h9 (.inr (.inl rfl)), (hp · nofun)⟩
  case wUnlockNone =>
    exact ⟨⟨nofun, nofun⟩, h2, h3, h4, nofun, nofun, nofun, fun _ => h8 (.inl rfl), nofun, (hp · nofun)⟩
  case pNotify =>
    exact ⟨h1, h2, h3, h4, nofun, nofun, nofun, nofun, nofun, fun hw => hp (List.mem_of_mem_tail hw) nofun⟩
  case sNotify =>
    exact ⟨h1, h2, h3, h4, nofun, nofun, nofun, nofun, fun _ => h9 (.inl rfl),
      fun hw => hp (List.mem_of_mem_tail hw) nofun⟩
  case sWrite => exact ⟨h1, h2, h3, h4, nofun, nofun, nofun, nofun, fun _ => rfl, (hp · nofun)⟩
  case wCondWait hab hq => exact ⟨h1, h2, h3, h4, fun _ => ⟨hq, hab⟩, nofun, nofun, nofun, nofun, (hp · nofun)⟩
  case wCondGo h => exact ⟨h1, h2, h3, h4, nofun, fun _ => h, nofun, nofun, nofun, (hp · nofun)⟩
  case wWait => exact ⟨⟨nofun, nofun⟩, h2, h3, h4, nofun, nofun, nofun, nofun, nofun, fun _ => rfl⟩
  case wParked =>
    exact ⟨h1, h2, h3, h4, nofun, nofun, nofun, nofun, nofun, fun hw => absurd hw (not_mem_erase_self hW i)⟩
  case wRead2Stop hab => exact ⟨h1, h2, h3, h4, nofun, nofun, nofun, fun _ => hab, nofun, (hp · nofun)⟩
  case wRead2Go hab =>
    exact ⟨h1, h2, h3, h4, nofun, nofun, fun _ => ⟨hab, (h6 rfl).resolve_left (by rw [hab]; nofun)⟩, nofun, nofun,
      (hp · nofun)⟩
  case wPopNone hq => exact absurd hq (h7 rfl).2
  case wExit => exact ⟨h1, h2, h3, h4, nofun, nofun, nofun, fun _ => h8 (.inr (.inl rfl)), nofun, (hp · nofun)⟩
  all_goals exact ⟨h1, h2, h3, h4, nofun, nofun, nofun, nofun, nofun, (hp · nofun)⟩

theorem inv_adv (hI : Inv s) (hth : s.threads[i]? = some th) (hA : Adv cfg s i th s0 th') : Inv (upd s0 i th') := by
  have hL := hI.loc i th hth
  have hT := hA.upd_threads
  have hself : (upd s0 i th').threads[i]? = some th' := hA.get_self hth
  have hlen : (upd s0 i th').threads.length = s.threads.length := by rw [hT, List.length_set]
  refine ⟨fun j thj hj => ?_, fun j hj => ?_, ?_, fun h0 => ?_, ?_, hlen ▸ hI.nonempty⟩
  · rw [hT] at hj
    rcases getElem?_set_cases hj with ⟨rfl, rfl⟩ | ⟨hne, hj⟩
    · exact inv_self hA hL hI.waiters
    · exact inv_other hA hL hne (hI.loc j thj hj)
  · rw [hlen]
    rcases hA.holder with e | ⟨_, e⟩ | ⟨_, e⟩
    · exact hI.holderValid j (e ▸ hj)
    · cases e.symm.trans hj; exact lt_of_getElem? hth
    · cases e.symm.trans hj
  · show s0.waiters = [] ∨ s0.waiters = [0]
    rcases hA.waiters with e | e | e | ⟨hpc, e⟩ <;> rw [e]
    · exact hI.waiters
    · rcases hI.waiters with w | w <;> rw [w] <;> exact .inl rfl
    · rcases hI.waiters with w | w <;> rw [w]
      · exact .inl rfl
      · cases i <;> simp
    · cases worker_of_not_isCall hL (by rw [hpc]; rfl)
      rcases hI.waiters with w | w
      · rw [w]; exact .inr rfl
      · have := hL.parked (w ▸ List.mem_singleton_self 0)
        rw [hpc] at this; cases this
  · have hwr := hA.written
    rcases hA.mem_waiters h0 with hw | ⟨hpc, rfl⟩
    · rcases hI.nlw hw with hq | ⟨j, thj, hj, hb⟩
      · rcases hwr with e | ⟨_, hb⟩ | hpc
        · exact .inl (e.1 ▸ e.2 ▸ hq)
        · exact .inr ⟨i, th', hself, hb⟩
        · cases worker_of_not_isCall hL (by rw [hpc]; rfl)
          rw [hL.parked hw] at hpc; cases hpc
      · by_cases hji : j = i
        · subst hji
          cases hth.symm.trans hj
          cases hb' : th'.pc.beforeNotify with
          | true => exact .inr ⟨j, th', hself, hb'⟩
          | false =>
            have h0' : 0 ∈ s.waiters.tail := hA.notified hb hb' ▸ h0
            rcases hI.waiters with w | w <;> rw [w] at h0' <;> cases h0'
        · exact .inr ⟨j, thj, hT ▸ (List.getElem?_set_ne (Ne.symm hji)).trans hj, hb⟩
    · rcases hwr with e | ⟨hb, _⟩ | hpc'
      · exact .inl (e.1 ▸ e.2 ▸ hL.wWait hpc)
      · rw [hpc] at hb; cases hb
      · rw [hpc] at hpc'; cases hpc'
  · show List.map Prod.fst s0.runner = s0.started ∧ ∀ p ∈ s0.runner, p.2 = 0
    rcases hA.started with ⟨e1, e2⟩ | ⟨t, hpc, e1, e2⟩
    · rw [e1, e2]; exact hI.runner
    · cases worker_of_not_isCall hL (by rw [hpc]; rfl)
      rw [e1, e2, List.map_append, hI.runner.1]
      refine ⟨rfl, fun p hp => ?_⟩
      rcases List.mem_append.1 hp with hp | hp
      · exact hI.runner.2 p hp
      · cases List.mem_singleton.1 hp; rfl
end

theorem inv_step {cfg s l s'} (hI : Inv s) (h : step cfg s l = some s') : Inv s' := by
  obtain ⟨th, s0, th', hth, _, rfl, hA⟩ := step_Adv h
  exact inv_adv hI hth hA

theorem inv_reachable {cfg s} (h : Reachable cfg s) : Inv s := by
  induction h with
  | init => exact inv_init cfg
  | step _ hs ih => exact inv_step ih hs

theorem worker_thread {s} (hI : Inv s) : ∃ th, s.threads[0]? = some th :=
  ⟨s.threads[0]'hI.nonempty, List.getElem?_eq_getElem hI.nonempty⟩

theorem mutex_exclusive {cfg s} (h : Reachable cfg s) {i j : Nat} {thi thj : Thread}
    (hi : s.threads[i]? = some thi) (hj : s.threads[j]? = some thj)
    (hhi : thi.pc.holds = true) (hhj : thj.pc.holds = true) : i = j := by
  have hI := inv_reachable h
  have a := ((hI.loc i thi hi).holds).1 hhi
  have b := ((hI.loc j thj hj).holds).1 hhj
  rw [a] at b; exact Option.some.inj b

def Pc.accessesAbort : Pc → Bool
  | .sWrite | .wCond | .wRead2 => true
  | _ => false

theorem Pc.accessesAbort_le_holds (pc : Pc) : (!pc.accessesAbort || pc.holds) = true := by cases pc <;> rfl

theorem Pc.beforeNotify_le_holds (pc : Pc) : (!pc.beforeNotify || pc.holds) = true := by cases pc <;> rfl

/-- every access to the `abort` RwLock happens while the accessing thread holds the queue mutex (so modelling the
RwLock by atomic reads / writes loses nothing, and the lock order is always mutex → RwLock) -/
theorem abort_access_under_mutex {cfg s} (h : Reachable cfg s) {i : Nat} {th : Thread}
    (hi : s.threads[i]? = some th) (ha : th.pc.accessesAbort = true) : s.holder = some i := by
  apply ((inv_reachable h).loc i th hi).holds.1
  have := th.pc.accessesAbort_le_holds
  rwa [ha] at this

/-- At most one task is between start and end (`started = finished ++ r`, `|r| ≤ 1`), the running
task is the one recorded in thread 0, poster threads never run a task and are never at a program point of
`scheduling`, and every start was executed by thread 0. -/
theorem one_at_a_time {cfg s} (h : Reachable cfg s) :
    (∃ r, s.started = s.finished ++ r ∧ r.length ≤ 1 ∧
      ∀ t ∈ r, ∃ th, s.threads[0]? = some th ∧ th.cur = some t) ∧
    (∀ i th, s.threads[i]? = some th → i ≠ 0 → th.cur = none ∧ th.pc.isCall = true) ∧
    s.runner.map Prod.fst = s.started ∧ (∀ p ∈ s.runner, p.2 = 0) := by
  have hI := inv_reachable h
  refine ⟨?_, fun i th hi hne => ⟨((hI.loc i th hi).poster hne).2, ((hI.loc i th hi).poster hne).1⟩,
    hI.runner.1, hI.runner.2⟩
  obtain ⟨th, h0⟩ := worker_thread hI
  have hL := hI.loc 0 th h0
  cases hc : th.pc.isCall with
  | true =>
    obtain ⟨u, hu, hs⟩ := hL.inTask rfl hc
    exact ⟨[u], hs, Nat.le_refl 1, fun t ht => ⟨th, h0, List.mem_singleton.1 ht ▸ hu⟩⟩
  | false =>
    exact ⟨[], by rw [(hL.outTask rfl hc).2.2, List.append_nil], Nat.zero_le 1, nofun⟩

/-- `nlw` with the mutex: the thread in front of its `notify_one` is the holder -/
theorem Inv.notifier {s} (hI : Inv s) (h0 : 0 ∈ s.waiters) : (s.queue = [] ∧ s.abort = false) ∨
    ∃ (j : Nat) (thj : Thread), s.holder = some j ∧ s.threads[j]? = some thj ∧ thj.pc.beforeNotify = true :=
  (hI.nlw h0).imp_right fun ⟨j, thj, hj, hb⟩ => by
    have := thj.pc.beforeNotify_le_holds
    rw [hb] at this
    exact ⟨j, thj, (hI.loc j thj hj).holds.1 this, hj, hb⟩

theorem wakeup_pending {cfg s} (h : Reachable cfg s) (hw : s.queue ≠ [] ∨ s.abort = true) :
    0 ∉ s.waiters ∨
      ∃ (j : Nat) (thj : Thread), s.holder = some j ∧ s.threads[j]? = some thj ∧ thj.pc.beforeNotify = true := by
  by_cases hin : 0 ∈ s.waiters
  · rcases (inv_reachable h).notifier hin with ⟨hq, ha⟩ | hn
    · rcases hw with hw | hw
      · exact absurd hq hw
      · rw [ha] at hw; cases hw
    · exact .inr hn
  · exact .inl hin

/-- `no_lost_wakeup` (safety form): if the worker is parked and there is work (`queue ≠ []`) or `abort` is set, then
a wake-up is pending (thread 0 has been removed from the condvar's waiter list by a `notify_one`) or some thread
holds the mutex at a program point before its `notify_one`.  (That the worker is parked is what makes the statement
interesting, not what makes it true: `wakeup_pending`.) -/
theorem no_lost_wakeup {cfg s} (h : Reachable cfg s) {th0 : Thread} (h0 : s.threads[0]? = some th0)
    (hp : th0.pc = .wParked) (hw : s.queue ≠ [] ∨ s.abort = true) :
    0 ∉ s.waiters ∨
      ∃ (j : Nat) (thj : Thread), s.holder = some j ∧ s.threads[j]? = some thj ∧ thj.pc.beforeNotify = true := by
  exact (fun _ _ => wakeup_pending h hw) h0 hp

def GEv.isStart : GEv → Bool
  | .start _ => true
  | _ => false

def GEv.isAbort : GEv → Bool
  | .abortSet | .abortRet => true
  | _ => false

/-- behind every abort event of the log `es`: no `pop`, and at most `1 - n` starts (`n` = tasks popped and not yet
started) -/
def After (es : List GEv) (n : Nat) : Prop :=
  ∀ (pre : List GEv) (e : GEv) (post : List GEv), es = pre ++ e :: post → e.isAbort = true →
    (∀ (t : Nat), GEv.pop t ∉ post) ∧ (post.filter GEv.isStart).length + n ≤ 1

theorem After.of_no_abort {es : List GEv} {n : Nat} (h : ∀ e ∈ es, e.isAbort = false) : After es n :=
  fun pre e post hd he => by
    rw [h e (hd ▸ List.mem_append_right _ List.mem_cons_self)] at he; cases he

theorem After.snoc {es : List GEv} {n n' : Nat} {x : GEv} (h : After es n) (hx : ∀ t, x ≠ .pop t)
    (hn : (List.filter GEv.isStart [x]).length + n' ≤ n) (h1 : n' ≤ 1) : After (es ++ [x]) n' := by
  intro pre e post hd he
  rcases List.eq_nil_or_concat post with rfl | ⟨post0, y, rfl⟩
  · exact ⟨nofun, Nat.le_trans (Nat.le_of_eq (Nat.zero_add _)) h1⟩
  · rw [List.concat_eq_append, ← List.cons_append, ← List.append_assoc] at hd
    obtain ⟨hes, hy⟩ := List.append_inj' hd rfl
    cases hy
    obtain ⟨a, b⟩ := h pre e post0 hes he
    rw [List.concat_eq_append]
    refine ⟨fun t ht => ?_, ?_⟩
    · rcases List.mem_append.1 ht with ht | ht
      · exact a t ht
      · exact hx t (List.mem_singleton.1 ht).symm
    · rw [List.filter_append, List.length_append]; omega

/-- the ghost event log against the state; `evAfter` carries `no_take_after_abort` and `start_after_abort` -/
structure EInv (s : State) : Prop where
  evAbort : ∀ (e : GEv), e ∈ s.events → e.isAbort = true → s.abort = true
  evAfter : After s.events (inflight s).length
  evStart : ∀ (t : Nat), GEv.start t ∈ s.events → GEv.pop t ∈ s.events
  evInfl : ∀ (t : Nat), t ∈ inflight s → GEv.pop t ∈ s.events
  evRet : s.abortReturned = true ↔ GEv.abortRet ∈ s.events
  evStarted : s.started = s.events.filterMap fun e => match e with | .start t => some t | _ => none

theorem Pc.inflight_length_le (pc : Pc) : pc.inflight.length ≤ 1 := by
  cases pc with
  | wUnlock f =>
    cases f
    · exact Nat.zero_le 1
    · exact Nat.le_refl 1
  | wStart => exact Nat.le_refl 1
  | _ => exact Nat.zero_le 1

theorem inflight_length_le (s : State) : (inflight s).length ≤ 1 := by
  unfold inflight
  split
  · exact Pc.inflight_length_le _
  · exact Nat.zero_le 1

theorem inflight_eq {s : State} {th : Thread} (h : s.threads[0]? = some th) : inflight s = th.pc.inflight := by
  unfold inflight; rw [h]

theorem inflight_set_worker {s s' : State} {th th' : Thread} (hth : s.threads[0]? = some th)
    (hs' : s'.threads = s.threads.set 0 th') : inflight s' = th'.pc.inflight :=
  inflight_eq (hs' ▸ List.getElem?_set_self (lt_of_getElem? hth))

theorem inflight_set {s s' : State} {i : Nat} {th th' : Thread} (hth : s.threads[i]? = some th)
    (hs' : s'.threads = s.threads.set i th') (hpc : th'.pc.inflight = th.pc.inflight) : inflight s' = inflight s := by
  by_cases hi : i = 0
  · subst hi
    rw [inflight_set_worker hth hs', inflight_eq hth, hpc]
  · unfold inflight
    rw [hs', List.getElem?_set_ne hi]

theorem einv_init (cfg : Config) : EInv (init cfg) :=
  ⟨nofun, .of_no_abort nofun, nofun, nofun, ⟨nofun, nofun⟩, rfl⟩

theorem einv_frame {s s' : State} (hE : EInv s) (hev : s'.events = s.events) (hab : s.abort = true → s'.abort = true)
    (hin : inflight s' = inflight s) (har : s'.abortReturned = s.abortReturned) (hst : s'.started = s.started) :
    EInv s' := by
  obtain ⟨e1, e2, e3, e4, e5, e6⟩ := hE
  refine ⟨?_, ?_, ?_, ?_, ?_, ?_⟩
  · rw [hev]; exact fun e he ha => hab (e1 e he ha)
  · rw [hev, hin]; exact e2
  · rw [hev]; exact e3
  · rw [hev, hin]; exact e4
  · rw [hev, har]; exact e5
  · rw [hev, hst]; exact e6

theorem einv_snoc {s s' : State} (hE : EInv s) (x : GEv) (hev : s'.events = s.events ++ [x])
    (hab : s'.abort = (s.abort || x.isAbort)) (har : s'.abortReturned = (s.abortReturned || decide (x = .abortRet)))
    (hst : s'.started = s.started ++ [x].filterMap fun e => match e with | .start t => some t | _ => none)
    (hafter : After s'.events (inflight s').length) (hstart : ∀ t, x = .start t → GEv.pop t ∈ s.events)
    (hinfl : ∀ t ∈ inflight s', t ∈ inflight s ∨ x = .pop t) : EInv s' := by
  obtain ⟨e1, _, e3, e4, e5, e6⟩ := hE
  refine ⟨fun e he ha => ?_, hafter, fun t ht => ?_, fun t ht => ?_, ?_, ?_⟩
  · rw [hab, Bool.or_eq_true]
    rcases List.mem_append.1 (hev ▸ he) with he | he
    · exact .inl (e1 e he ha)
    · exact .inr (List.mem_singleton.1 he ▸ ha)
  · rw [hev]
    rcases List.mem_append.1 (hev ▸ ht) with ht | ht
    · exact List.mem_append_left _ (e3 t ht)
    · exact List.mem_append_left _ (hstart t (List.mem_singleton.1 ht).symm)
  · rw [hev]
    rcases hinfl t ht with ht | rfl
    · exact List.mem_append_left _ (e4 t ht)
    · exact List.mem_append_right _ List.mem_cons_self
  · rw [har, hev, Bool.or_eq_true, e5, List.mem_append, List.mem_singleton, decide_eq_true_eq, eq_comm (a := x)]
  · rw [hst, hev, List.filterMap_append, ← e6]

theorem einv_abortEv {s s' : State} (hE : EInv s) {x : GEv} (hx : x = .abortSet ∨ x = .abortRet)
    (hev : s'.events = s.events ++ [x]) (hab : s'.abort = true) (hin : inflight s' = inflight s)
    (har : s'.abortReturned = (s.abortReturned || decide (x = .abortRet))) (hst : s'.started = s.started) :
    EInv s' := by
  rcases hx with rfl | rfl <;>
  exact einv_snoc hE _ hev (hab.trans (Bool.or_true _).symm) har (hst.trans (List.append_nil _).symm)
    (by rw [hev, hin]; exact hE.evAfter.snoc nofun (Nat.le_of_eq (Nat.zero_add _)) (inflight_length_le s)) nofun
    fun t ht => .inl (hin ▸ ht)

theorem einv_adv {cfg s s0 i th th'} (hI : Inv s) (hE : EInv s) (hth : s.threads[i]? = some th)
    (hA : Adv cfg s i th s0 th') : EInv (upd s0 i th') := by
  have hL := hI.loc i th hth
  have hT := hA.upd_threads
  cases hA
  case sWrite => exact einv_abortEv hE (.inl rfl) rfl rfl (inflight_set hth hT rfl) (Bool.or_false _).symm rfl
  case sRet =>
    exact einv_abortEv hE (.inr rfl) rfl (hL.sDone (.inr (.inr rfl))) (inflight_set hth hT rfl)
      (Bool.or_true _).symm rfl
  case wPop t q _ hq =>
    -- `abort = false`, so there is no abort event in the log yet
    cases worker_of_not_isCall hL rfl
    have hin : inflight (upd _ 0 _) = [t] := inflight_set_worker hth hT
    refine einv_snoc hE (.pop t) rfl (Bool.or_false _).symm (Bool.or_false _).symm (List.append_nil _).symm
      (.of_no_abort fun e he => ?_) nofun fun u hu => .inr ?_
    · cases ha : e.isAbort with
      | false => rfl
      | true =>
        rcases List.mem_append.1 he with he | he
        · have := (hL.wPop rfl).1; rw [hE.evAbort e he ha] at this; cases this
        · cases List.mem_singleton.1 he; cases ha
    · rw [hin] at hu; cases List.mem_singleton.1 hu; rfl
  case wStart t _ =>
    cases worker_of_not_isCall hL rfl
    have hin : inflight (upd _ 0 _) = [] := inflight_set_worker hth hT
    have hin0 : inflight s = [t] := inflight_eq hth
    refine einv_snoc hE (.start t) rfl (Bool.or_false _).symm (Bool.or_false _).symm rfl
      (by rw [hin]; exact hE.evAfter.snoc nofun (by rw [hin0]; exact Nat.le_refl 1) (Nat.zero_le 1))
      (fun u hu => ?_) fun u hu => ?_
    · cases hu; exact hE.evInfl t (hin0 ▸ List.mem_singleton_self t)
    · rw [hin] at hu; cases hu
  all_goals exact einv_frame hE rfl id (inflight_set hth hT rfl) rfl rfl

theorem einv_reachable {cfg s} (h : Reachable cfg s) : EInv s := by
  induction h with
  | init => exact einv_init cfg
  | step hr hs ih =>
    obtain ⟨th, s0, th', hth, _, rfl, hA⟩ := step_Adv hs
    exact einv_adv (inv_reachable hr) ih hth hA

theorem run_cons {cfg s l ls s'} :
    run cfg s (l :: ls) = some s' ↔ ∃ s1, step cfg s l = some s1 ∧ run cfg s1 ls = some s' := by
  rw [run]
  cases step cfg s l with
  | none => exact ⟨nofun, nofun⟩
  | some s1 => exact ⟨fun h => ⟨s1, rfl, h⟩, fun ⟨_, e, h⟩ => Option.some.inj e ▸ h⟩

theorem reachable_run {cfg s} (h : Reachable cfg s) : ∀ {ls s'}, run cfg s ls = some s' → Reachable cfg s' := by
  intro ls
  induction ls generalizing s with
  | nil => intro s' hr; cases hr; exact h
  | cons l ls ih =>
    intro s' hr
    obtain ⟨s1, hs1, hr1⟩ := run_cons.1 hr
    exact ih (h.step hs1) hr1

theorem reachable_replay {cfg ls s} (h : replay cfg ls = some s) : Reachable cfg s :=
  reachable_run Reachable.init h

theorem run_append {cfg s ls l s1 s2} (h1 : run cfg s ls = some s1) (h2 : step cfg s1 l = some s2) :
    run cfg s (ls ++ [l]) = some s2 := by
  induction ls generalizing s with
  | nil => cases h1; exact run_cons.2 ⟨s2, h2, rfl⟩
  | cons a ls ih =>
    obtain ⟨s', hs', h1⟩ := run_cons.1 h1
    exact run_cons.2 ⟨s', hs', ih h1⟩

theorem reachable_iff_replay {cfg s} : Reachable cfg s ↔ ∃ ls, replay cfg ls = some s := by
  constructor
  · intro h
    induction h with
    | init => exact ⟨[], rfl⟩
    | step _ hs ih => obtain ⟨ls, hl⟩ := ih; exact ⟨ls ++ [_], run_append hl hs⟩
  · rintro ⟨ls, h⟩; exact reachable_replay h

/-- In the chronological event log no `pop_front` follows the return of a `stop()` call
(nor even the write `abort := true` inside it: `e` may be `abortSet` or `abortRet`). -/
theorem no_take_after_abort {cfg s} (h : Reachable cfg s) {pre post : List GEv} {e : GEv}
    (he : e = .abortRet ∨ e = .abortSet) (hd : s.events = pre ++ e :: post) : ∀ t, GEv.pop t ∉ post :=
  ((einv_reachable h).evAfter pre e post hd (by rcases he with rfl | rfl <;> rfl)).1

/-- What is true about task *starts* after abort: at most one task is started after `abort` was set (a fortiori
after `stop()` returned), and that task had been taken from the queue before the abort. -/
theorem start_after_abort {cfg s} (h : Reachable cfg s) {pre post : List GEv} {e : GEv}
    (he : e = .abortRet ∨ e = .abortSet) (hd : s.events = pre ++ e :: post) :
    (post.filter GEv.isStart).length ≤ 1 ∧ ∀ t, GEv.start t ∈ post → GEv.pop t ∈ pre := by
  have hE := einv_reachable h
  have hab : e.isAbort = true := by rcases he with rfl | rfl <;> rfl
  have h1 := hE.evAfter pre e post hd hab
  refine ⟨Nat.le_trans (Nat.le_add_right _ _) h1.2, fun t ht => ?_⟩
  have : GEv.pop t ∈ s.events := hE.evStart t (hd ▸ List.mem_append_right _ (List.mem_cons_of_mem _ ht))
  rw [hd] at this
  rcases List.mem_append.1 this with h | h
  · exact h
  · rcases List.mem_cons.1 h with h | h
    · subst h; cases hab
    · exact absurd h (h1.1 t)

theorem log_consistent {cfg s} (h : Reachable cfg s) :
    (s.abortReturned = true ↔ GEv.abortRet ∈ s.events) ∧
    s.started = s.events.filterMap (fun e => match e with | .start t => some t | _ => none) :=
  ⟨(einv_reachable h).evRet, (einv_reachable h).evStarted⟩

def cfgLate : Config := { progs := [[.post 1, .abort]], body := fun _ => [] }

/-- the poster posts task 1, the worker pops it and releases the mutex, the poster runs `abort()` to completion,
and only then the worker enters the task -/
def runLate : List Label :=
  [⟨1, .callStart⟩, ⟨1, .lock⟩, ⟨1, .push⟩, ⟨1, .notify⟩, ⟨1, .unlock⟩, ⟨1, .callRet⟩,
   ⟨0, .lock⟩, ⟨0, .abortRead⟩, ⟨0, .abortRead⟩, ⟨0, .pop⟩, ⟨0, .unlock⟩,
   ⟨1, .callStart⟩, ⟨1, .lock⟩, ⟨1, .clear⟩, ⟨1, .abortWrite⟩, ⟨1, .notify⟩, ⟨1, .unlock⟩, ⟨1, .callRet⟩,
   ⟨0, .taskStart⟩]

theorem runLate_events :
    (replay cfgLate runLate).map (·.events) = some [.pop 1, .abortSet, .abortRet, .start 1] := by decide

/-- THE STRICT READING IS FALSE OF THE CODE AS WRITTEN: "once an `abort` call has returned, no `taskStart` happens
afterwards" is violated by a reachable run (the task was popped before the abort, `f.call(())` is entered after
`stop()` has returned). -/
theorem strict_no_start_after_abort_false :
    ∃ (cfg : Config) (ls : List Label) (s : State), replay cfg ls = some s ∧
      ∃ (pre post : List GEv) (t : Nat), s.events = pre ++ .abortRet :: post ∧ GEv.start t ∈ post :=
  match hr : replay cfgLate runLate, runLate_events with
  | some s, he =>
    ⟨cfgLate, runLate, s, hr, [.pop 1, .abortSet], [.start 1], 1, Option.some.inj he, List.mem_singleton_self _⟩

theorem abort_monotone {cfg s l s'} (hs : step cfg s l = some s') (ha : s.abort = true) : s'.abort = true := by
  obtain ⟨th, s0, th', _, _, rfl, hA⟩ := step_Adv hs
  exact hA.abort_mono ha

theorem kind_pop {th : Thread} (h : th.kind = some .pop) : th.pc = .wPop := by
  obtain ⟨todo, pc, cur⟩ := th
  cases pc with
  | wPop => rfl
  | idle => cases todo <;> cases cur <;> cases h
  | _ => cases h

theorem kind_taskStart {th : Thread} (h : th.kind = some .taskStart) : ∃ t, th.pc = .wStart t := by
  obtain ⟨todo, pc, cur⟩ := th
  cases pc with
  | wStart t => exact ⟨t, rfl⟩
  | idle => cases todo <;> cases cur <;> cases h
  | _ => cases h

theorem no_pop_when_abort {cfg s} (h : Reachable cfg s) (ha : s.abort = true) {l s'}
    (hs : step cfg s l = some s') : l.kind ≠ .pop := by
  intro hk
  obtain ⟨th, _, _, hth, hkind, _⟩ := step_Adv hs
  have := ((inv_reachable h).loc _ th hth).wPop (kind_pop (hk ▸ hkind))
  rw [ha] at this; cases this.1

/-- every step other than `pop` keeps `started ++ inflight` (a `taskStart` moves the in-flight task to `started`) -/
theorem started_inflight_step {cfg s} (h : Reachable cfg s) {l s'} (hs : step cfg s l = some s')
    (hk : l.kind ≠ .pop) : s'.started ++ inflight s' = s.started ++ inflight s := by
  obtain ⟨i, k⟩ := l
  obtain ⟨th, s0, th', hth, hkind, rfl, hA⟩ := step_Adv hs
  have hL := (inv_reachable h).loc i th hth
  have hT := hA.upd_threads
  cases hA
  case wPop | wPopNone => cases hkind; exact absurd rfl hk
  case wStart =>
    cases worker_of_not_isCall hL rfl
    rw [inflight_set_worker hth hT, inflight_eq hth]
    exact List.append_nil _
  all_goals exact congrArg _ (inflight_set hth hT rfl)

/-- What is true instead of "never performs `taskStart` again": from a reachable state with
`abort = true`, along ANY run no task is taken from the queue any more, `abort` stays set, and the only task that can
still be started is the one already popped (`inflight`, at most one): `started ++ inflight` is constant. -/
theorem worker_exits_no_take {cfg s} (h : Reachable cfg s) (ha : s.abort = true) :
    ∀ {ls s'}, run cfg s ls = some s' →
      (∀ l ∈ ls, l.kind ≠ .pop) ∧ s'.abort = true ∧ s'.started ++ inflight s' = s.started ++ inflight s := by
  intro ls
  induction ls generalizing s with
  | nil => intro s' hr; cases hr; exact ⟨nofun, ha, rfl⟩
  | cons l ls ih =>
    intro s' hr
    obtain ⟨s1, hs1, hr1⟩ := run_cons.1 hr
    have hk := no_pop_when_abort h ha hs1
    obtain ⟨a, b, c⟩ := ih (h.step hs1) (abort_monotone hs1 ha) hr1
    exact ⟨List.forall_mem_cons.2 ⟨hk, a⟩, b, c.trans (started_inflight_step h hs1 hk)⟩

/-- steps remaining inside the current `post` / `stop` call -/
def callRank : Pc → Nat
  | .pLock _ => 5 | .pPush _ => 4 | .pNotify => 3 | .pUnlock => 2 | .pRet => 1
  | .sLock => 6 | .sClear => 5 | .sWrite => 4 | .sNotify => 3 | .sUnlock => 2 | .sRet => 1
  | _ => 0

/-- bounds the worker's own steps to `wExited` once `abort` is set (each call of a task body is charged 7); `wPop` and
`wWait` are not reachable then, and `worker_exit_rank` does not use their values -/
def exitRank (cfg : Config) (th : Thread) : Nat :=
  match th.pc with
  | .wExited => 0
  | .wExit => 1
  | .wUnlock none => 2
  | .wRead2 => 3
  | .wCond => 4
  | .wLock => 5
  | .wReacq => 5
  | .wParked => 6
  | .wWait => 7
  | .wPop => 0
  | .wUnlock (some t) => 7 * (cfg.body t).length + 8
  | .wStart t => 7 * (cfg.body t).length + 7
  | pc => 7 * th.todo.length + callRank pc + 6

theorem worker_exit_rank {cfg s} (h : Reachable cfg s) (ha : s.abort = true) {th : Thread}
    (h0 : s.threads[0]? = some th) {k s'} (hs : step cfg s ⟨0, k⟩ = some s') :
    ∃ th', s'.threads[0]? = some th' ∧ exitRank cfg th' < exitRank cfg th := by
  have hL := (inv_reachable h).loc 0 th h0
  obtain ⟨th1, s0, th', hth, -, rfl, hA⟩ := step_Adv hs
  cases h0.symm.trans hth
  refine ⟨th', hA.get_self h0, ?_⟩
  cases hA
  case wCondWait hab _ | wRead2Go hab => rw [ha] at hab; cases hab
  case wWait => have := (hL.wWait rfl).2; rw [ha] at this; cases this
  case wPop | wPopNone => have := (hL.wPop rfl).1; rw [ha] at this; cases this
  all_goals simp only [exitRank, callRank, List.length_cons]; omega

theorem other_step_worker {cfg s i k s'} (hi : i ≠ 0) (hs : step cfg s ⟨i, k⟩ = some s') :
    s'.threads[0]? = s.threads[0]? := by
  obtain ⟨th, s0, th', -, -, rfl, hA⟩ := step_Adv hs
  rw [hA.upd_threads, List.getElem?_set_ne hi]

/-- the constant bound: outside of a task (and with no popped task in hand) the worker is at most 7 of its own steps
away from `wExited` -/
theorem exitRank_bound (cfg : Config) {th : Thread} (hc : th.pc.isCall = false) (hin : th.pc.inflight = []) :
    exitRank cfg th ≤ 7 := by
  obtain ⟨todo, pc, cur⟩ := th
  cases pc with
  | wStart => cases hin
  | wUnlock f =>
    cases f with
    | none => exact Nat.le_of_ble_eq_true rfl
    | some => cases hin
  | wLock | wCond | wWait | wParked | wReacq | wRead2 | wPop | wExit | wExited => exact Nat.le_of_ble_eq_true rfl
  | _ => cases hc

/-- inside / in front of a task the bound is linear in the number of calls the task still has to make -/
theorem exitRank_bound_task (cfg : Config) (th : Thread) :
    exitRank cfg th ≤ 7 * (th.todo.length + (th.pc.inflight.map fun t => (cfg.body t).length).sum) + 12 := by
  obtain ⟨todo, pc, cur⟩ := th
  cases pc with
  | wUnlock f => cases f <;> simp only [exitRank, Pc.inflight, List.map, List.sum_cons, List.sum_nil] <;> omega
  | _ => simp only [exitRank, callRank, Pc.inflight, List.map, List.sum_cons, List.sum_nil] <;> omega

theorem exitRank_zero {cfg s} (h : Reachable cfg s) (ha : s.abort = true) {th : Thread}
    (h0 : s.threads[0]? = some th) (hz : exitRank cfg th = 0) : th.pc = .wExited := by
  have hL := (inv_reachable h).loc 0 th h0
  obtain ⟨todo, pc, cur⟩ := th
  cases pc with
  | wExited => rfl
  | wPop => have := (hL.wPop rfl).1; rw [ha] at this; cases this
  | wUnlock f => cases f <;> cases hz
  | _ => cases hz

/-- a `wake` step of a thread that is still in the condvar's waiter list, i.e. a spurious wake-up -/
def spurious (s : State) (l : Label) : Bool := l.kind == .wake && s.waiters.contains l.tid

/-- the only blocking operation is `lock` on a busy mutex; a thread without a next step has terminated (the worker after
`exit`, a poster at the end of its program) -/
theorem adv_enabled (cfg : Config) (s : State) (i : Nat) (th : Thread) :
    (∃ k s', th.kind = some k ∧ adv cfg s i th = some s') ∨
      (th.kind = some .lock ∧ th.pc.holds = false ∧ s.holder ≠ none) ∨
      th.pc = .wExited ∨ th = ⟨[], .idle, none⟩ := by
  obtain ⟨todo, pc, cur⟩ := th
  cases pc with
  | idle =>
    cases todo with
    | cons c rest => cases c <;> exact .inl ⟨_, _, rfl, rfl⟩
    | nil =>
      cases cur with
      | none => exact .inr (.inr (.inr rfl))
      | some => exact .inl ⟨_, _, rfl, rfl⟩
  | wExited => exact .inr (.inr (.inl rfl))
  | pLock | sLock | wLock | wReacq =>
    by_cases hh : s.holder = none
    · exact .inl ⟨_, _, rfl, if_pos hh⟩
    · exact .inr (.inl ⟨rfl, rfl, hh⟩)
  | _ => exact .inl ⟨_, _, rfl, rfl⟩

theorem step_of_adv {cfg s i th k s'} (hth : s.threads[i]? = some th) (hk : th.kind = some k)
    (h : adv cfg s i th = some s') : step cfg s ⟨i, k⟩ = some s' := by
  simp only [step, hth, hk, if_true, h]

theorem kind_wake {th : Thread} (h : th.kind = some .wake) : th.pc = .wParked := by
  obtain ⟨todo, pc, cur⟩ := th
  cases pc with
  | wParked => rfl
  | idle => cases todo <;> cases cur <;> cases h
  | _ => cases h

/-- In every reachable state the worker has terminated, or has an enabled step that is not a
spurious wake-up, or is blocked by a mutex holder other than itself, or is parked with nothing to do
(`queue = []`, `abort = false`).  In particular a parked worker with work or abort pending is never stuck
(this is `no_lost_wakeup` in enabledness form). -/
theorem worker_enabled {cfg s} (h : Reachable cfg s) {th : Thread} (h0 : s.threads[0]? = some th) :
    th.pc = .wExited ∨
    (∃ k s', step cfg s ⟨0, k⟩ = some s' ∧ spurious s ⟨0, k⟩ = false) ∨
    (∃ j, j ≠ 0 ∧ s.holder = some j) ∨
    (th.pc = .wParked ∧ 0 ∈ s.waiters ∧ s.queue = [] ∧ s.abort = false) := by
  have hI := inv_reachable h
  have hL := hI.loc 0 th h0
  rcases adv_enabled cfg s 0 th with ⟨k, s', hk, ha⟩ | ⟨-, hnh, hh⟩ | hpc | rfl
  · cases hsp : spurious s ⟨0, k⟩ with
    | false => exact .inr (.inl ⟨k, s', step_of_adv h0 hk ha, hsp⟩)
    | true =>
      obtain ⟨hkw, hw⟩ := Bool.and_eq_true_iff.1 hsp
      cases of_decide_eq_true hkw
      have hw : 0 ∈ s.waiters := List.contains_iff_mem.1 hw
      have hp := kind_wake hk
      rcases hI.notifier hw with hq | ⟨j, thj, hj, hthj, hb⟩
      · exact .inr (.inr (.inr ⟨hp, hw, hq⟩))
      · refine .inr (.inr (.inl ⟨j, ?_, hj⟩))
        rintro rfl
        cases h0.symm.trans hthj
        rw [hp] at hb; cases hb
  · cases hj : s.holder with
    | none => exact absurd hj hh
    | some j =>
      refine .inr (.inr (.inl ⟨j, ?_, rfl⟩))
      rintro rfl
      have := hL.holds.2 hj
      rw [hnh] at this; cases this
  · exact .inl hpc
  · obtain ⟨u, hu, _⟩ := hL.inTask rfl rfl
    cases hu

/-- steps a mutex holder needs to release the mutex -/
def holdRank : Pc → Nat
  | .pPush _ => 3 | .pNotify => 2 | .pUnlock => 1
  | .sClear => 4 | .sWrite => 3 | .sNotify => 2 | .sUnlock => 1
  | .wCond => 4 | .wRead2 => 3 | .wPop => 2 | .wUnlock _ => 1 | .wWait => 1
  | _ => 0

theorem holdRank_le (pc : Pc) : holdRank pc ≤ 4 := by cases pc <;> exact Nat.le_of_ble_eq_true rfl

theorem Adv.hold_progress {cfg s i th s0 th'} (hA : Adv cfg s i th s0 th') (hh : th.pc.holds = true) :
    s0.holder = none ∨ (s0.holder = s.holder ∧ holdRank th'.pc < holdRank th.pc) := by
  cases hA
  case pUnlock | sUnlock | wUnlock | wUnlockNone | wWait => exact .inl rfl
  case pPush | pNotify | sClear | sWrite | sNotify | wCondWait | wCondGo | wRead2Stop | wRead2Go | wPop | wPopNone =>
    exact .inr ⟨rfl, Nat.le_of_ble_eq_true rfl⟩
  all_goals cases hh

/-- The thread holding the mutex always has an enabled step (it never blocks), and each of its
steps either releases the mutex or decreases `holdRank ≤ 4`: critical sections are finite. -/
theorem holder_progress {cfg s} (h : Reachable cfg s) {j : Nat} (hj : s.holder = some j) :
    ∃ th k s', s.threads[j]? = some th ∧ step cfg s ⟨j, k⟩ = some s' ∧ ∃ th', s'.threads[j]? = some th' ∧
      (s'.holder = none ∨ (s'.holder = some j ∧ holdRank th'.pc < holdRank th.pc)) := by
  have hI := inv_reachable h
  have hlt := hI.holderValid j hj
  have hth : s.threads[j]? = some s.threads[j] := List.getElem?_eq_getElem hlt
  generalize s.threads[j] = th at hth
  have hh := (hI.loc j th hth).holds.2 hj
  rcases adv_enabled cfg s j th with ⟨k, s', hk, ha⟩ | ⟨-, hnh, -⟩ | hpc | rfl
  · obtain ⟨s0, th', rfl, hA⟩ := adv_Adv ha
    refine ⟨th, k, _, hth, step_of_adv hth hk ha, th', hA.get_self hth, ?_⟩
    exact (hA.hold_progress hh).imp_right fun ⟨e, hr⟩ => ⟨e.trans hj, hr⟩
  · rw [hnh] at hh; cases hh
  · rw [hpc] at hh; cases hh
  · cases hh

/-- worker steps of one full loop iteration for task `u`: lock, 2 × abort read, pop, unlock, taskStart,
≤ 7 steps per call of the body, taskEnd -/
def iterCost (cfg : Config) (u : Nat) : Nat := 7 * (cfg.body u).length + 7

/-- cost of the loop iterations for the tasks queued in front of (the first occurrence of) `t` -/
def queueCost (cfg : Config) (t : Nat) : List Nat → Nat
  | [] => 0
  | u :: q => if u = t then 0 else iterCost cfg u + queueCost cfg t q

theorem queueCost_append_of_mem {cfg : Config} {t : Nat} {q : List Nat} (r : List Nat) (h : t ∈ q) :
    queueCost cfg t (q ++ r) = queueCost cfg t q := by
  induction q with
  | nil => cases h
  | cons u q ih =>
    by_cases hu : u = t
    · simp only [List.cons_append, queueCost, if_pos hu]
    · simp only [List.cons_append, queueCost, if_neg hu, ih ((List.mem_cons.1 h).resolve_left (Ne.symm hu))]

/-- worker steps until the worker is back at `wLock`, plus the 6 steps `wLock … taskStart` of the last iteration (0 at
the program points reached only with `abort` set) -/
def workerCost (cfg : Config) (th : Thread) : Nat :=
  match th.pc with
  | .wLock => 6
  | .wCond => 5
  | .wRead2 => 4
  | .wPop => 3
  | .wReacq => 6
  | .wParked => 7
  | .wWait => 8
  | .wUnlock (some u) => 7 * (cfg.body u).length + 9
  | .wStart u => 7 * (cfg.body u).length + 8
  | .wUnlock none => 0
  | .wExit => 0
  | .wExited => 0
  | pc => 7 * th.todo.length + callRank pc + 7

/-- `t` is waiting to be run: still in the queue, or popped and not yet started -/
def pend (s : State) (t : Nat) : Prop := t ∈ s.queue ∨ t ∈ inflight s

/-- upper bound on the number of worker steps before `taskStart t`, as a function of the worker's record and the queue -/
def rankOf (cfg : Config) (th : Thread) (q : List Nat) (t : Nat) : Nat :=
  if t ∈ th.pc.inflight then (match th.pc with | .wUnlock _ => 2 | _ => 1)
  else workerCost cfg th + queueCost cfg t q

def startRank (cfg : Config) (s : State) (t : Nat) : Nat :=
  match s.threads[0]? with
  | none => 0
  | some th => rankOf cfg th s.queue t

theorem rankOf_of_not_mem {cfg : Config} {th : Thread} {q : List Nat} {t : Nat} (h : t ∉ th.pc.inflight) :
    rankOf cfg th q t = workerCost cfg th + queueCost cfg t q := if_neg h

theorem rankOf_of_mem {cfg : Config} {th : Thread} {q : List Nat} {t : Nat} (h : t ∈ th.pc.inflight) :
    rankOf cfg th q t = match th.pc with | .wUnlock _ => 2 | _ => 1 := if_pos h

theorem Adv.rank {cfg s th s0 th'} {t : Nat} (hA : Adv cfg s 0 th s0 th') (hL : LocalInv s 0 th)
    (ha : s.abort = false) (hq : t ∈ th.pc.inflight ∨ t ∈ s.queue) :
    (th.pc = .wStart t ∧ s0.started = s.started ++ [t]) ∨
    (t ∈ s0.queue ∨ t ∈ th'.pc.inflight → rankOf cfg th' s0.queue t < rankOf cfg th s.queue t) := by
  have hab : s.abort ≠ true := by rw [ha]; nofun
  cases hA
  case wRead2Stop h => exact absurd h hab
  case wUnlockNone => exact absurd (hL.wNone (.inl rfl)) hab
  case wExit => exact absurd (hL.wNone (.inr (.inl rfl))) hab
  case wPopNone h => exact absurd h (hL.wPop rfl).2
  case sClear => exact .inr fun h => by rcases h with h | h <;> cases h
  case wStart u _ =>
    by_cases hu : t = u
    · subst hu; exact .inl ⟨rfl, rfl⟩
    · refine .inr fun _ => ?_
      rw [rankOf_of_not_mem List.not_mem_nil, rankOf_of_not_mem (fun h => hu (List.mem_singleton.1 h))]
      simp only [workerCost, callRank]; omega
  case wUnlock u _ =>
    refine .inr fun _ => ?_
    by_cases hu : t = u
    · subst hu
      rw [rankOf_of_mem (List.mem_singleton_self t), rankOf_of_mem (List.mem_singleton_self t)]
      exact Nat.lt_succ_self 1
    · have hn : t ∉ [u] := fun h => hu (List.mem_singleton.1 h)
      rw [rankOf_of_not_mem hn, rankOf_of_not_mem hn]
      simp only [workerCost]; omega
  case wPop u q _ hqq =>
    refine .inr fun _ => ?_
    rw [rankOf_of_not_mem (th := ⟨_, .wPop, _⟩) List.not_mem_nil, hqq]
    by_cases hu : t = u
    · subst hu
      rw [rankOf_of_mem (List.mem_singleton_self t)]
      simp only [workerCost, queueCost, if_true]; omega
    · rw [rankOf_of_not_mem (fun h => hu (List.mem_singleton.1 h))]
      simp only [workerCost, queueCost, if_neg (Ne.symm hu), iterCost]; omega
  case pPush x _ =>
    have hq := hq.resolve_left List.not_mem_nil
    refine .inr fun _ => ?_
    rw [rankOf_of_not_mem List.not_mem_nil, rankOf_of_not_mem List.not_mem_nil]
    show _ + queueCost cfg t (s.queue ++ [x]) < _
    rw [queueCost_append_of_mem _ hq]
    simp only [workerCost, callRank]; omega
  case wCondWait _ h => rw [h] at hq; exact absurd hq (by rintro (h | h) <;> cases h)
  case wWait => rw [(hL.wWait rfl).1] at hq; exact absurd hq (by rintro (h | h) <;> cases h)
  all_goals
    refine .inr fun _ => ?_
    rw [rankOf_of_not_mem List.not_mem_nil, rankOf_of_not_mem List.not_mem_nil]
    simp only [workerCost, callRank, List.length_cons, List.length_nil]; omega

/-- While `abort = false` and `t` is pending, every step of the worker either is
`taskStart t`, or strictly decreases `startRank` (provided `t` is still pending afterwards, i.e. it was not
discarded by an `abort()` issued from inside the running task). -/
theorem progress_worker_step {cfg s} (h : Reachable cfg s) (ha : s.abort = false) {t : Nat} (hp : pend s t)
    {k s'} (hs : step cfg s ⟨0, k⟩ = some s') :
    (k = .taskStart ∧ s'.started = s.started ++ [t]) ∨ (pend s' t → startRank cfg s' t < startRank cfg s t) := by
  obtain ⟨th, s0, th', h0, hkind, rfl, hA⟩ := step_Adv hs
  have h0' : (upd s0 0 th').threads[0]? = some th' := hA.get_self h0
  rcases hA.rank ((inv_reachable h).loc 0 th h0) ha (hp.symm.imp_left (inflight_eq h0 ▸ ·)) with ⟨hpc, e⟩ | hr
  · unfold Thread.kind at hkind
    rw [hpc] at hkind
    exact .inl ⟨(Option.some.inj hkind).symm, e⟩
  · refine .inr fun hp' => ?_
    unfold startRank
    rw [h0', h0]
    exact hr (hp'.imp_right (inflight_eq h0' ▸ ·))

theorem other_step_queue {cfg s} (h : Reachable cfg s) {i k s'} (hi : i ≠ 0) (hs : step cfg s ⟨i, k⟩ = some s') :
    s'.queue = s.queue ∨ (∃ x, s'.queue = s.queue ++ [x]) ∨ s'.queue = [] := by
  obtain ⟨th, s0, th', hth, -, rfl, hA⟩ := step_Adv hs
  rcases hA.queue with e | e | e | hpc
  · exact .inl e
  · exact .inr (.inl e)
  · exact .inr (.inr e)
  · exact absurd (worker_of_not_isCall ((inv_reachable h).loc i th hth) (by rw [hpc]; rfl)) hi

theorem progress_other_step {cfg s} (h : Reachable cfg s) {t : Nat} (hp : pend s t) {i k s'} (hi : i ≠ 0)
    (hs : step cfg s ⟨i, k⟩ = some s') (hp' : pend s' t) : startRank cfg s' t = startRank cfg s t := by
  have h0 := other_step_worker hi hs
  unfold startRank
  rw [h0]
  cases hth : s.threads[0]? with
  | none => rfl
  | some th =>
    show rankOf cfg th s'.queue t = rankOf cfg th s.queue t
    by_cases hinf : t ∈ th.pc.inflight
    · rw [rankOf_of_mem hinf, rankOf_of_mem hinf]
    · have hq : t ∈ s.queue := hp.resolve_right (inflight_eq hth ▸ hinf)
      have hq' : t ∈ s'.queue := hp'.resolve_right (inflight_eq (h0.trans hth) ▸ hinf)
      rw [rankOf_of_not_mem hinf, rankOf_of_not_mem hinf]
      rcases other_step_queue h hi hs with h1 | ⟨x, h1⟩ | h1
      · rw [h1]
      · rw [h1, queueCost_append_of_mem _ hq]
      · rw [h1] at hq'; cases hq'

theorem started_mono_step {cfg s l s'} (hs : step cfg s l = some s') : ∃ r, s'.started = s.started ++ r := by
  obtain ⟨th, s0, th', -, -, rfl, hA⟩ := step_Adv hs
  rcases hA.started with ⟨e, -⟩ | ⟨t, -, e, -⟩
  · exact ⟨[], e.trans (List.append_nil _).symm⟩
  · exact ⟨[t], e⟩

theorem started_mono_run {cfg} : ∀ {ls s s'}, run cfg s ls = some s' → ∃ r, s'.started = s.started ++ r := by
  intro ls
  induction ls with
  | nil => intro s s' hr; cases hr; exact ⟨[], (List.append_nil _).symm⟩
  | cons l ls ih =>
    intro s s' hr
    obtain ⟨s1, hs1, hr1⟩ := run_cons.1 hr
    obtain ⟨r1, h1⟩ := started_mono_step hs1
    obtain ⟨r2, h2⟩ := ih hr1
    exact ⟨r1 ++ r2, by rw [h2, h1, List.append_assoc]⟩

/-- the states visited by a run, the first and the last included -/
def runStates (cfg : Config) : State → List Label → List State
  | s, [] => [s]
  | s, l :: ls => s :: (match step cfg s l with | some s' => runStates cfg s' ls | none => [])

theorem head_mem_runStates (cfg : Config) (s : State) (ls : List Label) : s ∈ runStates cfg s ls := by
  cases ls <;> exact List.mem_cons_self

def workerSteps (ls : List Label) : Nat := (ls.filter fun l => l.tid == 0).length

theorem workerSteps_cons (i : Nat) (k : Kind) (ls : List Label) :
    workerSteps (⟨i, k⟩ :: ls) = (if i = 0 then 1 else 0) + workerSteps ls := by
  unfold workerSteps
  by_cases hi : i = 0
  · rw [List.filter_cons_of_pos (by simpa using hi), if_pos hi, List.length_cons, Nat.add_comm]
  · rw [List.filter_cons_of_neg (by simpa using hi), if_neg hi, Nat.zero_add]

/-- Along ANY run (any interleaving, any number of poster steps) during which `abort` stays false and `t` stays
pending, the worker performs at most `startRank` steps.  "Under weak fairness every task posted with no abort pending is
eventually run" follows from this with `worker_enabled` / `holder_progress` (the worker is never stuck while work is
pending, mutex holders always progress); that last step is not a theorem here. -/
theorem progress_run {cfg} {t : Nat} : ∀ {ls s s'}, Reachable cfg s → run cfg s ls = some s' →
    (∀ x ∈ runStates cfg s ls, x.abort = false ∧ pend x t) →
    t ∈ s'.started ∨ workerSteps ls + startRank cfg s' t ≤ startRank cfg s t := by
  intro ls
  induction ls with
  | nil => intro s s' _ hr _; cases hr; exact .inr (Nat.le_of_eq (Nat.zero_add _))
  | cons l ls ih =>
    intro s s' h hr hall
    obtain ⟨s1, hs1, hr1⟩ := run_cons.1 hr
    have hs := hall s (head_mem_runStates _ _ _)
    have hall1 : ∀ x ∈ runStates cfg s1 ls, x.abort = false ∧ pend x t := fun x hx =>
      hall x (by rw [runStates, hs1]; exact List.mem_cons_of_mem _ hx)
    have hs1p := hall1 s1 (head_mem_runStates _ _ _)
    rcases ih (h.step hs1) hr1 hall1 with h1 | h1
    · exact .inl h1
    · obtain ⟨i, k⟩ := l
      rw [workerSteps_cons]
      by_cases hi : i = 0
      · subst hi
        rcases progress_worker_step h hs.1 hs.2 hs1 with ⟨_, h2⟩ | h2
        · obtain ⟨r, hr'⟩ := started_mono_run hr1
          exact .inl (by rw [hr', h2]; exact List.mem_append_left _ (List.mem_append_right _ (List.mem_singleton_self t)))
        · have := h2 hs1p.2
          rw [if_pos rfl]
          exact .inr (by omega)
      · rw [if_neg hi, progress_other_step h hs.2 hi hs1 hs1p.2] at *
        exact .inr (by omega)

def exitRankS (cfg : Config) (s : State) : Nat :=
  match s.threads[0]? with
  | some th => exitRank cfg th
  | none => 0

/-- From a reachable state with `abort = true`, along ANY run the worker performs at most
`exitRankS` steps (≤ 7 when it is not inside / in front of a task, see `exitRank_bound`); when the budget is used up
it is at `wExited` (`exitRank_zero`).  `worker_enabled` / `holder_progress` show it is never stuck before that. -/
theorem worker_exit_run {cfg} : ∀ {ls s s'}, Reachable cfg s → s.abort = true → run cfg s ls = some s' →
    workerSteps ls + exitRankS cfg s' ≤ exitRankS cfg s := by
  intro ls
  induction ls with
  | nil => intro s s' _ _ hr; cases hr; exact Nat.le_of_eq (Nat.zero_add _)
  | cons l ls ih =>
    intro s s' h ha hr
    obtain ⟨s1, hs1, hr1⟩ := run_cons.1 hr
    have h1 := ih (h.step hs1) (abort_monotone hs1 ha) hr1
    obtain ⟨i, k⟩ := l
    rw [workerSteps_cons]
    by_cases hi : i = 0
    · subst hi
      obtain ⟨th, h0⟩ := worker_thread (inv_reachable h)
      obtain ⟨th', h0', hlt⟩ := worker_exit_rank h ha h0 hs1
      have e1 : exitRankS cfg s = exitRank cfg th := by unfold exitRankS; rw [h0]
      have e2 : exitRankS cfg s1 = exitRank cfg th' := by unfold exitRankS; rw [h0']
      rw [if_pos rfl]; omega
    · have e : exitRankS cfg s1 = exitRankS cfg s := by unfold exitRankS; rw [other_step_worker hi hs1]
      rw [if_neg hi]; omega

/-- "unique task ids in the programs": every id is posted by at most one call site over all poster programs and
all task bodies -/
structure Config.Unique (cfg : Config) : Prop where
  progNodup : ∀ (i : Nat) (p : List Call), cfg.progs[i]? = some p → (ids p).Nodup
  progDisj : ∀ (i j : Nat) (p q : List Call), i ≠ j → cfg.progs[i]? = some p → cfg.progs[j]? = some q →
    ∀ x ∈ ids p, x ∉ ids q
  bodyNodup : ∀ (u : Nat), (ids (cfg.body u)).Nodup
  bodyDisj : ∀ (u v : Nat), u ≠ v → ∀ x ∈ ids (cfg.body u), x ∉ ids (cfg.body v)
  bodyProg : ∀ (u i : Nat) (p : List Call), cfg.progs[i]? = some p → ∀ x ∈ ids (cfg.body u), x ∉ ids p

theorem nodup_flatMap_iff_getElem? {α β} {f : α → List β} {l : List α} :
    (l.flatMap f).Nodup ↔ (∀ (i : Nat) (a : α), l[i]? = some a → (f a).Nodup) ∧
      ∀ (i j : Nat) (a b : α), i ≠ j → l[i]? = some a → l[j]? = some b → ∀ x ∈ f a, x ∉ f b := by
  rw [List.Nodup, List.pairwise_flatMap, List.pairwise_iff_getElem]
  constructor
  · rintro ⟨h1, h2⟩
    refine ⟨fun i a hi => h1 a (List.mem_of_getElem? hi), fun i j a b hij hi hj x hx hy => ?_⟩
    obtain ⟨hi', rfl⟩ := List.getElem?_eq_some_iff.1 hi
    obtain ⟨hj', rfl⟩ := List.getElem?_eq_some_iff.1 hj
    rcases Nat.lt_or_gt_of_ne hij with h | h
    · exact h2 i j hi' hj' h x hx x hy rfl
    · exact h2 j i hj' hi' h x hy x hx rfl
  · rintro ⟨h1, h2⟩
    refine ⟨fun a ha => ?_, fun i j hi hj hij x hx y hy e => ?_⟩
    · obtain ⟨i, hi⟩ := List.getElem?_of_mem ha
      exact h1 i a hi
    · exact h2 i j _ _ (Nat.ne_of_lt hij) (List.getElem?_eq_getElem hi) (List.getElem?_eq_getElem hj) x hx (e ▸ hy)

/-- for a concrete configuration, whose bodies post nothing outside a finite list `supp`, `Unique` is one evaluation: the
ids of all call sites (the programs, then the bodies of `supp`) form a duplicate-free list -/
theorem Config.Unique.of_nodup {cfg : Config} (supp : List Nat) (hs : ∀ u, u ∉ supp → cfg.body u = [])
    (h : (cfg.progs.flatMap ids ++ supp.flatMap fun u => ids (cfg.body u)).Nodup) : cfg.Unique := by
  obtain ⟨hp, hb, hpb⟩ := List.nodup_append.1 h
  obtain ⟨hp1, hp2⟩ := nodup_flatMap_iff_getElem?.1 hp
  obtain ⟨hb1, hb2⟩ := nodup_flatMap_iff_getElem?.1 hb
  have hmem : ∀ {u x : Nat}, x ∈ ids (cfg.body u) → ∃ i, supp[i]? = some u := fun {u x} hx =>
    List.getElem?_of_mem (Decidable.by_contra fun hu => by rw [hs u hu] at hx; cases hx)
  refine ⟨hp1, hp2, fun u => ?_, fun u v huv x hx hx' => ?_, fun u i p hi x hx hxp => ?_⟩
  · by_cases hu : u ∈ supp
    · obtain ⟨i, hi⟩ := List.getElem?_of_mem hu
      exact hb1 i u hi
    · rw [hs u hu]; exact List.nodup_nil
  · obtain ⟨i, hi⟩ := hmem hx
    obtain ⟨j, hj⟩ := hmem hx'
    exact hb2 i j u v (fun e => huv (Option.some.inj ((e ▸ hi).symm.trans hj))) hi hj x hx hx'
  · obtain ⟨j, hj⟩ := hmem hx
    exact hpb x (List.mem_flatMap.2 ⟨p, List.mem_of_getElem? hi, hxp⟩) x
      (List.mem_flatMap.2 ⟨u, List.mem_of_getElem? hj, hx⟩) rfl

/-- ids pushed, or still to be pushed by some thread; that it has no duplicates (`claim`), with `bodyFresh`, is what
gives `at_most_once` -/
def claimed (s : State) : List Nat := s.pushed ++ s.threads.flatMap Thread.fut

theorem claimed_upd {s s' : State} {i : Nat} {th th' : Thread} (hth : s.threads[i]? = some th)
    (hT : s'.threads = s.threads.set i th') :
    (claimed s' ++ th.fut).Perm (s'.pushed ++ s.threads.flatMap Thread.fut ++ th'.fut) := by
  unfold claimed
  rw [hT, List.append_assoc, List.append_assoc]
  exact (flatMap_set_perm hth).append_left _

theorem claimed_perm {s s' : State} {i : Nat} {th th' : Thread} (hth : s.threads[i]? = some th)
    (hT : s'.threads = s.threads.set i th') (hfut : s'.pushed ++ th'.fut = s.pushed ++ th.fut) :
    (claimed s').Perm (claimed s) := by
  have swap : ∀ (a b c : List Nat), ((a ++ b) ++ c).Perm ((a ++ c) ++ b) := fun a b c => by
    rw [List.append_assoc, List.append_assoc]; exact List.perm_append_comm.append_left a
  have h1 := swap s'.pushed (s.threads.flatMap Thread.fut) th'.fut
  rw [hfut] at h1
  exact (List.perm_append_right_iff th.fut).1 (((claimed_upd hth hT).trans h1).trans (swap _ _ _))

structure DInv (cfg : Config) (s : State) : Prop where
  fifo : s.pushed.filter (fun x => decide (x ∉ s.discarded)) = s.started ++ inflight s ++ s.queue
  discSub : ∀ (x : Nat), x ∈ s.discarded → x ∈ s.pushed
  discNodup : s.discarded.Nodup
  claim : (claimed s).Nodup
  bodyFresh : ∀ (u : Nat), u ∉ s.started → ∀ x ∈ ids (cfg.body u), x ∉ claimed s

theorem DInv.pushed_nodup {cfg : Config} {s : State} (hD : DInv cfg s) : s.pushed.Nodup :=
  (List.nodup_append.1 hD.claim).1

theorem DInv.not_pushed {cfg : Config} {s : State} (hD : DInv cfg s) {i : Nat} {th : Thread}
    (hth : s.threads[i]? = some th) {x : Nat} (hx : x ∈ th.fut) : x ∉ s.pushed := fun hp =>
  (List.nodup_append.1 hD.claim).2.2 x hp x (List.mem_flatMap.2 ⟨th, List.mem_of_getElem? hth, hx⟩) rfl

theorem live_nodup {cfg : Config} {s : State} (hD : DInv cfg s) :
    (s.started ++ inflight s ++ s.queue).Nodup := by
  rw [← hD.fifo]; exact hD.pushed_nodup.filter _

theorem dinv_init {cfg : Config} (hU : cfg.Unique) : DInv cfg (init cfg) := by
  have hc : claimed (init cfg) = cfg.progs.flatMap ids := by
    show [] ++ ([] ++ (cfg.progs.map _).flatMap Thread.fut) = _
    rw [List.nil_append, List.nil_append, List.flatMap_map]; rfl
  refine ⟨rfl, nofun, List.nodup_nil, ?_, fun u _ x hx hc' => ?_⟩
  · rw [hc]; exact nodup_flatMap_iff_getElem?.2 ⟨hU.progNodup, hU.progDisj⟩
  · rw [hc] at hc'
    obtain ⟨p, hp, hxp⟩ := List.mem_flatMap.1 hc'
    obtain ⟨i, hi⟩ := List.getElem?_of_mem hp
    exact hU.bodyProg u i p hi x hx hxp

theorem dinv_step {cfg : Config} {s s' : State} {i : Nat} {th th' : Thread} (hD : DInv cfg s)
    (hth : s.threads[i]? = some th) (hT : s'.threads = s.threads.set i th')
    (hfut : s'.pushed ++ th'.fut = s.pushed ++ th.fut) (hst : s'.started = s.started)
    (hfifo : s'.pushed.filter (fun x => decide (x ∉ s'.discarded)) = s'.started ++ inflight s' ++ s'.queue)
    (hsub : ∀ (x : Nat), x ∈ s'.discarded → x ∈ s'.pushed) (hnd : s'.discarded.Nodup) : DInv cfg s' :=
  have hp := claimed_perm hth hT hfut
  ⟨hfifo, hsub, hnd, hp.nodup_iff.2 hD.claim, fun u hu x hx hc => hD.bodyFresh u (hst ▸ hu) x hx (hp.mem_iff.1 hc)⟩

theorem dinv_frame {cfg : Config} {s s' : State} {i : Nat} {th th' : Thread} (hD : DInv cfg s)
    (hth : s.threads[i]? = some th) (hT : s'.threads = s.threads.set i th') (hfut : th'.fut = th.fut)
    (hpu : s'.pushed = s.pushed) (hst : s'.started = s.started) (hdi : s'.discarded = s.discarded)
    (hq : s'.queue = s.queue) (hin : th'.pc.inflight = th.pc.inflight) : DInv cfg s' :=
  dinv_step hD hth hT (by rw [hpu, hfut]) hst (by rw [hpu, hdi, hst, hq, inflight_set hth hT hin]; exact hD.fifo)
    (by rw [hpu, hdi]; exact hD.discSub) (by rw [hdi]; exact hD.discNodup)

theorem filter_not_mem_right {l q : List Nat} (h : (l ++ q).Nodup) :
    (l ++ q).filter (fun x => decide (x ∉ q)) = l := by
  rw [List.filter_append, List.filter_eq_self.2, List.filter_eq_nil_iff.2, List.append_nil]
  · exact fun a ha => by simpa using ha
  · exact fun a ha => decide_eq_true fun hq => (List.nodup_append.1 h).2.2 a ha a hq rfl

theorem dinv_adv {cfg : Config} (hU : cfg.Unique) {s s0 : State} {i : Nat} {th th' : Thread} (hI : Inv s)
    (hD : DInv cfg s) (hth : s.threads[i]? = some th) (hA : Adv cfg s i th s0 th') : DInv cfg (upd s0 i th') := by
  have hL := hI.loc i th hth
  have hT := hA.upd_threads
  cases hA
  case pPush todo t _ =>
    have htd : t ∉ s.discarded := fun h => hD.not_pushed hth List.mem_cons_self (hD.discSub t h)
    refine dinv_step hD hth hT (List.append_assoc s.pushed [t] (ids todo)) rfl ?_
      (fun x hx => List.mem_append_left _ (hD.discSub x hx)) hD.discNodup
    show (s.pushed ++ [t]).filter (fun x => decide (x ∉ s.discarded)) = s.started ++ inflight _ ++ (s.queue ++ [t])
    have e : [t].filter (fun x => decide (x ∉ s.discarded)) = [t] :=
      List.filter_eq_self.2 fun a ha => decide_eq_true (List.mem_singleton.1 ha ▸ htd)
    rw [inflight_set hth hT rfl, List.filter_append, hD.fifo, e, List.append_assoc]
  case sClear =>
    have hnd := live_nodup hD
    have hsubq : ∀ x ∈ s.queue, x ∈ s.pushed ∧ x ∉ s.discarded := fun x h => by
      have : x ∈ s.pushed.filter (fun x => decide (x ∉ s.discarded)) := hD.fifo ▸ List.mem_append_right _ h
      simpa using List.mem_filter.1 this
    refine dinv_step hD hth hT rfl rfl ?_ ?_ ?_
    · show s.pushed.filter (fun x => decide (x ∉ s.discarded ++ s.queue)) = s.started ++ inflight _ ++ []
      rw [inflight_set hth hT rfl, List.append_nil, ← filter_not_mem_right hnd, ← hD.fifo, List.filter_filter]
      exact List.filter_congr fun x _ => by simp [and_comm]
    · exact fun x hx => (List.mem_append.1 hx).elim (hD.discSub x) fun h => (hsubq x h).1
    · exact List.nodup_append.2 ⟨hD.discNodup, (List.nodup_append.1 hnd).2.1,
        fun a ha b hb hab => (hsubq b hb).2 (hab ▸ ha)⟩
  case wPop t q _ hq =>
    cases worker_of_not_isCall hL rfl
    refine dinv_step hD hth hT rfl rfl ?_ hD.discSub hD.discNodup
    show s.pushed.filter (fun x => decide (x ∉ s.discarded)) = s.started ++ inflight _ ++ q
    rw [inflight_set_worker hth hT, hD.fifo, inflight_eq hth, hq]
    show s.started ++ [] ++ t :: q = s.started ++ [t] ++ q
    rw [List.append_nil]
    exact (List.append_assoc s.started [t] q).symm
  case wPopNone hq => exact dinv_frame hD hth hT rfl rfl rfl rfl hq.symm rfl
  case wStart todo t _ =>
    cases worker_of_not_isCall hL rfl
    have hin0 : inflight s = [t] := inflight_eq hth
    have hts : t ∉ s.started := fun hm => by
      have := live_nodup hD
      rw [hin0] at this
      exact (List.nodup_append.1 (List.nodup_append.1 this).1).2.2 t hm t (List.mem_singleton_self t) rfl
    have hp : (claimed (upd _ 0 _) ++ ids todo).Perm (claimed s ++ ids (cfg.body t)) := claimed_upd hth hT
    have hnd : (claimed s ++ ids (cfg.body t)).Nodup := List.nodup_append.2
      ⟨hD.claim, hU.bodyNodup t, fun a ha b hb hab => hD.bodyFresh t hts b hb (hab ▸ ha)⟩
    refine ⟨?_, hD.discSub, hD.discNodup, (List.nodup_append.1 (hp.nodup_iff.2 hnd)).1, fun u hu x hx hc => ?_⟩
    · show s.pushed.filter (fun x => decide (x ∉ s.discarded)) = s.started ++ [t] ++ inflight _ ++ s.queue
      rw [inflight_set_worker hth hT, hD.fifo, hin0]
      exact (List.append_nil _).symm ▸ rfl
    · have hu' : u ∉ s.started ∧ u ≠ t := ⟨fun h => hu (List.mem_append_left _ h),
        fun h => hu (h ▸ List.mem_append_right _ (List.mem_singleton_self _))⟩
      rcases List.mem_append.1 (hp.mem_iff.1 (List.mem_append_left _ hc)) with h | h
      · exact hD.bodyFresh u hu'.1 x hx h
      · exact hU.bodyDisj u t hu'.2 x hx h
  all_goals exact dinv_frame hD hth hT rfl rfl rfl rfl rfl rfl

theorem dinv_reachable {cfg : Config} (hU : cfg.Unique) {s : State} (h : Reachable cfg s) : DInv cfg s := by
  induction h with
  | init => exact dinv_init hU
  | step hr hs ih =>
    obtain ⟨th, s0, th', hth, -, rfl, hA⟩ := step_Adv hs
    exact dinv_adv hU (inv_reachable hr) ih hth hA

/-- With unique task ids no task is started twice (and no id is pushed twice) -/
theorem at_most_once {cfg : Config} (hU : cfg.Unique) {s : State} (h : Reachable cfg s) :
    s.started.Nodup ∧ s.pushed.Nodup := by
  have hD := dinv_reachable hU h
  exact ⟨(List.nodup_append.1 (List.nodup_append.1 (live_nodup hD)).1).1, hD.pushed_nodup⟩

/-- The tasks started so far, then the popped-but-not-yet-started one, then the queue content are exactly
the pushed tasks that were not discarded by an `abort`, in push order.  In particular `started` is a subsequence of
`pushed` (same relative order), and the queue is served from the front. -/
theorem fifo {cfg : Config} (hU : cfg.Unique) {s : State} (h : Reachable cfg s) :
    s.started ++ inflight s ++ s.queue = s.pushed.filter (fun x => decide (x ∉ s.discarded)) ∧
    s.started.Sublist s.pushed := by
  have hD := dinv_reachable hU h
  refine ⟨hD.fifo.symm, List.Sublist.trans ?_ (hD.fifo ▸ List.filter_sublist)⟩
  rw [List.append_assoc]
  exact List.sublist_append_left _ _

/-- Every pushed task is in exactly one of the classes started / in flight (popped, about to start) /
still queued / discarded by an abort; nothing else is in those classes. -/
theorem partition {cfg : Config} (hU : cfg.Unique) {s : State} (h : Reachable cfg s) :
    (∀ t, t ∈ s.pushed ↔ (t ∈ s.started ∨ t ∈ inflight s ∨ t ∈ s.queue ∨ t ∈ s.discarded)) ∧
    (s.started ++ inflight s ++ s.queue ++ s.discarded).Nodup := by
  have hD := dinv_reachable hU h
  have hmem : ∀ t, t ∈ s.started ++ inflight s ++ s.queue ↔ (t ∈ s.pushed ∧ t ∉ s.discarded) := fun t => by
    rw [← hD.fifo, List.mem_filter, decide_eq_true_eq]
  refine ⟨fun t => ⟨fun ht => ?_, fun ht => ?_⟩,
    List.nodup_append.2 ⟨live_nodup hD, hD.discNodup, fun a ha b hb hab => ((hmem a).1 ha).2 (hab ▸ hb)⟩⟩
  · by_cases hd : t ∈ s.discarded
    · exact .inr (.inr (.inr hd))
    · rcases List.mem_append.1 ((hmem t).2 ⟨ht, hd⟩) with h | h
      · exact (List.mem_append.1 h).imp_right .inl
      · exact .inr (.inr (.inl h))
  · have hl : t ∈ s.started ++ inflight s ++ s.queue → t ∈ s.pushed := fun h => ((hmem t).1 h).1
    rcases ht with h | h | h | h
    · exact hl (List.mem_append_left _ (List.mem_append_left _ h))
    · exact hl (List.mem_append_left _ (List.mem_append_right _ h))
    · exact hl (List.mem_append_right _ h)
    · exact hD.discSub t h

namespace DS
open Rx.DefaultSched

theorem openTasks_snoc (log : List DEv) (e : DEv) : openTasks (log ++ [e]) = bracket (openTasks log) e :=
  List.foldl_append

/-- In every reachable state of the DefaultScheduler model the log is well nested and the
open (started, not yet finished) tasks are exactly the tasks of the frames on the call stack, innermost first.
Hence a task posted from a frame runs to completion (`fin t` logged, everything it posted inline finished) before
that frame executes its next call: `post` is synchronous; `abort` changes nothing but the caller's position. -/
theorem default_scheduler_sync {cfg : Config} {prog : List Call} {s : DefaultSched.State}
    (h : DefaultSched.Reachable cfg prog s) : openTasks s.log = some (s.stack.filterMap (·.task)) := by
  induction h with
  | init => rfl
  | @step s s' _ hs ih =>
    obtain ⟨stack, log⟩ := s
    unfold DefaultSched.step at hs
    split at hs
    · cases hs
    · rename_i fr rest hst
      cases hst
      split at hs
      · cases hs; rw [openTasks_snoc, ih]; rfl
      · cases hs; exact ih
      · split at hs
        · rename_i t htask
          cases hs; rw [openTasks_snoc, ih, List.filterMap_cons, htask]; exact if_pos rfl
        · cases hs

/-- `post t` enters the task body at once, on the calling thread, with the caller suspended underneath -/
theorem default_post_inline (cfg : Config) (fr : Frame) (rest : List Frame) (log : List DEv) (t : Nat)
    (cs : List Call) (h : fr.todo = .post t :: cs) :
    DefaultSched.step cfg { stack := fr :: rest, log := log } =
      some { stack := ⟨some t, cfg.body t⟩ :: { fr with todo := cs } :: rest, log := log ++ [.start t] } := by
  simp [DefaultSched.step, h]

theorem default_abort_noop (cfg : Config) (fr : Frame) (rest : List Frame) (log : List DEv)
    (cs : List Call) (h : fr.todo = .abort :: cs) :
    DefaultSched.step cfg { stack := fr :: rest, log := log } =
      some { stack := { fr with todo := cs } :: rest, log := log } := by
  simp [DefaultSched.step, h]

/-- task 1 posts task 2 from inside; the log is nested and everything has finished -/
example :
    (runN { progs := [], body := fun t => if t = 1 then [.post 2, .abort] else [] } 20
      (DefaultSched.init [.post 1, .abort, .post 3])).log
      = [.start 1, .start 2, .fin 2, .fin 1, .start 3, .fin 3] := by decide

end DS

/-- the observable part of a state, for the examples -/
structure Summary where
  pcs : List Pc
  pushed : List Nat
  started : List Nat
  finished : List Nat
  discarded : List Nat := []
  queue : List Nat := []
  runner : List (Nat × Nat)
  abort : Bool := false
  abortReturned : Bool := false
deriving DecidableEq, Repr

def summary (s : State) : Summary :=
  { pcs := s.threads.map (·.pc), pushed := s.pushed, started := s.started, finished := s.finished,
    discarded := s.discarded, queue := s.queue, runner := s.runner, abort := s.abort,
    abortReturned := s.abortReturned }

def cfg2 : Config := { progs := [[.post 1], [.post 2]], body := fun _ => [] }

/-- the worker parks first; poster 1 then poster 2 post; the worker is woken and runs both tasks in FIFO order, then parks again -/
def run2 : List Label :=
  [⟨0, .lock⟩, ⟨0, .abortRead⟩, ⟨0, .wait⟩,
   ⟨1, .callStart⟩, ⟨2, .callStart⟩, ⟨1, .lock⟩, ⟨1, .push⟩, ⟨1, .notify⟩, ⟨1, .unlock⟩, ⟨1, .callRet⟩,
   ⟨2, .lock⟩, ⟨2, .push⟩, ⟨2, .notify⟩, ⟨2, .unlock⟩, ⟨2, .callRet⟩,
   ⟨0, .wake⟩, ⟨0, .lock⟩, ⟨0, .abortRead⟩, ⟨0, .abortRead⟩, ⟨0, .pop⟩, ⟨0, .unlock⟩, ⟨0, .taskStart⟩, ⟨0, .taskEnd⟩,
   ⟨0, .lock⟩, ⟨0, .abortRead⟩, ⟨0, .abortRead⟩, ⟨0, .pop⟩, ⟨0, .unlock⟩, ⟨0, .taskStart⟩, ⟨0, .taskEnd⟩,
   ⟨0, .lock⟩, ⟨0, .abortRead⟩, ⟨0, .wait⟩]

example : (replay cfg2 run2).map summary =
    some { pcs := [.wParked, .idle, .idle], pushed := [1, 2], started := [1, 2], finished := [1, 2],
           runner := [(1, 0), (2, 0)] } := by decide

/-- task 1 calls `abort()` from inside and then posts task 3; task 2 was queued behind task 1 -/
def cfgAbortInside : Config :=
  { progs := [[.post 1, .post 2]], body := fun t => if t = 1 then [.abort, .post 3] else [] }

def runAbortInside : List Label :=
  [⟨1, .callStart⟩, ⟨1, .lock⟩, ⟨1, .push⟩, ⟨1, .notify⟩, ⟨1, .unlock⟩, ⟨1, .callRet⟩,
   ⟨1, .callStart⟩, ⟨1, .lock⟩, ⟨1, .push⟩, ⟨1, .notify⟩, ⟨1, .unlock⟩, ⟨1, .callRet⟩,
   ⟨0, .lock⟩, ⟨0, .abortRead⟩, ⟨0, .abortRead⟩, ⟨0, .pop⟩, ⟨0, .unlock⟩, ⟨0, .taskStart⟩,
   ⟨0, .callStart⟩, ⟨0, .lock⟩, ⟨0, .clear⟩, ⟨0, .abortWrite⟩, ⟨0, .notify⟩, ⟨0, .unlock⟩, ⟨0, .callRet⟩,
   ⟨0, .callStart⟩, ⟨0, .lock⟩, ⟨0, .push⟩, ⟨0, .notify⟩, ⟨0, .unlock⟩, ⟨0, .callRet⟩,
   ⟨0, .taskEnd⟩,
   ⟨0, .lock⟩, ⟨0, .abortRead⟩, ⟨0, .abortRead⟩, ⟨0, .unlock⟩, ⟨0, .exit⟩]

/-- abort from inside a task: the worker finishes the task, takes nothing more (task 2 discarded, task 3 — posted
after the abort — stays in the queue for ever: neither run nor discarded) and exits -/
example : (replay cfgAbortInside runAbortInside).map summary =
    some { pcs := [.wExited, .idle], pushed := [1, 2, 3], started := [1], finished := [1], discarded := [2],
           queue := [3], runner := [(1, 0)], abort := true, abortReturned := true } := by decide

/-- the final state of that run is terminal for the worker: no label of thread 0 is enabled -/
example : ((replay cfgAbortInside runAbortInside).map fun s =>
    Kind.all.all fun k => (step cfgAbortInside s ⟨0, k⟩).isNone) = some true := by decide

/-- a `notify_one` that finds no waiter is harmless: the poster notifies before the worker has parked, and the worker
finds the task without waiting -/
example : (replay cfg2
    [⟨1, .callStart⟩, ⟨1, .lock⟩, ⟨1, .push⟩, ⟨1, .notify⟩, ⟨1, .unlock⟩,
     ⟨0, .lock⟩, ⟨0, .abortRead⟩, ⟨0, .abortRead⟩, ⟨0, .pop⟩, ⟨0, .unlock⟩, ⟨0, .taskStart⟩, ⟨0, .taskEnd⟩]).map
      (fun s => s.started ++ s.waiters) = some [1] := by decide

/-- the model rejects traces that do not follow the code (here: `push` without holding the mutex) -/
example : replay cfg2 [⟨1, .callStart⟩, ⟨1, .push⟩] = none := by decide

/-- …and a `lock` while the mutex is held -/
example : replay cfg2 [⟨0, .lock⟩, ⟨1, .callStart⟩, ⟨1, .lock⟩] = none := by decide

/-! text format round trip (evaluated, not proved: string functions do not reduce in the kernel) -/
#guard parseLabel "0 lock" == some ⟨0, .lock⟩
#guard parseLabel "  12   taskStart " == some ⟨12, .taskStart⟩
#guard parseLabel "1 frobnicate" == none
#guard parseLabel "1 lock extra" == none
#guard (Kind.all.map fun k => parseLabel (Label.toString ⟨3, k⟩)) == Kind.all.map fun k => some ⟨3, k⟩
#guard (parseTrace "# demo\n0 lock\n0 abortRead\n\n0 wait\n").bind (replay cfg2) |>.isSome
#guard (run2.map Label.toString).mapM parseLabel == some run2

theorem reach_of {cfg : Config} {ls : List Label} (p : State → Bool)
    (h : (replay cfg ls).map p = some true) : ∃ s, Reachable cfg s ∧ p s = true :=
  match hr : replay cfg ls, h with
  | some s, h => ⟨s, reachable_replay hr, Option.some.inj h⟩

theorem cfg2_unique : cfg2.Unique := .of_nodup [] (fun _ _ => rfl) (by decide)

theorem cfgAbortInside_unique : cfgAbortInside.Unique :=
  .of_nodup [1] (fun _ hu => if_neg fun e => hu (List.mem_singleton.2 e)) (by decide)

/-- `one_at_a_time`, `at_most_once`, `fifo`, `partition`: a reachable state of a configuration with unique ids in
which a task is running while another one is queued -/
example : ∃ s, Reachable cfg2 s ∧ cfg2.Unique ∧
    (decide (s.started = [1] ∧ s.finished = [] ∧ s.queue = [2] ∧ s.pushed = [1, 2]) = true) := by
  obtain ⟨s, hr, hp⟩ := reach_of (cfg := cfg2) (ls := run2.take 22)
    (fun s => decide (s.started = [1] ∧ s.finished = [] ∧ s.queue = [2] ∧ s.pushed = [1, 2])) (by decide)
  exact ⟨s, hr, cfg2_unique, hp⟩

/-- `partition` with a non-empty `discarded` class, `worker_exits_no_take` / `worker_exit_rank` (a reachable state with
`abort = true` in which the worker, inside a task, still has steps to do) -/
example : ∃ s, Reachable cfgAbortInside s ∧ cfgAbortInside.Unique ∧
    (decide (s.abort = true ∧ s.discarded = [2] ∧ s.started = [1] ∧ s.finished = [] ∧
      (step cfgAbortInside s ⟨0, .notify⟩).isSome) = true) := by
  obtain ⟨s, hr, hp⟩ := reach_of (cfg := cfgAbortInside) (ls := runAbortInside.take 22)
    (fun s => decide (s.abort = true ∧ s.discarded = [2] ∧ s.started = [1] ∧ s.finished = [] ∧
      (step cfgAbortInside s ⟨0, .notify⟩).isSome)) (by decide)
  exact ⟨s, hr, cfgAbortInside_unique, hp⟩

/-- `no_lost_wakeup`: the worker is parked (still in the waiter list), the queue is non-empty, and the poster holds
the mutex just before its `notify_one` -/
example : ∃ s, Reachable cfg2 s ∧
    (decide (s.threads.map (·.pc) = [.wParked, .pNotify, .pLock 2] ∧ s.queue = [1] ∧ s.waiters = [0] ∧
      s.holder = some 1) = true) :=
  reach_of (cfg := cfg2) (ls := run2.take 7) _ (by decide)

/-- `progress_run`: task 2 is pending behind task 1 with `abort = false`; its rank is finite and positive -/
example : ∃ s, Reachable cfg2 s ∧
    (decide (s.abort = false ∧ 2 ∈ s.queue ∧ startRank cfg2 s 2 = 14) = true) :=
  reach_of (cfg := cfg2) (ls := run2.take 15) _ (by decide)

/-- `worker_exit_run`: with `abort` set and the worker parked, 6 worker steps remain -/
example : ∃ s, Reachable cfgLate s ∧ (decide (s.abort = true ∧ exitRankS cfgLate s = 6) = true) :=
  reach_of (cfg := cfgLate)
    (ls := [⟨0, .lock⟩, ⟨0, .abortRead⟩, ⟨0, .wait⟩, ⟨1, .callStart⟩, ⟨1, .lock⟩, ⟨1, .push⟩, ⟨1, .notify⟩,
      ⟨1, .unlock⟩, ⟨1, .callRet⟩, ⟨1, .callStart⟩, ⟨1, .lock⟩, ⟨1, .clear⟩, ⟨1, .abortWrite⟩]) _ (by decide)

#print axioms one_at_a_time
#print axioms at_most_once
#print axioms fifo
#print axioms partition
#print axioms no_take_after_abort
#print axioms start_after_abort
#print axioms strict_no_start_after_abort_false
#print axioms worker_exits_no_take
#print axioms worker_exit_rank
#print axioms worker_exit_run
#print axioms exitRank_bound
#print axioms no_lost_wakeup
#print axioms worker_enabled
#print axioms holder_progress
#print axioms progress_worker_step
#print axioms progress_other_step
#print axioms progress_run
#print axioms abort_access_under_mutex
#print axioms mutex_exclusive
#print axioms DS.default_scheduler_sync
#print axioms reachable_iff_replay

end Rx.Queue
