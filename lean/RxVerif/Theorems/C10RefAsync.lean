import RxVerif.Theorems.C10RefBehavior
/-
C10-REF, AsyncSubject — model A's `ASubj` macros (`Machine/Subjects.lean`, transliterating
src/subjects/async_subject.rs as of /repo bec8a2b: the subject owns `last_item` and `ended`; subscribers go straight
into the inner Subject.  With the last item buffered per subscriber, as `Subject.take_last(1)` does, a subscriber that
arrives after the terminal would get nothing) refine `SubjM` with kind `.async`.

World of `progA`: cells 0,1 = inner Subject (observers, serial), 2 = `last_item`, 3 = `ended`; observer `u` = root
observer of user `u` (no forwarders), exactly the layout of the plain Subject, so `Ref.RelC` is reused with the
subscribed observable `ov := a0.observable`.
-/
namespace Rx.RefA
open Rx.Sim Rx.SubjM Rx.Ref Rx.RefR

def a0 : ASubj := ⟨sj0, 2, 3⟩

/-- `Option<Ended>` as stored -/
def encEnded : Option Ended → Data
  | none => .lnil
  | some .completed => Data.optEnc (some .mComplete)
  | some (.failed e) => Data.optEnc (some (.mErr e))

structure RelA (n : Nat) (w : World) (st : State) : Prop where
  core : RelC sj0 a0.observable 0 n w st.observers st.serial st.obs
  cellL : w.cells[2]? = some (Data.optEnc st.lastItem)
  cellE : w.cells[3]? = some (encEnded st.ended)

section prims
variable {w : World} {Q : World → Prop} {l : LockId} {b : Bool} {k : Prog}

theorem wp_guardRead {c : Nat} {x : Data} {k : Data → Prog} (hh : w.held = []) (hc : w.cells[c]? = some x)
    (hk : WP (k x) { w with held := [(l, b)] } Q) : WP (.lockAcq l b <| .cellRead c true k) w Q := by
  refine wp_lockAcq (noconf_of_held_nil hh l b) (wp_cellRead_g ?_)
  rw [hh]
  show WP (k (w.cells[c]?.getD .unit)) _ Q
  rw [hc]; exact hk

theorem release_held (hh : w.held = []) : ({ w with held := [(l, b)] } : World).release l = w := by
  cases w; simp_all [World.release]

theorem wp_guardDrop (hh : w.held = []) (hk : WP k w Q) : WP (.lockRel l k) { w with held := [(l, b)] } Q :=
  wp_lockRel (by rw [release_held hh]; exact hk)

theorem wp_guardWriteDrop {c : Nat} {d : Data} (hh : w.held = [])
    (hk : WP k { w with cells := w.cells.set c d } Q) :
    WP (.cellWrite c true d <| .lockRel l k) { w with held := [(l, b)] } Q :=
  wp_cellWrite_g (wp_guardDrop (w := { w with cells := w.cells.set c d }) hh hk)

end prims

theorem deliver_async_eq (ev : Ev) (l : List (Nat × Nat)) : ∀ f, deliver .async ev l f = deliver .plain ev l f := by
  induction l with
  | nil => intro f; rfl
  | cons p rest ih => intro f; simp only [deliver]; exact ih _

theorem emit_async_eq (st : State) (ev : Ev) : emit .async st ev = emit .plain st ev := by
  cases ev <;> simp [emit, deliver_async_eq, newLastItem, newLastError, newItems, newWasError, newWasCompleted]

/-- `self.subject.{next,error,complete}` inside `AsyncSubject::{error,complete}` -/
theorem innerEmit_spec {n w st} (h : RelA n w st) (ev : Ev) :
    WP (evCall sj0 ev) w (fun w' => RelA n w' (emit .async st ev)) := by
  rw [emit_async_eq]
  refine (emit_specF (sj := sj0) h.core ev).conseq ?_
  rintro w' ⟨h', hc⟩
  exact ⟨h', by rw [hc 2 (by decide)]; exact h.cellL, by rw [hc 3 (by decide)]; exact h.cellE⟩

theorem RelA.setCells {n w st} (h : RelA n w st) (c : Nat) (hc : c = 2 ∨ c = 3) (d : Data)
    (li : Option Data) (en : Option Ended)
    (h2 : (w.cells.set c d)[2]? = some (Data.optEnc li)) (h3 : (w.cells.set c d)[3]? = some (encEnded en)) :
    RelA n { w with cells := w.cells.set c d } { st with lastItem := li, ended := en } :=
  { core :=
      { h.core with
        cellO := by show (w.cells.set c d)[0]? = _; rw [set_get_other _ (by rcases hc with rfl | rfl <;> decide)]; exact h.core.cellO
        cellS := by show (w.cells.set c d)[1]? = _; rw [set_get_other _ (by rcases hc with rfl | rfl <;> decide)]; exact h.core.cellS }
    cellL := h2
    cellE := h3 }

def evCallA : Ev → Prog
  | .next v => a0.next v
  | .error e => a0.error e
  | .complete => a0.complete

theorem optDec_encEnded_none : Data.optDec (encEnded none) = none := rfl
theorem optDec_encEnded_completed : Data.optDec (encEnded (some .completed)) = some .mComplete := rfl
theorem optDec_encEnded_failed (e : Nat) : Data.optDec (encEnded (some (.failed e))) = some (.mErr e) := rfl

/-- `AsyncSubject::next / error / complete` (async_subject.rs) = `SubjM.emitK .async` -/
theorem emitA_spec {n w st} (h : RelA n w st) (ev : Ev) :
    WP (evCallA ev) w (fun w' => RelA n w' (emitK .async st ev)) := by
  have hh := h.core.held
  cases ev with
  | next v =>
    simp only [evCallA, ASubj.next, a0]
    refine wp_cellRead hh ?_
    rw [h.cellE]
    simp only [Option.getD_some]
    cases hen : st.ended with
    | none =>
      simp only [optDec_encEnded_none]
      refine wp_cellWrite hh (WP.done ?_)
      have : emitK .async st (.next v) = { st with lastItem := some v, ended := st.ended } := by
        simp [emitK, hen]
      rw [this]
      exact h.setCells 2 (Or.inl rfl) _ (some v) st.ended (set_get_same _ h.cellL)
        (by rw [set_get_other _ (by decide)]; exact h.cellE)
    | some en =>
      have : emitK .async st (.next v) = st := by simp [emitK, hen]
      rw [this]
      cases en <;> exact WP.done h
  | error e =>
    refine wp_guardRead hh h.cellE ?_
    cases hen : st.ended with
    | some en =>
      have : emitK .async st (.error e) = st := by simp [emitK, hen]
      rw [this]
      cases en <;> exact wp_guardDrop hh (WP.done h)
    | none =>
      refine wp_guardWriteDrop hh ?_
      have : emitK .async st (.error e) = emit .async { st with ended := some (.failed e) } (.error e) := by
        simp [emitK, hen]
      rw [this]
      exact innerEmit_spec (h.setCells 3 (Or.inr rfl) _ st.lastItem (some (.failed e))
        (by rw [set_get_other _ (by decide)]; exact h.cellL) (set_get_same _ h.cellE)) (.error e)
  | complete =>
    refine wp_guardRead hh h.cellE ?_
    cases hen : st.ended with
    | some en =>
      have : emitK .async st .complete = st := by simp [emitK, hen]
      rw [this]
      cases en <;> exact wp_guardDrop hh (WP.done h)
    | none =>
      refine wp_guardWriteDrop hh ?_
      have h1 := h.setCells 3 (Or.inr rfl) (Data.optEnc (some .mComplete)) st.lastItem (some .completed)
        (by rw [set_get_other _ (by decide)]; exact h.cellL) (set_get_same _ h.cellE)
      refine wp_cellRead hh ?_
      simp only [a0]
      rw [show ({ w with cells := w.cells.set 3 (Data.optEnc (some .mComplete)) } : World).cells[2]? = _ from h1.cellL]
      simp only [Option.getD_some, optDec_optEnc]
      cases hli : st.lastItem with
      | none =>
        have : emitK .async st .complete = emit .async { st with ended := some .completed } .complete := by
          simp [emitK, hen, hli]
        rw [this]
        exact WP.seq (WP.done (innerEmit_spec h1 .complete))
      | some v =>
        have : emitK .async st .complete =
            emit .async (emit .async { st with ended := some .completed } (.next v)) .complete := by
          simp [emitK, hen, hli]
        rw [this]
        exact WP.seq ((innerEmit_spec h1 (.next v)).conseq fun w1 h2 => innerEmit_spec h2 .complete)

/-- a subscriber that was handed the recorded result at once: an ended root observer, a user whose handle is
    still unused, its events in the trace — and nothing else -/
theorem afterHandover {sj ov id n w observers serial f} (h : RelC sj ov id n w observers serial f) (evs : List Ev) :
    RelC sj ov id (n + 1)
      ({ w with
        obs := w.obs ++ [(⟨none, none, none, none⟩ : Obs)]
        users := (w.users ++ [(⟨w.obs.length, noReact, false, true⟩ : User)]).modify w.users.length fun u => { u with ready := true }
        trace := w.trace ++ evs.map (Rec.ev w.users.length) } : World)
      observers serial (upd f n { seen := true, log := evs }) :=
  h.mk' rfl rfl rfl rfl (by simp [h.nObs])
    (h.up.extend (sepId h.ne n) (RefU.Ext.refl ..) (rF := { seen := true, log := evs }) (a := true) (fw := []) (nc := [])
      h.nObs.symm rfl (by show List.modify _ _ _ = _; rw [modify_app0]; rfl)
      (by show w.cells = _; rw [List.append_nil, idLay_map, RefU.set_self h.cellS, RefU.set_self h.cellO])
      (by rw [h.nUsers]) nofun (fun _ => rfl) ⟨fun _ => rfl, False.elim⟩ rfl (fun _ => rfl) h.keys nofun)

theorem unsubscribeN_async_eq (st : State) (u : Nat) : unsubscribeN .async st u = unsubscribeN .plain st u := rfl

theorem unsubscribeA_spec {n w st} (h : RelA n w st) (u : Nat) :
    WP (.userUnsub u .done) w (fun w' => RelA n w' (step .async st (.unsubscribe u))) := by
  show WP _ w (fun w' => RelA n w' (unsubscribeN .async st u).1)
  rw [unsubscribeN_async_eq]
  refine (unsubscribe_specF (sj := sj0) h.core u).conseq ?_
  rintro w' ⟨h', hc⟩
  have hm := unsubscribeN_mem .plain st u
  simp only [mem, Prod.mk.injEq] at hm
  exact ⟨h', by rw [hc 2 (by decide), hm.1]; exact h.cellL, by rw [hc 3 (by decide), unsub_ended]; exact h.cellE⟩

theorem subscribeA_spec {n w st} (h : RelA n w st) :
    WP (.userSub 0 noReact .done) w (fun w' => RelA (n + 1) w' (step .async st (.subscribe n))) := by
  have hc := h.core
  have hh := hc.held
  have hu : (st.obs n).seen = false := (View.eq (hc.unseen n (Nat.le_refl _))).1
  rw [async_subscribe_fresh st n hu]
  refine wp_userSub hc.obsv ?_
  simp only [ASubj.observable, a0]
  refine wp_cellRead hh ?_
  dsimp only
  rw [h.cellE]
  simp only [Option.getD_some]
  have huser : (w.users ++ [(⟨w.obs.length, noReact, false, true⟩ : User)])[w.users.length]? = some _ := get_app0 ..
  cases hen : st.ended with
  | none =>
    simp only [optDec_encEnded_none, Obsv.sub, hc.nObs, hc.nUsers]
    have hroot : (w.obs ++ [(⟨some (.user n), some (.user n), some (.user n), none⟩ : Obs)])[n]? = some _ :=
      get_app_at _ _ _ 0 hc.nObs.symm
    refine wp_obsIsSub hroot ?_
    simp only [Obs.isSub, Option.isSome_some, Bool.and_self, ↓reduceIte]
    refine observable_spec (serial := st.serial) (obsl := st.observers) hh hroot rfl hc.ne hc.cellS hc.cellO hc.keys
      hc.slotA ?_
    refine wp_userReady (WP.done ?_)
    refine ⟨RelC.afterSub hc, ?_, ?_⟩
    · show ((w.cells.set _ _).set _ _)[2]? = _
      rw [set_get_other _ (by decide), set_get_other _ (by decide)]; exact h.cellL
    · show ((w.cells.set _ _).set _ _)[3]? = _
      rw [set_get_other _ (by decide), set_get_other _ (by decide)]; exact h.cellE
  | some en =>
    cases en with
    | failed e =>
      simp only [optDec_encEnded_failed]
      refine wp_ev_fresh (ev := .error e) huser rfl (WP.done (wp_userReady (WP.done ?_)))
      exact ⟨afterHandover hc [.error e], h.cellL, hen ▸ h.cellE⟩
    | completed =>
      simp only [optDec_encEnded_completed]
      refine wp_cellRead hh ?_
      dsimp only
      rw [h.cellL]
      simp only [Option.getD_some, optDec_optEnc]
      cases hli : st.lastItem with
      | none =>
        refine WP.seq (WP.done ?_)
        refine wp_ev_fresh (ev := .complete) huser rfl (WP.done (wp_userReady (WP.done ?_)))
        exact ⟨afterHandover hc (asyncHandover none), hli ▸ h.cellL, hen ▸ h.cellE⟩
      | some v =>
        refine WP.seq (wp_ev_fresh (ev := .next v) huser rfl (WP.done ?_))
        refine wp_ev_fresh (ev := .complete) huser rfl (WP.done (wp_userReady (WP.done ?_)))
        rw [List.append_assoc]
        exact ⟨afterHandover hc (asyncHandover (some v)), hli ▸ h.cellL, hen ▸ h.cellE⟩

def callProgA (a : ASubj) (id : Nat) : Call → Prog
  | .subscribe _ => .userSub id noReact .done
  | .unsubscribe o => .userUnsub o .done
  | .next v => a.next v
  | .error e => a.error e
  | .complete => a.complete

theorem callA_spec {n w st} (h : RelA n w st) (c : Call) (hc : wfFrom n [c] = true) :
    WP (callProgA a0 0 c) w (fun w' => RelA (n + subs [c]) w' (step .async st c)) := by
  cases c with
  | subscribe o =>
    have : o = n := by simpa [wfFrom] using hc
    subst this
    exact subscribeA_spec h
  | unsubscribe o => exact unsubscribeA_spec h o
  | next v => exact emitA_spec h (.next v)
  | error e => exact emitA_spec h (.error e)
  | complete => exact emitA_spec h .complete

/-- allocate an `AsyncSubject` (async_subject.rs `new`: Subject, last_item = None, ended = None), make its
    observable, perform the calls in order — what `(subject a async)` does in Machine/Case.lean -/
def progA (cs : List Call) : Prog :=
  subjNew fun sj => .cellNew .lnil fun li => .cellNew .lnil fun en =>
    .obsvNew (ASubj.observable ⟨sj, li, en⟩) fun id => forEach cs (callProgA ⟨sj, li, en⟩ id)

theorem relA_init :
    RelA 0 { cells := [.lnil, .int 0, .lnil, .lnil], slots := [none, none], obsvs := [a0.observable] } (init .async) :=
  { core :=
      { status := rfl, held := rfl, ne := by decide, cellO := rfl, cellS := rfl, slotA := rfl, slotB := rfl,
        obsv := rfl, nUsers := rfl, nObs := rfl
        user := fun u hu => by omega
        obs := fun u hu => by omega
        seen := fun u hu => by omega
        unseen := fun _ _ => rfl
        hookIff := fun _ => rfl
        deadNoHook := fun _ _ => rfl
        log := fun _ => rfl
        keys := fun p hp => by cases hp }
    cellL := rfl
    cellE := rfl }

theorem progA_spec (cs : List Call) (hwf : wfFrom 0 cs = true) :
    WP (progA cs) {} (fun w' => RelA (subs cs) w' (SubjM.run .async cs)) := by
  unfold progA subjNew
  refine wp_cellNew (wp_cellNew (wp_slotNew (wp_slotNew (wp_cellNew (wp_cellNew (wp_obsvNew ?_))))))
  have := calls_gen (R := RelA) (fun c h hc => callA_spec h c hc) cs relA_init hwf
  rw [Nat.zero_add] at this
  exact this

def FinalA (cs : List Call) (w : World) : Prop := ∃ n0, ∀ fuel, n0 ≤ fuel → run fuel [progA cs] {} = w

/-- **C10-REF, AsyncSubject.**  For every call sequence whose `subscribe` calls are numbered in
    order, model A's program terminates with `status = ok`, no guard held, and agrees with `SubjM` (kind `.async`)
    on every user's log, on the content of the observer map and on who is still subscribed. -/
theorem async_refines (cs : List Call) (hwf : wfFrom 0 cs = true) :
    ∃ w, FinalA cs w ∧ Agrees w (SubjM.run .async cs) :=
  refines_of ((progA_spec cs hwf).conseq fun _ h => RelC.agrees h.core)

theorem callA_run {n w st} (h : RelA n w st) (c : Call) (hc : wfFrom n [c] = true) :
    ∃ n0, ∀ fuel, n0 ≤ fuel → RelA (n + subs [c]) (run fuel [callProgA a0 0 c] w) (step .async st c) :=
  WP.run_all (callA_spec h c hc)

/-- **`async_every_subscriber` on model A**: a user that does not unsubscribe — whenever it subscribed — has recorded
    exactly `[last item (if any), complete]` once the subject completed, `[error]` once it failed, nothing before. -/
theorem machine_async_every_subscriber (cs : List Call) (o : Nat) (hsub : Call.subscribe o ∈ cs)
    (hun : Call.unsubscribe o ∉ cs) (hwf : wfFrom 0 cs = true) {w : World} (h : FinalA cs w) :
    logOf w o = asyncResultOf (asyncMem cs) := by
  rw [(FinalOf.sat h (async_refines _ hwf)).logs]; exact async_every_subscriber cs o hsub hun

/-- **nothing before the terminal**, for every user -/
theorem machine_async_silent_before_terminal (cs : List Call) (hn : (asyncMem cs).1 = none)
    (hwf : wfFrom 0 cs = true) {w : World} (h : FinalA cs w) (o : Nat) : logOf w o = [] := by
  rw [(FinalOf.sat h (async_refines _ hwf)).logs]; exact async_silent_before_terminal cs hn o

/-- **after the terminal no observer is held**, whatever is called afterwards -/
theorem machine_async_no_observer_once_ended (cs : List Call) (he : (asyncMem cs).1.isSome = true)
    (hwf : wfFrom 0 cs = true) {w : World} (h : FinalA cs w) : regOf w = [] ∧ mapCount w = 0 := by
  have a := FinalOf.sat h (async_refines _ hwf)
  rw [a.reg, a.count, async_no_observer_once_ended cs he]; exact ⟨rfl, rfl⟩

-- non-vacuity: subscribers arriving before the terminal, after it, and after a later `next`
def demoA : List Call :=
  [.next (.int 1), .subscribe 0, .next (.int 2), .complete, .subscribe 1, .next (.int 3), .subscribe 2]

example : wfFrom 0 demoA = true := by decide
theorem demoA_run : (run 2000 [progA demoA] {}).status = .ok ∧
    (List.range 3).map (logOf (run 2000 [progA demoA] {})) = List.replicate 3 [.next (.int 2), .complete] ∧
    mapCount (run 2000 [progA demoA] {}) = 0 := by decide +kernel

example : (run 2000 [progA demoA] {}).status = .ok := demoA_run.1
example : (List.range 3).map (logOf (run 2000 [progA demoA] {})) =
    List.replicate 3 [.next (.int 2), .complete] := demoA_run.2.1
example : (List.range 3).map (SubjM.logOf (SubjM.run .async demoA)) =
    List.replicate 3 [.next (.int 2), .complete] := by decide +kernel
example : mapCount (run 2000 [progA (demoA.take 3)] {}) = 1 ∧ mapCount (run 2000 [progA demoA] {}) = 0 ∧
    registered (SubjM.run .async (demoA.take 3)) = [0] ∧ registered (SubjM.run .async demoA) = [] :=
  ⟨by decide +kernel, demoA_run.2.2, by decide +kernel, by decide +kernel⟩
example : ∃ w, FinalA [.subscribe 0, .next (.int 1), .error 4, .subscribe 1, .unsubscribe 1] w ∧
    RelA 2 w (SubjM.run .async [.subscribe 0, .next (.int 1), .error 4, .subscribe 1, .unsubscribe 1]) :=
  refines_of (progA_spec [.subscribe 0, .next (.int 1), .error 4, .subscribe 1, .unsubscribe 1] (by decide))

#print axioms async_refines
#print axioms callA_run
#print axioms machine_async_every_subscriber
#print axioms machine_async_silent_before_terminal
#print axioms machine_async_no_observer_once_ended

end Rx.RefA
