import RxVerif.Theorems.SimChainPure
/-
SIM for chains (machine side): the world of ONE subscription through a chain of `m` standard operators,
described by the flat chain state `CSt` (Kernel/Chain.lean).

Layout (allocation order of `stdOp Kₙ (… (stdOp K₁ src))` subscribed by a fresh test subscriber):
observer `j` is `L + j`; stage `j` owns cells `c0+3j` (serial), `c0+3j+1` (unscribers map), `c0+3j+2`
(kernel state) and slot `s0+j` (on_finalize); `sU` is the subscriber's id, `n` the chain's length, `base` the other
subscribers' logs.
-/
namespace Rx.Chain
open Rx.Sim

structure Lay where
  L : Nat
  c0 : Nat
  s0 : Nat
  sU : Nat
  n : Nat
  ks : Nat → DK
  base : Nat → List Ev

namespace Lay
variable (ly : Lay)
def P (j : Nat) : Nat := ly.L + j
def cm (j : Nat) : Nat := ly.c0 + 3 * j + 1
def cc (j : Nat) : Nat := ly.c0 + 3 * j + 2
def fin (j : Nat) : Nat := ly.s0 + j
def sc (j : Nat) : Sctl := ⟨ly.L + j, ly.c0 + 3 * j, ly.c0 + 3 * j + 1, ly.s0 + j⟩
def hn (j : Nat) : Data → Prog := stdN (ly.ks j).kernel (ly.sc j) (ly.cc j) 0
def he (j : Nat) : Nat → Prog := stdE (ly.ks j).kernel (ly.sc j) (ly.cc j) 0
def hc (j : Nat) : Prog := stdC (ly.ks j).kernel (ly.sc j) (ly.cc j) 0

def hdlN : Nat → HN
  | 0 => .user ly.sU
  | j+1 => .code (ly.hn j)
def hdlE : Nat → HE
  | 0 => .user ly.sU
  | j+1 => .code (ly.he j)
def hdlC : Nat → HC
  | 0 => .user ly.sU
  | j+1 => .code (ly.hc j)

def td (x : CSt) (j : Nat) : Option Prog := if x.ar j then some (ly.sc j).finalize else none

def obsAt (x : CSt) (j : Nat) : Obs :=
  if x.sub j then ⟨some (ly.hdlN j), some (ly.hdlE j), some (ly.hdlC j), ly.td x j⟩
  else ⟨none, none, none, ly.td x j⟩

def mapD (j : Nat) : Bool → Data
  | true => Data.ofList [.pair (.int 0) (.int (ly.L + (j + 1) : Nat))]
  | false => .lnil
end Lay

/-- the world of a chain subscription with `m` stages built, in flat state `x`, guards `H` held; observer `m` belongs to
    no stage yet, so no teardown is set on it (`arTop`) -/
structure CRep (ly : Lay) (m : Nat) (x : CSt) (H : List (LockId × Bool)) (w : World) : Prop where
  status : w.status = .ok
  held : w.held = H
  obs : ∀ j, j ≤ m → w.obs[ly.L + j]? = some (ly.obsAt x j)
  map : ∀ j, j < m → w.cells[ly.c0 + 3 * j + 1]? = some (ly.mapD j (x.rg j))
  cst : ∀ j, j < m → w.cells[ly.c0 + 3 * j + 2]? = some (x.st j)
  slot : ∀ j, j < m → w.slots[ly.s0 + j]? = some none
  user : ∃ u, w.users[ly.sU]? = some u ∧ u.react = fun _ _ _ => .done
  log : logOf w ly.sU = x.out
  others : ∀ s', s' ≠ ly.sU → logOf w s' = ly.base s'
  arTop : x.ar m = false

section upd
variable {ly : Lay} {m : Nat} {x : CSt} {H : List (LockId × Bool)} {w : World}

theorem CRep.setObs (h : CRep ly m x H w) (j : Nat) (f : Obs → Obs) (s' a' : Nat → Bool)
    (hj : f (ly.obsAt x j) = ly.obsAt { x with sub := s', ar := a' } j)
    (ho : ∀ k, k ≠ j → ly.obsAt { x with sub := s', ar := a' } k = ly.obsAt x k)
    (har : a' m = false) :
    CRep ly m { x with sub := s', ar := a' } H (w.setObs (ly.L + j) f) :=
  { h with
    obs := fun k hk => by
      by_cases e : k = j
      · subst e; rw [getElem?_setObs_same _ (h.obs k hk), hj]
      · rw [getElem?_setObs_other _ (by omega), h.obs k hk, ho k e]
    arTop := har }

theorem CRep.setHeld (h : CRep ly m x H w) (H' : List (LockId × Bool)) :
    CRep ly m x H' { w with held := H' } :=
  { h with held := rfl }

end upd

end Rx.Chain
