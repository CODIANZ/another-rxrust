import RxVerif.Theorems.C04RefMacro
/-
C04-REF: the polite scripted source (`scriptLoop` of Machine/Lib.lean) feeding an upstream observer of
the controller, against `Ctl.playInto` (`script_spec`); `Post` is the shape of the postcondition of every
composite step, `playK` what the mirror does with one subscription.  `attempt_spec`: one attempt of any of the three
recovery operators (`new_observer`, the source subscribed — `SubAs` —, its script) against the mirror's `attempt`.
-/
namespace Rx.RetryRef
open Rx.Sim Rx.Ref

/-- observers that existed (serial `< n`) and were unsubscribed stay unsubscribed -/
def Mono (n : Nat) (lv lv' : Nat → Bool) : Prop := ∀ j, j < n → lv j = false → lv' j = false

theorem Mono.refl (n : Nat) (lv : Nat → Bool) : Mono n lv lv := fun _ _ h => h
theorem Mono.trans {n m : Nat} {a b c : Nat → Bool} (h1 : Mono n a b) (h2 : Mono m b c) (hnm : n ≤ m) :
    Mono n a c := fun j hj h => h2 j (by omega) (h1 j hj h)

/-- postcondition shape of every composite step: the world represents `c'` -/
def Post (g : G) (c : Ctl) (lv : Nat → Bool) (c' : Ctl) (w' : World) : Prop :=
  ∃ lv', Rel g c' lv' w' ∧ Mono c.serial lv lv' ∧ c.serial ≤ c'.serial

theorem Mono.fresh (n : Nat) (lv : Nat → Bool) : Mono n lv fun j => j == n || lv j := fun j hj hjl => by
  have : (j == n) = false := by simp; omega
  simp [this, hjl]

theorem Post.mono {g : G} {c c1 c' : Ctl} {lv lv1 : Nat → Bool} {w' : World} (hm : Mono c.serial lv lv1)
    (hle : c.serial ≤ c1.serial) (h : Post g c1 lv1 c' w') : Post g c lv c' w' :=
  let ⟨lv', hr, hm', hle'⟩ := h
  ⟨lv', hr, hm.trans hm' hle, Nat.le_trans hle hle'⟩

/-- what the mirror does with one subscription: play the stream, then (on an error) the error closure `F` -/
def playK (F : Nat → Ctl → Ctl) (c : Ctl) (s : Nat) (st : Stream) : Ctl :=
  match c.playInto s st with
  | (c2, none) => c2
  | (c2, some e) => F e c2

/-- the mirror's controller once an attempt's upstream observer exists and the source has been subscribed `k` times -/
def begun (c : Ctl) (k : Nat) : Ctl := { c.newObserver.2 with subs := k }

/-- what the mirror does with one attempt: a new upstream observer, the stream played into it, then `F` -/
def attempt (F : Nat → Ctl → Ctl) (c : Ctl) (k : Nat) (st : Stream) : Ctl := playK F (begun c k) c.serial st

theorem serial_sinkError (c : Ctl) (e : Nat) : (c.sinkError e).serial = c.serial := by
  simp only [Ctl.sinkError, Ctl.finalize]; split <;> rfl

theorem serial_sinkComplete (c : Ctl) (s : Nat) : (c.sinkComplete s).serial = c.serial := by
  unfold Ctl.sinkComplete
  split
  · dsimp only; split <;> rfl
  · rfl

theorem Rel.probe {g : G} {c : Ctl} {lv : Nat → Bool} {w : World} (h : Rel g c lv w) (t : Nat) (d : Data) :
    Rel g c lv (w.emit (.probe t d)) :=
  ⟨h.rep.probe t d, h.dead, h.regLt, h.canLt⟩

section loop
variable {g : G} {c : Ctl} {lv : Nat → Bool} {w : World}

/-- a polite source whose observer has been unsubscribed stops at its next `is_subscribed` check -/
theorem script_dead (tag : Nat) (evs : List Ev) {s : Nat} (h : Rel g c lv w) (hs : s < c.serial)
    (hl : lv s = false) : WP (scriptLoop tag true (g.up s) evs) w (Rel g c lv) := by
  cases evs with
  | nil => exact WP.done h
  | cons ev evs =>
    simp only [scriptLoop]
    apply rep_isSubU h.rep hs
    rw [hl]
    apply wp_probe
    simp only [Bool.not_false, Bool.and_self, ↓reduceIte]
    exact WP.done (h.probe _ _)

theorem script_cons (tag : Nat) (ev : Ev) (evs : List Ev) {s : Nat} (h : Rel g c lv w) (hs : s < c.serial)
    (hl : lv s = true) {Q : World → Prop}
    (hk : ∀ w1, Rel g c (fun j => (!ev.isTerminal || j != s) && lv j) w1 →
      WP (codeBody ev (g.hn s) (g.he s) (g.hc s)) w1 fun w2 => WP (scriptLoop tag true (g.up s) evs) w2 Q) :
    WP (scriptLoop tag true (g.up s) (ev :: evs)) w Q := by
  simp only [scriptLoop]
  apply rep_isSubU h.rep hs
  rw [hl]
  apply wp_probe
  simp only [Bool.not_true, Bool.and_false, Bool.false_eq_true, ↓reduceIte, emitEv_eq]
  apply WP.seq
  apply rep_evU_live (ev := ev) (h.probe _ _).rep hs hl
  intro w1 h1
  exact (hk w1 ⟨h1, fun i hi => by simp [h.dead i hi], h.regLt, h.canLt⟩).conseq fun _ h2 => WP.done h2

theorem playInto_nil {s : Nat} (hc : s ∉ c.cancelled) (t : Ending) :
    c.playInto s ([], t) = match t with
      | .silent => (c, none) | .complete => (c.sinkComplete s, none) | .error e => (c, some e) := by
  cases t <;> simp [Ctl.playInto, Ctl.feed, hc]

theorem playInto_cons {s : Nat} (hc : s ∉ c.cancelled) (d : Data) (xs : List Data) (t : Ending) :
    c.playInto s (d :: xs, t) = (c.sinkNext d).playInto s (xs, t) := by
  simp [Ctl.playInto, Ctl.feed, hc]

theorem not_cancelled {s : Nat} (h : Rel g c lv w) (hl : lv s = true) : s ∉ c.cancelled := by
  intro hm; have := h.dead s hm; simp [hl] at this

end loop

/-- the scripted source playing `evs` into the live upstream observer `s` whose `next` / `complete` closures
    are `sink_next` / `sink_complete(&serial)` (all three recovery operators); the error closure is
    described by `hE` (`o'`: whatever has been delivered by then) and mirrored by `F`. -/
theorem script_spec {g : G} (ok : g.Ok) (tag : Nat) (s : Nat) (F : Nat → Ctl → Ctl)
    (hn : g.hn s = fun x => g.sc.sinkNext x) (hc : g.hc s = g.sc.sinkComplete s) :
    ∀ (evs : List Ev) (c : Ctl) (lv : Nat → Bool) (w : World), Rel g c lv w → c.alive = true → lv s = true →
      s < c.serial →
      (∀ e o' lv2 w2, Rel g { c with out := o' } lv2 w2 → Mono c.serial lv lv2 → lv2 s = false →
        WP (g.he s e) w2 (Post g c lv2 (F e { c with out := o' }))) →
      WP (scriptLoop tag true (g.up s) evs) w (Post g c lv (playK F c s (Stream.ofScript evs)))
  | [], c, lv, w, h, _, hl, _, _ => by
    simp only [scriptLoop, Stream.ofScript, playK, playInto_nil (not_cancelled h hl)]
    exact WP.done ⟨lv, h, Mono.refl _ _, Nat.le_refl _⟩
  | .next d :: evs, c, lv, w, h, ha, hl, hs, hE => by
    simp only [Stream.ofScript, playK, playInto_cons (not_cancelled h hl)]
    refine script_cons tag (.next d) evs h hs hl fun w1 h1 => ?_
    have h1' : Rel g c lv w1 := by simpa [Ev.isTerminal] using h1
    simp only [codeBody, hn]
    refine (sinkNext_spec h1' ha d).conseq fun w2 h2 => ?_
    have e : c.sinkNext d = { c with out := c.out ++ [Ev.next d] } := by simp [Ctl.sinkNext, ha]
    rw [e] at h2 ⊢
    exact script_spec ok tag s F hn hc evs _ lv w2 h2 ha hl hs (fun e o' lv2 w3 h3 hm hl2 => hE e o' lv2 w3 h3 hm hl2)
  | .error e :: evs, c, lv, w, h, ha, hl, hs, hE => by
    simp only [Stream.ofScript, playK, playInto_nil (not_cancelled h hl)]
    refine script_cons tag (.error e) evs h hs hl fun w1 h1 => ?_
    have hm : Mono c.serial lv (fun j => (!(Ev.error e).isTerminal || j != s) && lv j) :=
      fun j _ hj => by simp [hj]
    refine (hE e c.out _ w1 h1 hm (by simp [Ev.isTerminal])).conseq ?_
    rintro w2 ⟨lv2, h2, hm2, hle⟩
    refine (script_dead tag evs h2 (by omega) (hm2 s hs (by simp [Ev.isTerminal]))).conseq fun w3 h3 => ?_
    exact ⟨lv2, h3, hm.trans hm2 (Nat.le_refl _), hle⟩
  | .complete :: evs, c, lv, w, h, ha, hl, hs, _ => by
    simp only [Stream.ofScript, playK, playInto_nil (not_cancelled h hl)]
    refine script_cons tag .complete evs h hs hl fun w1 h1 => ?_
    simp only [codeBody, hc]
    refine (sinkComplete_spec ok h1 ha s).conseq ?_
    rintro w2 ⟨lv2, h2, hm2⟩
    have hser := serial_sinkComplete c s
    refine (script_dead tag evs h2 (by omega) (hm2 s (by simp [Ev.isTerminal]))).conseq fun w3 h3 => ?_
    exact ⟨lv2, h3, fun j hj hjl => hm2 j (by simp [hjl]), by omega⟩

/-- `src`, subscribed by the live upstream observer `s` in a world that represents `c`, goes on as the polite script
    `evs` in a world that represents `c'` (a flaky source has counted the subscription by then) -/
def SubAs (g : G) (src : Obsv) (tag : Nat) (evs : List Ev) (s : Nat) (c c' : Ctl) : Prop :=
  ∀ ⦃lv : Nat → Bool⦄ ⦃w : World⦄ ⦃Q : World → Prop⦄, Rel g c lv w → s < c.serial → lv s = true →
    (∀ w', Rel g c' lv w' → WP (scriptLoop tag true (g.up s) evs) w' Q) → WP (src.sub (g.up s)) w Q

section attempt
variable {g : G} (ok : g.Ok) {c : Ctl} {lv : Nat → Bool} {w : World} (h : Rel g c lv w) (ha : c.alive = true)
include ok h ha

/-- `sink_error` as an error closure ends with it -/
theorem sinkError_post (e : Nat) : WP (g.sc.sinkError e) w (Post g c lv (c.sinkError e)) :=
  (sinkError_spec ok h ha e).conseq fun _ h' =>
    ⟨_, h', fun j _ hjl => by simp [hjl], by rw [serial_sinkError]; exact Nat.le_refl _⟩

/-- one attempt (all three recovery operators): `new_observer`, then the source plays `evs` into the new observer;
    `hE`, `F`: the error closure as in `script_spec` -/
theorem attempt_spec {nf : Nat → Data → Prog} {ef : Nat → Nat → Prog} {cf : Nat → Prog}
    (hnf : nf c.serial = g.hn c.serial) (hef : ef c.serial = g.he c.serial) (hcf : cf c.serial = g.hc c.serial)
    (hn : g.hn c.serial = fun x => g.sc.sinkNext x) (hc : g.hc c.serial = g.sc.sinkComplete c.serial)
    {src : Obsv} {tag : Nat} {evs : List Ev} {k : Nat} (hsrc : SubAs g src tag evs c.serial c.newObserver.2 (begun c k))
    (F : Nat → Ctl → Ctl)
    (hE : ∀ e o' lv2 w2, Rel g { begun c k with out := o' } lv2 w2 →
      WP (g.he c.serial e) w2 (Post g (begun c k) lv2 (F e { begun c k with out := o' }))) :
    WP (g.sc.newObserver nf ef cf fun o => src.sub o) w (Post g c lv (attempt F c k (Stream.ofScript evs))) :=
  newObserver_spec ok h ha hnf hef hcf fun _ h1 =>
    hsrc h1 (Nat.lt_succ_self _) (by simp) fun w2 h2 =>
      (script_spec ok tag c.serial F hn hc evs (begun c k) _ w2 h2 ha (by simp) (Nat.lt_succ_self _)
        fun e o' lv2 w3 h3 _ _ => hE e o' lv2 w3 h3).conseq fun _ h3 => h3.mono (Mono.fresh _ _) (Nat.le_succ _)

end attempt

end Rx.RetryRef

#print axioms Rx.RetryRef.script_spec
