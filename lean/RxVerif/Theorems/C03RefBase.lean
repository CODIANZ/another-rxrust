import RxVerif.Theorems.C10Ref
import RxVerif.Kernel.Comb
/-
C03-REF: what the refinement proofs of the combining operators of model A share.

  * WP rules for primitives executed while a guard is held (`finalize` unsubscribes the inner observers while
    holding the read guard of the controller's map; `upstream_abort_observe` holds the write guard)
  * tables `Tab` (the listed positions of a list hold the listed values), guards held on cells outside a set
    (`HF`), the sinks of a controller with a live subscriber, `StreamController::finalize` as a fold over the
    registered upstreams
  * `Lay`, `Rel`: the simulation relation World ↔ `Comb.Ctl` for the worlds with `k` plain subjects, one
    `StreamController` allocated right after them whose subscriber is the root observer of test user 0, and one
    inner observer per source.  The operators are proved on the general relation `GRef.Rel` (C03RefGBase), in
    which several observers may share a subject; there the present situation is `GRef.Static`.  No refinement
    theorem uses `Rel` itself (ten go through `GRef.Rel`, sequence_equal through `SeqRef.GRel`); what they take from
    this part is `sjOf`, `hookOf`, `Fr`.
  * small facts about lists and association lists
-/
namespace Rx.CRef
open Rx.Sim Rx.Ref Rx.Comb

/-! ### primitives while some guard may be held (`_nc`: the lock in question does not conflict; `wp_cellRead_val` is
the case without guards) -/

section prims
variable {w : World} {Q : World → Prop}

theorem wp_cellRead_nc {c : Nat} {k : Data → Prog} (hnc : w.conflicts (.cell c) false = false)
    (hk : WP (k (w.cells[c]?.getD .unit)) w Q) : WP (.cellRead c false k) w Q :=
  wp_cellRead' hnc hk

theorem wp_cellRead_val {c : Nat} {k : Data → Prog} {v : Data} (hh : w.held = []) (hv : w.cells[c]? = some v)
    (hk : WP (k v) w Q) : WP (.cellRead c false k) w Q :=
  wp_cellRead hh (by rw [hv]; exact hk)

theorem wp_cellWrite_nc {c : Nat} {d : Data} {k : Prog} (hnc : w.conflicts (.cell c) true = false)
    (hk : WP k { w with cells := w.cells.set c d } Q) : WP (.cellWrite c false d k) w Q :=
  wp_cellWrite' hnc hk

theorem wp_obsSetOnUnsub_nc {o : Nat} {f k : Prog} (hnc : w.conflicts (.obs o) true = false)
    (hk : WP k (w.setObs o fun x => { x with onUnsub := some f }) Q) : WP (.obsSetOnUnsub o f k) w Q :=
  wp_obsSetOnUnsub' hnc hk

theorem noconf_other {l : LockId} {m : Nat} {wr : Bool} (h : ∀ p ∈ w.held, p.1 = .cell m) (hl : l ≠ .cell m) :
    w.conflicts l wr = false :=
  noconf_ne wr fun p hp q => hl (q ▸ h p hp)

end prims

theorem getElem?_lt {α} {l : List α} {n : Nat} {x : α} (h : l[n]? = some x) : n < l.length :=
  lt_of_getElem? h

inductive Tab {α : Type} (l : List α) : List Nat → List α → Prop
  | nil : Tab l [] []
  | cons {a v as vs} : l[a]? = some v → Tab l as vs → Tab l (a :: as) (v :: vs)

section tab
variable {α : Type} {l l' : List α} {as : List Nat} {vs : List α}

theorem Tab.get (h : Tab l as vs) {i a : Nat} {v : α} (ha : as[i]? = some a) (hv : vs[i]? = some v) : l[a]? = some v := by
  induction h generalizing i with
  | nil => cases ha
  | cons h0 _ ih =>
    cases i with
    | zero => cases ha; cases hv; exact h0
    | succ i => exact ih ha hv

theorem Tab.mono (h : Tab l as vs) (h' : ∀ a ∈ as, ∀ v, l[a]? = some v → l'[a]? = some v) : Tab l' as vs := by
  induction h with
  | nil => exact .nil
  | cons ha _ ih => exact .cons (h' _ (.head _) _ ha) (ih fun a m => h' a (List.mem_cons_of_mem _ m))

theorem Tab.congr (h : Tab l as vs) (h' : ∀ a ∈ as, l'[a]? = l[a]?) : Tab l' as vs :=
  h.mono fun a ha _ hv => (h' a ha).trans hv

theorem Tab.append (h : Tab l as vs) (r : List α) : Tab (l ++ r) as vs :=
  h.mono fun _ _ _ hv => RefR.getElem?_append_some hv

theorem Tab.modify (h : Tab l as vs) (hn : as.Nodup) {i a : Nat} (ha : as[i]? = some a) (f : α → α) :
    Tab (l.modify a f) as (vs.modify i f) := by
  induction h generalizing i with
  | nil => cases ha
  | @cons a' v as' vs' hv ht ih =>
    obtain ⟨hna, hn'⟩ := List.nodup_cons.1 hn
    cases i with
    | zero =>
      cases ha
      refine .cons (by simp [hv]) (ht.congr fun b hb => modify_get_other _ _ ?_)
      rintro rfl; exact hna hb
    | succ i =>
      refine .cons ((modify_get_other _ _ ?_).trans hv) (ih hn' ha)
      rintro rfl; exact hna (List.mem_of_getElem? ha)

theorem Tab.set (h : Tab l as vs) (hn : as.Nodup) {i a : Nat} (ha : as[i]? = some a) (v : α) :
    Tab (l.set a v) as (vs.set i v) := by
  have e : ∀ (m : List α) (n : Nat), m.set n v = m.modify n fun _ => v := fun m n =>
    List.ext_getElem? fun j => by
      rw [List.getElem?_set, List.getElem?_modify]
      by_cases e : n = j
      · subst e
        rcases Nat.lt_or_ge n m.length with q | q
        · simp [q]
        · simp [Nat.not_lt.2 q]
      · simp [e]
  rw [e, e]; exact h.modify hn ha _

end tab

theorem noconf_slot {w : World} (h : ∀ p ∈ w.held, ∃ c, p.1 = .cell c) (s : Nat) (wr : Bool) :
    w.conflicts (.slot s) wr = false :=
  noconf_ne wr fun p hp q => by obtain ⟨c, hc⟩ := h p hp; rw [hc] at q; cases q

/-- the guards held by the callers are on cells outside `S` -/
def HF (S : List Nat) (w : World) : Prop := ∀ p ∈ w.held, ∃ c, p.1 = .cell c ∧ c ∉ S

theorem HF.cells {S : List Nat} {w : World} (h : HF S w) : ∀ p ∈ w.held, ∃ c, p.1 = .cell c :=
  fun p hp => let ⟨c, hc, _⟩ := h p hp; ⟨c, hc⟩

theorem HF.ne {S : List Nat} {w : World} (h : HF S w) {c : Nat} (hc : c ∈ S) : ∀ p ∈ w.held, p.1 ≠ .cell c :=
  fun p hp q => by
    obtain ⟨c', hc', hn⟩ := h p hp
    rw [hc'] at q; cases q; exact hn hc

theorem HF.free {S : List Nat} {w : World} (h : HF S w) {c : Nat} (hc : c ∈ S) (wr : Bool) :
    w.conflicts (.cell c) wr = false :=
  noconf_ne wr (h.ne hc)

theorem HF.slot {S : List Nat} {w : World} (h : HF S w) (s : Nat) (wr : Bool) : w.conflicts (.slot s) wr = false :=
  noconf_slot h.cells s wr

theorem HF.mono {S S' : List Nat} {w : World} (h : HF S w) (hs : ∀ x ∈ S', x ∈ S) : HF S' w :=
  fun p hp => let ⟨c, e, hn⟩ := h p hp; ⟨c, e, fun q => hn (hs _ q)⟩

theorem HF.push {S S' : List Nat} {w w1 : World} (h : HF S w) {c : Nat} {b : Bool}
    (hh : w1.held = (.cell c, b) :: w.held) (hs : ∀ x ∈ S', x ∈ S) (hc : c ∉ S') : HF S' w1 := by
  intro p hp
  rw [hh, List.mem_cons] at hp
  rcases hp with rfl | hp
  · exact ⟨c, rfl, hc⟩
  · exact h.mono hs p hp

section sinks
variable {w : World} {Q : World → Prop} {sc : Sctl} {x : Obs}

theorem wp_sinkNext {d : Data} (ho : w.obs[sc.sub]? = some x) (hx : x.isSub = true)
    (hk : WP (.obsNext sc.sub d .done) w Q) : WP (sc.sinkNext d) w Q := by
  refine wp_obsIsSub ho ?_; rw [hx]; exact hk

theorem wp_sinkError {e : Nat} (ho : w.obs[sc.sub]? = some x) (hx : x.isSub = true)
    (hk : WP (.obsError sc.sub e sc.finalize) w Q) : WP (sc.sinkError e) w Q := by
  refine wp_obsIsSub ho ?_; rw [hx]; exact hk

theorem wp_sinkCompleteForce (ho : w.obs[sc.sub]? = some x) (hx : x.isSub = true)
    (hk : WP (.obsComplete sc.sub sc.finalize) w Q) : WP sc.sinkCompleteForce w Q := by
  refine wp_obsIsSub ho ?_; rw [hx]; exact hk

theorem wp_sinkComplete {serial : Nat} {l : List (Nat × Nat)} (ho : w.obs[sc.sub]? = some x) (hx : x.isSub = true)
    (hh : w.held = []) (hm : w.cells[sc.map]? = some (encMap l))
    (hk : WP (if (l.filter fun p => p.1 != serial).length == 0 then .obsComplete sc.sub sc.finalize else .done)
      { w with cells := w.cells.set sc.map (encMap (l.filter fun p => p.1 != serial)) } Q) :
    WP (sc.sinkComplete serial) w Q := by
  refine wp_obsIsSub ho ?_; rw [hx]
  refine wp_cellRead_val hh hm ?_
  simp only [amapRemove_encMap, amapLen_encMap]
  exact wp_cellWrite hh hk

end sinks

/-! ### `StreamController::finalize` (stream_controller.rs:146-159) on any controller -/

/-- the loop of `finalize`; the invariant is indexed by the entries still to be unsubscribed -/
theorem wp_unsubLoop {Inv : List (Nat × Nat) → World → Prop}
    (hstep : ∀ p rest w1, Inv (p :: rest) w1 → WP (.obsUnsub p.2 .done) w1 (Inv rest)) :
    ∀ (l : List (Nat × Nat)) (w : World), Inv l w →
      WP (forEach (l.map fun p => Data.int p.2) fun o => .obsUnsub o.toInt.toNat .done) w (Inv [])
  | [], _, h => WP.done h
  | p :: rest, w, h => by
    simp only [List.map_cons, forEach, toNat_int]
    exact WP.seq ((hstep p rest w h).conseq fun w1 h1 => wp_unsubLoop hstep rest w1 h1)

/-- `finalize` of a controller whose map holds `l`; what follows the loop is left to the caller -/
theorem wp_finalize_gen (sc : Sctl) (l : List (Nat × Nat)) {w : World} {Inv : List (Nat × Nat) → World → Prop}
    {Q : World → Prop} (hm : w.cells[sc.map]? = some (encMap l))
    (hacq : w.conflicts (.cell sc.map) false = false)
    (h0 : Inv l { w with held := (.cell sc.map, false) :: w.held })
    (hstep : ∀ p rest w1, Inv (p :: rest) w1 → WP (.obsUnsub p.2 .done) w1 (Inv rest))
    (hend : ∀ w2, Inv [] w2 →
      WP (.lockRel (.cell sc.map) <| .cellWrite sc.map false .lnil <| .obsIsSub sc.sub fun b =>
        (if b then Prog.obsUnsub sc.sub .done else .done) ;;
        (.lockAcq (.slot sc.fin) true <| .slotCall sc.fin .unit true <| .lockRel (.slot sc.fin) .done)) w2 Q) :
    WP sc.finalize w Q := by
  simp only [Sctl.finalize]
  refine wp_lockAcq hacq (wp_cellRead_g ?_)
  have hr : ({ w with held := (LockId.cell sc.map, false) :: w.held } : World).cells[sc.map]?.getD .unit = encMap l := by
    show w.cells[sc.map]?.getD .unit = _; rw [hm]; rfl
  rw [hr, amapVals_encMap]
  exact WP.seq ((wp_unsubLoop hstep l _ h0).conseq hend)

/-- `finalize` when the subscriber has already lost its callbacks and `on_finalize` is empty (so at every use); the
    invariant `R` speaks of a state that `unsubscribe` of entry `p` transforms by `t p` -/
theorem wp_finalize {St : Type} (sc : Sctl) (l : List (Nat × Nat)) (t : Nat × Nat → St → St) (R : St → World → Prop)
    {s0 sE : St} {w : World} {Q : World → Prop} (hm : w.cells[sc.map]? = some (encMap l)) (hf : HF [sc.map] w)
    (h0 : R s0 { w with held := (.cell sc.map, false) :: w.held })
    (hstep : ∀ p s w1, p ∈ l → R s w1 → WP (.obsUnsub p.2 .done) w1 (R (t p s)))
    (hfold : l.foldl (fun s p => t p s) s0 = sE)
    (hend : ∀ w2, R sE w2 → w2.held = (.cell sc.map, false) :: w.held ∧
      (∃ x, w2.obs[sc.sub]? = some x ∧ x.isSub = false) ∧ w2.slots[sc.fin]? = some none ∧
      Q { w2 with held := w.held, cells := w2.cells.set sc.map .lnil }) : WP sc.finalize w Q := by
  have hin : sc.map ∈ [sc.map] := List.mem_singleton.2 rfl
  refine wp_finalize_gen sc l hm (hf.free hin _)
    (Inv := fun r w1 => ∃ s, R s w1 ∧ (∀ p ∈ r, p ∈ l) ∧ r.foldl (fun s p => t p s) s = sE) ⟨s0, h0, fun _ h => h, hfold⟩
    (fun p _ w1 ⟨s, h1, hl, e⟩ => (hstep p s w1 (hl p (.head _)) h1).conseq fun _ h2 =>
      ⟨_, h2, fun q hq => hl q (.tail _ hq), e⟩) fun w2 ⟨s, h2, _, e⟩ => ?_
  obtain ⟨hh, ⟨x, hsub, hx⟩, hs, hQ⟩ := hend w2 (e ▸ h2)
  refine wp_lockRel ?_
  rw [release_head _ _ _ _ hh]
  refine wp_cellWrite_nc (hf.free hin _) (wp_obsIsSub hsub ?_)
  rw [hx]
  exact WP.seq (WP.done (wp_lockedSlotCall_none' (hf.slot _ _) hs (WP.done hQ)))

/-- the `i`-th subject allocated in the empty world -/
def sjOf (i : Nat) : Subj := ⟨2 * i, 2 * i + 1, 2 * i, 2 * i + 1⟩

/-- `k` sources; source `i` is observed through inner observer `ob i`, registered under serial `ser i`,
    with closures `hn i / he i / hc i` -/
structure Lay where
  k : Nat
  ser : Nat → Nat
  ob : Nat → Nat
  hn : Nat → Data → Prog
  he : Nat → Nat → Prog
  hc : Nat → Prog

/-- the controller allocated right after the `k` subjects, for root observer 0 -/
def Lay.sc (L : Lay) : Sctl := ⟨0, 2 * L.k, 2 * L.k + 1, 2 * L.k⟩

/-- the teardown `Subject::observable` installed for the (only) observer of subject `i` -/
def hookOf (i : Nat) : Prog := hookProg (sjOf i) ((1 : Nat) : Int)

def innerFull (L : Lay) (i : Nat) (fresh : Bool) : Obs :=
  ⟨some (.code (L.hn i)), some (.code (L.he i)), some (.code (L.hc i)), if fresh then none else some (hookOf i)⟩

/-- inner observer of source `i`: all callbacks installed, or none (after a terminal / an unsubscribe) -/
def InnerSt (L : Lay) (i : Nat) (live fresh : Bool) (x : Obs) : Prop :=
  if live then x = innerFull L i fresh
  else x.next = none ∧ x.error = none ∧ x.complete = none ∧ (x.onUnsub = none ∨ x.onUnsub = some (hookOf i))

def rootObs (L : Lay) (alive : Bool) : Obs :=
  ⟨if alive then some (.user 0) else none, if alive then some (.user 0) else none,
   if alive then some (.user 0) else none, some L.sc.finalize⟩

/-- the part of the world the controller macros leave alone (or change in a known way): the operator's own cell
    (`2k+2` here, `L.cx` in `GRef.Rel`), the controller's serial counter, the number of observers -/
structure Fr where
  x : Data
  sv : Nat
  no : Nat

/-- World ↔ `Comb.Ctl`.  `fresh i`: subject `i` has not been subscribed yet (its serial is still 0);
    `hl`: the guards held (only ever of the controller's map); `x.x`: content of the operator's own cell `2k+2`;
    `out`: what test user 0 has received. -/
structure Rel (L : Lay) (fresh : Nat → Bool) (hl : List (LockId × Bool)) (c : Ctl) (x : Fr) (out : List Ev)
    (w : World) : Prop where
  status : w.status = .ok
  held : w.held = hl
  hlOk : ∀ p ∈ hl, p.1 = .cell (2 * L.k + 1)
  root : w.obs[0]? = some (rootObs L c.alive)
  user : ∃ u, w.users[0]? = some u ∧ u.react = noReact
  regLt : ∀ i ∈ c.reg, i < L.k
  liveLt : ∀ i ∈ c.live, i < L.k
  subjO : ∀ i, i < L.k →
    w.cells[2 * i]? = some (encMap (if c.live.contains i && !fresh i then [(1, L.ob i)] else []))
  subjS : ∀ i, i < L.k → w.cells[2 * i + 1]? = some (.int ((if fresh i then 0 else 1 : Nat) : Int))
  slots : ∀ j, j < 2 * L.k + 1 → w.slots[j]? = some none
  mapC : ∃ l : List Nat, w.cells[2 * L.k + 1]? = some (encMap (l.map fun i => (L.ser i, L.ob i))) ∧
    ∀ i, i ∈ l ↔ i ∈ c.reg
  serC : w.cells[2 * L.k]? = some (.int (x.sv : Int)) ∧ ∀ i ∈ c.reg, L.ser i < x.sv
  nObs : w.obs.length = x.no
  inner : ∀ i, i < L.k → (c.live.contains i = true ∨ c.reg.contains i = true) →
    ∃ o, w.obs[L.ob i]? = some o ∧ InnerSt L i (c.live.contains i) (fresh i) o
  xc : w.cells[2 * L.k + 2]?.getD .unit = x.x
  log : logOf w 0 = out

section
variable {L : Lay} {fresh : Nat → Bool} {hl : List (LockId × Bool)} {c : Ctl} {x : Fr} {out : List Ev} {w : World}

theorem Rel.fresh_congr (h : Rel L fresh hl c x out w) (fresh' : Nat → Bool)
    (he : ∀ i, i < L.k → fresh' i = fresh i) : Rel L fresh' hl c x out w :=
  { h with
    subjO := by intro i hi; rw [he i hi]; exact h.subjO i hi
    subjS := by intro i hi; rw [he i hi]; exact h.subjS i hi
    inner := by intro i hi hor; rw [he i hi]; exact h.inner i hi hor }

theorem Rel.setUser (h : Rel L fresh hl c x out w) (f : User → User) (hf : ∀ u, (f u).react = u.react) :
    Rel L fresh hl c x out (w.setUser 0 f) :=
  { h with user := let ⟨u, hu, hr⟩ := h.user; ⟨f u, modify_get_same _ _ hu, by rw [hf, hr]⟩ }

/-- the operator's own cell `2k+2` rewritten (`hx`: `xc` is stated with `getD .unit`, so only a content other than
    `.unit` shows that the cell exists) -/
theorem Rel.setX (h : Rel L fresh hl c x out w) (hx : x.x ≠ .unit) (x' : Data) :
    Rel L fresh hl c { x with x := x' } out { w with cells := w.cells.set (2 * L.k + 2) x' } :=
  have other : ∀ {i d}, i ≠ 2 * L.k + 2 → w.cells[i]? = some d → (w.cells.set (2 * L.k + 2) x')[i]? = some d :=
    fun hi e => (set_get_other _ (Ne.symm hi)).trans e
  { h with
    subjO := fun i hi => other (by omega) (h.subjO i hi)
    subjS := fun i hi => other (by omega) (h.subjS i hi)
    mapC := let ⟨l, hm, hmem⟩ := h.mapC; ⟨l, other (by omega) hm, hmem⟩
    serC := ⟨other (by omega) h.serC.1, h.serC.2⟩
    xc := by
      show (w.cells.set _ _)[_]?.getD _ = _
      cases hc : w.cells[2 * L.k + 2]? with
      | none => have := h.xc; rw [hc] at this; exact absurd this.symm hx
      | some v => rw [set_get_same _ hc]; rfl }

theorem root_deliver {k : Prog} {Q : World → Prop} (h : Rel L fresh hl c x out w) (ha : c.alive = true) (ev : Ev)
    (hk : WP k (w.deliverTo 0 0 ev) Q) : WP (evProg ev 0 k) w Q :=
  let ⟨_, hu, hr⟩ := h.user
  wp_ev_user (ha ▸ h.root) rfl rfl rfl hu hr hk

theorem xc_some (h : Rel L fresh hl c x out w) (hx : x.x ≠ .unit) : w.cells[2 * L.k + 2]? = some x.x := by
  have := h.xc
  cases hc : w.cells[2 * L.k + 2]? <;> simp_all

end

theorem contains_filter_ne (l : List Nat) (i j : Nat) :
    (l.filter (· != i)).contains j = (l.contains j && (j != i)) := by
  rw [Bool.eq_iff_iff]; simp [List.mem_filter]

theorem encMap_nil : encMap [] = .lnil := rfl

theorem filter_map_key {f g : Nat → Nat} {l : List Nat} {i : Nat} (hinj : ∀ a ∈ l, f a = f i → a = i) :
    (l.map fun a => (f a, g a)).filter (fun p => p.1 != f i) = (l.filter (· != i)).map fun a => (f a, g a) := by
  rw [List.filter_map]
  congr 1
  apply List.filter_congr
  intro a ha
  simp only [Function.comp_def, bne]
  congr 1
  rw [Bool.eq_iff_iff]; simp only [beq_iff_eq]
  exact ⟨hinj a ha, fun q => by rw [q]⟩

theorem cell_ne {a b : Nat} (h : a ≠ b) : LockId.cell a ≠ LockId.cell b := fun q => h (LockId.cell.inj q)

theorem amapGet_encMap (l : List (Nat × Nat)) (s : Nat) :
    amapGet (encMap l) (s : Int) = (l.find? fun p => p.1 == s).map fun p => Data.int p.2 := by
  simp only [amapGet, encMap, Data.toList_ofList]
  induction l with
  | nil => rfl
  | cons q rest ih =>
    simp only [List.map_cons, List.find?_cons]
    by_cases e : q.1 = s
    · have e1 : ((q.1 : Int) == (s : Int)) = true := by simp [e]
      simp [encPair, e]
    · have e1 : ((q.1 : Int) == (s : Int)) = false := by rw [beq_eq_false_iff_ne]; omega
      have e2 : (q.1 == s) = false := by rw [beq_eq_false_iff_ne]; exact e
      simp only [encPair, e1, e2]
      exact ih

theorem set_same_get {α} {l : List α} {n : Nat} {v : α} (h : l[n]? = some v) (j : Nat) :
    (l.set n v)[j]? = l[j]? := by
  by_cases e : n = j
  · subst e; rw [set_get_same _ h, h]
  · exact set_get_other _ e

theorem contains_append_one (l : List Nat) (j i : Nat) : (l ++ [j]).contains i = (l.contains i || i == j) := by
  rw [Bool.eq_iff_iff]; simp

/-- source `i` has no observer in its subject: the call changes nothing -/
theorem src_dead {L : Lay} {fresh : Nat → Bool} {c : Ctl} {x : Fr} {out : List Ev} {w : World}
    (h : Rel L fresh [] c x out w) {i : Nat} (hi : i < L.k)
    (hd : (c.live.contains i && !fresh i) = false) (ev : Ev) :
    WP (evCall (sjOf i) ev) w (Rel L fresh [] c x out) := by
  have hO := h.subjO i hi
  rw [hd] at hO
  simp only [Bool.false_eq_true, ↓reduceIte] at hO
  have hread : w.cells[2 * i]?.getD .unit = encMap [] := by rw [hO]; rfl
  have hc : ∀ j : Nat, (w.cells.set (2 * i) .lnil)[j]? = w.cells[j]? := set_same_get hO
  have hw : Rel L fresh [] c x out { w with cells := w.cells.set (2 * i) .lnil } :=
    { h with
      subjO := by intro i hi; show (w.cells.set _ _)[_]? = _; rw [hc]; exact h.subjO i hi
      subjS := by intro i hi; show (w.cells.set _ _)[_]? = _; rw [hc]; exact h.subjS i hi
      mapC := by
        obtain ⟨l, hm, hmem⟩ := h.mapC
        exact ⟨l, by show (w.cells.set _ _)[_]? = _; rw [hc]; exact hm, hmem⟩
      serC := ⟨by show (w.cells.set _ _)[_]? = _; rw [hc]; exact h.serC.1, h.serC.2⟩
      xc := by show (w.cells.set _ _)[_]?.getD _ = _; rw [hc]; exact h.xc }
  cases ev with
  | next d =>
    refine wp_cellRead h.held ?_
    show WP (forEach (amapVals (w.cells[2 * i]?.getD .unit)) _) w _
    rw [hread]; exact WP.done h
  | error e =>
    refine wp_cellRead h.held (wp_cellWrite h.held ?_)
    show WP (forEach (amapVals (w.cells[2 * i]?.getD .unit)) _) _ _
    rw [hread]; exact WP.done hw
  | complete =>
    refine wp_cellRead h.held (wp_cellWrite h.held ?_)
    show WP (forEach (amapVals (w.cells[2 * i]?.getD .unit)) _) _ _
    rw [hread]; exact WP.done hw

end Rx.CRef
