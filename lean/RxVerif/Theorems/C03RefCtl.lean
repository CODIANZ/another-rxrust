import RxVerif.Theorems.C03
/-
C03-REF: `kill`, `finalize`, `abort` and the sinks of the pure `StreamController` (`Comb.Ctl`) only ever take
observers away (`Le`).  `kill`, `finalize`, the sinks and (while the subscriber is alive) `addObserver` keep the
invariant `CI`: every live observer is registered (`lr`); once the subscriber is gone nobody is live (`al`).
-/
namespace Rx.GRef
open Rx.Comb

/-- `c'` is `c` after some inner observers were unsubscribed or unregistered -/
structure Le (c' c : Ctl) : Prop where
  live : c'.live.Sublist c.live
  reg : ∀ i ∈ c'.reg, i ∈ c.reg

theorem Le.refl (c : Ctl) : Le c c := ⟨List.Sublist.refl _, fun _ h => h⟩

theorem Le.trans {a b c : Ctl} (h1 : Le a b) (h2 : Le b c) : Le a c :=
  ⟨h1.live.trans h2.live, fun i h => h2.reg i (h1.reg i h)⟩

theorem kill_le (c : Ctl) (e : Nat) : Le (c.kill e) c := ⟨List.filter_sublist, fun _ h => h⟩

theorem finalize_le (c : Ctl) : Le c.finalize c := ⟨List.filter_sublist, fun _ h => nomatch h⟩

theorem sinkNext_le (c : Ctl) (d : Data) : Le (c.sinkNext d).1 c := by
  unfold Ctl.sinkNext; split
  · exact Le.refl c
  · exact finalize_le c

theorem sinkError_le (c : Ctl) (e : Nat) : Le (c.sinkError e).1 c := by
  unfold Ctl.sinkError; split <;> exact finalize_le c

theorem sinkForce_le (c : Ctl) : Le c.sinkCompleteForce.1 c := by
  unfold Ctl.sinkCompleteForce; split <;> exact finalize_le c

theorem sinkComplete_le (c : Ctl) (i : Nat) : Le (c.sinkComplete i).1 c := by
  have h : Le { c with reg := c.reg.filter (· != i) } c :=
    ⟨List.Sublist.refl _, fun _ h => (List.mem_filter.1 h).1⟩
  unfold Ctl.sinkComplete; split
  · split
    · exact (finalize_le _).trans h
    · exact h
  · exact finalize_le c

theorem abort_le (c : Ctl) (i : Nat) : Le (c.abort i) c := by
  unfold Ctl.abort; split
  · exact ⟨List.filter_sublist, fun _ h => (List.mem_filter.1 h).1⟩
  · exact Le.refl c

theorem kill_sub (c : Ctl) (e : Nat) : (c.kill e).live.Sublist c.live := (kill_le c e).live
theorem sinkNext_sub (c : Ctl) (d : Data) : (c.sinkNext d).1.live.Sublist c.live := (sinkNext_le c d).live
theorem sinkError_sub (c : Ctl) (e : Nat) : (c.sinkError e).1.live.Sublist c.live := (sinkError_le c e).live
theorem sinkForce_sub (c : Ctl) : c.sinkCompleteForce.1.live.Sublist c.live := (sinkForce_le c).live
theorem sinkComplete_sub (c : Ctl) (i : Nat) : (c.sinkComplete i).1.live.Sublist c.live := (sinkComplete_le c i).live
theorem abort_sub (c : Ctl) (i : Nat) : (c.abort i).live.Sublist c.live := (abort_le c i).live

end Rx.GRef

namespace Rx.GRef.FlatMap
open Rx.Comb

/-- kept by the operators that create inner observers while they run (flat_map, concat): `new_observer`'s re-check
    of the subscriber passes as long as an inner observer is live -/
structure CI (c : Ctl) : Prop where
  lr : ∀ e ∈ c.live, e ∈ c.reg
  al : c.alive = false → c.live = []

theorem CI.alive {c : Ctl} (h : CI c) {e : Nat} (hl : c.live.contains e = true) : c.alive = true := by
  cases q : c.alive with
  | true => rfl
  | false => rw [h.al q] at hl; cases hl

theorem CI.fin_nil {c : Ctl} (h : CI c) : c.finalize.live = [] :=
  Ctl.Sub.finalize_live h.lr

theorem CI.finalize {c : Ctl} (h : CI c) : CI c.finalize :=
  ⟨fun e he => (by rw [h.fin_nil] at he; cases he), fun _ => h.fin_nil⟩

theorem CI.kill {c : Ctl} (h : CI c) (e : Nat) : CI (c.kill e) :=
  ⟨Ctl.Sub.kill h.lr e, fun q => by
    have := h.al q; simp only [Ctl.kill, this, List.filter_nil]⟩

theorem CI.sinkNext {c : Ctl} (h : CI c) (d : Data) : CI (c.sinkNext d).1 := by
  unfold Ctl.sinkNext; split
  · exact h
  · exact h.finalize

theorem CI.sinkError {c : Ctl} (h : CI c) (x : Nat) : CI (c.sinkError x).1 := by
  unfold Ctl.sinkError; split <;> exact h.finalize

theorem CI.sinkComplete {c : Ctl} (h : CI c) (i : Nat) (hi : i ∉ c.live) : CI (c.sinkComplete i).1 := by
  have h' : CI { c with reg := c.reg.filter (· != i) } :=
    ⟨fun e he => by
      simp only [List.mem_filter, bne_iff_ne]
      exact ⟨h.lr e he, fun q => hi (q ▸ he)⟩, h.al⟩
  unfold Ctl.sinkComplete; split
  · split
    · exact h'.finalize
    · exact h'
  · exact h.finalize

theorem CI.addObserver {c : Ctl} (h : CI c) (ha : c.alive = true) (e : Nat) : CI (c.addObserver e) :=
  ⟨fun a q => by
    simp only [Ctl.addObserver, List.mem_append, List.mem_singleton] at q ⊢
    rcases q with r | r
    · exact .inl (h.lr a r)
    · exact .inr r, fun q => by simp only [Ctl.addObserver] at q; rw [ha] at q; cases q⟩

theorem CI.sinkForce {c : Ctl} (h : CI c) : CI c.sinkCompleteForce.1 := by
  unfold Ctl.sinkCompleteForce; split <;> exact h.finalize

end Rx.GRef.FlatMap
