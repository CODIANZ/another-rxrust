import RxVerif.Theorems.C03RefSeqEqGlobal
/-
C03-REF, sequence_equal: what happens above the chains.  `zip.finalize` tears down every registered chain; the
outer controller's observer and `outer.finalize`; deliveries to the test user; the comparison closure; zip's closures.
Each closure is described by a function on the abstract state `GS` (`tO`, `tOF`, `o1Step`, `zStep`).
-/
namespace Rx.SeqRef
open Rx.Sim Rx.Ref Rx.Comb Rx.CRef

variable {k : Nat} {σ : GS} {hl : List (LockId × Bool)} {w : World}

/-- the chains only depend on cells outside the two upper controllers, on observers `≥ 2` and on the slots -/
theorem GRel.chains_keep {w' : World} (h : GRel k σ hl w)
    (hc : ∀ c, c < 2 * k ∨ 2 * k + 5 ≤ c → w'.cells[c]? = w.cells[c]?)
    (ho : ∀ o, 2 ≤ o → w'.obs[o]? = w.obs[o]?) (hs : w'.slots = w.slots) :
    ∀ j, j < k → ChainAt k j (σ.ch j) w' := by
  intro j hj
  refine (h.chains j hj).congr (fun c hcm => hc c ?_) (fun o hom => ho o ?_) hs
  · have := cellAddrs_range hcm
    omega
  · rcases mem_chainObs (h.chains j hj) hom with q | ⟨q, _⟩ <;> omega

theorem chains_of_same {w' : World} {cs os : List Nat} (h : GRel k σ hl w) (s : Same w w' cs os)
    (hc : ∀ c ∈ cs, 2 * k ≤ c ∧ c < 2 * k + 5) (ho : ∀ o ∈ os, o < 2) :
    ∀ j, j < k → ChainAt k j (σ.ch j) w' :=
  h.chains_keep (fun c hc' => s.cells c fun q => by have := hc c q; omega)
    (fun o ho' => s.obs o fun q => by have := ho o q; omega) s.slots

theorem GRel.setHeld (h : GRel k σ hl w) (hl' : List (LockId × Bool))
    (hok : ∀ p ∈ hl', p.1 = .cell (omap k) ∨ p.1 = .cell (zmap k)) : GRel k σ hl' { w with held := hl' } :=
  { h with held := rfl, hlOk := hok, chains := fun j hj => (h.chains j hj).setHeld _ }

theorem GRel.setTop (h : GRel k σ hl w) {i c : Nat} (hc : (topAddrs k)[i]? = some c) (v : Data) (r : Bool)
    (reg : List Nat) (qs : List (List Data))
    (hv : topVals k { σ with oR := r, reg := reg, qs := qs } = (topVals k σ).set i v) (hr : ∀ i ∈ reg, i < k) :
    GRel k { σ with oR := r, reg := reg, qs := qs } hl { w with cells := w.cells.set c v } := by
  have hn : (topAddrs k).Nodup := by
    simp only [topAddrs, oser, omap, zser, zmap, zq, List.nodup_cons, List.mem_cons, List.not_mem_nil, or_false,
      not_or, List.nodup_nil, and_true, not_false_eq_true]
    omega
  have T : Tab (w.cells.set c v) (topAddrs k) _ := hv ▸ h.topTab.set hn hc v
  have hcr := topAddrs_range (List.mem_of_getElem? hc)
  exact
  { h with
    oS := T.get (i := 0) rfl rfl, oM := T.get (i := 1) rfl rfl, zS := T.get (i := 2) rfl rfl
    zM := T.get (i := 3) rfl rfl, zQ := T.get (i := 4) rfl rfl, regLt := hr
    chains := h.chains_keep (fun a ha => set_get_other _ (by omega)) (fun _ _ => rfl) rfl }

theorem GRel.setOmap (h : GRel k σ hl w) (r : Bool) :
    GRel k { σ with oR := r } hl { w with cells := w.cells.set (omap k) (encMap (if r then [(0, 1)] else [])) } :=
  h.setTop (i := 1) rfl _ r σ.reg σ.qs rfl h.regLt

theorem GRel.setReg (h : GRel k σ hl w) (reg' : List Nat) (hr : ∀ i ∈ reg', i < k) :
    GRel k { σ with reg := reg' } hl
      { w with cells := w.cells.set (zmap k) (encMap (reg'.map fun i => (i, Zo i))) } :=
  h.setTop (i := 3) rfl _ σ.oR reg' σ.qs rfl hr

theorem GRel.setQ (h : GRel k σ hl w) (qs' : List (List Data)) :
    GRel k { σ with qs := qs' } hl { w with cells := w.cells.set (zq k) (encQ qs') } :=
  h.setTop (i := 4) rfl _ σ.oR σ.reg qs' rfl h.regLt

/-- the outer controller's observer on zip changes; `l`, `hk` = whether it has its callbacks / its teardown then -/
theorem GRel.setO1 (h : GRel k σ hl w) (f : Obs → Obs) (l hk : Bool)
    (hf : f (if σ.oL then outerObs k (optHook σ.oH (scZ k).finalize) else deadObs (optHook σ.oH (scZ k).finalize)) =
      if l then outerObs k (optHook hk (scZ k).finalize) else deadObs (optHook hk (scZ k).finalize)) :
    GRel k { σ with oL := l, oH := hk } hl { w with obs := w.obs.modify 1 f } :=
  { h with
    root := (modify_get_other _ _ (by omega)).trans h.root
    o1 := (modify_get_same _ _ h.o1).trans (congrArg some hf)
    chains := h.chains_keep (fun _ _ => rfl) (fun o ho => modify_get_other _ _ (by omega)) rfl }

/-- the chains of `l` torn down -/
def tearAll (ch : Nat → CB) (l : List Nat) : Nat → CB := fun j => if l.contains j then tZ (ch j) else ch j

theorem tearAll_nil (ch : Nat → CB) : tearAll ch [] = ch := by funext j; simp [tearAll]

theorem tearAll_le (ch : Nat → CB) (l : List Nat) (j : Nat) : (tearAll ch l j).le (ch j) := by
  simp only [tearAll]; split
  · exact tZ_le _
  · exact .refl _

theorem tearAll_sR (ch : Nat → CB) (l : List Nat) (j : Nat) (h : (tearAll ch l j).sR = true) : (ch j).sR = true :=
  (tearAll_le ch l j).sR_true h

theorem upd_le {ch : Nat → CB} {i : Nat} {b : CB} (h : b.le (ch i)) (j : Nat) : (GRef.fupd ch i b j).le (ch j) := by
  by_cases e : j = i
  · subst e; rw [GRef.fupd_same]; exact h
  · rw [GRef.fupd_other _ _ e]; exact .refl _

theorem foldl_tear : ∀ (l : List Nat) (ch : Nat → CB), l.Nodup →
    l.foldl (fun ch i => GRef.fupd ch i (tZ (ch i))) ch = tearAll ch l
  | [], ch, _ => (tearAll_nil ch).symm
  | i :: l, ch, hn => by
    obtain ⟨hi, hn'⟩ := List.nodup_cons.1 hn
    rw [List.foldl_cons, foldl_tear l _ hn']
    funext j
    by_cases e : j = i
    · subst e; simp [tearAll, GRef.fupd, hi]
    · simp [tearAll, GRef.fupd, e]

/-- `zip.finalize` (its subscriber, the outer controller's observer, has already lost its callbacks): every chain
    still in zip's map is torn down -/
theorem zipFin_spec (h : GRel k σ hl w) (hd : σ.oL = false) (hnd : σ.reg.Nodup)
    (hhl : ∀ p ∈ hl, p.1 = .cell (omap k)) :
    WP (scZ k).finalize w (GRel k { σ with reg := [], ch := tearAll σ.ch σ.reg } hl) := by
  obtain rfl := h.held
  have hok' : ∀ p ∈ (LockId.cell (zmap k), false) :: w.held, p.1 = .cell (omap k) ∨ p.1 = .cell (zmap k) := by
    intro p hp
    rcases List.mem_cons.1 hp with rfl | hp
    · exact .inr rfl
    · exact .inl (hhl p hp)
  refine wp_finalize (scZ k) (σ.reg.map fun i => (i, Zo i)) (fun p ch => GRef.fupd ch p.1 (tZ (ch p.1)))
    (fun ch w1 => GRel k { σ with ch := ch } ((.cell (zmap k), false) :: w.held) w1) (sE := tearAll σ.ch σ.reg) h.zM
    (fun p hp => ⟨omap k, hhl p hp, by simp [scZ, omap, zmap]⟩) (h.setHeld _ hok') ?_
    (by rw [List.foldl_map]; exact foldl_tear _ _ hnd) ?_
  · rintro p ch w1 hp h1
    obtain ⟨i, hi, rfl⟩ := List.mem_map.1 hp
    exact h1.unsubZ (h.regLt i hi) rfl
  · intro w2 h2
    have hsub := h2.o1
    rw [hd] at hsub
    exact ⟨h2.held, ⟨_, hsub, rfl⟩, h2.zF,
      (h2.setHeld w.held fun p hp => .inl (hhl p hp)).setReg [] nofun⟩

/-- the outer controller's observer loses its callbacks and its teardown (if it still had one, zip was finalized) -/
def tO (σ : GS) : GS :=
  if σ.oH then { σ with oL := false, oH := false, reg := [], ch := tearAll σ.ch σ.reg }
  else { σ with oL := false, oH := false }

/-- `unsubscribe` of the outer controller's observer on zip (its teardown is `zip.finalize`) -/
theorem unsubO1_spec (h : GRel k σ hl w) (hnd : σ.reg.Nodup) (hhl : ∀ p ∈ hl, p.1 = .cell (omap k)) :
    WP (.obsUnsub 1 .done) w (GRel k (tO σ) hl) := by
  have hO := h.setO1 (fun x => { x.cleared with onUnsub := none }) false false (dead_of ..)
  refine unsub_hook_spec h.o1 rfl (fun hH => ?_) fun hH => ?_
  · rw [tO, hH]; exact hO
  · rw [tO, hH]; exact zipFin_spec hO rfl hnd hhl

def tOF (σ : GS) : GS := { (if σ.oR then tO σ else σ) with oR := false }

theorem tO_alive (σ : GS) : (tO σ).alive = σ.alive ∧ (tO σ).oR = σ.oR ∧ ((tO σ).reg = [] ∨ (tO σ).reg = σ.reg) := by
  simp only [tO]; split
  · exact ⟨rfl, rfl, .inl rfl⟩
  · exact ⟨rfl, rfl, .inr rfl⟩

/-- `outer.finalize` (the test user's root observer has already lost its callbacks) -/
theorem outerFin_spec (h : GRel k σ [] w) (hd : σ.alive = false) (hnd : σ.reg.Nodup) :
    WP (scO k).finalize w (GRel k (tOF σ) []) := by
  have hw := h.held
  have hok : ∀ p ∈ (LockId.cell (omap k), false) :: w.held, p.1 = .cell (omap k) := by
    intro p hp; rw [hw, List.mem_singleton] at hp; rw [hp]
  refine wp_finalize (scO k) (if σ.oR then [(0, 1)] else []) (fun _ => tO)
    (fun s w1 => GRel k s ((.cell (omap k), false) :: w.held) w1 ∧ s.alive = false ∧ s.reg.Nodup)
    (sE := if σ.oR then tO σ else σ) h.oM (by rw [HF, hw]; nofun)
    ⟨h.setHeld _ fun p hp => .inl (hok p hp), hd, hnd⟩ ?_ (by cases σ.oR <;> rfl) ?_
  · rintro p s w1 hp ⟨h1, ha, hn⟩
    have hp' : p.2 = 1 := by
      cases hR : σ.oR <;> simp only [hR, Bool.false_eq_true, ↓reduceIte, List.mem_singleton, List.not_mem_nil] at hp
      rw [hp]
    rw [hp']
    refine (unsubO1_spec h1 hn hok).conseq fun w2 h2 => ⟨h2, (tO_alive s).1.trans ha, ?_⟩
    rcases (tO_alive s).2.2 with q | q <;> rw [q]
    · exact List.nodup_nil
    · exact hn
  · rintro w2 ⟨h2, ha, _⟩
    have hsub := h2.root
    rw [ha] at hsub
    refine ⟨h2.held, ⟨_, hsub, rfl⟩, h2.oF, ?_⟩
    rw [hw]
    exact (h2.setHeld [] nofun).setOmap false

theorem omap_filter (b : Bool) : (if b then [((0 : Nat), (1 : Nat))] else []).filter (fun p => p.1 != 0) = [] := by
  cases b <;> rfl

def tOA (σ : GS) : GS := if σ.oR then { tO σ with oR := false } else σ

/-- `outer.upstream_abort_observe(0)` (stream_controller.rs:138-144) -/
theorem outerAbort_spec (h : GRel k σ [] w) (hnd : σ.reg.Nodup) :
    WP ((scO k).abortObserve 0) w (GRel k (tOA σ) []) := by
  have hok : ∀ p ∈ [(LockId.cell (omap k), true)], p.1 = .cell (omap k) := by
    intro p hp; rw [List.mem_singleton.1 hp]
  simp only [Sctl.abortObserve, scO]
  refine wp_lockAcq (noconf_of_held_nil h.held _ _) (wp_cellRead_g ?_)
  have hr : ({ w with held := (LockId.cell (omap k), true) :: w.held } : World).cells[omap k]?.getD .unit =
      encMap (if σ.oR then [(0, 1)] else []) := by
    show w.cells[omap k]?.getD .unit = _; rw [h.oM]; rfl
  rw [hr, amapRemove_encMap, amapGet_encMap, omap_filter]
  refine wp_cellWrite_g ?_
  have h1 : GRel k { σ with oR := false } [(.cell (omap k), true)]
      { w with held := (.cell (omap k), true) :: w.held, cells := w.cells.set (omap k) (encMap []) } := by
    rw [h.held]; exact (h.setHeld _ fun p hp => .inl (hok p hp)).setOmap false
  apply WP.seq
  cases hR : σ.oR with
  | false =>
    simp only [Bool.false_eq_true, ↓reduceIte, List.find?_nil, Option.map_none]
    refine WP.done (wp_lockRel ?_)
    rw [release_head _ _ _ _ h1.held]
    have e : tOA σ = { σ with oR := false } := by rw [tOA, hR]; cases σ; simp_all
    rw [e]
    exact WP.done (h1.setHeld [] nofun)
  | true =>
    simp only [↓reduceIte, List.find?_cons, beq_self_eq_true, Option.map_some, toNat_int]
    refine (unsubO1_spec h1 hnd hok).conseq fun w2 h2 => wp_lockRel ?_
    rw [release_head _ _ _ _ h2.held]
    have e : tOA σ = tO { σ with oR := false } := by
      simp only [tOA, hR, ↓reduceIte, tO]; split <;> rfl
    rw [e]
    exact WP.done (h2.setHeld [] nofun)

/-- the test user's root observer receives an event (the user only records) -/
theorem root_deliver {Q : World → Prop} {kp : Prog} (h : GRel k σ hl w) (ha : σ.alive = true) (ev : Ev)
    (hk : ∀ w1, GRel k { σ with alive := !ev.isTerminal, out := σ.out ++ [ev] } hl w1 → WP kp w1 Q) :
    WP (evProg ev 0 kp) w Q := by
  obtain ⟨u, hu, hr⟩ := h.user
  have hroot := h.root
  rw [ha] at hroot
  refine wp_ev_user hroot rfl rfl rfl hu hr (hk _ ?_)
  have hlog : ∀ w' : World, w'.trace = w.trace → logOf (w'.emit (.ev 0 ev)) 0 = σ.out ++ [ev] := fun w' e => by
    rw [logOf_emit_same, ← h.log]; simp only [logOf, e]
  cases ht : ev.isTerminal with
  | false =>
    rw [show w.deliverTo 0 0 ev = w.emit (.ev 0 ev) by simp [World.deliverTo, ht]]
    exact
    { h with
      root := hroot
      log := hlog w rfl
      chains := h.chains_keep (fun _ _ => rfl) (fun _ _ => rfl) rfl }
  | true =>
    rw [show w.deliverTo 0 0 ev = (w.setObs 0 Obs.cleared).emit (.ev 0 ev) by simp [World.deliverTo, ht]]
    exact
    { h with
      root := modify_get_same _ _ hroot
      o1 := (modify_get_other _ _ (by omega)).trans h.o1
      log := hlog _ rfl
      chains := h.chains_keep (fun _ _ => rfl) (fun o ho => modify_get_other _ _ (by omega)) rfl }

theorem oSinkNext_spec (h : GRel k σ hl w) (ha : σ.alive = true) (d : Data) :
    WP ((scO k).sinkNext d) w (GRel k { σ with out := σ.out ++ [.next d] } hl) := by
  have hroot := h.root; rw [ha] at hroot
  refine wp_sinkNext hroot rfl (root_deliver h ha (.next d) fun w1 h1 => WP.done ?_)
  have e : ({ σ with alive := !(Ev.next d).isTerminal, out := σ.out ++ [.next d] } : GS) =
      { σ with out := σ.out ++ [.next d] } := by simp [Ev.isTerminal, ha]
  rw [e] at h1; exact h1

theorem oSinkError_spec (h : GRel k σ [] w) (ha : σ.alive = true) (hnd : σ.reg.Nodup) (e : Nat) :
    WP ((scO k).sinkError e) w (GRel k (tOF { σ with alive := false, out := σ.out ++ [.error e] }) []) := by
  have hroot := h.root; rw [ha] at hroot
  exact wp_sinkError hroot rfl (root_deliver h ha (.error e) fun w1 h1 =>
    outerFin_spec (σ := { σ with alive := false, out := σ.out ++ [.error e] }) h1 rfl hnd)

theorem oSinkComplete0_spec (h : GRel k σ [] w) (ha : σ.alive = true) (hnd : σ.reg.Nodup) :
    WP ((scO k).sinkComplete 0) w
      (GRel k (tOF { σ with alive := false, oR := false, out := σ.out ++ [.complete] }) []) := by
  have hroot := h.root; rw [ha] at hroot
  refine wp_sinkComplete hroot rfl h.held h.oM ?_
  rw [omap_filter]
  exact root_deliver (h.setOmap false) ha .complete fun w1 h2 =>
    outerFin_spec (σ := { σ with alive := false, oR := false, out := σ.out ++ [.complete] }) h2 rfl hnd

/-- everything is over: the verdict `evs` has been delivered.  `torn`: `outer.finalize` found observer 1 in its map
    and unsubscribed it, which finalized zip.  Not so on completion: `sink_complete(0)` has emptied the map first, observer
    1 keeps its teardown (`oH`) and zip finalizes itself afterwards (`z_deliver`). -/
def endState (σ : GS) (torn : Bool) (evs : List Ev) : GS :=
  { alive := false, oL := false, oH := !torn, oR := false, reg := if torn then [] else σ.reg, qs := σ.qs,
    ch := if torn then tearAll σ.ch σ.reg else σ.ch, out := σ.out ++ evs }

def o1Step (σ : GS) : Ev → GS
  | .next x => if sequenceEqualCode.allSame x.toList then σ else endState σ true [.next (.bool false), .complete]
  | .error e => endState σ true [.error e]
  | .complete => endState σ false [.next (.bool true), .complete]

theorem endState_le (σ : GS) (t : Bool) (evs : List Ev) (j : Nat) : ((endState σ t evs).ch j).le (σ.ch j) := by
  simp only [endState]; split
  · exact tearAll_le ..
  · exact .refl _

theorem o1Step_le (σ : GS) (ev : Ev) (j : Nat) : ((o1Step σ ev).ch j).le (σ.ch j) := by
  cases ev with
  | next x => simp only [o1Step]; split
              · exact .refl _
              · exact endState_le ..
  | error e => exact endState_le ..
  | complete => exact endState_le ..

/-- the four top flags are set: nothing has ended yet -/
structure TopOk (σ : GS) : Prop where
  alive : σ.alive = true
  oL : σ.oL = true
  oH : σ.oH = true
  oR : σ.oR = true
  nd : σ.reg.Nodup

theorem cmpNext_spec (h : GRel k σ [] w) (ht : TopOk σ) (x : Data) :
    WP (cmpNext k x) w (GRel k (o1Step σ (.next x)) []) := by
  simp only [cmpNext, o1Step]
  rw [show (x.toList.all fun i => i == x.toList.headD .unit) = sequenceEqualCode.allSame x.toList from rfl]
  cases hs : sequenceEqualCode.allSame x.toList with
  | true => exact WP.done h
  | false =>
    simp only [Bool.false_eq_true, ↓reduceIte]
    have a1 : (tOA σ).alive = true := by simp [tOA, ht.oR, tO, ht.oH, ht.alive]
    have hnd2 : ({ tOA σ with out := (tOA σ).out ++ [.next (.bool false)] } : GS).reg.Nodup := by
      simp [tOA, ht.oR, tO, ht.oH]
    refine WP.seq ((outerAbort_spec h ht.nd).conseq fun w1 h1 =>
      WP.seq ((oSinkNext_spec h1 a1 (.bool false)).conseq fun w2 h2 =>
        (oSinkComplete0_spec h2 a1 hnd2).conseq fun w3 h3 => ?_))
    have e : tOF { ({ tOA σ with out := (tOA σ).out ++ [.next (.bool false)] } : GS) with
        alive := false, oR := false,
        out := ({ tOA σ with out := (tOA σ).out ++ [.next (.bool false)] } : GS).out ++ [.complete] } =
        endState σ true [.next (.bool false), .complete] := by
      simp [tOF, tOA, tO, ht.oR, ht.oH, endState]
    rw [e] at h3; exact h3

theorem o1_deliver {Q : World → Prop} {kp : Prog} (h : GRel k σ [] w) (ht : TopOk σ) (ev : Ev)
    (hk : ∀ w1, GRel k (o1Step σ ev) [] w1 → WP kp w1 Q) : WP (evProg ev 1 kp) w Q := by
  have ho := h.o1
  simp only [ht.oL, ht.oH, ↓reduceIte, optHook] at ho
  refine wp_ev_code ho rfl rfl rfl ?_
  have h1 := h.setO1 Obs.cleared false true (by rw [ht.oL, ht.oH]; rfl)
  have a1 : ({ σ with oL := false, oH := true } : GS).alive = true := ht.alive
  cases ev with
  | next x => exact (cmpNext_spec h ht x).conseq fun w1 h1 => hk w1 h1
  | error e =>
    refine (oSinkError_spec h1 a1 ht.nd e).conseq fun w2 h2 => hk w2 ?_
    have e' : tOF { ({ σ with oL := false, oH := true } : GS) with alive := false, out := σ.out ++ [.error e] } =
        o1Step σ (.error e) := by simp [tOF, tO, ht.oR, o1Step, endState]
    rw [← e']; exact h2
  | complete =>
    refine WP.seq ((oSinkNext_spec h1 a1 (.bool true)).conseq fun w2 h2 =>
      (oSinkComplete0_spec h2 a1 ht.nd).conseq fun w3 h3 => hk w3 ?_)
    have e' : tOF { ({ σ with oL := false, oH := true } : GS) with
        alive := false, oR := false, out := σ.out ++ [.next (.bool true)] ++ [.complete] } = o1Step σ .complete := by
      simp [tOF, o1Step, endState]
    rw [← e']; exact h3

/-- what the test relies on before an event of a source: nothing has ended, `k` queues, one of them empty -/
structure Ready (k : Nat) (σ : GS) : Prop where
  top : TopOk σ
  ne : Zip.ne σ.qs = false
  len : σ.qs.length = k
  kpos : 0 < k

theorem TopOk.setCh (h : TopOk σ) (i : Nat) (b : CB) : TopOk (σ.setCh i b) := ⟨h.alive, h.oL, h.oH, h.oR, h.nd⟩

theorem Ready.setCh (h : Ready k σ) (i : Nat) (b : CB) : Ready k (σ.setCh i b) :=
  ⟨h.top.setCh i b, h.ne, h.len, h.kpos⟩

theorem Ready.setQ (h : Ready k σ) {qs : List (List Data)} (hne : Zip.ne qs = false) (hlen : qs.length = k) :
    Ready k { σ with qs := qs } :=
  ⟨⟨h.top.alive, h.top.oL, h.top.oH, h.top.oR, h.top.nd⟩, hne, hlen, h.kpos⟩

/-- zip's observer `i` loses its callbacks (it received a terminal) -/
def zKill (σ : GS) (i : Nat) : GS := σ.setCh i { σ.ch i with zL := false }

/-- an event reaches zip's observer `i` -/
def zStep (σ : GS) (i : Nat) : Ev → GS
  | .next x =>
    if Zip.ne (σ.qs.modify i (· ++ [x])) then
      o1Step { σ with qs := (σ.qs.modify i (· ++ [x])).map List.tail }
        (.next (Data.ofList ((σ.qs.modify i (· ++ [x])).map fun q => q.headD .unit)))
    else { σ with qs := σ.qs.modify i (· ++ [x]) }
  | .error e => endState (zKill σ i) true [.error e]
  | .complete =>
    if (σ.reg.filter (· != i)).isEmpty then
      endState { zKill σ i with reg := [] } false [.next (.bool true), .complete]
    else { zKill σ i with reg := σ.reg.filter (· != i) }

theorem zKill_le (σ : GS) (i j : Nat) : ((zKill σ i).ch j).le (σ.ch j) :=
  upd_le (ch := σ.ch) (b := { σ.ch i with zL := false }) ⟨fun _ => rfl, id, id, rfl⟩ j

theorem zStep_le (σ : GS) (i : Nat) (ev : Ev) (j : Nat) : ((zStep σ i ev).ch j).le (σ.ch j) := by
  cases ev with
  | next x => simp only [zStep]; split
              · exact o1Step_le ..
              · exact .refl _
  | error e => exact (endState_le ..).trans (zKill_le ..)
  | complete => simp only [zStep]; split
                · exact (endState_le ..).trans (zKill_le ..)
                · exact zKill_le ..

theorem zStep_zL (σ : GS) (i : Nat) {ev : Ev} (ht : ev.isTerminal = true) : ((zStep σ i ev).ch i).zL = false := by
  have hk : ((zKill σ i).ch i).zL = false := by rw [zKill, GS.setCh_ch]
  have he : ∀ σ' : GS, σ'.ch = (zKill σ i).ch → ∀ t evs, ((endState σ' t evs).ch i).zL = false := fun σ' e t evs =>
    (endState_le σ' t evs i).zL (e ▸ hk)
  cases ev with
  | next x => cases ht
  | error e => exact he _ rfl ..
  | complete => simp only [zStep]; split
                · exact he { zKill σ i with reg := [] } rfl ..
                · exact hk

theorem o1Step_qs (σ : GS) (ev : Ev) : (o1Step σ ev).qs = σ.qs := by
  cases ev <;> simp only [o1Step, endState] <;> (try split) <;> rfl

/-- zip's `next` closure for source `i` (zip.rs:41-69): push, then emit while every queue has an item -/
theorem zPush_spec (h : GRel k σ [] w) (hr : Ready k σ) (i : Nat) (x : Data) :
    WP (zPush k i x) w (GRel k (zStep σ i (.next x)) []) := by
  have ho := h.o1
  simp only [hr.top.oL, hr.top.oH, ↓reduceIte, optHook] at ho
  generalize hqs : σ.qs.modify i (· ++ [x]) = qs'
  have h2 := h.setQ qs'
  refine Zip.wp_push (f := 99998) h.held h.zQ ho rfl (by rw [hr.len]; exact hr.kpos) (fun _ => hr.ne) hqs
    ?_ (fun q => by cases q) ?_
  · intro hne
    simp only [zStep, hqs, hne, Bool.false_eq_true, ↓reduceIte]
    exact h2
  · intro _ hne
    simp only [zStep, hqs, hne, ↓reduceIte]
    refine wp_sinkNext ho rfl (o1_deliver (h2.setQ (qs'.map List.tail))
      ⟨hr.top.alive, hr.top.oL, hr.top.oH, hr.top.oR, hr.top.nd⟩ (.next _) fun w4 h4 => WP.done ⟨h4.held, ?_, h4⟩)
    have := h4.zQ
    rwa [o1Step_qs] at this

theorem GRel.zKill (h : GRel k σ [] w) {i : Nat} (hi : i < k) :
    GRel k (zKill σ i) [] { w with obs := w.obs.modify (Zo i) Obs.cleared } :=
  h.chain_step hi rfl
    ((h.chains i hi).setZ hi Obs.cleared false (σ.ch i).zH (cleared_of _ _ _ rfl))
    (Same.setObs w _ _ (cs := []) (.head [])) nofun (fun _ q => List.mem_singleton.1 q ▸ List.mem_cons_self ..) rfl

theorem filter_zreg (reg : List Nat) (i : Nat) :
    (reg.map fun j => (j, Zo j)).filter (fun p => p.1 != i) = (reg.filter (· != i)).map fun j => (j, Zo j) := by
  rw [List.filter_map]; rfl

/-- `zip.finalize` when zip's map is already empty -/
theorem zipFin_nil (h : GRel k σ [] w) (hd : σ.oL = false) (hr : σ.reg = []) : WP (scZ k).finalize w (GRel k σ []) := by
  have := zipFin_spec h hd (hr ▸ List.nodup_nil) nofun
  rwa [hr, tearAll_nil, show ({ σ with reg := [] } : GS) = σ by rw [← hr]] at this

/-- an event reaches zip's observer `i` (zip.rs:41-90) -/
theorem z_deliver {Q : World → Prop} {kp : Prog} (h : GRel k σ [] w) (hr : Ready k σ) {i : Nat} (hi : i < k)
    (hz : (σ.ch i).zL = true) (ev : Ev) (hkp : ∀ w1, GRel k (zStep σ i ev) [] w1 → WP kp w1 Q) :
    WP (evProg ev (Zo i) kp) w Q := by
  have ho := (h.chains i hi).oZ
  simp only [hz, ↓reduceIte] at ho
  refine wp_ev_code ho rfl rfl rfl ?_
  have htk : TopOk (zKill σ i) := hr.top.setCh ..
  have h1 := h.zKill hi
  have ho1 := h1.o1
  simp only [htk.oL, htk.oH, ↓reduceIte, optHook] at ho1
  cases ev with
  | next x => exact (zPush_spec h hr i x).conseq fun w1 h1 => hkp w1 h1
  | error e =>
    refine wp_sinkError ho1 rfl (o1_deliver h1 htk (.error e) fun w2 h2 => ?_)
    exact (zipFin_nil h2 rfl rfl).conseq hkp
  | complete =>
    refine wp_sinkComplete ho1 rfl h1.held h1.zM ?_
    rw [filter_zreg]
    have h2 := h1.setReg ((zKill σ i).reg.filter (· != i)) fun a ha => h1.regLt a (List.mem_filter.1 ha).1
    rw [show (zKill σ i).reg = σ.reg from rfl] at h2 ⊢
    rw [List.length_map]
    simp only [zStep] at hkp
    cases hr' : σ.reg.filter (· != i) with
    | nil =>
      rw [hr'] at h2 hkp
      refine o1_deliver h2 ⟨hr.top.alive, hr.top.oL, hr.top.oH, hr.top.oR, List.nodup_nil⟩ .complete fun w2 h3 => ?_
      exact (zipFin_nil h3 rfl rfl).conseq hkp
    | cons a rest =>
      rw [hr'] at h2 hkp
      exact WP.done (hkp _ h2)

end Rx.SeqRef
