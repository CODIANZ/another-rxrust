import RxVerif.Kernel.SubjM
/-
C10 — subjects.  Model: RxVerif/Kernel/SubjM.lean.  Everything is proved for ALL call sequences
(any number of observers / values) by invariants over `SubjM.step`, on two levels: `Inv` holds between any two
callbacks (also inside a `subscribe`), `Good` between calls (`GoodBut x` while a ReplaySubject's `subscribe` of `x`
is under way).  Under `Inv` a subject is a family of independent subscribers: a per-subscriber property that the
six edits of a primitive keep (`Local`) holds after every call (`At.step`, `At.runFrom`); `LogOk`, `gone_local`,
`frozen_local` are its instances.  The file ends with namespace `Rx.RefR`: equations of `unsubscribeN` / `reap`
that the refinement proofs (`C10Ref*`, `C13Ref*`) rewrite with.
-/
namespace Rx.SubjM

@[simp] theorem upd_same (f : Nat → ObsSt) (o : Nat) (r : ObsSt) : upd f o r o = r := by simp [upd]
@[simp] theorem upd_other (f : Nat → ObsSt) (o o' : Nat) (r : ObsSt) (h : o' ≠ o) : upd f o r o' = f o' := by
  simp [upd, h]
theorem upd_apply (f : Nat → ObsSt) (o o' : Nat) (r : ObsSt) : upd f o r o' = if o' = o then r else f o' := rfl

def Kind.isAsync : Kind → Bool
  | .async => true
  | _ => false

theorem Kind.isPlain_of_isReplay {k : Kind} (h : k.isReplay = true) : k.isPlain = false := by
  cases k <;> cases h <;> rfl

/-! ### one callback: `recvK` writes `log`, `alive` and `inAlive`, nothing else -/

@[simp] theorem recvK_seen (k : Kind) (ev : Ev) (r : ObsSt) : (recvK k ev r).seen = r.seen := by cases k <;> rfl
@[simp] theorem recvK_hook (k : Kind) (ev : Ev) (r : ObsSt) : (recvK k ev r).hook = r.hook := by cases k <;> rfl
@[simp] theorem recvK_inHook (k : Kind) (ev : Ev) (r : ObsSt) : (recvK k ev r).inHook = r.inHook := by cases k <;> rfl
@[simp] theorem recvK_armed (k : Kind) (ev : Ev) (r : ObsSt) : (recvK k ev r).armed = r.armed := by cases k <;> rfl

theorem recvK_default (k : Kind) (ev : Ev) : recvK k ev {} = {} := by
  cases k <;> cases ev <;> simp [recvK, ObsSt.recv]

theorem recvK_log (k : Kind) (ev : Ev) (r : ObsSt) :
    (recvK k ev r).log = if (k.isPlain || r.inAlive) && r.alive then r.log ++ [ev] else r.log := by
  cases k <;> simp [recvK, ObsSt.recv, Kind.isPlain]

theorem recvK_alive (k : Kind) (ev : Ev) (r : ObsSt) :
    (recvK k ev r).alive = if k.isPlain || r.inAlive then r.alive && !ev.isTerminal else r.alive := by
  cases k <;> simp [recvK, ObsSt.recv, Kind.isPlain]

theorem recvK_alive_next (k : Kind) {ev : Ev} (ht : ev.isTerminal = false) (r : ObsSt) :
    (recvK k ev r).alive = r.alive := by
  simp [recvK_alive, ht]

theorem recvK_inAlive_next (k : Kind) {ev : Ev} (ht : ev.isTerminal = false) (r : ObsSt) :
    (recvK k ev r).inAlive = r.inAlive := by
  cases k <;> simp [recvK, ObsSt.recv, ht]

theorem recvK_dead (k : Kind) (ev : Ev) (r : ObsSt) (h : r.alive = false) :
    (recvK k ev r).alive = false ∧ (recvK k ev r).log = r.log := by
  simp [recvK_alive, recvK_log, h]


theorem deliver_apply (k : Kind) (ev : Ev) (l : List (Nat × Nat)) (f : Nat → ObsSt) (o : Nat)
    (nd : (l.map (·.2)).Nodup) :
    deliver k ev l f o = if o ∈ l.map (·.2) then recvK k ev (f o) else f o := by
  induction l generalizing f with
  | nil => simp [deliver]
  | cons p rest ih =>
    simp only [List.map_cons, List.nodup_cons] at nd
    simp only [deliver, ih _ nd.2, List.map_cons, List.mem_cons]
    by_cases h : o = p.2
    · subst h; simp [nd.1]
    · simp only [upd_other _ _ _ _ h, h, false_or]

theorem deliver_pres (k : Kind) (ev : Ev) (P : ObsSt → Prop) (hP : ∀ r, P r → P (recvK k ev r))
    (l : List (Nat × Nat)) (f : Nat → ObsSt) (o : Nat) (hf : P (f o)) : P (deliver k ev l f o) := by
  induction l generalizing f with
  | nil => exact hf
  | cons p rest ih =>
    apply ih
    rw [upd_apply]; split
    · subst_vars; exact hP _ hf
    · exact hf

@[simp] theorem emit_observers (k st) (ev : Ev) :
    (emit k st ev).observers = if ev.isTerminal then [] else st.observers := rfl
@[simp] theorem emit_serial (k st) (ev : Ev) : (emit k st ev).serial = st.serial := rfl
theorem emit_ended (k : Kind) (st : State) (ev : Ev) : (emit k st ev).ended = st.ended := rfl

theorem emit_registered (k st) (ev : Ev) :
    registered (emit k st ev) = if ev.isTerminal then [] else registered st := by
  simp only [registered, emit_observers]; split <;> rfl

theorem emit_pres (k : Kind) (st : State) (ev : Ev) (P : ObsSt → Prop) (hP : ∀ r, P r → P (recvK k ev r))
    (o : Nat) (h : P (st.obs o)) : P ((emit k st ev).obs o) :=
  deliver_pres k ev P hP st.observers st.obs o h

theorem emit_proj {α : Type} (g : ObsSt → α) {k : Kind} {ev : Ev} (hg : ∀ r, g (recvK k ev r) = g r)
    (st : State) (o : Nat) : g ((emit k st ev).obs o) = g (st.obs o) :=
  emit_pres k st ev (fun r => g r = g (st.obs o)) (fun r hr => (hg r).trans hr) o rfl

theorem emit_seen (k : Kind) (st : State) (ev : Ev) (o : Nat) : ((emit k st ev).obs o).seen = (st.obs o).seen :=
  emit_proj (·.seen) (recvK_seen k ev) st o


/-! ## the structural invariant (holds between any two callbacks, also inside a `subscribe`) -/

theorem mem_registered (st : State) (o : Nat) : o ∈ registered st ↔ ∃ s, (s, o) ∈ st.observers := by
  simp [registered]

structure Inv (k : Kind) (st : State) : Prop where
  /-- the registered observer's fn_on_unsubscribe removes exactly its own map entry -/
  hookOfReg : ∀ (s o : Nat), (s, o) ∈ st.observers → (st.obs o).inHook = some s
  hookLe : ∀ (o s : Nat), (st.obs o).inHook = some s → s ≤ st.serial
  hookInj : ∀ (o o' s : Nat), (st.obs o).inHook = some s → (st.obs o').inHook = some s → o = o'
  nodup : (registered st).Nodup
  unseen : ∀ (o : Nat), (st.obs o).seen = false → st.obs o = {}
  regInAlive : ∀ (o : Nat), o ∈ registered st → k.isPlain = false → (st.obs o).inAlive = true
  regAlive : ∀ (o : Nat), o ∈ registered st → k.isReplay = false → (st.obs o).alive = true
  /-- (not replay: there `sbsc` is stored only after the hand-over, see `Armed`) unsubscribing reaches the map -/
  regHook : ∀ (o : Nat), o ∈ registered st → k.isReplay = false →
    (st.obs o).hook = true ∧ (k.isPlain = true ∨ (st.obs o).armed = true)

theorem Inv.regSeen {k st} (h : Inv k st) (o : Nat) (ho : o ∈ registered st) : (st.obs o).seen = true := by
  rcases (mem_registered st o).1 ho with ⟨s, hs⟩
  have h1 := h.hookOfReg s o hs
  cases hseen : (st.obs o).seen with
  | true => rfl
  | false => rw [h.unseen o hseen] at h1; simp at h1

theorem Inv.unseen_not_reg {k st} (h : Inv k st) (o : Nat) (hs : (st.obs o).seen = false) :
    o ∉ registered st := by
  intro ho; have := h.regSeen o ho; simp [hs] at this

theorem Inv.forwards {k st} (h : Inv k st) {o : Nat} (ho : o ∈ registered st) :
    (k.isPlain || (st.obs o).inAlive) = true := by
  cases hp : k.isPlain with
  | true => rfl
  | false => exact h.regInAlive o ho hp

theorem inv_init (k : Kind) : Inv k (init k) := by
  cases k <;> constructor <;> simp [init, registered]

theorem emit_obs {k st} (h : Inv k st) (ev : Ev) (o : Nat) :
    (emit k st ev).obs o = if o ∈ registered st then recvK k ev (st.obs o) else st.obs o :=
  deliver_apply k ev st.observers st.obs o h.nodup

theorem Inv.emit {k st} (h : Inv k st) (ev : Ev) : Inv k (emit k st ev) := by
  have hH := emit_proj (·.inHook) (recvK_inHook k ev) st
  have hreg : ∀ o, o ∈ registered (SubjM.emit k st ev) → o ∈ registered st ∧ ev.isTerminal = false := by
    intro o ho; rw [emit_registered] at ho; split at ho <;> simp_all
  refine ⟨fun s o hm => ?_, fun o s => ?_, fun o o' s => ?_, ?_, fun o hs => ?_, fun o ho hk => ?_,
    fun o ho hk => ?_, fun o ho hk => ?_⟩
  · rw [emit_observers] at hm; split at hm
    · cases hm
    · rw [hH]; exact h.hookOfReg s o hm
  · rw [hH]; exact h.hookLe o s
  · rw [hH, hH]; exact h.hookInj o o' s
  · rw [emit_registered]; split
    · exact List.nodup_nil
    · exact h.nodup
  · rw [emit_seen] at hs
    exact emit_pres k st ev (· = {}) (fun r hr => by rw [hr, recvK_default]) o (h.unseen o hs)
  · obtain ⟨hr, ht⟩ := hreg o ho
    rw [emit_proj (·.inAlive) (recvK_inAlive_next k ht)]; exact h.regInAlive o hr hk
  · obtain ⟨hr, ht⟩ := hreg o ho
    rw [emit_proj (·.alive) (recvK_alive_next k ht)]; exact h.regAlive o hr hk
  · obtain ⟨hr, _⟩ := hreg o ho
    rw [emit_proj (·.hook) (recvK_hook k ev), emit_proj (·.armed) (recvK_armed k ev)]; exact h.regHook o hr hk

/-! ### `emitK`: the call-level `next / error / complete` (for `.async`: `AsyncSubject`'s own methods) -/

theorem emitK_of_not_async (k : Kind) (hk : k.isAsync = false) (st : State) (ev : Ev) :
    emitK k st ev = emit k st ev := by
  cases k <;> cases hk <;> rfl

/-- anything the inner Subject's broadcasts preserve and that does not look at `last_item` / `ended` survives a call -/
theorem emitK_pres {k : Kind} (P : State → Prop) (hemit : ∀ st ev, P st → P (emit k st ev))
    (hset : ∀ (st : State) (li : Option Data) (en : Option Ended), P st → P { st with lastItem := li, ended := en })
    (st : State) (ev : Ev) (h : P st) : P (emitK k st ev) := by
  cases k with
  | async =>
    unfold emitK
    dsimp only
    split
    · exact h
    · cases ev with
      | next v => exact hset st (some v) st.ended h
      | error e => exact hemit _ _ (hset st st.lastItem (some (.failed e)) h)
      | complete =>
        dsimp only
        cases hli : st.lastItem with
        | none => exact hemit _ _ (hset st none (some .completed) h)
        | some v => exact hemit _ _ (hemit _ _ (hset st (some v) (some .completed) h))
  | plain => exact hemit _ _ h
  | behavior v => exact hemit _ _ h
  | replay => exact hemit _ _ h

theorem Inv.setMem {k st} (h : Inv k st) (li : Option Data) (en : Option Ended) :
    Inv k { st with lastItem := li, ended := en } :=
  ⟨h.hookOfReg, h.hookLe, h.hookInj, h.nodup, h.unseen, h.regInAlive, h.regAlive, h.regHook⟩

/-! ### the three ways a call changes the map or a record -/

theorem Inv.setObs {k st} (h : Inv k st) (o : Nat) (r : ObsSt) (hseen : r.seen = false → r = {})
    (hhook : r.inHook = (st.obs o).inHook ∨ r.inHook = none ∧ o ∉ registered st)
    (hreg : o ∈ registered st → (k.isPlain = false → r.inAlive = true) ∧
      (k.isReplay = false → r.alive = true ∧ r.hook = true ∧ (k.isPlain = true ∨ r.armed = true))) :
    Inv k { st with obs := upd st.obs o r } := by
  have hold : ∀ o' s, (upd st.obs o r o').inHook = some s → (st.obs o').inHook = some s := by
    intro o' s; rw [upd_apply]; split
    · subst_vars; rcases hhook with e | ⟨e, _⟩ <;> simp [e]
    · exact id
  refine ⟨fun s o' hm => ?_, fun o' s hs => h.hookLe o' s (hold o' s hs),
    fun o1 o2 s h1 h2 => h.hookInj o1 o2 s (hold _ _ h1) (hold _ _ h2), h.nodup, fun o' => ?_,
    fun o' ho' hk => ?_, fun o' ho' hk => ?_, fun o' ho' hk => ?_⟩
  all_goals simp only [upd_apply]; split
  · subst_vars
    rcases hhook with e | ⟨_, e⟩
    · rw [e]; exact h.hookOfReg s o' hm
    · exact absurd ((mem_registered st o').2 ⟨s, hm⟩) e
  · exact h.hookOfReg s o' hm
  · exact hseen
  · exact h.unseen o'
  · subst_vars; exact (hreg ho').1 hk
  · exact h.regInAlive o' ho' hk
  · subst_vars; exact ((hreg ho').2 hk).1
  · exact h.regAlive o' ho' hk
  · subst_vars; exact ((hreg ho').2 hk).2
  · exact h.regHook o' ho' hk

theorem Inv.sublist {k st} (h : Inv k st) {l : List (Nat × Nat)} (hl : l.Sublist st.observers) :
    Inv k { st with observers := l } :=
  have hr : (registered { st with observers := l }).Sublist (registered st) := hl.map _
  ⟨fun s o hm => h.hookOfReg s o (hl.subset hm), h.hookLe, h.hookInj, hr.nodup h.nodup, h.unseen,
    fun o ho => h.regInAlive o (hr.subset ho), fun o ho => h.regAlive o (hr.subset ho),
    fun o ho => h.regHook o (hr.subset ho)⟩

theorem register_registered (st : State) (o : Nat) (r : ObsSt) :
    registered (register st o r) = registered st ++ [o] := by
  simp [registered, register]

theorem register_obs (st : State) (o : Nat) (r : ObsSt) (o' : Nat) :
    (register st o r).obs o' = if o' = o then { r with inHook := some (st.serial + 1) } else st.obs o' := rfl

theorem Inv.register {k st} (h : Inv k st) (o : Nat) (r : ObsSt) (hs : (st.obs o).seen = false)
    (hseen : r.seen = true)
    (hin : k.isPlain = false → r.inAlive = true)
    (hal : k.isReplay = false → r.alive = true)
    (hhk : k.isReplay = false → r.hook = true ∧ (k.isPlain = true ∨ r.armed = true)) :
    Inv k (register st o r) := by
  have hnr := h.unseen_not_reg o hs
  have hold : ∀ o' s, ((SubjM.register st o r).obs o').inHook = some s →
      (o' = o ∧ s = st.serial + 1) ∨ (o' ≠ o ∧ (st.obs o').inHook = some s) := by
    intro o' s; rw [register_obs]; split
    · intro e; exact Or.inl ⟨‹_›, by simpa using e.symm⟩
    · exact fun e => Or.inr ⟨‹_›, e⟩
  have hmem : ∀ o', o' ∈ registered (SubjM.register st o r) → o' ≠ o → o' ∈ registered st := by
    intro o' ho' hne; rw [register_registered] at ho'; simpa [hne] using ho'
  refine ⟨fun s o' hm => ?_, fun o' s hs' => ?_, fun o1 o2 s h1 h2 => ?_, ?_, fun o' => ?_,
    fun o' ho' hk => ?_, fun o' ho' hk => ?_, fun o' ho' hk => ?_⟩
  · simp only [SubjM.register, List.mem_append, List.mem_singleton, Prod.mk.injEq] at hm
    rw [register_obs]
    rcases hm with hm | ⟨rfl, rfl⟩
    · rw [if_neg (fun e : o' = o => hnr (e ▸ (mem_registered st o').2 ⟨s, hm⟩))]; exact h.hookOfReg s o' hm
    · simp
  · show s ≤ st.serial + 1
    rcases hold o' s hs' with ⟨_, e⟩ | ⟨_, e⟩
    · omega
    · exact Nat.le_succ_of_le (h.hookLe o' s e)
  · rcases hold o1 s h1 with ⟨e1, s1⟩ | ⟨_, e1⟩ <;> rcases hold o2 s h2 with ⟨e2, s2⟩ | ⟨_, e2⟩
    · rw [e1, e2]
    · have := h.hookLe o2 s e2; omega
    · have := h.hookLe o1 s e1; omega
    · exact h.hookInj o1 o2 s e1 e2
  · rw [register_registered]
    exact List.nodup_append.2 ⟨h.nodup, by simp, fun a ha b hb => by
      rw [List.mem_singleton.1 hb]; exact fun e : a = o => hnr (e ▸ ha)⟩
  · rw [register_obs]; split
    · simp [hseen]
    · exact h.unseen o'
  all_goals rw [register_obs]; split
  · exact hin hk
  · exact h.regInAlive o' (hmem o' ho' ‹_›) hk
  · exact hal hk
  · exact h.regAlive o' (hmem o' ho' ‹_›) hk
  · exact hhk hk
  · exact h.regHook o' (hmem o' ho' ‹_›) hk


/-! ### unsubscribe -/

/-- `o.unsubscribe()` gets as far as the map entry: a handle exists, its hook is in place, and (behind a
    forwarder) `sbsc` is stored -/
def reaches (k : Kind) (r : ObsSt) : Bool := r.seen && r.hook && (k.isPlain || r.armed)

theorem unsub_observers (k : Kind) (st : State) (o : Nat) :
    (unsubscribeN k st o).1.observers =
      match (st.obs o).inHook with
      | some s => if reaches k (st.obs o) then st.observers.filter (fun p => p.1 != s) else st.observers
      | none => st.observers := by
  unfold unsubscribeN reaches
  cases h1 : (st.obs o).seen <;> cases h2 : (st.obs o).hook <;> cases h3 : (st.obs o).inHook <;> simp [h1, h2, h3]

theorem unsub_obs (k : Kind) (st : State) (o o' : Nat) :
    (unsubscribeN k st o).1.obs o' =
      if o' = o ∧ (st.obs o).seen = true then
        { st.obs o with
          alive := false
          hook := false
          inAlive := (st.obs o).inAlive && !((st.obs o).hook && (k.isPlain || (st.obs o).armed))
          armed := (st.obs o).armed && !(st.obs o).hook
          inHook := if (st.obs o).hook && (k.isPlain || (st.obs o).armed) then none else (st.obs o).inHook }
      else st.obs o' := by
  unfold unsubscribeN
  cases hs : (st.obs o).seen <;> simp [upd_apply]

theorem unsub_serial (k : Kind) (st : State) (o : Nat) : (unsubscribeN k st o).1.serial = st.serial := by
  unfold unsubscribeN; split <;> rfl

/-- `unsubscribeN` and `reap` end alike: `o`'s record is rewritten, and if the `fn_on_unsubscribe` of the
    observer registered for `o` runs (`fire`), the map entry it names is gone -/
def dropHook (st : State) (o : Nat) (fire : Bool) (r : ObsSt) : State :=
  { st with
    observers := match (st.obs o).inHook with
      | some s => if fire then st.observers.filter (fun p => p.1 != s) else st.observers
      | none => st.observers
    obs := upd st.obs o r }

theorem unsubscribeN_unseen (k : Kind) (st : State) (o : Nat) (hs : (st.obs o).seen = false) :
    unsubscribeN k st o = (st, none) := by
  simp [unsubscribeN, hs]

theorem unsubscribeN_fst (k : Kind) (st : State) (o : Nat) (hs : (st.obs o).seen = true) :
    (unsubscribeN k st o).1 = dropHook st o (reaches k (st.obs o)) ((unsubscribeN k st o).1.obs o) := by
  simp [unsubscribeN, dropHook, reaches, hs]
  cases (st.obs o).inHook <;> rfl

theorem dropHook_sublist (st : State) (o : Nat) (fire : Bool) (r : ObsSt) :
    (dropHook st o fire r).observers.Sublist st.observers := by
  unfold dropHook; dsimp only; split
  · split
    · exact List.filter_sublist
    · exact List.Sublist.refl _
  · exact List.Sublist.refl _

theorem mem_dropHook {k st} (h : Inv k st) (o : Nat) (fire : Bool) (r : ObsSt) (o' : Nat) :
    o' ∈ registered (dropHook st o fire r) ↔ o' ∈ registered st ∧ ¬(o' = o ∧ fire = true) := by
  simp only [mem_registered, dropHook]
  cases hh : (st.obs o).inHook with
  | none =>
    refine ⟨fun ⟨s, hs⟩ => ⟨⟨s, hs⟩, fun ⟨e, _⟩ => ?_⟩, fun ⟨hs, _⟩ => hs⟩
    have := h.hookOfReg s o' hs; rw [e, hh] at this; cases this
  | some s0 =>
    cases fire with
    | false => simp
    | true =>
      simp only [↓reduceIte, List.mem_filter, bne_iff_ne, ne_eq, and_true]
      constructor
      · rintro ⟨s, hs, hne⟩
        refine ⟨⟨s, hs⟩, ?_⟩
        rintro rfl
        have := h.hookOfReg _ _ hs; rw [hh] at this; exact hne (Option.some.inj this).symm
      · rintro ⟨⟨s, hs⟩, hne⟩
        exact ⟨s, hs, fun e => hne (h.hookInj o' o s (h.hookOfReg _ _ hs) (e ▸ hh))⟩

theorem Inv.dropHook {k st} (h : Inv k st) (o : Nat) (fire : Bool) (r : ObsSt) (hseen : r.seen = false → r = {})
    (hhook : r.inHook = if fire then none else (st.obs o).inHook)
    (hreg : fire = false → o ∈ registered st → (k.isPlain = false → r.inAlive = true) ∧
      (k.isReplay = false → r.alive = true ∧ r.hook = true ∧ (k.isPlain = true ∨ r.armed = true))) :
    Inv k (dropHook st o fire r) := by
  cases fire with
  | false =>
    have : SubjM.dropHook st o false r = { st with obs := upd st.obs o r } := by
      unfold SubjM.dropHook; cases (st.obs o).inHook <;> rfl
    rw [this]; exact h.setObs o r hseen (Or.inl hhook) (hreg rfl)
  | true =>
    have hgone : o ∉ registered (SubjM.dropHook st o true r) := fun ho => ((mem_dropHook h o true r o).1 ho).2 ⟨rfl, rfl⟩
    exact (h.sublist (dropHook_sublist st o true r)).setObs o r hseen (Or.inr ⟨hhook, hgone⟩) (fun ho => absurd ho hgone)

theorem unsub_mem {k st} (h : Inv k st) (o o' : Nat) :
    o' ∈ registered (unsubscribeN k st o).1 ↔ o' ∈ registered st ∧ ¬(o' = o ∧ reaches k (st.obs o) = true) := by
  cases hs : (st.obs o).seen with
  | false => simp [unsubscribeN_unseen k st o hs, reaches, hs]
  | true => rw [unsubscribeN_fst k st o hs]; exact mem_dropHook h o _ _ o'

theorem Inv.unsubscribeN {k st} (h : Inv k st) (o : Nat) : Inv k (unsubscribeN k st o).1 := by
  cases hs : (st.obs o).seen with
  | false => rw [unsubscribeN_unseen k st o hs]; exact h
  | true =>
    rw [unsubscribeN_fst k st o hs]
    refine h.dropHook o _ _ ?_ ?_ ?_ <;> simp only [unsub_obs, hs, and_self, ↓reduceIte]
    · simp
    · simp [reaches, hs]
    · intro hr ho
      have hr' : ((st.obs o).hook && (k.isPlain || (st.obs o).armed)) = false := by simpa [reaches, hs] using hr
      refine ⟨fun hk => by simpa [hr'] using h.regInAlive o ho hk, fun hk => ?_⟩
      have := h.regHook o ho hk
      cases hp : k.isPlain <;> simp_all


/-! ### subscribe, first part: an unused id is handed the stored result or goes into the map -/

inductive Entry where
  | reject (log : List Ev)
  | accept (first : List Ev)

/-- what an unused id meets: the stored result (it is handed over and the subscriber never registered), or a
    place in the map — a BehaviorSubject shows the latest value first -/
def entry (k : Kind) (st : State) : Entry :=
  match k with
  | .plain | .replay => .accept []
  | .behavior _ =>
    match st.lastError, st.lastItem with
    | some e, _ => .reject [.error e]
    | none, none => .reject [.complete]
    | none, some v => .accept [.next v]
  | .async =>
    match st.ended with
    | none => .accept []
    | some en => .reject (match en with | .failed e => [.error e] | .completed => asyncHandover st.lastItem)

/-- the record a subscriber goes into the map with: behind a forwarder unless the kind is plain / async; a
    BehaviorSubject stores `sbsc` at once, a ReplaySubject only after the hand-over -/
def newcomer (k : Kind) (first : List Ev) : ObsSt :=
  { seen := true, alive := true, log := first, hook := true, inAlive := !k.isPlain,
    armed := !k.isPlain && !k.isReplay }

theorem subscribeA_eq (k : Kind) (st : State) (o : Nat) :
    subscribeA k st o =
      if (st.obs o).seen then (st, {}) else
      match entry k st with
      | .reject log => ({ st with obs := upd st.obs o { seen := true, log := log } }, {})
      | .accept first =>
        (register st o (newcomer k first),
         { fresh := true, len := some (st.observers.length + 1), history := if k.isReplay then st.items else [] }) := by
  unfold subscribeA entry
  split
  · rfl
  · cases k with
    | plain => rfl
    | replay => rfl
    | behavior i => dsimp only; cases st.lastError <;> cases st.lastItem <;> rfl
    | async => dsimp only; cases h : st.ended with
      | none => rfl
      | some en => cases en <;> rfl

theorem subscribeA_seen (k : Kind) (st : State) (o : Nat) (hs : (st.obs o).seen = true) :
    subscribeA k st o = (st, {}) := by
  rw [subscribeA_eq, if_pos hs]


theorem Inv.subscribeA {k st} (h : Inv k st) (o : Nat) : Inv k (subscribeA k st o).1 := by
  rw [subscribeA_eq]
  cases hs : (st.obs o).seen with
  | true => exact h
  | false =>
    have hnr := h.unseen_not_reg o hs
    simp only [Bool.false_eq_true, ↓reduceIte]
    cases entry k st with
    | reject log => exact h.setObs o _ (by simp) (Or.inl (by rw [h.unseen o hs])) (fun ho => absurd ho hnr)
    | accept first =>
      exact h.register o _ hs rfl (by simp [newcomer]) (fun _ => rfl)
        (fun hk => by cases k <;> simp_all [newcomer, Kind.isPlain, Kind.isReplay])

theorem subscribeA_obs_other (k : Kind) (st : State) (o o' : Nat) (hne : o' ≠ o) :
    (subscribeA k st o).1.obs o' = st.obs o' := by
  rw [subscribeA_eq]; split
  · rfl
  · cases entry k st <;> simp [register_obs, hne]

theorem subscribeA_marks (k : Kind) (st : State) (o : Nat) : ((subscribeA k st o).1.obs o).seen = true := by
  rw [subscribeA_eq]; split
  · assumption
  · cases entry k st <;> simp [register_obs, newcomer]

theorem subscribeA_fresh_seen (k : Kind) (st : State) (o : Nat) (_hf : (subscribeA k st o).2.fresh = true) :
    ((subscribeA k st o).1.obs o).seen = true := subscribeA_marks k st o

theorem subscribeA_registered (k : Kind) (st : State) (o : Nat) :
    registered (subscribeA k st o).1 =
      if (subscribeA k st o).2.fresh then registered st ++ [o] else registered st := by
  rw [subscribeA_eq]; split
  · rfl
  · cases entry k st
    · rfl
    · simp [register_registered]

theorem subscribeA_sub (k : Kind) (st : State) (o o' : Nat) (h : o' ∈ registered (subscribeA k st o).1) :
    o' ∈ registered st ∨ o' = o := by
  rw [subscribeA_registered] at h; split at h
  · simpa using h
  · exact Or.inl h

theorem subscribeA_mono (k : Kind) (st : State) (o o' : Nat) (h : o' ∈ registered st) :
    o' ∈ registered (subscribeA k st o).1 := by
  rw [subscribeA_registered]; split <;> simp [h]

/-! ### subscribe, second part (replay): the hand-over, then the reaping of a subscriber it ended -/

theorem recv_fields (r : ObsSt) (ev : Ev) :
    (r.recv ev).seen = r.seen ∧ (r.recv ev).hook = r.hook ∧ (r.recv ev).inAlive = r.inAlive ∧
    (r.recv ev).inHook = r.inHook ∧ (r.recv ev).armed = r.armed := by
  simp [ObsSt.recv]

/-- the terminal a ReplaySubject has stored (error wins over complete, replay_subject.rs:77-83) -/
def storedTerminal (we : Option Nat) (wc : Bool) : List Ev :=
  match we with
  | some e => [.error e]
  | none => if wc then [.complete] else []

theorem foldRecv_eq (hist : List Data) (r : ObsSt) :
    hist.foldl (fun r x => r.recv (.next x)) r = if r.alive then { r with log := r.log ++ hist.map .next } else r := by
  induction hist generalizing r with
  | nil => simp
  | cons x xs ih =>
    rw [List.foldl_cons, ih]
    rcases r with ⟨_, _ | _, _, _, _, _, _⟩ <;> simp [ObsSt.recv, Ev.isTerminal]

theorem handOver_eq (r : ObsSt) (hist : List Data) (we : Option Nat) (wc : Bool) :
    handOver r hist we wc =
      if r.alive then
        { r with log := r.log ++ hist.map .next ++ storedTerminal we wc, alive := (storedTerminal we wc).isEmpty }
      else r := by
  unfold handOver
  rw [foldRecv_eq]
  rcases r with ⟨_, _ | _, _, _, _, _, _⟩ <;> cases we <;> cases wc <;> simp [ObsSt.recv, storedTerminal, Ev.isTerminal]

theorem handOver_alive (r : ObsSt) (hist : List Data) (we : Option Nat) (wc : Bool) (ha : r.alive = true) :
    (handOver r hist we wc).log = r.log ++ hist.map .next ++ storedTerminal we wc ∧
    (handOver r hist we wc).alive = (storedTerminal we wc).isEmpty := by
  rw [handOver_eq, if_pos ha]; exact ⟨rfl, rfl⟩

theorem handOver_fields (r : ObsSt) (hist : List Data) (we : Option Nat) (wc : Bool) :
    (handOver r hist we wc).seen = r.seen ∧ (handOver r hist we wc).hook = r.hook ∧
    (handOver r hist we wc).inAlive = r.inAlive ∧ (handOver r hist we wc).inHook = r.inHook ∧
    (handOver r hist we wc).armed = r.armed := by
  rw [handOver_eq]; split <;> simp

/-- `subscribeH` where it acts (replay, `p.fresh`) -/
def handed (st : State) (o : Nat) (p : Pending) : State :=
  { st with obs := upd st.obs o { handOver (st.obs o) p.history st.wasError st.wasCompleted with armed := true } }

theorem handed_obs (st : State) (o : Nat) (p : Pending) (o' : Nat) :
    (handed st o p).obs o' =
      if o' = o then { handOver (st.obs o) p.history st.wasError st.wasCompleted with armed := true }
      else st.obs o' := rfl

theorem subscribeH_eq (k : Kind) (st : State) (o : Nat) (p : Pending) :
    subscribeH k st o p = if k.isReplay && p.fresh then handed st o p else st := by
  cases k <;> cases hp : p.fresh <;> simp [subscribeH, Kind.isReplay, handed, hp]

theorem subscribeH_not_fresh (k : Kind) (st : State) (o : Nat) (p : Pending) (hp : p.fresh = false) :
    subscribeH k st o p = st := by
  rw [subscribeH_eq, hp, Bool.and_false]; rfl

theorem subscribeH_obs_other (k : Kind) (st : State) (o o' : Nat) (p : Pending) (hne : o' ≠ o) :
    (subscribeH k st o p).obs o' = st.obs o' := by
  rw [subscribeH_eq]; split
  · rw [handed_obs, if_neg hne]
  · rfl

theorem subscribeH_observers (k : Kind) (st : State) (o : Nat) (p : Pending) :
    (subscribeH k st o p).observers = st.observers := by
  rw [subscribeH_eq]; split <;> rfl

/-- `reap` takes `o`'s forwarder out of the map: the hand-over ended `o` and `sbsc` is stored -/
def reaped (r : ObsSt) : Bool := !r.alive && r.armed

theorem reap_obs (st : State) (o o' : Nat) :
    (reap st o).1.obs o' =
      if o' = o then
        { st.obs o with
          armed := (st.obs o).armed && (st.obs o).alive
          inAlive := (st.obs o).inAlive && !reaped (st.obs o)
          inHook := if reaped (st.obs o) then none else (st.obs o).inHook }
      else st.obs o' := rfl

theorem reap_fst (st : State) (o : Nat) :
    (reap st o).1 = dropHook st o (reaped (st.obs o)) ((reap st o).1.obs o) := by
  simp only [reap, dropHook, reaped, upd_same]
  cases (st.obs o).inHook <;> rfl

theorem reap_fields (st : State) (o o' : Nat) :
    ((reap st o).1.obs o').seen = (st.obs o').seen ∧ ((reap st o).1.obs o').alive = (st.obs o').alive ∧
    ((reap st o).1.obs o').log = (st.obs o').log ∧ ((reap st o).1.obs o').hook = (st.obs o').hook := by
  rw [reap_obs]; split
  · subst_vars; exact ⟨rfl, rfl, rfl, rfl⟩
  · exact ⟨rfl, rfl, rfl, rfl⟩

theorem reap_obs_self (st : State) (o : Nat) :
    ((reap st o).1.obs o).seen = (st.obs o).seen ∧ ((reap st o).1.obs o).alive = (st.obs o).alive ∧
    ((reap st o).1.obs o).log = (st.obs o).log ∧ ((reap st o).1.obs o).hook = (st.obs o).hook :=
  reap_fields st o o

theorem reap_mem {k st} (h : Inv k st) (o o' : Nat) :
    o' ∈ registered (reap st o).1 ↔ o' ∈ registered st ∧ ¬(o' = o ∧ reaped (st.obs o) = true) :=
  mem_dropHook h o _ _ o'

theorem Inv.reap {k st} (h : Inv k st) (o : Nat) : Inv k (reap st o).1 := by
  rw [reap_fst]
  refine h.dropHook o _ _ ?_ ?_ ?_ <;> simp only [reap_obs, ↓reduceIte]
  · intro hs; simp [h.unseen o hs, reaped]
  · intro hr ho
    refine ⟨fun hk => by simpa [hr] using h.regInAlive o ho hk, fun hk => ?_⟩
    have := h.regHook o ho hk
    simp [h.regAlive o ho hk, this]


theorem Inv.handed {k st} (h : Inv k st) (hk : k.isReplay = true) (o : Nat) (p : Pending)
    (hs : (st.obs o).seen = true) : Inv k (handed st o p) := by
  have hf := handOver_fields (st.obs o) p.history st.wasError st.wasCompleted
  refine h.setObs o _ (by simp [hf.1, hs]) (Or.inl hf.2.2.2.1) (fun ho => ⟨fun hp => ?_, fun hr => ?_⟩)
  · exact hf.2.2.1.trans (h.regInAlive o ho hp)
  · rw [hk] at hr; cases hr

theorem Inv.subscribeH {k st} (h : Inv k st) (o : Nat) (p : Pending) (hk : p.fresh = true → (st.obs o).seen = true) :
    Inv k (subscribeH k st o p) := by
  rw [subscribeH_eq]; split
  · rename_i hc; simp only [Bool.and_eq_true] at hc; exact h.handed hc.1 o p (hk hc.2)
  · exact h

theorem subscribeB_eq (k : Kind) (st : State) (o : Nat) (p : Pending) :
    subscribeB k st o p = if k.isReplay && p.fresh then reap (handed st o p) o else (st, none) := by
  unfold subscribeB; rw [subscribeH_eq]; split <;> simp_all

theorem subscribeB_fst (k : Kind) (st : State) (o : Nat) (p : Pending) :
    (subscribeB k st o p).1 =
      if k.isReplay && p.fresh then (reap (subscribeH k st o p) o).1 else subscribeH k st o p := by
  rw [subscribeB_eq, subscribeH_eq]; split <;> rfl

theorem subscribeB_obs_self (k : Kind) (st : State) (o : Nat) (p : Pending) :
    ((subscribeB k st o p).1.obs o).seen = ((subscribeH k st o p).obs o).seen ∧
    ((subscribeB k st o p).1.obs o).alive = ((subscribeH k st o p).obs o).alive ∧
    ((subscribeB k st o p).1.obs o).log = ((subscribeH k st o p).obs o).log ∧
    ((subscribeB k st o p).1.obs o).hook = ((subscribeH k st o p).obs o).hook := by
  rw [subscribeB_eq, subscribeH_eq]; split
  · exact reap_fields _ o o
  · exact ⟨rfl, rfl, rfl, rfl⟩

theorem subscribeB_noop (k : Kind) (st : State) (o : Nat) (p : Pending) (h : (k.isReplay && p.fresh) = false) :
    subscribeB k st o p = (st, none) := by
  rw [subscribeB_eq, h]; rfl

theorem subscribeB_obs_other (k : Kind) (st : State) (o o' : Nat) (p : Pending) (hne : o' ≠ o) :
    (subscribeB k st o p).1.obs o' = st.obs o' := by
  rw [subscribeB_eq]; split
  · rw [reap_obs, if_neg hne]; exact upd_other _ _ _ _ hne
  · rfl

theorem subscribeB_seen_hook (k : Kind) (st : State) (o : Nat) (p : Pending) (o' : Nat) :
    ((subscribeB k st o p).1.obs o').seen = (st.obs o').seen ∧ ((subscribeB k st o p).1.obs o').hook = (st.obs o').hook := by
  rw [subscribeB_eq]; split
  · have hf := handOver_fields (st.obs o) p.history st.wasError st.wasCompleted
    rw [(reap_fields _ o o').1, (reap_fields _ o o').2.2.2, handed_obs]; split
    · subst_vars; exact ⟨hf.1, hf.2.1⟩
    · exact ⟨rfl, rfl⟩
  · exact ⟨rfl, rfl⟩

theorem subscribeB_sub (k : Kind) (st : State) (o o' : Nat) (p : Pending)
    (h : o' ∈ registered (subscribeB k st o p).1) : o' ∈ registered st := by
  rw [subscribeB_eq] at h; split at h
  · rw [reap_fst] at h; exact ((dropHook_sublist (handed st o p) _ _ _).map _).subset h
  · exact h

theorem subscribeB_mem_other {k st} (h : Inv k st) (o o' : Nat) (p : Pending)
    (hk : p.fresh = true → (st.obs o).seen = true) (hne : o' ≠ o) (hr : o' ∈ registered st) :
    o' ∈ registered (subscribeB k st o p).1 := by
  rw [subscribeB_eq]; split
  · rename_i hc; simp only [Bool.and_eq_true] at hc
    exact (reap_mem (h.handed hc.1 o p (hk hc.2)) o o').2 ⟨hr, fun hh => hne hh.1⟩
  · exact hr


theorem step_subscribe_seen (k : Kind) (st : State) (o : Nat) (hs : (st.obs o).seen = true) :
    step k st (.subscribe o) = st := by
  simp only [step, subscribeA_seen k st o hs]
  rw [subscribeB_noop k st o {} (by simp)]

theorem step_subscribe_other (k : Kind) (st : State) (o o' : Nat) (hne : o' ≠ o) :
    (step k st (.subscribe o)).obs o' = st.obs o' := by
  simp only [step]; rw [subscribeB_obs_other _ _ _ _ _ hne, subscribeA_obs_other _ _ _ _ hne]

theorem step_subscribe_sub (k : Kind) (st : State) (o o' : Nat) (h : o' ∈ registered (step k st (.subscribe o))) :
    o' ∈ registered st ∨ o' = o :=
  subscribeA_sub k st o o' (subscribeB_sub _ _ _ _ _ h)

theorem step_subscribe_mono {k st} (hi : Inv k st) (o o' : Nat) (hne : o' ≠ o) (h : o' ∈ registered st) :
    o' ∈ registered (step k st (.subscribe o)) :=
  subscribeB_mem_other (hi.subscribeA o) o o' _ (fun _ => subscribeA_marks k st o) hne (subscribeA_mono k st o o' h)

theorem step_subscribe_marks (k : Kind) (st : State) (o : Nat) : ((step k st (.subscribe o)).obs o).seen = true := by
  simp only [step]
  rw [(subscribeB_seen_hook ..).1]; exact subscribeA_marks _ _ _


/-! ### `Good`: the invariant of whole calls -/

/-- unsubscribing a registered subscriber reaches the map entry (`sbsc` is stored) -/
def Armed (k : Kind) (st : State) : Prop :=
  ∀ o, o ∈ registered st → (st.obs o).hook = true ∧ (k.isPlain = true ∨ (st.obs o).armed = true)

structure Good (k : Kind) (st : State) : Prop where
  inv : Inv k st
  armed : Armed k st
  /-- every kind (replay included: `reap` takes out a subscriber that the hand-over ended): the map holds
      no subscriber that is no longer subscribed -/
  alive : ∀ (o : Nat), o ∈ registered st → (st.obs o).alive = true

theorem Inv.armed_of_not_replay {k st} (h : Inv k st) (hk : k.isReplay = false) : Armed k st :=
  fun o ho => h.regHook o ho hk

theorem Inv.good {k st} (h : Inv k st) (hk : k.isReplay = false) : Good k st :=
  ⟨h, h.armed_of_not_replay hk, fun o ho => h.regAlive o ho hk⟩

theorem good_init (k : Kind) : Good k (init k) :=
  ⟨inv_init k, by intro o ho; cases k <;> simp [init, registered] at ho,
   by intro o ho; cases k <;> simp [init, registered] at ho⟩

/-- `Good`, except that `x` — the subscriber a ReplaySubject has registered but not yet handed the history —
    need not have `sbsc` stored, nor be subscribed still -/
structure GoodBut (k : Kind) (x : Option Nat) (st : State) : Prop where
  inv : Inv k st
  reg : ∀ (o : Nat), o ∈ registered st → (st.obs o).hook = true ∧
    (some o = x ∨ (k.isPlain = true ∨ (st.obs o).armed = true) ∧ (st.obs o).alive = true)

theorem Good.but {k st} (h : Good k st) (x : Option Nat) : GoodBut k x st :=
  ⟨h.inv, fun o ho => ⟨(h.armed o ho).1, Or.inr ⟨(h.armed o ho).2, h.alive o ho⟩⟩⟩

theorem GoodBut.good {k st} (h : GoodBut k none st) : Good k st :=
  ⟨h.inv, fun o ho => ⟨(h.reg o ho).1, ((h.reg o ho).2.resolve_left nofun).1⟩,
    fun o ho => ((h.reg o ho).2.resolve_left nofun).2⟩

theorem GoodBut.emit {k x st} (h : GoodBut k x st) (ev : Ev) : GoodBut k x (emit k st ev) := by
  refine ⟨h.inv.emit ev, fun o ho => ?_⟩
  rw [emit_registered] at ho
  cases ht : ev.isTerminal with
  | true => simp [ht] at ho
  | false =>
    rw [ht] at ho
    rw [emit_proj (·.hook) (recvK_hook k ev), emit_proj (·.armed) (recvK_armed k ev),
      emit_proj (·.alive) (recvK_alive_next k ht)]
    exact h.reg o ho

theorem Good.emit {k st} (h : Good k st) (ev : Ev) : Good k (emit k st ev) := ((h.but none).emit ev).good

theorem Good.emitK {k st} (h : Good k st) (ev : Ev) : Good k (emitK k st ev) :=
  emitK_pres (Good k) (fun _ ev h => h.emit ev) (fun _ li en h => ⟨h.inv.setMem li en, h.armed, h.alive⟩) st ev h

theorem Inv.reaches {k st} (h : Inv k st) (ha : Armed k st) (o : Nat) (ho : o ∈ registered st) :
    reaches k (st.obs o) = true := by
  have := ha o ho
  simp only [SubjM.reaches, h.regSeen o ho, this.1, Bool.true_and, Bool.or_eq_true]; exact this.2

/-- whoever is in the map after `unsubscribe o` was in it before, with the same record: `o` itself is out -/
theorem Inv.unsub_kept {k st} (h : Inv k st) (ha : Armed k st) (o : Nat) {o' : Nat}
    (ho' : o' ∈ registered (SubjM.unsubscribeN k st o).1) :
    o' ∈ registered st ∧ (SubjM.unsubscribeN k st o).1.obs o' = st.obs o' := by
  have hm := (unsub_mem h o o').1 ho'
  refine ⟨hm.1, ?_⟩
  rw [unsub_obs, if_neg]; rintro ⟨rfl, _⟩; exact hm.2 ⟨rfl, h.reaches ha o' hm.1⟩

theorem Good.unsubscribeN {k st} (h : Good k st) (o : Nat) : Good k (unsubscribeN k st o).1 :=
  ⟨h.inv.unsubscribeN o, fun o' ho' => have q := h.inv.unsub_kept h.armed o ho'; q.2 ▸ h.armed o' q.1,
    fun o' ho' => have q := h.inv.unsub_kept h.armed o ho'; q.2 ▸ h.alive o' q.1⟩

/-- the `x` of `GoodBut` after `subscribeA`: `o`, if a ReplaySubject registered it and has not yet handed it the history -/
def pending (k : Kind) (o : Nat) (p : Pending) : Option Nat := if k.isReplay && p.fresh then some o else none

theorem Good.subscribeA {k st} (h : Good k st) (o : Nat) :
    GoodBut k (pending k o (subscribeA k st o).2) (subscribeA k st o).1 := by
  cases hk : k.isReplay with
  | false => exact ((h.inv.subscribeA o).good hk).but _
  | true =>
    cases hs : (st.obs o).seen with
    | true => rw [subscribeA_seen k st o hs]; exact h.but _
    | false =>
      obtain rfl : k = .replay := by cases k <;> simp_all [Kind.isReplay]
      refine ⟨h.inv.subscribeA o, fun o' ho' => ?_⟩
      simp only [subscribeA_eq, hs, Bool.false_eq_true, ↓reduceIte, entry, register_registered, List.mem_append,
        List.mem_singleton, register_obs, pending, Kind.isReplay, Bool.and_self] at ho' ⊢
      split
      · exact ⟨rfl, Or.inl (by subst_vars; rfl)⟩
      · exact (h.but _).reg o' (ho'.resolve_right ‹_›)

theorem GoodBut.subscribeB {k st} {o : Nat} {p : Pending} (h : GoodBut k (pending k o p) st)
    (hs : (st.obs o).seen = true) : Good k (subscribeB k st o p).1 := by
  rw [subscribeB_eq]; unfold pending at h; split
  · rename_i hc
    rw [if_pos hc] at h
    have hk : k.isReplay = true := by simp_all
    have hiH := h.inv.handed hk o p hs
    have hf := handOver_fields (st.obs o) p.history st.wasError st.wasCompleted
    have key : ∀ o', o' ∈ registered (reap (handed st o p) o).1 →
        ((reap (handed st o p) o).1.obs o').hook = true ∧ ((reap (handed st o p) o).1.obs o').armed = true ∧
        ((reap (handed st o p) o).1.obs o').alive = true := by
      intro o' ho'
      have hm := (reap_mem hiH o o').1 ho'
      have hg := h.reg o' hm.1
      rw [reap_obs]; split
      · subst_vars
        have ha : (handOver (st.obs o') p.history st.wasError st.wasCompleted).alive = true := by
          simpa [reaped, handed_obs] using hm.2
        simp [handed_obs, ha, hf.2.1, hg.1]
      · rw [handed_obs, if_neg ‹_›]
        have := hg.2.resolve_left (by simpa using ‹¬o' = o›)
        exact ⟨hg.1, this.1.resolve_left (by simp [Kind.isPlain_of_isReplay hk]), this.2⟩
    exact ⟨hiH.reap o, fun o' ho' => ⟨(key o' ho').1, Or.inr (key o' ho').2.1⟩, fun o' ho' => (key o' ho').2.2⟩
  · rename_i hc; rw [if_neg hc] at h; exact h.good



@[elab_as_elim] theorem Call.cases3 {motive : Call → Prop} (c : Call)
    (subscribe : ∀ o, motive (.subscribe o)) (unsubscribe : ∀ o, motive (.unsubscribe o))
    (event : ∀ c ev, c.toEv? = some ev → motive c) : motive c := by
  cases c with
  | subscribe o => exact subscribe o
  | unsubscribe o => exact unsubscribe o
  | next v => exact event _ _ rfl
  | error e => exact event _ _ rfl
  | complete => exact event _ _ rfl

theorem step_emitK (k : Kind) (st : State) (c : Call) (ev : Ev) (h : c.toEv? = some ev) :
    step k st c = emitK k st ev := by
  cases c <;> simp [Call.toEv?] at h <;> subst h <;> rfl

theorem Good.step {k st} (h : Good k st) (c : Call) : Good k (step k st c) := by
  cases c using Call.cases3 with
  | subscribe o => exact (h.subscribeA o).subscribeB (subscribeA_marks k st o)
  | unsubscribe o => exact h.unsubscribeN o
  | event c ev hc => rw [step_emitK k st c ev hc]; exact h.emitK ev

theorem runFrom_cons (k : Kind) (st : State) (c : Call) (cs : List Call) :
    runFrom k st (c :: cs) = runFrom k (step k st c) cs := rfl

theorem Good.runFrom {k st} (h : Good k st) (cs : List Call) : Good k (runFrom k st cs) :=
  List.foldlRecOn cs _ h fun _ h c _ => h.step c

theorem good_run (k : Kind) (cs : List Call) : Good k (run k cs) := (good_init k).runFrom cs

theorem run_append (k : Kind) (a b : List Call) : run k (a ++ b) = runFrom k (run k a) b := by
  simp [run, runFrom, List.foldl_append]

theorem run_append_cons (k : Kind) (a : List Call) (c : Call) (b : List Call) :
    run k (a ++ c :: b) = runFrom k (step k (run k a) c) b := run_append k a (c :: b)

theorem run_snoc (k : Kind) (a : List Call) (c : Call) : run k (a ++ [c]) = step k (run k a) c := by
  simp [run_append, runFrom]


/-! ### what the subject has stored moves only with `next` / `error` / `complete` -/

def mem (st : State) : Option Data × Option Nat × List Data × Option Nat × Bool :=
  (st.lastItem, st.lastError, st.items, st.wasError, st.wasCompleted)

structure SameStore (st st' : State) : Prop where
  mem : mem st' = mem st
  ended : st'.ended = st.ended

theorem SameStore.lastItem {st st'} (h : SameStore st st') : st'.lastItem = st.lastItem := congrArg (·.1) h.mem

theorem subscribeA_store (k : Kind) (st : State) (o : Nat) : SameStore st (subscribeA k st o).1 := by
  rw [subscribeA_eq]; split
  · exact ⟨rfl, rfl⟩
  · cases entry k st <;> exact ⟨rfl, rfl⟩

theorem subscribeA_mem (k : Kind) (st : State) (o : Nat) : mem (subscribeA k st o).1 = mem st :=
  (subscribeA_store k st o).mem

theorem subscribeH_mem (k : Kind) (st : State) (o : Nat) (p : Pending) : mem (subscribeH k st o p) = mem st := by
  rw [subscribeH_eq]; split <;> rfl

theorem subscribeB_store (k : Kind) (st : State) (o : Nat) (p : Pending) : SameStore st (subscribeB k st o p).1 := by
  rw [subscribeB_eq]; split <;> exact ⟨rfl, rfl⟩

theorem unsubscribeN_store (k : Kind) (st : State) (o : Nat) : SameStore st (unsubscribeN k st o).1 := by
  unfold unsubscribeN; split <;> exact ⟨rfl, rfl⟩

theorem unsubscribeN_mem (k : Kind) (st : State) (o : Nat) : mem (unsubscribeN k st o).1 = mem st :=
  (unsubscribeN_store k st o).mem

theorem unsub_ended (k : Kind) (st : State) (o : Nat) : (unsubscribeN k st o).1.ended = st.ended :=
  (unsubscribeN_store k st o).ended

theorem step_store (k : Kind) (st : State) (c : Call) (hc : c.toEv? = none) : SameStore st (step k st c) := by
  cases c using Call.cases3 with
  | subscribe o =>
    have h1 := subscribeA_store k st o
    have h2 := subscribeB_store k (subscribeA k st o).1 o (subscribeA k st o).2
    exact ⟨h2.mem.trans h1.mem, h2.ended.trans h1.ended⟩
  | unsubscribe o => exact unsubscribeN_store k st o
  | event c ev he => rw [he] at hc; cases hc


theorem step_subscribe_unseen (k : Kind) (hk : k.isReplay = false) (st : State) (o : Nat)
    (hu : (st.obs o).seen = false) :
    step k st (.subscribe o) =
      match entry k st with
      | .reject log => { st with obs := upd st.obs o { seen := true, log := log } }
      | .accept first => register st o (newcomer k first) := by
  simp only [step, subscribeB_noop _ _ _ _ (show (k.isReplay && _) = false by simp [hk]), subscribeA_eq, hu,
    Bool.false_eq_true, ↓reduceIte]
  cases entry k st <;> rfl

/-! ## `AsyncSubject.ended`: set by the first terminal, and then the map is empty for good -/

def EndedOk (st : State) : Prop := st.ended.isSome = true → st.observers = []

theorem unsub_sublist (k : Kind) (st : State) (o : Nat) : (unsubscribeN k st o).1.observers.Sublist st.observers := by
  cases hs : (st.obs o).seen with
  | false => rw [unsubscribeN_unseen k st o hs]; exact List.Sublist.refl _
  | true => rw [unsubscribeN_fst k st o hs]; exact dropHook_sublist _ _ _ _

theorem EndedOk.step {st} (h : EndedOk st) (c : Call) : EndedOk (step .async st c) := by
  cases c using Call.cases3 with
  | subscribe o =>
    intro he
    rw [(step_store .async st _ rfl).ended] at he
    cases hs : (st.obs o).seen with
    | true => rw [step_subscribe_seen _ _ _ hs]; exact h he
    | false =>
      -- a subscriber arriving at an ended AsyncSubject is handed the result and not registered
      rw [step_subscribe_unseen .async rfl st o hs]; unfold entry
      cases hen : st.ended with
      | none => rw [hen] at he; cases he
      | some en => exact h he
  | unsubscribe o =>
    intro he
    rw [(step_store .async st _ rfl).ended] at he
    exact List.sublist_nil.1 (h he ▸ unsub_sublist .async st o)
  | event c ev hc =>
    rw [step_emitK _ _ c ev hc]; unfold emitK; dsimp only
    split
    · exact h
    · cases ev with
      | next v => exact fun he => absurd he ‹_›
      | error e => exact fun _ => rfl
      | complete => exact fun _ => rfl

theorem endedOk_run (cs : List Call) : EndedOk (run .async cs) :=
  List.foldlRecOn cs _ (fun he => Bool.noConfusion he) fun _ h c _ => h.step c


/-! ## the Observable contract on every subscriber's log -/

/-- `next*` then at most one terminal: nothing but the last event may be a terminal -/
def contract (l : List Ev) : Bool := l.dropLast.all fun e => !e.isTerminal

def nonTerminal (l : List Ev) : Bool := l.all fun e => !e.isTerminal

/-- the log obeys the contract, and a subscriber that is still subscribed has seen no terminal -/
def LogOk (r : ObsSt) : Prop := contract r.log = true ∧ (r.alive = true → nonTerminal r.log = true)

theorem contract_of_nonTerminal (l : List Ev) (h : nonTerminal l = true) : contract l = true := by
  simp only [contract, nonTerminal, List.all_eq_true] at *
  intro e he; exact h e (List.dropLast_subset l he)

theorem contract_snoc (l : List Ev) (e : Ev) (h : nonTerminal l = true) : contract (l ++ [e]) = true := by
  simpa [contract, nonTerminal] using h

theorem nonTerminal_append (a b : List Ev) : nonTerminal (a ++ b) = (nonTerminal a && nonTerminal b) := by
  simp [nonTerminal]

theorem nonTerminal_map_next (l : List Data) : nonTerminal (l.map .next) = true := by
  simp [nonTerminal, Ev.isTerminal]

theorem nonTerminal_storedTerminal (we : Option Nat) (wc : Bool) (h : storedTerminal we wc ≠ []) :
    nonTerminal (storedTerminal we wc) = false := by
  cases we with
  | some e => rfl
  | none =>
    cases wc with
    | true => rfl
    | false => exact absurd rfl h

theorem LogOk.recv {r : ObsSt} (h : LogOk r) (ev : Ev) : LogOk (r.recv ev) := by
  obtain ⟨h1, h2⟩ := h
  unfold ObsSt.recv LogOk
  cases ha : r.alive with
  | false => simpa using h1
  | true =>
    have := h2 ha
    refine ⟨by simpa using contract_snoc _ ev this, ?_⟩
    simp only [Bool.true_and, Bool.not_eq_eq_eq_not, Bool.not_true, ↓reduceIte]
    intro hev
    rw [nonTerminal_append, this]
    simp [nonTerminal, hev]

theorem LogOk.mono {r r' : ObsSt} (h : LogOk r) (hl : r'.log = r.log) (ha : r'.alive = true → r.alive = true) :
    LogOk r' :=
  ⟨hl ▸ h.1, fun a => hl ▸ h.2 (ha a)⟩

theorem LogOk.recvK {r : ObsSt} (h : LogOk r) (k : Kind) (ev : Ev) : LogOk (recvK k ev r) := by
  by_cases hf : (k.isPlain || r.inAlive) = true
  · exact (h.recv ev).mono (by simp [recvK_log, ObsSt.recv, hf]) (by simp [recvK_alive, ObsSt.recv, hf])
  · exact h.mono (by simp [recvK_log, hf]) (by simp [recvK_alive, hf])

theorem logOk_default : LogOk {} := by simp [LogOk, contract, nonTerminal]

theorem LogOk.emit {k st} (h : ∀ o, LogOk (st.obs o)) (ev : Ev) (o : Nat) : LogOk ((emit k st ev).obs o) :=
  emit_pres k st ev LogOk (fun _ hr => hr.recvK k ev) o (h o)

theorem entry_ok (k : Kind) (st : State) :
    match entry k st with
    | .reject log => contract log = true
    | .accept first => nonTerminal first = true := by
  unfold entry
  cases k with
  | plain => rfl
  | replay => rfl
  | behavior i => dsimp only; cases st.lastError <;> cases st.lastItem <;> rfl
  | async =>
    dsimp only
    cases st.ended with
    | none => rfl
    | some en =>
      cases en with
      | failed e => rfl
      | completed => dsimp only; cases st.lastItem <;> rfl

theorem LogOk.subscribeA {k st} (h : ∀ o, LogOk (st.obs o)) (o o' : Nat) : LogOk ((subscribeA k st o).1.obs o') := by
  have he := entry_ok k st
  rw [subscribeA_eq]; split
  · exact h o'
  · generalize entry k st = e at he ⊢
    cases e <;> (dsimp only [register_obs, upd_apply]; split)
    · exact ⟨he, nofun⟩
    · exact h o'
    · exact ⟨contract_of_nonTerminal _ he, fun _ => he⟩
    · exact h o'

theorem LogOk.foldRecv (hist : List Data) {r : ObsSt} (h : LogOk r) :
    LogOk (hist.foldl (fun r x => r.recv (.next x)) r) :=
  List.foldlRecOn hist _ h fun _ hr _ _ => hr.recv _

theorem LogOk.handOver {r : ObsSt} (h : LogOk r) (hist : List Data) (we : Option Nat) (wc : Bool) :
    LogOk (handOver r hist we wc) := by
  have := LogOk.foldRecv hist h
  unfold SubjM.handOver
  cases we with
  | some e => exact this.recv _
  | none =>
    cases wc with
    | false => exact this
    | true => exact this.recv _

theorem LogOk.subscribeH {k st} (h : ∀ o, LogOk (st.obs o)) (o : Nat) (p : Pending) (o' : Nat) :
    LogOk ((subscribeH k st o p).obs o') := by
  rw [subscribeH_eq]; split
  · rw [handed_obs]; split
    · exact ((h o).handOver p.history st.wasError st.wasCompleted).mono rfl id
    · exact h o'
  · exact h o'

theorem LogOk.reap {st} (h : ∀ o, LogOk (st.obs o)) (o o' : Nat) : LogOk ((reap st o).1.obs o') :=
  (h o').mono (reap_fields st o o').2.2.1 (fun a => (reap_fields st o o').2.1 ▸ a)

theorem LogOk.unsubscribeN {k st} (h : ∀ o, LogOk (st.obs o)) (o o' : Nat) :
    LogOk ((unsubscribeN k st o).1.obs o') := by
  rw [unsub_obs]; split
  · exact (h o).mono rfl nofun
  · exact h o'

/-! ## properties of one subscriber

Under `Inv` a subject is a family of independent subscribers: a primitive does one of six things to the pair
(is it in the map, its record).  What the six edits keep (`Local`) holds of every subscriber after every primitive
(`At.emit` … `At.unsubscribeN`), hence after every call (`At.step`). -/

/-- `R b r` is a property of one subscriber (`b`: it is in the map, `r`: its record) that survives: a broadcast
    reaching it, which takes it out of the map if the event is a terminal; its `subscribe`, which hands an unused id
    the stored result or puts it into the map; the hand-over; its reaping; its `unsubscribe`. -/
structure Local (k : Kind) (R : Prop → ObsSt → Prop) : Prop where
  recv : ∀ (r : ObsSt) (ev : Ev), (k.isPlain || r.inAlive) = true → R True r → R (ev.isTerminal = false) (recvK k ev r)
  reject : ∀ (log : List Ev), contract log = true → R False {} → R False { seen := true, log := log }
  accept : ∀ (first : List Ev) (s : Nat), nonTerminal first = true → R False {} →
    R True { newcomer k first with inHook := some s }
  hand : ∀ (b : Prop) (r : ObsSt) (hist : List Data) (we : Option Nat) (wc : Bool), R b r →
    R b { handOver r hist we wc with armed := true }
  reap : ∀ (b : Prop) (r : ObsSt), R b r → R (b ∧ ¬reaped r = true)
    { r with armed := r.armed && r.alive, inAlive := r.inAlive && !reaped r, inHook := if reaped r then none else r.inHook }
  unsub : ∀ (b : Prop) (r : ObsSt), r.seen = true → R b r → R (b ∧ ¬reaches k r = true)
    { r with
      alive := false
      hook := false
      inAlive := r.inAlive && !(r.hook && (k.isPlain || r.armed))
      armed := r.armed && !r.hook
      inHook := if r.hook && (k.isPlain || r.armed) then none else r.inHook }

def At (R : Prop → ObsSt → Prop) (o : Nat) (st : State) : Prop := R (o ∈ registered st) (st.obs o)

theorem At.iff {R : Prop → ObsSt → Prop} {b c : Prop} {r : ObsSt} (e : b ↔ c) (h : R b r) : R c r := propext e ▸ h

section lift
variable {k : Kind} {R : Prop → ObsSt → Prop} (hR : Local k R) {st : State} {o : Nat}
include hR

theorem At.emit (hi : Inv k st) (h : At R o st) (ev : Ev) : At R o (emit k st ev) := by
  unfold At at *
  rw [emit_obs hi, emit_registered]
  by_cases ho : o ∈ registered st
  · rw [if_pos ho]
    refine At.iff ?_ (hR.recv _ ev (hi.forwards ho) (At.iff (iff_true_intro ho) h))
    cases ev.isTerminal <;> simp [ho]
  · rw [if_neg ho]
    refine At.iff ?_ h
    cases ev.isTerminal <;> simp [ho]

theorem At.subscribeA (hi : Inv k st) (h : At R o st) (o' : Nat) : At R o (subscribeA k st o').1 := by
  unfold At at *
  by_cases hne : o = o'
  · subst hne
    have he := entry_ok k st
    rw [subscribeA_eq]
    cases hs : (st.obs o).seen with
    | true => exact h
    | false =>
      have hn := hi.unseen_not_reg o hs
      have h0 : R False {} := hi.unseen o hs ▸ At.iff (iff_false_intro hn) h
      simp only [Bool.false_eq_true, ↓reduceIte]
      generalize entry k st = e at he ⊢
      cases e with
      | reject log => exact At.iff (iff_false_intro hn).symm (by simpa using hR.reject log he h0)
      | accept first =>
        refine At.iff (iff_true_intro (by simp [register_registered])).symm ?_
        simpa [register_obs] using hR.accept first (st.serial + 1) he h0
  · rw [subscribeA_obs_other _ _ _ _ hne]
    exact At.iff ⟨subscribeA_mono k st o' o, fun q => (subscribeA_sub k st o' o q).resolve_right hne⟩ h

theorem At.handed (h : At R o st) (o' : Nat) (p : Pending) : At R o (handed st o' p) := by
  unfold At at *
  rw [handed_obs]; split
  · subst_vars; exact hR.hand _ _ _ _ _ h
  · exact h

theorem At.reap (hi : Inv k st) (h : At R o st) (o' : Nat) : At R o (reap st o').1 := by
  unfold At at *
  refine At.iff (reap_mem hi o' o).symm ?_
  rw [reap_obs]; split
  · subst_vars; exact At.iff (by simp) (hR.reap _ _ h)
  · exact At.iff (by simp [*]) h

theorem At.subscribeB (hi : Inv k st) (h : At R o st) (o' : Nat) (p : Pending) (hs : (st.obs o').seen = true) :
    At R o (subscribeB k st o' p).1 := by
  rw [subscribeB_eq]; split
  · exact At.reap hR (hi.handed (by simp_all) o' p hs) (At.handed hR h o' p) o'
  · exact h

theorem At.unsubscribeN (hi : Inv k st) (h : At R o st) (o' : Nat) : At R o (unsubscribeN k st o').1 := by
  unfold At at *
  refine At.iff (unsub_mem hi o' o).symm ?_
  rw [unsub_obs]; split
  · rename_i hh; obtain ⟨rfl, hs⟩ := hh
    exact At.iff (by simp) (hR.unsub _ _ hs h)
  · rename_i hh
    refine At.iff ?_ h
    by_cases e : o = o'
    · subst e
      have : (st.obs o).seen = false := by simpa using hh
      simp [reaches, this]
    · simp [e]

theorem At.step (hi : Inv k st) (h : At R o st) (c : Call) : At R o (step k st c) := by
  cases c using Call.cases3 with
  | subscribe o' =>
    exact At.subscribeB hR (hi.subscribeA o') (At.subscribeA hR hi h o') o' _ (subscribeA_marks k st o')
  | unsubscribe o' => exact At.unsubscribeN hR hi h o'
  | event c ev hc =>
    rw [step_emitK k st c ev hc]
    exact (emitK_pres (k := k) (fun s => Inv k s ∧ At R o s) (fun s ev q => ⟨q.1.emit ev, At.emit hR q.1 q.2 ev⟩)
      (fun _ li en q => ⟨q.1.setMem li en, q.2⟩) st ev ⟨hi, h⟩).2

theorem At.runFrom (hg : Good k st) (h : At R o st) (cs : List Call) : At R o (runFrom k st cs) :=
  (List.foldlRecOn (motive := fun s => Good k s ∧ At R o s) cs _ ⟨hg, h⟩
    fun _ q c _ => ⟨q.1.step c, At.step hR q.1.inv q.2 c⟩).2

end lift

theorem logOk_local (k : Kind) : Local k fun _ r => LogOk r where
  recv := fun _ ev _ h => h.recvK k ev
  reject := fun _ he _ => ⟨he, nofun⟩
  accept := fun _ _ he _ => ⟨contract_of_nonTerminal _ he, fun _ => he⟩
  hand := fun _ _ hist we wc h => (h.handOver hist we wc).mono rfl id
  reap := fun _ _ h => h.mono rfl id
  unsub := fun _ _ _ h => h.mono rfl nofun

theorem logOk_run (k : Kind) (cs : List Call) (o : Nat) : LogOk ((run k cs).obs o) :=
  At.runFrom (logOk_local k) (good_init k) (by cases k <;> exact logOk_default) cs

/-- **C10, contract clause**: whatever the calls, every subscriber of every subject kind sees
    `next* (error | complete)?`. -/
theorem log_contract (k : Kind) (cs : List Call) (o : Nat) : contract (logOf (run k cs) o) = true :=
  (logOk_run k cs o).1

example : contract [.next (.int 1), .next (.int 2), .complete] = true := by decide
example : contract [.next (.int 1), .complete, .next (.int 2)] = false := by decide
example : contract [.complete, .error 1] = false := by decide


/-! ## C10, plain Subject clauses (`delivers_to_current` for the kinds whose `next` broadcasts at once: plain,
    behavior, replay; the other clauses for every kind) -/

theorem emit_log {k st} (h : Inv k st) (ev : Ev) (o : Nat) :
    logOf (emit k st ev) o =
      if o ∈ registered st ∧ aliveOf st o = true then logOf st o ++ [ev] else logOf st o := by
  unfold logOf aliveOf
  rw [emit_obs h]
  by_cases ho : o ∈ registered st
  · simp only [ho, ↓reduceIte, true_and, recvK_log, h.forwards ho, Bool.true_and]
  · simp [ho]

theorem emit_alive {k st} (h : Inv k st) (ev : Ev) {o : Nat} (ho : o ∈ registered st) :
    ((emit k st ev).obs o).alive = ((st.obs o).alive && !ev.isTerminal) := by
  rw [emit_obs h, if_pos ho, recvK_alive, h.forwards ho]; rfl

theorem emit_live {k st} (h : Inv k st) (ev : Ev) {o : Nat} (hr : o ∈ registered st) (ha : (st.obs o).alive = true) :
    logOf (emit k st ev) o = logOf st o ++ [ev] ∧ ((emit k st ev).obs o).alive = !ev.isTerminal ∧
    (ev.isTerminal = false → o ∈ registered (emit k st ev)) :=
  ⟨by rw [emit_log h, if_pos ⟨hr, ha⟩], by rw [emit_alive h ev hr, ha]; rfl,
    fun ht => by rw [emit_registered, ht]; exact hr⟩

theorem emits_log {k st} (h : Inv k st) (evs : List Ev) :
    ∃ d, ∀ o, logOf (evs.foldl (emit k) st) o =
      if o ∈ registered st ∧ aliveOf st o = true then logOf st o ++ d else logOf st o := by
  induction evs generalizing st with
  | nil => exact ⟨[], fun o => by simp⟩
  | cons ev evs ih =>
    obtain ⟨d, hd⟩ := ih (h.emit ev)
    have hp : ∀ o, (o ∈ registered (emit k st ev) ∧ aliveOf (emit k st ev) o = true) ↔
        ((o ∈ registered st ∧ aliveOf st o = true) ∧ ev.isTerminal = false) := by
      intro o; unfold aliveOf; rw [emit_registered]
      cases ht : ev.isTerminal with
      | true => simp
      | false => simp only [Bool.false_eq_true, ↓reduceIte, and_true]
                 exact and_congr_right fun hr => by rw [emit_alive h ev hr, ht]; simp
    refine ⟨if ev.isTerminal then [ev] else ev :: d, fun o => ?_⟩
    rw [List.foldl_cons, hd o, emit_log h ev o]
    by_cases ho : o ∈ registered st ∧ aliveOf st o = true <;> cases ht : ev.isTerminal <;> simp [hp, ho, ht]

/-- **C10 `delivers_to_current`** (all call sequences `cs`, all observers). -/
theorem delivers_to_current (k : Kind) (hk : k.isAsync = false) (cs : List Call) (c : Call) (ev : Ev)
    (hc : c.toEv? = some ev) (o : Nat) :
    logOf (step k (run k cs) c) o =
      if o ∈ registered (run k cs) ∧ aliveOf (run k cs) o = true then logOf (run k cs) o ++ [ev]
      else logOf (run k cs) o := by
  rw [step_emitK k _ c ev hc, emitK_of_not_async k hk]; exact emit_log (good_run k cs).inv ev o

/-- for every kind (ReplaySubject too: replay_subject.rs:95-99 takes the forwarder of a subscriber that was
    ended by the hand-over out again) the map never holds a subscriber that is no longer subscribed … -/
theorem registered_alive (k : Kind) (cs : List Call) (o : Nat)
    (ho : o ∈ registered (run k cs)) : aliveOf (run k cs) o = true :=
  (good_run k cs).alive o ho

/-- … so for a plain Subject "registered at that moment" alone decides who gets the event -/
theorem delivers_to_current_plain (cs : List Call) (c : Call) (ev : Ev) (hc : c.toEv? = some ev) (o : Nat) :
    logOf (step .plain (run .plain cs) c) o =
      if o ∈ registered (run .plain cs) then logOf (run .plain cs) o ++ [ev] else logOf (run .plain cs) o := by
  rw [delivers_to_current .plain rfl cs c ev hc o]
  by_cases ho : o ∈ registered (run .plain cs)
  · simp [ho, registered_alive .plain cs o ho]
  · simp [ho]

theorem unsubscribe_log (k : Kind) (st : State) (o' o : Nat) :
    logOf (step k st (.unsubscribe o')) o = logOf st o := by
  simp only [logOf, step, unsub_obs]; split
  · rename_i hh; rw [hh.1]
  · rfl

theorem subscribe_log_other (k : Kind) (st : State) (o' o : Nat) (hne : o ≠ o') :
    logOf (step k st (.subscribe o')) o = logOf st o := by
  simp only [logOf, step_subscribe_other k st o' o hne]

/-- **C10 `no_observer_after_terminal`**: right after `error` / `complete` the map is empty (every kind). -/
theorem no_observer_after_terminal (k : Kind) (cs : List Call) (c : Call) (ev : Ev) (hc : c.toEv? = some ev)
    (ht : ev.isTerminal = true) : registered (step k (run k cs) c) = [] := by
  rw [step_emitK k _ c ev hc]
  cases hk : k.isAsync with
  | false => rw [emitK_of_not_async k hk, emit_registered, if_pos ht]
  | true =>
    obtain rfl : k = .async := by cases k <;> cases hk <;> rfl
    have he := endedOk_run cs
    unfold emitK; dsimp only; split
    · simp [registered, he ‹_›]
    · cases ev with
      | next v => cases ht
      | error e => rfl
      | complete => rfl

/-- and — every kind, every call sequence — an observer whose log holds a terminal is in no reachable map -/
theorem terminated_not_registered (k : Kind) (cs : List Call) (o : Nat)
    (ht : nonTerminal (logOf (run k cs) o) = false) : o ∉ registered (run k cs) := by
  intro ho
  have := (logOk_run k cs o).2 (registered_alive k cs o ho)
  simp [logOf] at ht; simp [ht] at this

/-- ReplaySubject, late subscriber (without replay_subject.rs:95-99 its forwarder would stay in the map): it gets
    the history and the terminal, and the map does not hold it -/
theorem replay_late_subscriber_not_held :
    let st := run .replay [.next (.int 1), .complete, .subscribe 0]
    logOf st 0 = [.next (.int 1), .complete] ∧ aliveOf st 0 = false ∧ registered st = [] := by decide

/-! ### `seen` is set by `subscribe` only, so an id that has unsubscribed is never registered again -/

theorem emitK_seen (k : Kind) (st : State) (ev : Ev) (o : Nat) :
    ((emitK k st ev).obs o).seen = (st.obs o).seen :=
  emitK_pres (k := k) (fun st' => (st'.obs o).seen = (st.obs o).seen)
    (fun st' ev h => (emit_seen k st' ev o).trans h) (fun _ _ _ h => h) st ev rfl

theorem step_seen_iff (k : Kind) (st : State) (c : Call) (o : Nat) :
    ((step k st c).obs o).seen = true ↔ (st.obs o).seen = true ∨ c = .subscribe o := by
  cases c using Call.cases3 with
  | subscribe o' =>
    by_cases hne : o = o'
    · subst hne; simp [step_subscribe_marks]
    · rw [step_subscribe_other k st o' o hne]; simp [Ne.symm hne]
  | unsubscribe o' =>
    simp only [step, unsub_obs, reduceCtorEq, or_false]; split
    · rename_i hh; rw [hh.1]
    · rfl
  | event c ev hc =>
    rw [step_emitK k st c ev hc, emitK_seen]
    exact ⟨Or.inl, fun h => h.resolve_right (by rintro rfl; cases hc)⟩

theorem seen_runFrom (k : Kind) (st : State) (cs : List Call) (o : Nat) :
    ((runFrom k st cs).obs o).seen = true ↔ (st.obs o).seen = true ∨ Call.subscribe o ∈ cs := by
  induction cs generalizing st with
  | nil => simp [runFrom]
  | cons c cs ih =>
    rw [runFrom_cons, ih, step_seen_iff, List.mem_cons, or_assoc,
      @eq_comm _ (Call.subscribe o)]

theorem seen_run (k : Kind) (cs : List Call) (o : Nat) :
    ((run k cs).obs o).seen = true ↔ Call.subscribe o ∈ cs := by
  rw [run, seen_runFrom, show ((init k).obs o).seen = false by cases k <;> rfl]; simp

theorem gone_local (k : Kind) : Local k fun b r => r.seen = true ∧ ¬b where
  recv := fun _ _ _ h => absurd trivial h.2
  reject := fun _ _ h => nomatch h.1
  accept := fun _ _ _ h => nomatch h.1
  hand := fun _ r hist we wc h => ⟨(handOver_fields r hist we wc).1.trans h.1, h.2⟩
  reap := fun _ _ h => ⟨h.1, fun c => h.2 c.1⟩
  unsub := fun _ _ _ h => ⟨h.1, fun c => h.2 c.1⟩

theorem gone_runFrom {k : Kind} {st : State} (hg : Good k st) (o : Nat) (hs : (st.obs o).seen = true)
    (hn : o ∉ registered st) (cs : List Call) : o ∉ registered (runFrom k st cs) :=
  (At.runFrom (gone_local k) hg (o := o) ⟨hs, hn⟩ cs).2

theorem unsubscribe_removes {k st} (h : Good k st) (o : Nat) : o ∉ registered (step k st (.unsubscribe o)) :=
  fun hm => have ⟨hr, hn⟩ := (unsub_mem h.inv o o).1 hm; hn ⟨rfl, h.inv.reaches h.armed o hr⟩

/-- **C10 `no_observer_after_unsubscribe`** (every kind): once its subscription has been unsubscribed, an
    observer is never in the map again, whatever is called afterwards. -/
theorem no_observer_after_unsubscribe (k : Kind) (pre post : List Call) (o : Nat)
    (hsub : Call.subscribe o ∈ pre) :
    o ∉ registered (run k (pre ++ .unsubscribe o :: post)) := by
  rw [run_append_cons]
  exact gone_runFrom ((good_run k pre).step _) o ((step_seen_iff k _ _ o).2 (Or.inl ((seen_run k pre o).2 hsub)))
    (unsubscribe_removes (good_run k pre) o) post

example : registered (run .plain [.subscribe 0, .subscribe 1, .next (.int 7), .unsubscribe 0, .subscribe 0]) = [1] := by
  decide
example :
    logOf (step .plain (run .plain [.subscribe 0, .subscribe 1, .unsubscribe 0]) (.next (.int 7))) 1 = [.next (.int 7)] ∧
    logOf (step .plain (run .plain [.subscribe 0, .subscribe 1, .unsubscribe 0]) (.next (.int 7))) 0 = [] := by decide


/-! ## what one subscriber sees, as a function of the calls made after its `subscribe` -/

/-- the events a Subject owes an observer that is subscribed when `cs` starts: every `next` in call order,
    up to and including the first terminal, or up to its own `unsubscribe` -/
def plainExpect (o : Nat) : List Call → List Ev
  | [] => []
  | .next v :: cs => .next v :: plainExpect o cs
  | .error e :: _ => [.error e]
  | .complete :: _ => [.complete]
  | .unsubscribe o' :: cs => if o' = o then [] else plainExpect o cs
  | .subscribe _ :: cs => plainExpect o cs

theorem plainExpect_event (o : Nat) {c : Call} {ev : Ev} (hc : c.toEv? = some ev) (cs : List Call) :
    plainExpect o (c :: cs) = if ev.isTerminal then [ev] else ev :: plainExpect o cs := by
  cases c <;> simp [Call.toEv?] at hc <;> subst hc <;> rfl

/-- a subscriber that has ended keeps its log -/
theorem frozen_local (k : Kind) (L : List Ev) : Local k fun _ r => r.seen = true ∧ r.alive = false ∧ r.log = L where
  recv := fun r ev _ h => ⟨(recvK_seen k ev r).trans h.1, (recvK_dead k ev r h.2.1).1, (recvK_dead k ev r h.2.1).2.trans h.2.2⟩
  reject := fun _ _ h => nomatch h.1
  accept := fun _ _ _ h => nomatch h.1
  hand := fun _ r hist we wc h => by rw [handOver_eq, if_neg (by simp [h.2.1])]; exact h
  reap := fun _ _ h => h
  unsub := fun _ _ _ h => ⟨h.1, rfl, h.2.2⟩

theorem frozen_runFrom {k : Kind} {st : State} (hg : Good k st) (o : Nat) (hs : (st.obs o).seen = true)
    (hd : (st.obs o).alive = false) (cs : List Call) : logOf (runFrom k st cs) o = logOf st o :=
  (At.runFrom (frozen_local k (logOf st o)) hg (o := o) ⟨hs, hd, rfl⟩ cs).2.2

theorem subscribe_frame {k st} (h : Inv k st) (o o' : Nat) (hr : o ∈ registered st) :
    (step k st (.subscribe o')).obs o = st.obs o ∧ o ∈ registered (step k st (.subscribe o')) := by
  by_cases hne : o = o'
  · rw [← hne, step_subscribe_seen k st o (h.regSeen o hr)]; exact ⟨rfl, hr⟩
  · exact ⟨step_subscribe_other k st o' o hne, step_subscribe_mono h o' o hne hr⟩

theorem unsubscribe_frame {k st} (h : Inv k st) (o o' : Nat) (hne : o' ≠ o) (hr : o ∈ registered st) :
    (step k st (.unsubscribe o')).obs o = st.obs o ∧ o ∈ registered (step k st (.unsubscribe o')) :=
  ⟨by simp only [step, unsub_obs]; rw [if_neg]; exact fun hh => hne hh.1.symm,
   (unsub_mem h o' o).2 ⟨hr, fun hh => hne hh.1.symm⟩⟩

theorem unsubscribe_freezes {k st} (h : Good k st) (o : Nat) (hs : (st.obs o).seen = true) (cs : List Call) :
    logOf (runFrom k (step k st (.unsubscribe o)) cs) o = logOf st o := by
  rw [frozen_runFrom (h.step _) o (by simp [step, unsub_obs, hs]) (by simp [step, unsub_obs, hs]) cs, unsubscribe_log]

theorem live_runFrom {k st} (hk : k.isAsync = false) (h : Good k st) (o : Nat) (hr : o ∈ registered st)
    (cs : List Call) : logOf (runFrom k st cs) o = logOf st o ++ plainExpect o cs := by
  induction cs generalizing st with
  | nil => simp [runFrom, plainExpect]
  | cons c cs ih =>
    have hseen := h.inv.regSeen o hr
    rw [runFrom_cons]
    cases c using Call.cases3 with
    | subscribe o' =>
      obtain ⟨e, r⟩ := subscribe_frame h.inv o o' hr
      rw [ih (h.step _) r]; simp [logOf, e, plainExpect]
    | unsubscribe o' =>
      by_cases hne : o' = o
      · rw [hne, unsubscribe_freezes h o hseen]; simp [plainExpect]
      · obtain ⟨e, r⟩ := unsubscribe_frame h.inv o o' hne hr
        rw [ih (h.step _) r]; simp [logOf, e, plainExpect, hne]
    | event c ev hc =>
      have hg := h.step c
      have hs := (step_seen_iff k st c o).2 (Or.inl hseen)
      rw [step_emitK k st c ev hc, emitK_of_not_async k hk] at hg hs ⊢
      obtain ⟨hlog, hal, hreg⟩ := emit_live h.inv ev hr (h.alive o hr)
      rw [plainExpect_event o hc]
      cases ht : ev.isTerminal with
      | false => rw [ih hg (hreg ht), hlog]; simp
      | true => rw [frozen_runFrom hg o hs (by rw [hal, ht]; rfl) cs, hlog]; rfl

theorem unseen_of_not_subscribed (k : Kind) (pre : List Call) (o : Nat) (h : Call.subscribe o ∉ pre) :
    ((run k pre).obs o).seen = false :=
  Bool.eq_false_iff.2 (mt (seen_run k pre o).1 h)

theorem subscribe_log {k st} (hk : k.isAsync = false) (hr : k.isReplay = false) (h : Good k st) (o : Nat)
    (hu : (st.obs o).seen = false) (post : List Call) :
    logOf (runFrom k (step k st (.subscribe o)) post) o =
      match entry k st with
      | .reject log => log
      | .accept first => first ++ plainExpect o post := by
  have hg := h.step (.subscribe o)
  rw [step_subscribe_unseen k hr st o hu] at hg ⊢
  generalize entry k st = e at hg ⊢
  cases e with
  | reject log => exact (frozen_runFrom hg o (by simp) (by simp) post).trans (by simp [logOf])
  | accept first =>
    rw [live_runFrom hk hg o (by simp [register_registered])]
    simp [logOf, register_obs, newcomer]

/-- **C10 plain Subject, whole-run form**: an observer's log is exactly the `next`s made while it was
    subscribed, each once, in call order, closed by the first terminal (unless it unsubscribed first). -/
theorem plain_log_spec (pre post : List Call) (o : Nat) (hfresh : Call.subscribe o ∉ pre) :
    logOf (run .plain (pre ++ .subscribe o :: post)) o = plainExpect o post := by
  rw [run_append_cons]
  exact subscribe_log rfl rfl (good_run .plain pre) o (unseen_of_not_subscribed .plain pre o hfresh) post

theorem plain_log_here (o : Nat) (post : List Call) :
    logOf (run .plain (.subscribe o :: post)) o = plainExpect o post :=
  plain_log_spec [] post o (by simp)


/-! ## the stored state as a function of the calls -/

/-- BehaviorSubject.last_item after the calls: `next v` stores `v`, `complete` empties it -/
def latestValue (cur : Option Data) : List Call → Option Data
  | [] => cur
  | .next v :: cs => latestValue (some v) cs
  | .complete :: cs => latestValue none cs
  | .error _ :: cs => latestValue cur cs
  | .subscribe _ :: cs => latestValue cur cs
  | .unsubscribe _ :: cs => latestValue cur cs

/-- last_error / was_error: the most recent `error` call -/
def storedError (cur : Option Nat) : List Call → Option Nat
  | [] => cur
  | .error e :: cs => storedError (some e) cs
  | .next _ :: cs => storedError cur cs
  | .complete :: cs => storedError cur cs
  | .subscribe _ :: cs => storedError cur cs
  | .unsubscribe _ :: cs => storedError cur cs

/-- ReplaySubject.items: every `next` so far, in call order -/
def pastItems : List Call → List Data
  | [] => []
  | .next v :: cs => v :: pastItems cs
  | .error _ :: cs => pastItems cs
  | .complete :: cs => pastItems cs
  | .subscribe _ :: cs => pastItems cs
  | .unsubscribe _ :: cs => pastItems cs

/-- was_completed: some `complete` call was made -/
def completedIn : List Call → Bool
  | [] => false
  | .complete :: _ => true
  | .next _ :: cs => completedIn cs
  | .error _ :: cs => completedIn cs
  | .subscribe _ :: cs => completedIn cs
  | .unsubscribe _ :: cs => completedIn cs

theorem behavior_mem (i : Data) (st : State) (cs : List Call) :
    (runFrom (.behavior i) st cs).lastItem = latestValue st.lastItem cs ∧
    (runFrom (.behavior i) st cs).lastError = storedError st.lastError cs := by
  induction cs generalizing st with
  | nil => exact ⟨rfl, rfl⟩
  | cons c cs ih =>
    rw [runFrom_cons, (ih _).1, (ih _).2]
    cases c with
    | subscribe o => have := (step_store (.behavior i) st (.subscribe o) rfl).mem; simp_all [mem, latestValue, storedError]
    | unsubscribe o => have := (step_store (.behavior i) st (.unsubscribe o) rfl).mem; simp_all [mem, latestValue, storedError]
    | next v => exact ⟨rfl, rfl⟩
    | error e => exact ⟨rfl, rfl⟩
    | complete => exact ⟨rfl, rfl⟩

theorem replay_mem (st : State) (cs : List Call) :
    (runFrom .replay st cs).items = st.items ++ pastItems cs ∧
    (runFrom .replay st cs).wasError = storedError st.wasError cs ∧
    (runFrom .replay st cs).wasCompleted = (st.wasCompleted || completedIn cs) := by
  induction cs generalizing st with
  | nil => simp [runFrom, pastItems, storedError, completedIn]
  | cons c cs ih =>
    rw [runFrom_cons, (ih _).1, (ih _).2.1, (ih _).2.2]
    cases c with
    | subscribe o => have := (step_store .replay st (.subscribe o) rfl).mem; simp_all [mem, pastItems, storedError, completedIn]
    | unsubscribe o => have := (step_store .replay st (.unsubscribe o) rfl).mem; simp_all [mem, pastItems, storedError, completedIn]
    | next v => exact ⟨List.append_assoc .., rfl, rfl⟩
    | error e => exact ⟨rfl, rfl, rfl⟩
    | complete => exact ⟨rfl, rfl, by simp [completedIn, step, emitK, emit, newWasCompleted]⟩

/-- **C10 `behavior_handover`**: whatever was called before (`pre`) and after (`post`), a new subscriber of a
    BehaviorSubject first gets the stored error and nothing else, or — the last item having been emptied by
    `complete` — just `complete`, or else the latest value, followed by exactly what a plain Subject gives an
    observer subscribed at that moment. -/
theorem behavior_handover (i : Data) (pre post : List Call) (o : Nat) (hfresh : Call.subscribe o ∉ pre) :
    logOf (run (.behavior i) (pre ++ .subscribe o :: post)) o =
      match storedError none pre with
      | some e => [.error e]
      | none =>
        match latestValue (some i) pre with
        | none => [.complete]
        | some v => .next v :: logOf (run .plain (.subscribe o :: post)) o := by
  have hm : (run (.behavior i) pre).lastItem = latestValue (some i) pre ∧
      (run (.behavior i) pre).lastError = storedError none pre := behavior_mem i (init (.behavior i)) pre
  rw [plain_log_here, run_append_cons,
    subscribe_log rfl rfl (good_run _ pre) o (unseen_of_not_subscribed _ pre o hfresh), ← hm.1, ← hm.2]
  unfold entry
  cases (run (.behavior i) pre).lastError <;> cases (run (.behavior i) pre).lastItem <;> rfl

/-- the stored value is lost only through `complete` … -/
theorem latestValue_some (cur : Data) (cs : List Call) (h : Call.complete ∉ cs) :
    ∃ v, latestValue (some cur) cs = some v := by
  induction cs generalizing cur with
  | nil => exact ⟨cur, rfl⟩
  | cons c cs ih =>
    simp only [List.mem_cons, not_or] at h
    cases c with
    | complete => exact absurd rfl h.1
    | next v => exact ih v h.2
    | error e => exact ih cur h.2
    | subscribe o' => exact ih cur h.2
    | unsubscribe o' => exact ih cur h.2

/-- … and (as written, behavior_subject.rs:26-29) a `next` after `complete` brings it back: the subscriber
    below arrives after the subject completed, is handed `5` and goes live instead of getting `complete`. -/
theorem behavior_forgets_complete :
    logOf (run (.behavior (.int 0)) [.complete, .next (.int 5), .subscribe 0, .next (.int 6)]) 0
      = [.next (.int 5), .next (.int 6)] := by decide

example : logOf (run (.behavior (.int 0)) [.next (.int 1), .subscribe 0, .next (.int 2), .subscribe 1, .complete, .subscribe 2]) 1
    = [.next (.int 2), .complete] := by decide
example : logOf (run (.behavior (.int 0)) [.next (.int 1), .error 4, .subscribe 2]) 2 = [.error 4] := by decide


/-! ## C10 `replay_handover` -/

/-- the ReplaySubject after `subscribe o` of an unused id, up to the stored `sbsc` (before the reaping) -/
def replayH (st : State) (o : Nat) : State :=
  handed (register st o (newcomer .replay [])) o
    { fresh := true, len := some (st.observers.length + 1), history := st.items }

theorem replay_step_unseen (st : State) (o : Nat) (hu : (st.obs o).seen = false) :
    step .replay st (.subscribe o) = (reap (replayH st o) o).1 := by
  simp [step, subscribeA_eq, hu, entry, subscribeB_eq, Kind.isReplay, replayH]

theorem replayH_obs (st : State) (o : Nat) :
    (replayH st o).obs o =
      { newcomer .replay (st.items.map .next ++ storedTerminal st.wasError st.wasCompleted) with
        alive := (storedTerminal st.wasError st.wasCompleted).isEmpty, inHook := some (st.serial + 1), armed := true } := by
  simp [replayH, handed_obs, handOver_eq, newcomer, register]

theorem Inv.replayH {st} (h : Inv .replay st) (o : Nat) (hu : (st.obs o).seen = false) : Inv .replay (replayH st o) :=
  (h.register o _ hu rfl (fun _ => rfl) nofun nofun).handed rfl o _ (by simp [register_obs, newcomer])

theorem replay_subscribe_fresh {st : State} (hi : Inv .replay st) (o : Nat) (hu : (st.obs o).seen = false) :
    logOf (step .replay st (.subscribe o)) o = st.items.map .next ++ storedTerminal st.wasError st.wasCompleted ∧
    aliveOf (step .replay st (.subscribe o)) o = (storedTerminal st.wasError st.wasCompleted).isEmpty ∧
    (storedTerminal st.wasError st.wasCompleted = [] → o ∈ registered (step .replay st (.subscribe o))) := by
  have hf := reap_fields (replayH st o) o o
  have ho := replayH_obs st o
  rw [replay_step_unseen st o hu, logOf, aliveOf, hf.2.2.1, hf.2.1, ho]
  refine ⟨rfl, rfl, fun hT => (reap_mem (hi.replayH o hu) o o).2 ⟨?_, fun hh => ?_⟩⟩
  · simp [replayH, handed, registered, register]
  · simp [ho, reaped, hT] at hh

/-- a new subscriber of a ReplaySubject, from any state: the recorded items, then the stored terminal, or — none
    being stored — what a plain Subject owes an observer subscribed at that moment -/
theorem replay_subscribe_log {st : State} (h : Good .replay st) (o : Nat) (hu : (st.obs o).seen = false)
    (post : List Call) :
    logOf (runFrom .replay (step .replay st (.subscribe o)) post) o =
      st.items.map .next ++
        if storedTerminal st.wasError st.wasCompleted = [] then plainExpect o post
        else storedTerminal st.wasError st.wasCompleted := by
  obtain ⟨hlog, hal, hreg⟩ := replay_subscribe_fresh h.inv o hu
  have hg := h.step (.subscribe o)
  split
  · rename_i hT; rw [live_runFrom rfl hg o (hreg hT), hlog, hT, List.append_nil]
  · rename_i hT
    rw [frozen_runFrom hg o (step_subscribe_marks ..) (hal.trans (by simpa using hT)) post, hlog]

/-- **C10 `replay_handover`**: a new subscriber of a ReplaySubject first gets every past item, in call order,
    then the stored terminal if there is one (and nothing more), otherwise exactly what a plain Subject gives
    an observer subscribed at that moment. -/
theorem replay_handover (pre post : List Call) (o : Nat) (hfresh : Call.subscribe o ∉ pre) :
    logOf (run .replay (pre ++ .subscribe o :: post)) o =
      (pastItems pre).map .next ++
        match storedError none pre with
        | some e => [.error e]
        | none => if completedIn pre then [.complete] else logOf (run .plain (.subscribe o :: post)) o := by
  have hm : (run .replay pre).items = pastItems pre ∧ (run .replay pre).wasError = storedError none pre ∧
      (run .replay pre).wasCompleted = completedIn pre := by
    simpa [init, run] using replay_mem (init .replay) pre
  rw [plain_log_here, run_append_cons, replay_subscribe_log (good_run .replay pre) o (unseen_of_not_subscribed .replay pre o hfresh),
    hm.1, hm.2.1, hm.2.2]
  cases storedError none pre <;> cases completedIn pre <;> rfl

/-- as written (replay_subject.rs:28-31) `next` after a terminal is still recorded, so "every past item"
    includes items pushed after the subject completed: the late subscriber 1 gets `7` before `complete`. -/
theorem replay_records_after_terminal :
    logOf (run .replay [.next (.int 1), .complete, .next (.int 7), .subscribe 1]) 1
      = [.next (.int 1), .next (.int 7), .complete] := by decide

example : logOf (run .replay [.next (.int 1), .subscribe 0, .next (.int 2), .subscribe 1, .next (.int 3), .complete, .subscribe 2]) 1
    = [.next (.int 1), .next (.int 2), .next (.int 3), .complete] := by decide
example : logOf (run .replay [.next (.int 1), .error 9, .subscribe 2, .next (.int 3)]) 2 = [.next (.int 1), .error 9] := by decide


/-! ## C10 `async_last_only` — the AsyncSubject owns the last item and the terminal (async_subject.rs) -/

/-- what an AsyncSubject owes an observer registered when `cs` starts (`last` = the item stored so far): nothing
    until the first terminal; on `complete` the last item (if any) and `complete`; on `error` the error -/
def asyncExpect (o : Nat) : Option Data → List Call → List Ev
  | _, [] => []
  | _, .next v :: cs => asyncExpect o (some v) cs
  | _, .error e :: _ => [.error e]
  | last, .complete :: _ => asyncHandover last
  | last, .unsubscribe o' :: cs => if o' = o then [] else asyncExpect o last cs
  | last, .subscribe _ :: cs => asyncExpect o last cs

/-- `(ended, last_item)` after one more call: `next` stores, the first terminal is recorded, nothing after it -/
def asyncMemStep (p : Option Ended × Option Data) (c : Call) : Option Ended × Option Data :=
  if p.1.isSome then p else
  match c with
  | .next v => (none, some v)
  | .error e => (some (.failed e), p.2)
  | .complete => (some .completed, p.2)
  | _ => p

def asyncMem (cs : List Call) : Option Ended × Option Data := cs.foldl asyncMemStep (none, none)

/-- what the subject hands to whoever subscribes from now on -/
def asyncResultOf (p : Option Ended × Option Data) : List Ev :=
  match p.1 with
  | some (.failed e) => [.error e]
  | some .completed => asyncHandover p.2
  | none => []

theorem async_step_mem (st : State) (c : Call) :
    ((step .async st c).ended, (step .async st c).lastItem) = asyncMemStep (st.ended, st.lastItem) c := by
  cases c with
  | subscribe o =>
    have h := step_store .async st (.subscribe o) rfl
    rw [h.ended, h.lastItem]; simp [asyncMemStep]
  | unsubscribe o =>
    have h := step_store .async st (.unsubscribe o) rfl
    rw [h.ended, h.lastItem]; simp [asyncMemStep]
  | next v => cases hen : st.ended <;> simp [step, emitK, asyncMemStep, hen]
  | error e => cases hen : st.ended <;> simp [step, emitK, asyncMemStep, hen, emit, newLastItem]
  | complete =>
    cases hen : st.ended <;> cases hli : st.lastItem <;> simp [step, emitK, asyncMemStep, hen, hli, emit, newLastItem]

theorem async_run_mem (cs : List Call) :
    (run .async cs).ended = (asyncMem cs).1 ∧ (run .async cs).lastItem = (asyncMem cs).2 := by
  suffices h : ∀ st : State, ((runFrom .async st cs).ended, (runFrom .async st cs).lastItem) =
      cs.foldl asyncMemStep (st.ended, st.lastItem) from Prod.ext_iff.1 (h (init .async))
  induction cs with
  | nil => exact fun _ => rfl
  | cons c cs ih => intro st; rw [runFrom_cons, ih, async_step_mem]; rfl

theorem asyncMem_frozen (cs : List Call) (p : Option Ended × Option Data) (h : p.1.isSome = true) :
    cs.foldl asyncMemStep p = p :=
  List.foldlRecOn (motive := (· = p)) cs _ rfl fun q hq c _ => by rw [hq]; simp [asyncMemStep, h]

theorem async_live_runFrom {st} (h : Good .async st) (hen : st.ended = none) (o : Nat) (hr : o ∈ registered st)
    (cs : List Call) : logOf (runFrom .async st cs) o = logOf st o ++ asyncExpect o st.lastItem cs := by
  induction cs generalizing st with
  | nil => simp [runFrom, asyncExpect]
  | cons c cs ih =>
    have hseen := h.inv.regSeen o hr
    have ha := h.alive o hr
    have fin : ∀ (s : State) (ev : Ev), Inv .async s → o ∈ registered s → (s.obs o).alive = true → ev.isTerminal = true →
        step .async st c = emit .async s ev → logOf (runFrom .async (step .async st c) cs) o = logOf s o ++ [ev] := by
      intro s ev hi hr' ha' ht hst
      obtain ⟨hl, hal, _⟩ := emit_live hi ev hr' ha'
      rw [frozen_runFrom (h.step c) o ((step_seen_iff .async st c o).2 (Or.inl hseen)) (by rw [hst, hal, ht]; rfl) cs,
        hst, hl]
    rw [runFrom_cons]
    have hi0 := fun en => h.inv.setMem st.lastItem (some en)
    cases c with
    | subscribe o' =>
      obtain ⟨e, r⟩ := subscribe_frame h.inv o o' hr
      have hs := step_store .async st (.subscribe o') rfl
      rw [ih (h.step _) (hs.ended.trans hen) r, hs.lastItem]; simp [logOf, e, asyncExpect]
    | unsubscribe o' =>
      by_cases hne : o' = o
      · rw [hne, unsubscribe_freezes h o hseen]; simp [asyncExpect]
      · obtain ⟨e, r⟩ := unsubscribe_frame h.inv o o' hne hr
        have hs := step_store .async st (.unsubscribe o') rfl
        rw [ih (h.step _) (hs.ended.trans hen) r, hs.lastItem]; simp [logOf, e, asyncExpect, hne]
    | next v =>
      have hst : step .async st (.next v) = { st with lastItem := some v } := by simp [step, emitK, hen]
      rw [ih (h.step _) (by rw [hst]; exact hen) (by rw [hst]; exact hr), hst]; rfl
    | error e =>
      rw [fin _ (.error e) (hi0 (.failed e)) hr ha rfl (by simp [step, emitK, hen])]; simp [logOf, asyncExpect]
    | complete =>
      cases hli : st.lastItem with
      | none =>
        rw [fin _ .complete (hi0 .completed) hr ha rfl (by simp [step, emitK, hen, hli])]
        simp [logOf, asyncExpect, asyncHandover]
      | some v =>
        obtain ⟨hl, hal, hreg⟩ := emit_live (hi0 .completed) (.next v) hr ha
        rw [fin _ .complete ((hi0 .completed).emit (.next v)) (hreg rfl) hal rfl (by simp [step, emitK, hen, hli]), hl]
        simp [logOf, asyncExpect, asyncHandover]


theorem async_subscribe_fresh (st : State) (o : Nat) (hu : (st.obs o).seen = false) :
    step .async st (.subscribe o) =
      match st.ended with
      | some (.failed e) => { st with obs := upd st.obs o { seen := true, log := [.error e] } }
      | some .completed => { st with obs := upd st.obs o { seen := true, log := asyncHandover st.lastItem } }
      | none => register st o { seen := true, alive := true, hook := true } := by
  rw [step_subscribe_unseen .async rfl st o hu]; unfold entry
  cases st.ended with
  | none => rfl
  | some en => cases en <;> rfl

/-- a new subscriber of an AsyncSubject, from any state: the recorded result if the subject has ended, else what it
    owes an observer registered at that moment -/
theorem async_subscribe_log {st : State} (h : Good .async st) (o : Nat) (hu : (st.obs o).seen = false)
    (post : List Call) :
    logOf (runFrom .async (step .async st (.subscribe o)) post) o =
      match st.ended with
      | some (.failed e) => [.error e]
      | some .completed => asyncHandover st.lastItem
      | none => asyncExpect o st.lastItem post := by
  have hg := h.step (.subscribe o)
  have hst := async_subscribe_fresh st o hu
  cases hen : st.ended with
  | none =>
    rw [hen] at hst
    rw [async_live_runFrom hg (by rw [hst]; exact hen) o (by rw [hst, register_registered]; simp), hst]
    simp [logOf, register_obs]; rfl
  | some en =>
    rw [hen] at hst
    rw [frozen_runFrom hg o (step_subscribe_marks ..) (by cases en <;> (rw [hst]; simp)) post]
    cases en <;> (rw [hst]; simp [logOf])

/-- **C10 `async_last_only`** (ReactiveX AsyncSubject): whatever was called before (`pre`) and after (`post`), a
    new subscriber gets the recorded error, or — the subject having completed — the last item (if any) and
    `complete`, at once; otherwise nothing until the terminal, and then exactly that. -/
theorem async_last_only (pre post : List Call) (o : Nat) (hfresh : Call.subscribe o ∉ pre) :
    logOf (run .async (pre ++ .subscribe o :: post)) o =
      match (asyncMem pre).1 with
      | some (.failed e) => [.error e]
      | some .completed => asyncHandover (asyncMem pre).2
      | none => asyncExpect o (asyncMem pre).2 post := by
  have hm := async_run_mem pre
  rw [run_append_cons, async_subscribe_log (good_run .async pre) o (unseen_of_not_subscribed .async pre o hfresh),
    hm.1, hm.2]

/-- `asyncExpect` of a subscriber that never unsubscribes = what the subject will have recorded -/
theorem asyncExpect_eq_result (o : Nat) (cs : List Call) (hun : Call.unsubscribe o ∉ cs) : ∀ last : Option Data,
    asyncExpect o last cs = asyncResultOf (cs.foldl asyncMemStep (none, last)) := by
  induction cs with
  | nil => intro last; rfl
  | cons c cs ih =>
    intro last
    have hun' : Call.unsubscribe o ∉ cs := fun h => hun (List.mem_cons_of_mem _ h)
    cases c with
    | subscribe o' => simpa [asyncExpect, asyncMemStep] using ih hun' last
    | unsubscribe o' =>
      have hne : o' ≠ o := fun e => hun (by rw [e]; exact List.mem_cons_self ..)
      simpa [asyncExpect, asyncMemStep, hne] using ih hun' last
    | next v => simpa [asyncExpect, asyncMemStep] using ih hun' (some v)
    | error e =>
      rw [List.foldl_cons, show asyncMemStep (none, last) (.error e) = (some (.failed e), last) from rfl,
        asyncMem_frozen _ _ rfl]
      rfl
    | complete =>
      rw [List.foldl_cons, show asyncMemStep (none, last) .complete = (some .completed, last) from rfl,
        asyncMem_frozen _ _ rfl]
      rfl

theorem asyncMem_append (a b : List Call) : asyncMem (a ++ b) = b.foldl asyncMemStep (asyncMem a) := by
  simp [asyncMem, List.foldl_append]

/-- **ReactiveX AsyncSubject, every subscriber**: a subscriber that does not unsubscribe — whether it subscribed
    before, between or after the items, or after the terminal — has received exactly `[last item (if any),
    complete]` once the subject has completed, exactly `[error]` once it has failed, and nothing before that. -/
theorem async_every_subscriber (cs : List Call) (o : Nat) (hsub : Call.subscribe o ∈ cs)
    (hun : Call.unsubscribe o ∉ cs) : logOf (run .async cs) o = asyncResultOf (asyncMem cs) := by
  obtain ⟨pre, post, rfl, hfresh⟩ := List.eq_append_cons_of_mem hsub
  have hun' : Call.unsubscribe o ∉ post := fun h => hun (by simp [h])
  rw [async_last_only pre post o hfresh, asyncMem_append]
  cases hen : (asyncMem pre).1 with
  | some en =>
    have hfr := asyncMem_frozen (Call.subscribe o :: post) (asyncMem pre) (by simp [hen])
    rw [hfr]
    cases en <;> simp [asyncResultOf, hen]
  | none =>
    have hp : asyncMem pre = (none, (asyncMem pre).2) := by rw [← hen]
    rw [asyncExpect_eq_result o post hun', List.foldl_cons]
    conv => rhs; rw [hp]
    rfl

/-- nothing is handed out before the subject terminates -/
theorem asyncExpect_silent (o : Nat) (last : Option Data) (cs : List Call)
    (h : ∀ c ∈ cs, c ≠ .complete ∧ ∀ e, c ≠ .error e) : asyncExpect o last cs = [] := by
  induction cs generalizing last with
  | nil => rfl
  | cons c cs ih =>
    have hc := h c (List.mem_cons_self ..)
    have ih' := fun l => ih l (fun c hc => h c (List.mem_cons_of_mem _ hc))
    cases c with
    | next v => simpa [asyncExpect] using ih' _
    | subscribe o' => simpa [asyncExpect] using ih' _
    | unsubscribe o' =>
      simp only [asyncExpect]; split
      · rfl
      · exact ih' _
    | error e => exact absurd rfl (hc.2 e)
    | complete => exact absurd rfl hc.1

/-- `ended` is still `none` only if it was and no terminal call has been made since -/
theorem asyncMem_quiet (cs : List Call) (p : Option Ended × Option Data) (h : (cs.foldl asyncMemStep p).1 = none) :
    p.1 = none ∧ ∀ c ∈ cs, c ≠ .complete ∧ ∀ e, c ≠ .error e := by
  induction cs generalizing p with
  | nil => exact ⟨h, nofun⟩
  | cons c cs ih =>
    obtain ⟨h1, h2⟩ := ih _ h
    have hp : p.1 = none := by
      cases hx : p.1 with
      | none => rfl
      | some x => simp [asyncMemStep, hx] at h1
    refine ⟨hp, fun c' hc' => ?_⟩
    rcases List.mem_cons.1 hc' with rfl | hc'
    · cases c' <;> simp [asyncMemStep, hp] at h1 ⊢
    · exact h2 c' hc'

/-- **nothing before the terminal** — for every observer, whatever it does -/
theorem async_silent_before_terminal (cs : List Call) (h : (asyncMem cs).1 = none) (o : Nat) :
    logOf (run .async cs) o = [] := by
  by_cases hs : Call.subscribe o ∈ cs
  · obtain ⟨pre, post, rfl, hfresh⟩ := List.eq_append_cons_of_mem hs
    rw [asyncMem_append] at h
    obtain ⟨hpre, hq⟩ := asyncMem_quiet _ _ h
    rw [async_last_only pre post o hfresh, hpre]
    exact asyncExpect_silent o _ post fun c hc => hq c (List.mem_cons_of_mem _ hc)
  · simp [logOf, (good_run .async cs).inv.unseen o (unseen_of_not_subscribed .async cs o hs)]

/-- **`next` (and a second terminal) after the terminal changes nothing at all** -/
theorem async_ignores_after_terminal (cs : List Call) (c : Call) (ev : Ev) (hc : c.toEv? = some ev)
    (h : (asyncMem cs).1.isSome = true) : step .async (run .async cs) c = run .async cs := by
  have hm := async_run_mem cs
  rw [step_emitK .async _ c ev hc]
  simp [emitK, hm.1, h]

/-- **after a terminal no observer is held**, whatever is called afterwards (late subscribers are handed the
    result and are not registered) -/
theorem async_no_observer_once_ended (cs : List Call) (h : (asyncMem cs).1.isSome = true) :
    registered (run .async cs) = [] := by
  have hm := async_run_mem cs
  simp [registered, endedOk_run cs (by rw [hm.1]; exact h)]

example : logOf (run .async [.next (.int 1), .subscribe 0, .next (.int 2), .next (.int 3), .complete]) 0
    = [.next (.int 3), .complete] := by decide
example : logOf (run .async [.subscribe 0, .complete]) 0 = [.complete] := by decide
example : logOf (run .async [.subscribe 0, .next (.int 2), .error 5]) 0 = [.error 5] := by decide
example : logOf (run .async [.subscribe 0, .next (.int 2), .next (.int 3)]) 0 = [] := by decide
/-- the item emitted BEFORE the subscriber arrived is handed out on completion (a per-subscriber `take_last(1)` buffer
    would miss it, F17) -/
example : logOf (run .async [.next (.int 1), .subscribe 0, .complete]) 0 = [.next (.int 1), .complete] := by decide
/-- before / between / after the items / after the terminal: all four get the same; `next 9` after it is ignored -/
example :
    let st := run .async [.subscribe 0, .next (.int 1), .subscribe 1, .next (.int 2), .subscribe 2, .complete,
      .next (.int 9), .subscribe 3]
    (List.range 4).map (logOf st) = List.replicate 4 [.next (.int 2), .complete] ∧ registered st = [] := by decide

/-! ## non-vacuity of the hypotheses used above -/

/-- `delivers_to_current`: a state with a registered live observer (1), an unsubscribed one (0) and an unused id (2) -/
example :
    let st := run .plain [.subscribe 0, .subscribe 1, .next (.int 3), .unsubscribe 0]
    (1 ∈ registered st ∧ aliveOf st 1 = true) ∧ 0 ∉ registered st ∧ 2 ∉ registered st ∧
    logOf (step .plain st (.next (.int 4))) 1 = [.next (.int 3), .next (.int 4)] ∧
    logOf (step .plain st (.next (.int 4))) 0 = [.next (.int 3)] ∧
    logOf (step .plain st (.next (.int 4))) 2 = [] := by decide
/-- `no_observer_after_terminal`: the map was not empty before the terminal -/
example : registered (run .plain [.subscribe 0, .subscribe 1]) = [0, 1] ∧
    registered (step .plain (run .plain [.subscribe 0, .subscribe 1]) (.error 3)) = [] := by decide
/-- `no_observer_after_unsubscribe`: the observer was in the map before, and a later re-use of the id is refused -/
example : 0 ∈ registered (run .replay [.subscribe 0, .next (.int 1)]) ∧
    0 ∉ registered (run .replay ([.subscribe 0, .next (.int 1)] ++ .unsubscribe 0 :: [.subscribe 0, .next (.int 2)])) := by decide
/-- `terminated_not_registered` -/
example : nonTerminal (logOf (run .async [.subscribe 0, .complete]) 0) = false := by decide
/-- hand-over theorems: `hfresh` with `pre` non-empty and other observers around -/
example : Call.subscribe 2 ∉ [Call.subscribe 0, .next (.int 1), .subscribe 1, .unsubscribe 0] := by decide

#print axioms delivers_to_current
#print axioms delivers_to_current_plain
#print axioms registered_alive
#print axioms no_observer_after_terminal
#print axioms terminated_not_registered
#print axioms replay_late_subscriber_not_held
#print axioms no_observer_after_unsubscribe
#print axioms plain_log_spec
#print axioms behavior_handover
#print axioms behavior_forgets_complete
#print axioms replay_handover
#print axioms replay_records_after_terminal
#print axioms async_last_only
#print axioms async_every_subscriber
#print axioms async_silent_before_terminal
#print axioms async_ignores_after_terminal
#print axioms async_no_observer_once_ended
#print axioms log_contract
#print axioms good_run

end Rx.SubjM

/-! `unsubscribeN` / `reap` as record updates, and when they do nothing: the equations the refinement proofs
(`C10Ref*`, `C13Ref*`, which share namespace `Rx.RefR`) rewrite with. -/
namespace Rx.RefR
open Rx.SubjM

theorem upd_self (f : Nat → ObsSt) (o : Nat) : upd f o (f o) = f := by
  funext i; simp only [upd]; split
  · rename_i e; rw [e]
  · rfl

theorem upd_upd (f : Nat → ObsSt) (o : Nat) (a b : ObsSt) : upd (upd f o a) o b = upd f o b := by
  funext i; simp only [upd]; split <;> rfl

theorem unsub_eta (k : Kind) (st : State) (u : Nat) :
    (unsubscribeN k st u).1 =
      { st with observers := (unsubscribeN k st u).1.observers, obs := (unsubscribeN k st u).1.obs } := by
  unfold unsubscribeN; split <;> rfl

theorem unsub_obs_upd (k : Kind) (st : State) (u : Nat) (hs : (st.obs u).seen = true) :
    (unsubscribeN k st u).1.obs = upd st.obs u
      { st.obs u with
        alive := false
        hook := false
        inAlive := (st.obs u).inAlive && !((st.obs u).hook && (k.isPlain || (st.obs u).armed))
        armed := (st.obs u).armed && !(st.obs u).hook
        inHook := if (st.obs u).hook && (k.isPlain || (st.obs u).armed) then none else (st.obs u).inHook } := by
  funext o'
  rw [unsub_obs, upd_apply]
  by_cases e : o' = u
  · simp [e, hs]
  · simp [e]

theorem unsub_noop (k : Kind) (st : State) (u : Nat) (hk : (st.obs u).hook = false)
    (hal : (st.obs u).alive = false) : (unsubscribeN k st u).1 = st := by
  rw [unsub_eta]
  have h1 : (unsubscribeN k st u).1.observers = st.observers := by
    rw [unsub_observers]; cases (st.obs u).inHook <;> simp [reaches, hk]
  have h2 : (unsubscribeN k st u).1.obs = st.obs := by
    funext o'
    rw [unsub_obs]; split
    · rename_i e
      rw [e.1]
      generalize st.obs u = r at *
      cases r; simp_all
    · rfl
  rw [h1, h2]

theorem unsub_eq_reap {k : Kind} (hk : k.isPlain = false) (st : State) (u : Nat) (hs : (st.obs u).seen = true)
    (hh : (st.obs u).hook = true) :
    unsubscribeN k st u = reap { st with obs := upd st.obs u { st.obs u with alive := false, hook := false } } u := by
  cases hin : (st.obs u).inHook <;> cases ha : (st.obs u).armed <;>
    simp [unsubscribeN, reap, hs, hh, ha, hin, hk, upd_upd, upd]

theorem unsub_idle (k : Kind) (st : State) (u : Nat) (hh : (st.obs u).hook = false) (hal : (st.obs u).alive = false) :
    unsubscribeN k st u = (st, none) :=
  Prod.ext (unsub_noop k st u hh hal) (by unfold unsubscribeN; split <;> simp [hh])

theorem reap_idle (st : State) (o : Nat) (h : (st.obs o).alive = true ∨ (st.obs o).armed = false) :
    reap st o = (st, none) := by
  have ⟨hd, ha⟩ : (!(st.obs o).alive && (st.obs o).armed) = false ∧
      ((st.obs o).armed && (st.obs o).alive) = (st.obs o).armed := by rcases h with h | h <;> simp [h]
  unfold reap
  simp only [hd, ha, Bool.false_eq_true, ↓reduceIte, Bool.not_false, Bool.and_true, Bool.false_and]
  rw [show upd st.obs o _ = st.obs from upd_self st.obs o]
  cases (st.obs o).inHook <;> rfl

theorem reap_subset (s : SubjM.State) (o : Nat) : ∀ p ∈ (reap s o).1.observers, p ∈ s.observers := by
  rw [reap_fst]; exact (dropHook_sublist ..).subset

end Rx.RefR
