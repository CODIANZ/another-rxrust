import RxVerif.Kernel.Retry
import RxVerif.Spec.Retry
/-
C04 (recovery operators): `retry(max)`, `retry_when(p)`, `on_error_resume_next(f)` over a flaky cold source
(`attempts : List Stream`, k-th subscription plays the k-th stream, the last one again from then on).

Kernel side  : `Kernel/Retry.lean`  — line-by-line mirror of `do_subscribe` + `StreamController`
Spec side    : `Spec/Retry.lean`    — list-level ReactiveX description
All universally quantified over attempt lists, budgets, predicates, fuel; proved by induction over the
recursion of `do_subscribe` with the controller invariant `Good`, once for an arbitrary resubscription condition
(`go_again`, `resubRun_*`): `retry` and `retry_when` differ only in where their condition stops.
-/
namespace Rx.C04
open Rx Rx.Spec

theorem attemptAt_eq (attempts : List Stream) (i : Nat) : attemptAt attempts i = attemptNo attempts i := by
  fun_induction attemptNo attempts i with
  | case1 => simp [attemptAt]
  | case2 s i => cases i <;> simp [attemptAt]
  | case3 s s' rest => simp [attemptAt]
  | case4 s s' rest i ih =>
    have : attemptAt (s :: s' :: rest) (i + 1) = attemptAt (s' :: rest) i := by
      simp [attemptAt, List.getLastD]
    rw [this, ih]

theorem attemptNo_lt (l : List Stream) (i : Nat) (h : i < l.length) : attemptNo l i = l[i] := by
  simp [← attemptAt_eq, attemptAt, h]

theorem attemptNo_mem_of_ne (l : List Stream) (i : Nat) (hne : l ≠ []) : attemptNo l i ∈ l := by
  rw [← attemptAt_eq, attemptAt, List.getD_eq_getElem?_getD]
  cases h : l[i]? with
  | some s => exact List.mem_of_getElem? h
  | none => rw [Option.getD_none, List.getLastD_eq_getLast?, List.getLast?_eq_some_getLast hne]; exact List.getLast_mem hne

theorem ofScript_toEvs (s : Stream) : Stream.ofScript s.toEvs = s := by
  obtain ⟨xs, t⟩ := s
  induction xs with
  | nil => cases t <;> simp [Stream.toEvs, Ending.toEvs, Stream.ofScript]
  | cons x xs ih =>
    simp only [Stream.toEvs, List.map_cons, List.cons_append, Stream.ofScript] at ih ⊢
    rw [ih]

theorem firstStop_eq (r : Stream → Bool) (l : List Stream) :
    firstStop r l = (l.findIdx? fun s => !r s).map (· + 1) := by
  induction l with
  | nil => rfl
  | cons s rest ih => cases h : r s <;> simp [firstStop, List.findIdx?_cons, h, ih]

theorem firstStop_some (r : Stream → Bool) (l : List Stream) (k : Nat) (h : firstStop r l = some k) :
    1 ≤ k ∧ k ≤ l.length ∧ (∀ i, i + 1 < k → r (attemptNo l i) = true) ∧ r (attemptNo l (k - 1)) = false := by
  rw [firstStop_eq, Option.map_eq_some_iff] at h
  obtain ⟨i, hi, rfl⟩ := h
  obtain ⟨hlt, h1, h2⟩ := List.findIdx?_eq_some_iff_getElem.1 hi
  refine ⟨by omega, hlt, fun j hj => ?_, ?_⟩
  · rw [attemptNo_lt l j (by omega)]; simpa using h2 j (by omega)
  · rw [Nat.add_sub_cancel, attemptNo_lt l i hlt]; simpa using h1

theorem firstStop_none (r : Stream → Bool) (l : List Stream) (hne : l ≠ []) (h : firstStop r l = none) (i : Nat) :
    r (attemptNo l i) = true := by
  rw [firstStop_eq, Option.map_eq_none_iff, List.findIdx?_eq_none_iff] at h
  simpa using h _ (attemptNo_mem_of_ne l i hne)

theorem firstStop_isSome_of_mem (r : Stream → Bool) (l : List Stream) (h : ∃ s ∈ l, r s = false) :
    ∃ k, firstStop r l = some k := by
  cases hk : firstStop r l with
  | some k => exact ⟨k, rfl⟩
  | none =>
    rw [firstStop_eq, Option.map_eq_none_iff, List.findIdx?_eq_none_iff] at hk
    obtain ⟨s, hs, hr⟩ := h
    simpa [hr] using hk s hs

/-- between two `do_subscribe` calls: downstream still subscribed, no upstream observer registered, every unsubscribed
    serial is an old one -/
structure Good (c : Ctl) : Prop where
  alive : c.alive = true
  reg : c.registered = []
  old : ∀ x : Nat, x ∈ c.cancelled → x < c.serial

theorem good_init : Good ({} : Ctl) := ⟨rfl, rfl, by intro x h; simp at h⟩

theorem feed_alive (serial : Nat) (xs : List Data) : ∀ c : Ctl, c.alive = true → serial ∉ c.cancelled →
    c.feed serial xs = { c with out := c.out ++ xs.map Ev.next } := by
  induction xs with
  | nil => intro c _ _; simp [Ctl.feed]
  | cons x xs ih =>
    intro c h1 h2
    have hs : c.sinkNext x = { c with out := c.out ++ [Ev.next x] } := by simp [Ctl.sinkNext, h1]
    rw [Ctl.feed, if_neg h2, hs, ih { c with out := c.out ++ [Ev.next x] } h1 h2]
    simp

/-- the state in which the source of an attempt is subscribed: `new_observer` on a `Good` controller -/
def armed (c : Ctl) : Ctl :=
  { c with serial := c.serial + 1, registered := [c.serial], subs := c.subs + 1 }

theorem newObserver_good {c : Ctl} (g : Good c) :
    ({ c.newObserver.2 with subs := c.newObserver.2.subs + 1 } : Ctl) = armed c := by
  simp [Ctl.newObserver, g.reg, armed]

theorem play_good {c : Ctl} (g : Good c) (s : Stream) :
    (armed c).playInto c.serial s =
      match s.2 with
      | .complete =>
        ({ armed c with out := c.out ++ s.1.map Ev.next ++ [Ev.complete], alive := false, registered := [] }, none)
      | .error e => ({ armed c with out := c.out ++ s.1.map Ev.next }, some e)
      | .silent => ({ armed c with out := c.out ++ s.1.map Ev.next }, none) := by
  have hfresh : c.serial ∉ c.cancelled := fun h => Nat.lt_irrefl _ (g.old _ h)
  rw [Ctl.playInto, feed_alive c.serial s.1 (armed c) g.alive hfresh]
  cases s.2 <;> simp [armed, hfresh, Ctl.sinkComplete, g.alive, Ctl.finalize]

/-- the state after `upstream_abort_observe(&serial)` in the error closure -/
def aborted (c : Ctl) (s : Stream) : Ctl :=
  { c with serial := c.serial + 1, registered := [], cancelled := c.cancelled ++ [c.serial],
           subs := c.subs + 1, out := c.out ++ s.1.map Ev.next }

theorem aborted_good {c : Ctl} (g : Good c) (s : Stream) : Good (aborted c s) := by
  refine ⟨g.alive, rfl, ?_⟩
  intro x hx
  simp only [aborted, List.mem_append, List.mem_singleton] at hx ⊢
  rcases hx with h | h
  · have := g.old x h; omega
  · omega

theorem abort_eq {c : Ctl} (s : Stream) :
    ({ armed c with out := c.out ++ s.1.map Ev.next } : Ctl).abortObserve c.serial = aborted c s := by
  simp [Ctl.abortObserve, armed, aborted]

/-- does attempt number `n` (playing `s`) lead to a resubscription? -/
def resub (again : Nat → Nat → Bool) (s : Stream) (n : Nat) : Bool :=
  match s.2 with
  | .error e => again n e
  | _ => false

theorem resubGo_succ (again : Nat → Nat → Bool) (attempts : List Stream) (fuel j : Nat) {c : Ctl} (g : Good c) :
    resubGo again attempts (fuel + 1) (j + 1) c =
      match (armed c).playInto c.serial (attemptNo attempts j) with
      | (c2, none) => c2
      | (c2, some e) =>
        if again (j + 1) e then resubGo again attempts fuel (j + 2) (c2.abortObserve c.serial)
        else c2.sinkError e := by
  rw [resubGo, ← newObserver_good g, Nat.add_sub_cancel, attemptAt_eq]; rfl

theorem step_again (again : Nat → Nat → Bool) (attempts : List Stream) (fuel j : Nat) {c : Ctl} (g : Good c)
    (h : resub again (attemptNo attempts j) (j + 1) = true) :
    resubGo again attempts (fuel + 1) (j + 1) c
      = resubGo again attempts fuel (j + 2) (aborted c (attemptNo attempts j)) := by
  rw [resubGo_succ again attempts fuel j g, play_good g]
  unfold resub at h
  split at h
  · rename_i e he
    simp only [he, h, if_true, abort_eq]
  · cases h

theorem step_stop (again : Nat → Nat → Bool) (attempts : List Stream) (fuel j : Nat) {c : Ctl} (g : Good c)
    (h : resub again (attemptNo attempts j) (j + 1) = false) :
    (resubGo again attempts (fuel + 1) (j + 1) c).out = c.out ++ (attemptNo attempts j).toEvs ∧
    (resubGo again attempts (fuel + 1) (j + 1) c).subs = c.subs + 1 := by
  rw [resubGo_succ again attempts fuel j g, play_good g]
  unfold resub at h
  cases he : (attemptNo attempts j).2 <;>
    simp_all [Stream.toEvs, Ending.toEvs, armed, Ctl.sinkError, Ctl.finalize, g.alive]

/-- items of attempts j+1 … j+len -/
def itemsFrom (attempts : List Stream) (j len : Nat) : List Ev :=
  (List.range' j len).flatMap (fun i => (attemptNo attempts i).1.map Ev.next)

theorem itemsFrom_succ (attempts : List Stream) (j len : Nat) :
    itemsFrom attempts j (len + 1) = (attemptNo attempts j).1.map Ev.next ++ itemsFrom attempts (j + 1) len := by
  simp [itemsFrom, List.range'_succ]

/-- the attempts of index `j … j+n-1` (0-based; `resubGo` counts from 1) all resubscribe, from a `Good` controller: their
    items are out, `n` subscriptions were made, and the recursion stands before the attempt of index `j + n` with a `Good`
    controller again -/
theorem go_again (again : Nat → Nat → Bool) (attempts : List Stream) :
    ∀ (n j fuel : Nat) (c : Ctl), Good c →
      (∀ i, j ≤ i → i < j + n → resub again (attemptNo attempts i) (i + 1) = true) →
      ∃ c', Good c' ∧ c'.out = c.out ++ itemsFrom attempts j n ∧ c'.subs = c.subs + n ∧
        resubGo again attempts (fuel + n) (j + 1) c = resubGo again attempts fuel (j + n + 1) c'
  | 0, _, _, c, g, _ => ⟨c, g, by simp [itemsFrom], rfl, rfl⟩
  | n + 1, j, fuel, c, g, hre => by
    obtain ⟨c', g', h1, h2, h3⟩ := go_again again attempts n (j + 1) fuel _ (aborted_good g (attemptNo attempts j))
      fun i h1 h2 => hre i (by omega) (by omega)
    refine ⟨c', g', by rw [h1, itemsFrom_succ]; simp [aborted], by rw [h2]; simp only [aborted]; omega, ?_⟩
    rw [← Nat.add_assoc, step_again again attempts (fuel + n) j g (hre j (Nat.le_refl j) (by omega)), h3,
      Nat.add_right_comm j 1 n]
    rfl

/-- every attempt resubscribes: the recursion uses all its fuel (Rust: never returns) -/
theorem go_all_fuel (again : Nat → Nat → Bool) (attempts : List Stream) (fuel j : Nat) (c : Ctl) (g : Good c)
    (hre : ∀ i, j ≤ i → i < j + fuel → resub again (attemptNo attempts i) (i + 1) = true) :
    (resubGo again attempts fuel (j + 1) c).subs = c.subs + fuel := by
  obtain ⟨c', _, _, h2, h3⟩ := go_again again attempts fuel j 0 c g hre
  rw [Nat.zero_add] at h3
  rw [h3, resubGo, h2]

theorem error_mem_toEvs (s : Stream) (e : Nat) : Ev.error e ∈ s.toEvs ↔ s.2 = .error e := by
  cases h : s.2 <;> simp [Stream.toEvs, h, Ending.toEvs, eq_comm]

/-- errors delivered downstream are errors of attempts -/
theorem go_error_identity (again : Nat → Nat → Bool) (attempts : List Stream) (e : Nat) :
    ∀ (fuel j : Nat) (c : Ctl), Good c → Ev.error e ∈ (resubGo again attempts fuel (j + 1) c).out →
      Ev.error e ∈ c.out ∨ ∃ s ∈ attempts, s.2 = .error e := by
  intro fuel
  induction fuel with
  | zero => intro j c _ h; exact .inl h
  | succ fuel ih =>
    intro j c g h
    cases hr : resub again (attemptNo attempts j) (j + 1) with
    | true =>
      rw [step_again again attempts fuel j g hr] at h
      exact (ih (j + 1) _ (aborted_good g _) h).imp_left fun h' => by simpa [aborted] using h'
    | false =>
      rw [(step_stop again attempts fuel j g hr).1] at h
      refine (List.mem_append.mp h).imp_right fun h' => ?_
      have hs := (error_mem_toEvs _ e).1 h'
      by_cases hne : attempts = []
      · subst hne; cases hs
      · exact ⟨_, attemptNo_mem_of_ne attempts j hne, hs⟩

/-! `retryRun max` unfolds to `resubRun (retryAgain max)`, `retryWhenRun p` to `resubRun (retryWhenAgain p)`. -/

def resubRun (again : Nat → Nat → Bool) (attempts : List Stream) (fuel : Nat) : List Ev × Nat :=
  ((resubGo again attempts fuel 1 {}).out, (resubGo again attempts fuel 1 {}).subs)

structure StopsAt (again : Nat → Nat → Bool) (attempts : List Stream) (m : Nat) : Prop where
  pos : 1 ≤ m
  before : ∀ i, i + 1 < m → resub again (attemptNo attempts i) (i + 1) = true
  stop : resub again (attemptNo attempts (m - 1)) m = false

theorem resubRun_eq {again : Nat → Nat → Bool} {attempts : List Stream} {m : Nat} (h : StopsAt again attempts m)
    (fuel : Nat) (hfuel : m ≤ fuel) : resubRun again attempts fuel = attemptsUpTo attempts m := by
  obtain ⟨d, rfl⟩ : ∃ d, m = d + 1 := ⟨m - 1, by have := h.pos; omega⟩
  obtain ⟨f, rfl⟩ : ∃ f, fuel = f + 1 + d := ⟨fuel - (d + 1), by omega⟩
  -- `d` attempts that resubscribe, then the one that stops
  obtain ⟨c', g', h1, h2, h3⟩ := go_again again attempts d 0 (f + 1) {} good_init fun i _ hi => h.before i (by omega)
  rw [Nat.zero_add] at h3
  obtain ⟨s1, s2⟩ := step_stop again attempts f d g' h.stop
  simp [resubRun, attemptsUpTo, h3, s1, s2, h1, h2, itemsFrom, Stream.toEvs, List.range_succ, List.range_eq_range']

theorem resubRun_subs {again : Nat → Nat → Bool} {attempts : List Stream} {m : Nat} (h : StopsAt again attempts m)
    (fuel : Nat) : (resubRun again attempts fuel).2 = min fuel m := by
  by_cases hf : m ≤ fuel
  · rw [resubRun_eq h fuel hf]; simp only [attemptsUpTo]; omega
  · have := go_all_fuel again attempts fuel 0 {} good_init fun i _ hi => h.before i (by omega)
    simp only [resubRun, this]
    show 0 + fuel = _
    omega

theorem resubRun_diverges {again : Nat → Nat → Bool} {attempts : List Stream}
    (h : ∀ i, resub again (attemptNo attempts i) (i + 1) = true) (fuel : Nat) :
    (resubRun again attempts fuel).2 = fuel :=
  (go_all_fuel again attempts fuel 0 {} good_init fun i _ _ => h i).trans (Nat.zero_add fuel)

theorem resubRun_error (again : Nat → Nat → Bool) (attempts : List Stream) (fuel e : Nat)
    (h : Ev.error e ∈ (resubRun again attempts fuel).1) : ∃ s ∈ attempts, s.2 = .error e :=
  (go_error_identity again attempts e fuel 0 {} good_init h).resolve_left (by simp)

theorem resub_retry (max : Nat) (s : Stream) (n : Nat) :
    resub (retryAgain max) s n = (failed s && (max == 0 || decide (n < max))) := by
  unfold resub failed retryAgain
  cases s.2 <;> simp

theorem retryCount_stops (max : Nat) (attempts : List Stream) (hne : attempts ≠ [])
    (hfin : max ≠ 0 ∨ ∃ k, firstStop failed attempts = some k) :
    StopsAt (retryAgain max) attempts (retryCount max attempts) := by
  unfold retryCount
  cases hk : firstStop failed attempts with
  | some k =>
    obtain ⟨h1, _, h3, h4⟩ := firstStop_some failed attempts k hk
    by_cases hm : max = 0
    · subst hm
      exact ⟨h1, fun i hi => by simp [resub_retry, h3 i hi], by simp [resub_retry, h4]⟩
    · simp only [hm, if_false]
      refine ⟨by omega, fun i hi => ?_, ?_⟩
      · simp [resub_retry, h3 i (by omega), show i + 1 < max by omega]
      · by_cases hle : k ≤ max
        · simp [resub_retry, show min k max = k by omega, h4]
        · simp [resub_retry, show min k max = max by omega, hm]
  | none =>
    have hall := firstStop_none failed attempts hne hk
    have hm : max ≠ 0 := by
      rcases hfin with h | ⟨k, h⟩
      · exact h
      · rw [hk] at h; cases h
    exact ⟨Nat.pos_of_ne_zero hm, fun i hi => by simp [resub_retry, hall i, hi],
      by simp [resub_retry, hm]⟩

theorem retry_run_eq (max : Nat) (attempts : List Stream) (fuel : Nat) (hne : attempts ≠ [])
    (hfin : max ≠ 0 ∨ ∃ k, firstStop failed attempts = some k)
    (hfuel : retryCount max attempts ≤ fuel) :
    retryRun max attempts fuel = retrySpec max attempts :=
  resubRun_eq (retryCount_stops max attempts hne hfin) fuel hfuel

/-- **retry(max), max ≠ 0** — with fuel for `retryCount max attempts` (≤ max) calls of `do_subscribe`, the
mirror of the Rust recursion delivers exactly the spec's events and makes exactly the spec's number of
subscriptions. -/
theorem retry_spec (max : Nat) (attempts : List Stream) (fuel : Nat) (hne : attempts ≠ [])
    (hmax : max ≠ 0) (hfuel : retryCount max attempts ≤ fuel) :
    retryRun max attempts fuel = retrySpec max attempts :=
  retry_run_eq max attempts fuel hne (Or.inl hmax) hfuel

theorem retryCount_le_max (max : Nat) (attempts : List Stream) (hmax : max ≠ 0) :
    retryCount max attempts ≤ max := by
  unfold retryCount
  split
  · simp only [hmax, if_false]; omega
  · omega

/-- the fuel bound `max ≤ fuel` is always sufficient -/
theorem retry_spec' (max : Nat) (attempts : List Stream) (fuel : Nat) (hne : attempts ≠ [])
    (hmax : max ≠ 0) (hfuel : max ≤ fuel) :
    retryRun max attempts fuel = retrySpec max attempts :=
  retry_spec max attempts fuel hne hmax (Nat.le_trans (retryCount_le_max max attempts hmax) hfuel)

/-- **retry(0)** (unbounded) over a source one of whose attempts does not fail -/
theorem retry_unbounded_spec (attempts : List Stream) (fuel : Nat)
    (hok : ∃ s ∈ attempts, failed s = false) (hfuel : retryCount 0 attempts ≤ fuel) :
    retryRun 0 attempts fuel = retrySpec 0 attempts := by
  have hne : attempts ≠ [] := by
    obtain ⟨s, hs, _⟩ := hok
    intro h; simp [h] at hs
  exact retry_run_eq 0 attempts fuel hne (Or.inr (firstStop_isSome_of_mem failed attempts hok)) hfuel

/-- for `retry(0)` the count is the number of the first non-failing attempt, at most the list length -/
theorem retryCount_zero_le_length (attempts : List Stream) (hok : ∃ s ∈ attempts, failed s = false) :
    retryCount 0 attempts ≤ attempts.length := by
  obtain ⟨k, hk⟩ := firstStop_isSome_of_mem failed attempts hok
  have := (firstStop_some failed attempts k hk).2.1
  simp [retryCount, hk, this]

/-- number of subscriptions for ANY fuel: the spec's count, cut off by the fuel -/
theorem retry_count_min (max : Nat) (attempts : List Stream) (fuel : Nat) (hne : attempts ≠ [])
    (hfin : max ≠ 0 ∨ ∃ k, firstStop failed attempts = some k) :
    (retryRun max attempts fuel).2 = min fuel (retryCount max attempts) :=
  resubRun_subs (retryCount_stops max attempts hne hfin) fuel

/-- **retry(max), max ≠ 0, never subscribes more than `max` times** (any fuel) -/
theorem retry_subscriptions_le (max : Nat) (attempts : List Stream) (fuel : Nat) (hne : attempts ≠ [])
    (hmax : max ≠ 0) : (retryRun max attempts fuel).2 ≤ max := by
  rw [retry_count_min max attempts fuel hne (Or.inl hmax)]
  have := retryCount_le_max max attempts hmax
  omega

/-- **exact number of subscriptions of retry(max)**: `min k max` where `k` is the number of the first
attempt not ending in an error; `max` if there is none.  In particular `retry(1)` subscribes once. -/
theorem retry_count_exact (max : Nat) (attempts : List Stream) (fuel : Nat) (hne : attempts ≠ [])
    (hmax : max ≠ 0) (hfuel : max ≤ fuel) :
    (retryRun max attempts fuel).2 =
      match firstStop failed attempts with
      | some k => min k max
      | none => max := by
  rw [retry_spec' max attempts fuel hne hmax hfuel]
  simp only [retrySpec, attemptsUpTo, retryCount]
  split <;> simp_all

/-- `retry(1)` never resubscribes: one subscription, the first attempt forwarded unchanged -/
theorem retry_one (attempts : List Stream) (fuel : Nat) (hne : attempts ≠ []) (hfuel : 1 ≤ fuel) :
    retryRun 1 attempts fuel = ((attemptNo attempts 0).toEvs, 1) := by
  rw [retry_spec' 1 attempts fuel hne (by omega) hfuel]
  have h1 := retryCount_le_max 1 attempts (by omega)
  have h2 := (retryCount_stops 1 attempts hne (Or.inl (by omega))).pos
  have : retryCount 1 attempts = 1 := by omega
  simp [retrySpec, attemptsUpTo, this, Stream.toEvs, List.range_succ]

/-- **retry(0) over a source that never stops failing does not terminate**: whatever the fuel, all of it is
used for subscriptions (the Rust recursion nests without bound). -/
theorem retry_unbounded_diverges (attempts : List Stream) (fuel : Nat) (hne : attempts ≠ [])
    (hall : ∀ s ∈ attempts, failed s = true) : (retryRun 0 attempts fuel).2 = fuel :=
  resubRun_diverges (fun i => by simp [resub_retry, hall _ (attemptNo_mem_of_ne attempts i hne)]) fuel

/-- **error identity**: every error `retry` delivers is the error some attempt ended with -/
theorem retry_error_identity (max : Nat) (attempts : List Stream) (fuel e : Nat)
    (h : Ev.error e ∈ (retryRun max attempts fuel).1) : ∃ s ∈ attempts, s.2 = .error e :=
  resubRun_error _ attempts fuel e h

theorem resub_retryWhen (p : Nat → Bool) (s : Stream) (n : Nat) :
    resub (retryWhenAgain p) s n = failedWith p s := by
  unfold resub failedWith retryWhenAgain
  cases s.2 <;> simp

theorem firstStop_stops (p : Nat → Bool) (attempts : List Stream) (k : Nat)
    (hk : firstStop (failedWith p) attempts = some k) : StopsAt (retryWhenAgain p) attempts k := by
  obtain ⟨h1, _, h3, h4⟩ := firstStop_some (failedWith p) attempts k hk
  exact ⟨h1, fun i hi => by simpa [resub_retryWhen] using h3 i hi, by simpa [resub_retryWhen] using h4⟩

/-- **retry_when(p)**: `k` = number of the first attempt that does not fail with an error satisfying `p`;
with fuel for `k` calls the run is the items of attempts 1..k and the terminal of attempt k; k subscriptions. -/
theorem retry_when_spec (p : Nat → Bool) (attempts : List Stream) (fuel k : Nat)
    (hk : firstStop (failedWith p) attempts = some k) (hfuel : k ≤ fuel) :
    retryWhenRun p attempts fuel = retryWhenSpec p attempts ∧
    retryWhenSpec? p attempts = some (retryWhenRun p attempts fuel) := by
  have e : retryWhenRun p attempts fuel = attemptsUpTo attempts k :=
    resubRun_eq (firstStop_stops p attempts k hk) fuel hfuel
  exact ⟨by simp [e, retryWhenSpec, hk], by simp [e, retryWhenSpec?, hk]⟩

/-- the same with the hypothesis spelled out on the attempts: some attempt does not fail retryably -/
theorem retry_when_spec' (p : Nat → Bool) (attempts : List Stream) (fuel : Nat)
    (hok : ∃ s ∈ attempts, failedWith p s = false) (hfuel : attempts.length ≤ fuel) :
    retryWhenRun p attempts fuel = retryWhenSpec p attempts := by
  obtain ⟨k, hk⟩ := firstStop_isSome_of_mem (failedWith p) attempts hok
  have := (firstStop_some (failedWith p) attempts k hk).2.1
  exact (retry_when_spec p attempts fuel k hk (by omega)).1

/-- number of subscriptions of retry_when for ANY fuel -/
theorem retry_when_count_min (p : Nat → Bool) (attempts : List Stream) (fuel k : Nat)
    (hk : firstStop (failedWith p) attempts = some k) :
    (retryWhenRun p attempts fuel).2 = min fuel k :=
  resubRun_subs (firstStop_stops p attempts k hk) fuel

/-- retry_when whose predicate accepts the error of every attempt does not terminate -/
theorem retry_when_diverges (p : Nat → Bool) (attempts : List Stream) (fuel : Nat) (hne : attempts ≠ [])
    (hnone : firstStop (failedWith p) attempts = none) : (retryWhenRun p attempts fuel).2 = fuel :=
  resubRun_diverges (fun i => by simp [resub_retryWhen, firstStop_none (failedWith p) attempts hne hnone]) fuel

theorem retry_when_error_identity (p : Nat → Bool) (attempts : List Stream) (fuel e : Nat)
    (h : Ev.error e ∈ (retryWhenRun p attempts fuel).1) : ∃ s ∈ attempts, s.2 = .error e :=
  resubRun_error _ attempts fuel e h

/-- an error delivered by retry_when is one the predicate rejected, provided the run had enough fuel -/
theorem retry_when_error_rejected (p : Nat → Bool) (attempts : List Stream) (fuel k e : Nat)
    (hk : firstStop (failedWith p) attempts = some k) (hfuel : k ≤ fuel)
    (h : Ev.error e ∈ (retryWhenRun p attempts fuel).1) : p e = false := by
  have h4 := (firstStop_stops p attempts k hk).stop
  rw [(retry_when_spec p attempts fuel k hk hfuel).1] at h
  simp only [retryWhenSpec, attemptsUpTo, hk, Option.getD_some, List.mem_append, List.mem_flatMap,
    List.mem_map, reduceCtorEq, and_false, exists_false, false_or] at h
  cases he : (attemptNo attempts (k - 1)).2 <;> simp_all [Ending.toEvs, resub, retryWhenAgain]

theorem resume_go (f : Nat → Stream) (s : Stream) {c : Ctl} (g : Good c) :
    (resumeGo f s c).out = c.out ++ resumeSpec f s := by
  -- `f e` is subscribed like a last attempt of `retry`
  have e : resumeGo f s c =
      match (armed c).playInto c.serial s with
      | (c2, none) => c2
      | (c2, some e) => resubGo (fun _ _ => false) [f e] 1 1 (c2.abortObserve c.serial) := by
    rw [resumeGo, ← newObserver_good g]; rfl
  rw [e, play_good g]
  unfold resumeSpec
  cases he : s.2 with
  | silent => simp [Ending.toEvs]
  | complete => simp [Ending.toEvs]
  | error e =>
    simp only [abort_eq]
    rw [(step_stop _ [f e] 0 0 (aborted_good g s) (by unfold resub; split <;> rfl)).1]
    simp [aborted, attemptNo]

/-- **on_error_resume_next(f)**: the source's items, then — after `error e` — whatever `f e` plays; otherwise
the source's own terminal.  The error `e` itself is never delivered. -/
theorem resume_spec (f : Nat → Stream) (s : Stream) : resumeRun f s = resumeSpec f s := by
  simpa [resumeRun, resumeCtl] using resume_go f s good_init

/-- an error delivered by on_error_resume_next is the error of the resumed observable `f e` -/
theorem resume_error_identity (f : Nat → Stream) (s : Stream) (e' : Nat)
    (h : Ev.error e' ∈ resumeRun f s) : ∃ e, s.2 = .error e ∧ (f e).2 = .error e' := by
  rw [resume_spec] at h
  unfold resumeSpec at h
  cases he : s.2 with
  | silent => simp [he, Ending.toEvs] at h
  | complete => simp [he, Ending.toEvs] at h
  | error e =>
    simp only [he, List.mem_append, List.mem_map, reduceCtorEq, and_false, exists_false, false_or] at h
    exact ⟨e, rfl, (error_mem_toEvs _ _).1 h⟩

section Examples
def fail1 : Stream := ([.int 1, .int 2], .error 7)
def fail2 : Stream := ([.int 3], .error 8)
def okay : Stream := ([.int 4], .complete)

-- budget 1 = no resubscription: the first failure is forwarded
example : retryRun 1 [fail1, fail2, okay] 5 = ([.next (.int 1), .next (.int 2), .error 7], 1) := by decide
example : retryRun 1 [fail1, fail2, okay] 5 = retrySpec 1 [fail1, fail2, okay] := by decide
-- budget 3 over [fail, fail, ok]: two resubscriptions, items of all three attempts, completion
example : retryRun 3 [fail1, fail2, okay] 5
    = ([.next (.int 1), .next (.int 2), .next (.int 3), .next (.int 4), .complete], 3) := by decide
example : retrySpec 3 [fail1, fail2, okay]
    = ([.next (.int 1), .next (.int 2), .next (.int 3), .next (.int 4), .complete], 3) := by decide
-- budget 2 over the same source: the SECOND error is the one forwarded
example : retryRun 2 [fail1, fail2, okay] 5
    = ([.next (.int 1), .next (.int 2), .next (.int 3), .error 8], 2) := by decide
-- hypotheses of retry_spec / retry_unbounded_spec are satisfiable
example : [fail1, fail2, okay] ≠ [] ∧ (3 : Nat) ≠ 0 ∧ retryCount 3 [fail1, fail2, okay] ≤ 5 := by decide
example : (∃ s ∈ [fail1, fail2, okay], failed s = false) ∧ retryCount 0 [fail1, fail2, okay] ≤ 3 :=
  ⟨⟨okay, by decide, by decide⟩, by decide⟩
example : retryRun 0 [fail1, fail2, okay] 3 = retrySpec 0 [fail1, fail2, okay] := by decide
-- the last attempt is repeated: budget 5 over [fail1, fail2] subscribes 5 times
example : retryRun 5 [fail1, fail2] 9
    = ([.next (.int 1), .next (.int 2), .next (.int 3), .next (.int 3), .next (.int 3), .next (.int 3), .error 8], 5) := by
  decide
-- divergence hypothesis satisfiable; with fuel 4 all 4 units are used
example : (∀ s ∈ [fail1, fail2], failed s = true) ∧ (retryRun 0 [fail1, fail2] 4).2 = 4 := by decide
-- retry_when: retry only on error 7 (first the hypothesis of retry_when_spec)
example : firstStop (failedWith (fun e => e == 7)) [fail1, fail2, okay] = some 2 := by decide
example : retryWhenRun (fun e => e == 7) [fail1, fail2, okay] 5
    = ([.next (.int 1), .next (.int 2), .next (.int 3), .error 8], 2) := by decide
example : resumeRun (fun e => ([.int e], .complete)) fail1
    = [.next (.int 1), .next (.int 2), .next (.int 7), .complete] := by decide
example : resumeRun (fun e => ([.int e], .error (e + 1))) fail1
    = [.next (.int 1), .next (.int 2), .next (.int 7), .error 8] := by decide
example : resumeRun (fun _ => okay) okay = [.next (.int 4), .complete] := by decide
-- error identity hypotheses satisfiable
example : Ev.error 8 ∈ (retryRun 2 [fail1, fail2, okay] 5).1 := by decide
example : Ev.error 8 ∈ resumeRun (fun e => ([.int e], .error (e + 1))) fail1 := by decide
end Examples

#print axioms retry_spec
#print axioms retry_spec'
#print axioms retry_unbounded_spec
#print axioms retry_subscriptions_le
#print axioms retry_count_exact
#print axioms retry_count_min
#print axioms retry_one
#print axioms retry_unbounded_diverges
#print axioms retry_error_identity
#print axioms retry_when_spec
#print axioms retry_when_spec'
#print axioms retry_when_count_min
#print axioms retry_when_diverges
#print axioms retry_when_error_identity
#print axioms retry_when_error_rejected
#print axioms resume_spec
#print axioms resume_error_identity

end Rx.C04
