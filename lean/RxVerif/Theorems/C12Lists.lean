/-
What the C12 proofs share across the three LTSs and what does not mention their states: logs of `(call index, item)`
pairs as contiguous blocks of the program (`Asc`, `Desc`, `top`); `setAt`, the function update that the models' `setObs` /
`setThr` are, with its induction principle; the inner subject's observer map against the observer records (`MapInv`);
where a broadcasting thread stands with respect to each observer and what a subscribed observer must have received
from it by then (`pend`, `FullAt`); the decidable check behind the non-vacuity runs of the partial
theorems (`quietB`, `replayOk`); and the list and option facts these need.
-/
import RxVerif.Data

namespace Rx.Conc

/-- oldest-first log: indices `a, a+1, ..` and every entry `(i, v)` has `P[i] = v` -/
def Asc (P : List Data) : Nat → List (Nat × Data) → Prop
  | _, [] => True
  | a, (i, v) :: r => i = a ∧ P[a]? = some v ∧ Asc P (a + 1) r

theorem Asc.eq_nil : ∀ {a : Nat} {M : List (Nat × Data)}, Asc [] a M → M = []
  | _, [], _ => rfl
  | _, (_, _) :: _, h => nomatch h.2.1

theorem Asc.append {P : List Data} : ∀ {a : Nat} {M : List (Nat × Data)} {v : Data}, Asc P a M →
    P[a + M.length]? = some v → Asc P a (M ++ [(a + M.length, v)])
  | a, [], v, _, hv => by simpa [Asc] using hv
  | a, (i, w) :: r, v, h, hv => by
    obtain ⟨h1, h2, h3⟩ := h
    refine ⟨h1, h2, ?_⟩
    have : a + ((i, w) :: r).length = a + 1 + r.length := by simp; omega
    rw [this] at hv ⊢
    exact Asc.append h3 hv

theorem Asc.unique {P : List Data} : ∀ {a : Nat} {M M' : List (Nat × Data)}, Asc P a M → Asc P a M' →
    M.length = M'.length → M = M'
  | _, [], [], _, _, _ => rfl
  | _, [], _ :: _, _, _, h => by simp at h
  | _, _ :: _, [], _, _, h => by simp at h
  | a, (i, v) :: r, (j, w) :: r', h, h', hl => by
    obtain ⟨h1, h2, h3⟩ := h
    obtain ⟨h1', h2', h3'⟩ := h'
    have := Asc.unique h3 h3' (by simpa using hl)
    subst h1 h1' this
    rw [h2] at h2'
    simp only [Option.some.injEq] at h2'
    subst h2'; rfl

theorem Asc.vals {P : List Data} : ∀ {a : Nat} {M : List (Nat × Data)}, Asc P a M →
    M.map (·.2) = (P.drop a).take M.length
  | _, [], _ => by simp
  | a, (i, v) :: r, h => by
    obtain ⟨h1, h2, h3⟩ := h
    have ih := Asc.vals h3
    obtain ⟨hlt, h2⟩ := List.getElem?_eq_some_iff.mp h2
    rw [List.drop_eq_getElem_cons hlt]
    simp only [List.map_cons, List.length_cons, List.take_succ_cons, ih]
    rw [h2]

theorem Asc.indices {P : List Data} : ∀ {a : Nat} {M : List (Nat × Data)}, Asc P a M →
    M.map (·.1) = List.range' a M.length
  | _, [], _ => by simp
  | a, (i, v) :: r, h => by
    obtain ⟨h1, _, h3⟩ := h
    have ih := Asc.indices h3
    simp [List.range'_succ, ih, h1]

theorem Asc.length_le {P : List Data} : ∀ {a : Nat} {M : List (Nat × Data)}, Asc P a M → a + M.length ≤ P.length ∨ M = []
  | _, [], _ => .inr rfl
  | a, (i, v) :: r, h => by
    obtain ⟨_, h2, h3⟩ := h
    left
    have hlt := (List.getElem?_eq_some_iff.mp h2).1
    rcases Asc.length_le h3 with h | h
    · simp; omega
    · subst h; simp; omega

/-- one more than the index of the newest entry (0 for the empty log) -/
def top : List (Nat × Data) → Nat
  | [] => 0
  | (i, _) :: _ => i + 1

/-- newest-first log: every entry `(i, v)` has `P[i] = v` and the entry below it has index `i - 1` -/
def Desc (P : List Data) : List (Nat × Data) → Prop
  | [] => True
  | (i, v) :: r => P[i]? = some v ∧ (r = [] ∨ top r = i) ∧ Desc P r

theorem Desc.eq_nil : ∀ {L : List (Nat × Data)}, Desc [] L → L = []
  | [], _ => rfl
  | (_, _) :: _, h => nomatch h.1

theorem Desc.cons {P : List Data} {L : List (Nat × Data)} {k : Nat} {v : Data}
    (h : Desc P L) (hv : P[k]? = some v) (ht : L ≠ [] → top L = k) : Desc P ((k, v) :: L) := by
  refine ⟨hv, ?_, h⟩
  by_cases hL : L = []
  · exact .inl hL
  · exact .inr (ht hL)

theorem Desc.length_le_top {P : List Data} : ∀ {L : List (Nat × Data)}, Desc P L → L.length ≤ top L
  | [], _ => by simp [top]
  | (i, v) :: r, h => by
    obtain ⟨_, h2, h3⟩ := h
    have := Desc.length_le_top h3
    rcases h2 with rfl | h2
    · simp [top]
    · simp [top]; omega

theorem Desc.asc {P : List Data} : ∀ {L : List (Nat × Data)}, Desc P L → Asc P (top L - L.length) L.reverse
  | [], _ => trivial
  | (i, v) :: r, ⟨h1, h2, h3⟩ => by
    have hle := Desc.length_le_top h3
    have ih := Desc.asc h3
    have hb : top ((i, v) :: r) - ((i, v) :: r).length = i - r.length := Nat.add_sub_add_right ..
    rw [List.reverse_cons, hb]
    rcases h2 with rfl | h2
    · exact ⟨rfl, h1, trivial⟩
    · rw [h2] at ih hle
      have hi : i - r.length + r.reverse.length = i := by rw [List.length_reverse]; exact Nat.sub_add_cancel hle
      have := ih.append (v := v) (hi.symm ▸ h1)
      rwa [hi] at this

theorem Desc.block {P : List Data} {L : List (Nat × Data)} (h : Desc P L) :
    (L.reverse.map (·.2)) = (P.drop (top L - L.length)).take L.length :=
  List.length_reverse ▸ h.asc.vals

theorem Desc.indices {P : List Data} {L : List (Nat × Data)} (h : Desc P L) :
    (L.reverse.map (·.1)) = List.range' (top L - L.length) L.length :=
  List.length_reverse ▸ h.asc.indices

/-- a list of tagged entries is a permutation of its per-tag sub-lists laid end to end -/
theorem map_perm_flatMap_filter {β γ : Type} (f : Nat × β → γ) : ∀ (n : Nat) (l : List (Nat × β)),
    (∀ x ∈ l, x.1 < n) → (l.map f).Perm ((List.range n).flatMap fun t => (l.filter (·.1 == t)).map f)
  | 0, l, hl => by
    cases l with
    | nil => simp
    | cons x r => exact absurd (hl x (by simp)) (by omega)
  | n + 1, l, hl => by
    have ih := map_perm_flatMap_filter f n (l.filter (fun x => !(x.1 == n))) (by
      intro x hx
      have := List.mem_filter.mp hx
      have h1 := hl x this.1
      have h2 : x.1 ≠ n := by simpa using this.2
      omega)
    have hcongr : ((List.range n).flatMap fun t => ((l.filter (fun x => !(x.1 == n))).filter (·.1 == t)).map f)
        = (List.range n).flatMap fun t => (l.filter (·.1 == t)).map f := by
      simp only [List.flatMap]
      congr 1
      apply List.map_congr_left
      intro t ht
      have htn : t < n := List.mem_range.mp ht
      rw [List.filter_filter]
      congr 1
      apply List.filter_congr
      intro x _
      by_cases hx : x.1 = t
      · simp [hx]; omega
      · simp [hx]
    rw [hcongr] at ih
    rw [List.range_succ, List.flatMap_append]
    simp only [List.flatMap_cons, List.flatMap_nil, List.append_nil]
    have hsplit := (List.filter_append_perm (fun x : Nat × β => x.1 == n) l).symm
    refine (hsplit.map f).trans ?_
    rw [List.map_append]
    exact List.perm_append_comm.trans (List.Perm.append_right _ ih)

theorem drop_cons_inv {α : Type} {P : List α} {c : Nat} {v : α} {r : List α} (h : v :: r = P.drop c) :
    c + 1 ≤ P.length ∧ r = P.drop (c + 1) ∧ P[c]? = some v := by
  have hlt : c < P.length := Nat.lt_of_not_le fun hc => by rw [List.drop_eq_nil_of_le hc] at h; cases h
  have h2 := List.drop_eq_getElem_cons hlt
  rw [h2] at h
  simp only [List.cons.injEq] at h
  refine ⟨hlt, h.2, ?_⟩
  rw [List.getElem?_eq_getElem hlt, h.1]

theorem map_some_then {α β γ : Type} {x : Option α} {f : α → β} {b : β} (h : x.map f = some b) (g : β → γ) :
    (x.map fun a => g (f a)) = some (g b) := by
  obtain ⟨a, rfl, rfl⟩ := Option.map_eq_some_iff.mp h
  rfl

/-- among threads `0 .. n-1` none is inside `subscribe` (`inSub`) while one is inside `next` (`inNext`) -/
def quietB (inSub inNext : Nat → Bool) (n : Nat) : Bool :=
  (List.range n).all fun t => (List.range n).all fun t' => !(inSub t && inNext t')

theorem quietB_sound {inSub inNext : Nat → Bool} {n : Nat} (hs : ∀ t, n ≤ t → inSub t = false)
    (hn : ∀ t, n ≤ t → inNext t = false) (hq : quietB inSub inNext n = true) (t t' : Nat) (h1 : inSub t = true)
    (h2 : inNext t' = true) : False := by
  have ht : t < n := Nat.lt_of_not_le fun hge => Bool.noConfusion ((hs t hge).symm.trans h1)
  have ht' : t' < n := Nat.lt_of_not_le fun hge => Bool.noConfusion ((hn t' hge).symm.trans h2)
  simp only [quietB, List.all_eq_true, List.mem_range] at hq
  have := hq t ht t' ht'
  rw [h1, h2] at this
  cases this

section
variable {σ L : Type} (step : σ → L → Option σ) (ok : σ → Bool)

/-- replay the labels, giving up unless every state passed is `ok` (instantiated with `quietB`) -/
def replayOk (s : σ) : List L → Option σ
  | [] => some s
  | l :: ls => match step s l with
    | some s' => if ok s' then replayOk s' ls else none
    | none => none

theorem replayOk_ind {R : σ → Prop} (hR : ∀ {s s' l}, R s → step s l = some s' → ok s' = true → R s') :
    ∀ {s s' : σ} {ls : List L}, R s → replayOk step ok s ls = some s' → R s'
  | _, _, [], h, hr => Option.some.inj hr ▸ h
  | s, _, l :: ls, h, hr => by
    simp only [replayOk] at hr
    split at hr
    · rename_i s1 hs
      split at hr
      · rename_i hq; exact replayOk_ind hR (hR h hs hq) hr
      · cases hr
    · cases hr

end

/-- the models' `setObs` / `setThr` unfold to this -/
def setAt {α : Type} (f : Nat → α) (o : Nat) (a : α) : Nat → α := fun j => if j = o then a else f j

theorem setAt_same {α : Type} (f : Nat → α) (o : Nat) (a : α) : setAt f o a o = a := if_pos rfl

theorem setAt_ne {α : Type} (f : Nat → α) {o j : Nat} (a : α) (h : j ≠ o) : setAt f o a j = f j := if_neg h

theorem setAt_ind {α : Type} {P : Nat → α → Prop} {f : Nat → α} {o : Nat} {a : α} (ha : P o a)
    (hf : ∀ j, j ≠ o → P j (f j)) (j : Nat) : P j (setAt f o a j) := by
  unfold setAt
  split
  · rename_i h; exact h ▸ ha
  · rename_i h; exact hf j h

theorem setAt_rel {α : Type} {R : α → α → Prop} {f : Nat → α} {o : Nat} {a : α} (hr : ∀ x, R x x) (ha : R (f o) a) :
    ∀ j, R (f j) (setAt f o a j) :=
  setAt_ind (P := fun j x => R (f j) x) ha fun _ _ => hr _

theorem setAt_congr {α β : Type} {f : Nat → α} {o : Nat} {a : α} (g : α → β) (h : g a = g (f o)) (j : Nat) :
    g (setAt f o a j) = g (f j) :=
  setAt_rel (R := fun x y => g y = g x) (fun _ => rfl) h j

theorem not_owner {u : Option Nat} {t t' : Nat} {P : Prop} (h : u = some t) (ht : t' ≠ t) (hu : u = some t') : P :=
  absurd (Option.some.inj (h.symm.trans hu)) (Ne.symm ht)

section MapInv
variable {α : Type} (ser : α → Option Nat) (ins live : α → Bool)

/-- the inner subject's observer map `(serial, observer)` against the per-observer records -/
structure MapInv (map : List (Nat × Nat)) (obs : Nat → α) (serial : Nat) : Prop where
  mapSer : ∀ k o : Nat, (k, o) ∈ map → ser (obs o) = some k ∧ ins (obs o) = true
  mapNodup : (map.map (·.2)).Nodup
  serLe : ∀ o k : Nat, ser (obs o) = some k → k ≤ serial
  serInj : ∀ o o' k : Nat, ser (obs o) = some k → ser (obs o') = some k → o = o'
  live : ∀ o : Nat, ins (obs o) = true → live (obs o) = true → o ∈ map.map (·.2)

variable {ser ins live} {map : List (Nat × Nat)} {obs : Nat → α} {n : Nat}

theorem MapInv.mem_ins (h : MapInv ser ins live map obs n) {o : Nat} (ho : o ∈ map.map (·.2)) : ins (obs o) = true := by
  obtain ⟨⟨k, o'⟩, hm, rfl⟩ := List.mem_map.mp ho
  exact (h.mapSer k o' hm).2

theorem MapInv.mono (h : MapInv ser ins live map obs n) {obs' : Nat → α}
    (hser : ∀ j, ser (obs' j) = ser (obs j)) (hins : ∀ j, ins (obs' j) = ins (obs j))
    (hlive : ∀ j, live (obs' j) = true → live (obs j) = true) : MapInv ser ins live map obs' n where
  mapSer k o hm := by rw [hser, hins]; exact h.mapSer k o hm
  mapNodup := h.mapNodup
  serLe o k hk := h.serLe o k (hser o ▸ hk)
  serInj o o' k hk hk' := h.serInj o o' k (hser o ▸ hk) (hser o' ▸ hk')
  live o hi hl := h.live o (hins o ▸ hi) (hlive o hl)

theorem MapInv.set (h : MapInv ser ins live map obs n) {o : Nat} {a : α} (hser : ser a = ser (obs o))
    (hins : ins a = ins (obs o)) (hlive : live a = true → live (obs o) = true) :
    MapInv ser ins live map (setAt obs o a) n :=
  h.mono (setAt_congr ser hser) (setAt_congr ins hins)
    (setAt_rel (R := fun x y => live y = true → live x = true) (fun _ => id) hlive)

theorem MapInv.fresh (h : MapInv ser ins live map obs n) {o : Nat} {a : α} (hi : ins (obs o) = false)
    (hser : ser a = some (n + 1)) (hins : ins a = false) : MapInv ser ins live map (setAt obs o a) (n + 1) where
  mapSer k j hm := by
    have := h.mapSer k j hm
    have hj : j ≠ o := fun e => by rw [e, hi] at this; exact Bool.noConfusion this.2
    rw [setAt_ne _ _ hj]; exact this
  mapNodup := h.mapNodup
  serLe j k hk := by
    by_cases hj : j = o
    · rw [hj, setAt_same, hser] at hk; cases hk; exact Nat.le_refl _
    · rw [setAt_ne _ _ hj] at hk; exact Nat.le_succ_of_le (h.serLe j k hk)
  serInj j j' k hk hk' := by
    have key : ∀ i i', i = o → i' ≠ o → ser (setAt obs o a i) = some k → ser (setAt obs o a i') = some k → i = i' := by
      intro i i' hi hi' e e'
      rw [hi, setAt_same, hser] at e; rw [setAt_ne _ _ hi'] at e'
      cases e; exact absurd (h.serLe i' _ e') (Nat.not_succ_le_self n)
    by_cases hj : j = o <;> by_cases hj' : j' = o
    · rw [hj, hj']
    · exact key j j' hj hj' hk hk'
    · exact (key j' j hj' hj hk' hk).symm
    · rw [setAt_ne _ _ hj] at hk; rw [setAt_ne _ _ hj'] at hk'; exact h.serInj j j' k hk hk'
  live j hij hl := by
    by_cases hj : j = o
    · rw [hj, setAt_same, hins] at hij; exact Bool.noConfusion hij
    · rw [setAt_ne _ _ hj] at hij hl; exact h.live j hij hl

theorem MapInv.insert (h : MapInv ser ins live map obs n) {o k : Nat} {a : α} (hk : ser (obs o) = some k)
    (hi : ins (obs o) = false) (hser : ser a = ser (obs o)) (hins : ins a = true) :
    MapInv ser ins live (map ++ [(k, o)]) (setAt obs o a) n := by
  have e : ∀ j, ser (setAt obs o a j) = ser (obs j) := setAt_congr ser hser
  have hno : ∀ j, ins (obs j) = true → j ≠ o := fun j hj e => by rw [e, hi] at hj; exact Bool.noConfusion hj
  refine ⟨fun k' j hm => ?_, ?_, fun j k' hk' => h.serLe j k' (e j ▸ hk'),
    fun j j' k' hj hj' => h.serInj j j' k' (e j ▸ hj) (e j' ▸ hj'), fun j hij hl => ?_⟩
  · rcases List.mem_append.mp hm with hm | hm
    · rw [setAt_ne _ _ (hno j (h.mapSer k' j hm).2)]; exact h.mapSer k' j hm
    · cases List.mem_singleton.mp hm
      rw [setAt_same]; exact ⟨hser.trans hk, hins⟩
  · rw [List.map_append, List.nodup_append]
    refine ⟨h.mapNodup, List.nodup_cons.mpr ⟨List.not_mem_nil, List.nodup_nil⟩, fun j hj j' hj' => ?_⟩
    cases List.mem_singleton.mp hj'
    exact hno j (h.mem_ins hj)
  · rw [List.map_append, List.mem_append]
    by_cases hj : j = o
    · exact .inr (List.mem_singleton.mpr hj)
    · rw [setAt_ne _ _ hj] at hij hl; exact .inl (h.live j hij hl)

theorem MapInv.remove (h : MapInv ser ins live map obs n) {o : Nat} (hd : live (obs o) = false) :
    MapInv ser ins live (map.filter fun e => some e.1 != ser (obs o)) obs n where
  mapSer k j hm := h.mapSer k j (List.mem_filter.mp hm).1
  mapNodup := h.mapNodup.sublist (List.filter_sublist.map _)
  serLe := h.serLe
  serInj := h.serInj
  live j hij hl := by
    obtain ⟨⟨k, j'⟩, hm, rfl⟩ := List.mem_map.mp (h.live j hij hl)
    refine List.mem_map.mpr ⟨(k, j'), List.mem_filter.mpr ⟨hm, ?_⟩, rfl⟩
    rw [bne_iff_ne]
    intro heq
    rw [h.serInj o j' k heq.symm (h.mapSer k j' hm).1, hl] at hd
    exact Bool.noConfusion hd

end MapInv

/-- position `(n, strong)` of a thread whose call number `k` still has the observers `l` to visit: its calls `0 .. n-1`
have passed `o`; `strong` says that it holds the fetched callback of `o` for call `n` (never, here) -/
def pend (k : Nat) (l : List Nat) (o : Nat) : Nat × Bool := (if o ∈ l then k else k + 1, false)

theorem pend_cons_ne {k : Nat} {l : List Nat} {o o' : Nat} (h : o' ≠ o) : pend k (o :: l) o' = pend k l o' := by
  simp only [pend, List.mem_cons, h, false_or]

theorem pend_of_not_mem {k : Nat} {l : List Nat} {o : Nat} (h : o ∉ l) : pend k l o = (k + 1, false) := by
  unfold pend; rw [if_neg h]

theorem pending_tail {p : Nat → Prop} {o : Nat} {rest : List Nat}
    (h : (o :: rest).Nodup ∧ ∀ o' ∈ o :: rest, p o') : rest.Nodup ∧ ∀ o' ∈ rest, p o' :=
  ⟨(List.nodup_cons.mp h.1).2, fun o' ho' => h.2 o' (List.mem_cons_of_mem _ ho')⟩

/-- what a subscribed (`sd`) observer has in its log `L` (newest first) from one producer at position `p`: if the
observer is live or the producer holds its callback, exactly the calls `base .. p.1 - 1`, each once, in order -/
def FullAt (P : List Data) (base : Nat) (L : List (Nat × Data)) (sd live : Bool) (p : Nat × Bool) : Prop :=
  sd = true → (p.2 = true ∨ live = true) → Asc P base L.reverse ∧ base + L.length = p.1

section FullAt
variable {P : List Data} {base : Nat} {L : List (Nat × Data)} {sd live : Bool}

theorem FullAt.deliver {k : Nat} {v : Data} (h : FullAt P base L sd live (k, true)) (hv : P[k]? = some v) :
    FullAt P base ((k, v) :: L) sd live (k + 1, false) := fun hsd _ => by
  obtain ⟨ha, hl⟩ := h hsd (.inl rfl)
  have hk : base + L.reverse.length = k := by rw [List.length_reverse]; exact hl
  refine ⟨?_, (Nat.add_assoc ..).symm.trans (congrArg (· + 1) hl)⟩
  rw [List.reverse_cons, ← hk]
  exact ha.append (hk ▸ hv)

theorem FullAt.of_not_sd {p : Nat × Bool} (h : sd = false) : FullAt P base L sd live p :=
  fun hsd => Bool.noConfusion (h.symm.trans hsd)

theorem FullAt.dead {n : Nat} (h : sd = true → live = false) : FullAt P base L sd live (n, false) :=
  fun hsd hx => hx.elim Bool.noConfusion fun hl => Bool.noConfusion ((h hsd).symm.trans hl)

theorem FullAt.pend_nil {k o : Nat} (h : FullAt P base L sd live (pend k [] o)) : FullAt P base L sd live (k + 1, false) :=
  pend_of_not_mem List.not_mem_nil ▸ h

theorem FullAt.snap {k o : Nat} {l : List Nat} (h : FullAt P base L sd live (k, false))
    (hin : sd = true → live = true → o ∈ l) : FullAt P base L sd live (pend k l o) := by
  unfold pend
  split
  · exact h
  · rename_i hno; exact .dead fun hsd => (Bool.not_eq_true _).mp fun hl => hno (hin hsd hl)

end FullAt

section
variable {P : List Data} {base : Nat → Nat} {L : Nat → List (Nat × Data)} {sd live : Nat → Bool} {k o : Nat}
  {rest : List Nat}

theorem FullAt.skip (h : ∀ o', FullAt P (base o') (L o') (sd o') (live o') (pend k (o :: rest) o'))
    (hd : sd o = true → live o = false) (o' : Nat) : FullAt P (base o') (L o') (sd o') (live o') (pend k rest o') := by
  by_cases ho : o' = o
  · exact ho ▸ .dead hd
  · exact pend_cons_ne ho ▸ h o'

theorem FullAt.hold (h : ∀ o', FullAt P (base o') (L o') (sd o') (live o') (pend k (o :: rest) o'))
    (hl : live o = true) (o' : Nat) :
    FullAt P (base o') (L o') (sd o') (live o') (if o' = o then (k, true) else pend k rest o') := by
  split
  · rename_i ho
    subst ho
    exact fun hsd _ => by have := h o' hsd (.inr hl); rwa [pend, if_pos List.mem_cons_self] at this
  · rename_i ho; exact pend_cons_ne ho ▸ h o'

end

end Rx.Conc
