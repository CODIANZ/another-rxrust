import RxVerif.Theorems.C05
/-
C17 — A finished subscription releases the user's callbacks and items.

In the crate a closure can be stored only in a core object; in the machine this is syntactic.  The
three callbacks passed to `subscribe` live in the slots of the subscriber's root observer and nowhere
else (`Inv.owner`, `Inv.root`).  Theorems, generic over every client program:
  * after a delivered terminal, or after the clearing of the root observer that `unsubscribe` performs, no observer
    holds any of the three callbacks (`callbacks_released_*`), and this stays so whatever runs afterwards
    (`released_forever`); the root observer's three slots are empty (`root_slots_empty`).
They are C05's lemmas under C17 names.
Operator closures and buffered items are owned by the upstream observers' slots; those are cleared when
the upstream is cancelled or delivers its own terminal (`Rx.C06.upstream_unsubscribed_iff_cancelled`).
What the model cannot exhibit is `Arc` reference counting itself: the per-run check counts live tokens
captured by every user callback, operator closure and item after the handles are dropped.
-/
namespace Rx.C17
open Rx Rx.C05

abbrev Released (w : World) (s : Nat) : Prop := Silent w s

theorem callbacks_released_after_terminal (w : World) (s : Nat) (h : Inv w)
    (ht : terminated (logOf w s) = true) : Released w s :=
  terminal_silences w s h ht

theorem callbacks_released_after_unsubscribe (w : World) (s : Nat) (u : User) (h : Inv w)
    (hu : w.users[s]? = some u) :
    Released (w.setObs u.obs fun x => { x.cleared with onUnsub := none }) s :=
  unsub_silences w s u h hu

theorem released_forever (w : World) (s : Nat) (h : Inv w) (hs : s < w.users.length) (hq : Released w s)
    (fuel : Nat) (progs : List Prog) : Released (run fuel progs w) s :=
  (silent_forever w s h hs hq fuel progs).1

theorem root_slots_empty (w : World) (s : Nat) (u : User) (x : Obs) (h : Inv w)
    (hu : w.users[s]? = some u) (hx : w.obs[u.obs]? = some x) (hq : Released w s) :
    x.next = none ∧ x.error = none ∧ x.complete = none :=
  root_empty_of_silent w s u x h hu hx hq

theorem callbacks_only_in_root (w : World) (h : Inv w) (o : Nat) (x : Obs) (s : Nat)
    (hx : w.obs[o]? = some x) (hh : x.holds s) : (roots w)[s]? = some o :=
  h.owner o x s hx hh

end Rx.C17

-- non-vacuity: `just 1` subscribed directly; after its `complete` the root observer is empty
open Rx in
example :
    let w := run 100 [.obsvNew (fun o => .obsNext o (.int 1) (.obsComplete o .done)) fun id =>
                        .userSub id (fun _ _ _ => .done) .done] {}
    (w.obs[0]?.map fun x => (x.next.isNone, x.error.isNone, x.complete.isNone)) = some (true, true, true) ∧
    terminated (logOf w 0) = true := by
  decide

#print axioms Rx.C17.released_forever
#print axioms Rx.C17.root_slots_empty
#print axioms Rx.C17.callbacks_only_in_root
