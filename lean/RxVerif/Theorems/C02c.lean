import RxVerif.Theorems.C04k
import RxVerif.Theorems.Sim
/-
C02: `time_interval` (src/operators/time_interval.rs) with its durations abstracted to `()` - its specification, and
that the kernel is well encoded, aborts first and passes errors; `timestamp` (src/operators/timestamp.rs) with the time
stamps dropped is the identity kernel `kId` (`id_spec` in C02a).
-/
namespace Rx.C02
open Rx Rx.C02b

theorem kTimeInterval_accum :
    Accum kTimeInterval (fun _ _ => true) (fun b _ => if b then [.unit] else []) fun b => if b then [.unit] else [] :=
  ⟨fun b _ => by cases b <;> rfl, fun b => by cases b <;> rfl, fun _ _ => rfl⟩

theorem timeInterval_outs (xs : List Data) :
    outs (fun _ _ => true) (fun b _ => if b then [Data.unit] else []) true xs = xs.map fun _ => .unit := by
  induction xs with
  | nil => rfl
  | cons x xs ih => exact congrArg (Data.unit :: ·) ih

/-- `time_interval`: one `()` per item after the first, one more when the source completes after at least one item -/
theorem timeInterval_spec (s : Stream) : kTimeInterval.run s = (Spec.timeInterval s).toEvs := by
  rw [kTimeInterval_accum.run, Spec.timeInterval]
  cases s.1 with
  | nil => simp [outs, show kTimeInterval.init = false from rfl]
  | cons x xs => simp [outs, show kTimeInterval.init = false from rfl, timeInterval_outs, foldl_true]

theorem we_kTimeInterval : Kernel.WellEncoded kTimeInterval := fun st => by cases st <;> rfl
theorem af_kTimeInterval : Kernel.AbortsFirst kTimeInterval := fun st x => by cases st <;> rfl

theorem timeInterval_passes : C04.PassesErrors kTimeInterval := C04.accum_passes kTimeInterval_accum

example : kTimeInterval.run ([.int 1, .int 2, .int 3], .complete) = [.next .unit, .next .unit, .next .unit, .complete] := by decide
example : kTimeInterval.run ([.int 1], .error 5) = [.error 5] := by decide
example : kTimeInterval.run ([], .complete) = [.complete] := by decide

end Rx.C02

#print axioms Rx.C02.timeInterval_spec
#print axioms Rx.C02.timeInterval_passes
