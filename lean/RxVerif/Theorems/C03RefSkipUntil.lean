import RxVerif.Theorems.C03RefGStatic
import RxVerif.Theorems.C03
/-
C03-REF, skip_until: model A's `oSkipUntil` (Machine/Lib.lean, transliterating src/operators/skip_until.rs) over
two plain hot subjects (0 = source, 1 = trigger) REFINES the pure history machine `Comb.skipUntil`.  `sc`, `lay2`
and the start world `W0` also serve sample.
-/
namespace Rx.GRef.SkipUntil
open Rx.Sim Rx.Ref Rx.Comb Rx.CRef

/-- skip_until and sample allocate their own cell BEFORE the controller: cell 4; controller cells 5, 6; slot 4 -/
def sc : Sctl := ⟨0, 5, 6, 4⟩

section
variable {mk : Nat → (Nat → Data → Prog) × (Nat → Nat → Prog) × (Nat → Prog)}

/-- the trigger's observer is created first (serial 0, observer 1), then the source's (serial 1, observer 2); `mk m`
    = the closures that `newObservers` gives the observer with serial `m` -/
def lay2 (mk : Nat → (Nat → Data → Prog) × (Nat → Nat → Prog) × (Nat → Prog)) : GLay :=
  ⟨2, 5, 6, 4, 4, rev 2, fun e => 1 + rev 2 e, fun e => (mk (rev 2 e)).1 (rev 2 e),
    fun e => (mk (rev 2 e)).2.1 (rev 2 e), fun e => (mk (rev 2 e)).2.2 (rev 2 e)⟩

theorem lay2_ok : (lay2 mk).Ok where
  cs := by simp [lay2]
  cm := by simp [lay2]
  cx := by simp [lay2]
  ne1 := by simp [lay2]
  ne2 := by simp [lay2]
  ne3 := by simp [lay2]
  fin := by simp [lay2]
  obPos := fun _ => Nat.add_pos_left Nat.one_pos _
  obInj := fun e e' h => inj_of_inv (rev_rev 2) e e' (Nat.add_left_cancel h)
  serInj := inj_of_inv (rev_rev 2)

theorem lay2_std : (lay2 mk).Std :=
  ⟨fun _ => rfl, rev_rev 2, fun _ => rev_lt⟩

/-- the world when the first `new_observer` starts; `x` is the initial content of the operator's cell -/
def W0 (x : Data) (f : Nat → Prog) : World :=
  { obs := [⟨some (.user 0), some (.user 0), some (.user 0), some sc.finalize⟩], users := [⟨0, noReact, false, true⟩],
    cells := [.lnil, .int 0, .lnil, .int 0, x, .int 0, .lnil],
    slots := [none, none, none, none, none], obsvs := [f] }

theorem rel_W0 (x : Data) (f : Nat → Prog) :
    Rel (lay2 mk) (Ent.static fun _ => false) [] ⟨true, [], []⟩ ⟨x, 0, 1⟩ [] (W0 x f) :=
  rel_init (w := W0 x f) lay2_ok (fun _ => rfl) rfl rfl rfl ⟨_, rfl, rfl⟩ (two_cases rfl rfl)
    (two_cases rfl rfl) rfl rfl
    (by intro j hj; rcases (by simp only [lay2] at hj; omega : j = 0 ∨ j = 1 ∨ j = 2 ∨ j = 3) with e | e | e | e
          <;> subst e <;> rfl) rfl rfl

end

/-- skip_until.rs:40-68, the closures by serial (0 = the trigger's observer); the `enable` flag is the operator's cell -/
def mk : Nat → (Nat → Data → Prog) × (Nat → Nat → Prog) × (Nat → Prog) := fun m =>
  if m = 0 then (fun serial _ => .cellWrite 4 false (.bool true) (sc.abortObserve serial), fun _ _ => .done, fun _ => .done)
  else (fun _ x => .cellRead 4 false fun b => if b.toBool then sc.sinkNext x else .done, fun _ e => sc.sinkError e,
        fun _ => sc.sinkCompleteForce)

def lay : GLay := lay2 mk

theorem lay_ok : lay.Ok := lay2_ok

def sim : StaticSim lay skipUntil.step where
  ok := lay_ok
  ctl s := s.ctl
  fr s := ⟨.bool s.enable, 2, 3⟩
  dead s p h := if_neg (by rw [show s.ctl.isLive p.1 = false from h]; decide)
  body s i ev out w _ hi hlv h := by
    have hi : i < 2 := hi
    obtain ⟨c, en⟩ := s
    have ok := lay_ok
    refine WP.conseq ?_ fun _ q => ⟨q, trivial⟩
    rcases (by omega : i = 0 ∨ i = 1) with e | e <;> subst e <;> cases ev <;>
      simp only [skipUntil.step, Ctl.isLive, hlv, ↓reduceIte, beq_self_eq_true, show ((1 : Nat) == 0) = false from rfl,
        Bool.false_eq_true, List.append_nil]
    · show WP (.cellRead 4 false fun b => if b.toBool then sc.sinkNext _ else .done) _ _
      refine wp_cellRead_val h.held (h.xc_some (by simp)) ?_
      cases en with
      | true => exact h.sinkNext ok _
      | false => simp only [Bool.false_eq_true, ↓reduceIte, List.append_nil]; exact WP.done h
    · exact h.sinkError ok _
    · exact h.sinkCompleteForce ok
    · show WP (.cellWrite 4 false (.bool true) (sc.abortObserve 0)) _ _
      exact wp_cellWrite h.held ((h.setX ok (by simp) (.bool true)).abort ok 1)
    · exact WP.done h
    · exact WP.done h

/-- two plain subjects; test user 0 subscribes to `s0.skip_until(s1)`; then the history -/
def prog (H : History) : Prog :=
  subjsNew 2 fun sjs =>
    .obsvNew (oSkipUntil (sjs.getD 0 default).observable (sjs.getD 1 default).observable) fun id =>
    .userSub id noReact (drive sjs H)

def theObsv : Nat → Prog := oSkipUntil (sjOf 0).observable (sjOf 1).observable

/-- For EVERY history over the two subjects the program ends, for all sufficient fuel,
    with `status = ok`, no guard held, the user's log equal to the output of `Comb.skipUntil`, and subject `i`
    holding one observer iff `i` is in the machine's final `live` set. -/
theorem skip_until_refines (H : History) :
    ∃ n0, ∀ fuel, n0 ≤ fuel →
      Agrees 2 (run fuel [prog H] {}) (finalFrom skipUntil.step skipUntil.init H).ctl.live (skipUntil.run 2 H) := by
  refine sim.refines (fun sjs => oSkipUntil (sjs.getD 0 default).observable (sjs.getD 1 default).observable) H
    skipUntil.init trivial ?_
  show WP (theObsv 0) (startWorld 2 theObsv) (SRel lay (Ctl.init 2) ⟨.bool false, 2, 3⟩ [])
  simp only [theObsv, oSkipUntil, sctlNew]
  refine wp_cellNew (wp_cellNew (wp_cellNew (wp_slotNew (wp_obsSetOnUnsub rfl ?_))))
  show WP (newObservers sc 2 mk fun os =>
    (sjOf 1).observable.sub (os.getD 0 0) ;; (sjOf 0).observable.sub (os.getD 1 0)) (W0 _ _) _
  refine wp_prepare lay_ok lay2_std mk (fun _ _ => rfl) (rel_W0 _ _) fun w1 h1 => WP.seq ?_
  have hnd : (Ctl.init 2).live.Nodup := by decide
  refine (subscribe_static lay_ok h1 hnd (j := 1) (by decide) rfl rfl).conseq fun w2 h2 => ?_
  refine (subscribe_static lay_ok h2 hnd (j := 0) (by decide) rfl rfl).conseq fun w3 h3 => ?_
  exact ⟨_, h3, Static.of_on hnd (by decide)⟩

theorem skip_until_machine_spec (H : History) (hwf : WellFormed 2 H) :
    ∃ n0, ∀ fuel, n0 ≤ fuel → (run fuel [prog H] {}).status = .ok ∧
      logOf (run fuel [prog H] {}) 0 = skipUntilSpec H :=
  machine_spec_of (skip_until_refines H) (skip_until_spec 2 H hwf)

def demo : History :=
  [(0, .next (.int 1)), (1, .next (.int 0)), (0, .next (.int 2)), (1, .next (.int 9)), (0, .next (.int 3)),
   (0, .complete), (1, .complete)]

theorem demo_run : (run 3000 [prog demo] {}).status = .ok ∧
    logOf (run 3000 [prog demo] {}) 0 = [.next (.int 2), .next (.int 3), .complete] := by
  decide +kernel

example : (run 3000 [prog demo] {}).status = .ok := demo_run.1
example : logOf (run 3000 [prog demo] {}) 0 = [.next (.int 2), .next (.int 3), .complete] := demo_run.2
example : skipUntil.run 2 demo = [.next (.int 2), .next (.int 3), .complete] := by decide +kernel
example : (List.range 2).map (regCount (run 3000 [prog (demo.take 2)] {})) = [1, 0] ∧
    (finalFrom skipUntil.step skipUntil.init (demo.take 2)).ctl.live = [0] := by decide +kernel
example : WellFormed 2 demo := by decide
example : logOf (run 3000 [prog demo] {}) 0 = skipUntilSpec demo := demo_run.2.trans (by decide +kernel)

#print axioms skip_until_refines
#print axioms skip_until_machine_spec

end Rx.GRef.SkipUntil
