import RxVerif.Theorems.C03RefSeqEqStep
/-
C03-REF, sequence_equal: the set-up phase.  A "stage" is stated as a relation between the worlds before and
after (`StagePost`); `SetupInv k j` describes the world when the chains `< j` have been built; `zip_stage` builds
zip's controller and observers and runs the loop.
-/
namespace Rx.SeqRef
open Rx.Sim Rx.Ref Rx.Comb Rx.CRef

/-- the net effect of a stage on the world -/
structure StagePost (w w' : World) (s : Nat) (fin : Prog) (d : Data) (newObs : Obs) : Prop where
  cellsLen : w'.cells.length = w.cells.length + 3
  cellsOld : ∀ n, n < w.cells.length → w'.cells[n]? = w.cells[n]?
  cSer : w'.cells[w.cells.length]? = some (.int ((1 : Nat) : Int))
  cMap : w'.cells[w.cells.length + 1]? = some (encMap [(0, w.obs.length)])
  cExt : w'.cells[w.cells.length + 2]? = some d
  slotsLen : w'.slots.length = w.slots.length + 1
  slotsOld : ∀ n, n < w.slots.length → w'.slots[n]? = w.slots[n]?
  slotNew : w'.slots[w.slots.length]? = some none
  obsLen : w'.obs.length = w.obs.length + 1
  obsOld : ∀ n, n < w.obs.length → n ≠ s → w'.obs[n]? = w.obs[n]?
  obsS : ∀ x, w.obs[s]? = some x → w'.obs[s]? = some { x with onUnsub := some fin }
  obsNew : w'.obs[w.obs.length]? = some newObs
  users : w'.users = w.users
  held : w'.held = w.held
  status : w'.status = w.status
  trace : w'.trace = w.trace

/-- the net effect of a stage without a cell of operator state (`fwdOp`) -/
structure StagePost0 (w w' : World) (s : Nat) (fin : Prog) (newObs : Obs) : Prop where
  cellsLen : w'.cells.length = w.cells.length + 2
  cellsOld : ∀ n, n < w.cells.length → w'.cells[n]? = w.cells[n]?
  cSer : w'.cells[w.cells.length]? = some (.int ((1 : Nat) : Int))
  cMap : w'.cells[w.cells.length + 1]? = some (encMap [(0, w.obs.length)])
  slotsLen : w'.slots.length = w.slots.length + 1
  slotsOld : ∀ n, n < w.slots.length → w'.slots[n]? = w.slots[n]?
  slotNew : w'.slots[w.slots.length]? = some none
  obsLen : w'.obs.length = w.obs.length + 1
  obsOld : ∀ n, n < w.obs.length → n ≠ s → w'.obs[n]? = w.obs[n]?
  obsS : ∀ x, w.obs[s]? = some x → w'.obs[s]? = some { x with onUnsub := some fin }
  obsNew : w'.obs[w.obs.length]? = some newObs
  users : w'.users = w.users
  held : w'.held = w.held
  status : w'.status = w.status
  trace : w'.trace = w.trace

variable {k j : Nat} {w : World} {Q : World → Prop}

/-- `StreamController::new` (stream_controller.rs:24-37) -/
theorem wp_sctlNew (s : Nat) (K : Sctl → Prog) (hh : w.held = [])
    (hk : WP (K ⟨s, w.cells.length, w.cells.length + 1, w.slots.length⟩)
      { w with cells := w.cells ++ [.int 0] ++ [.lnil], slots := w.slots ++ [none],
               obs := w.obs.modify s fun x =>
                 { x with onUnsub := some (Sctl.finalize ⟨s, w.cells.length, w.cells.length + 1, w.slots.length⟩) } }
      Q) : WP (sctlNew s K) w Q := by
  refine wp_cellNew (wp_cellNew (wp_slotNew (wp_obsSetOnUnsub hh ?_)))
  simp only [List.length_append, List.length_cons, List.length_nil]
  exact hk

theorem wp_newObserver_first (sc : Sctl) (n : Nat → Data → Prog) (e : Nat → Nat → Prog) (c : Nat → Prog)
    (K : Nat → Prog) {x : Obs} (hh : w.held = []) (hne : sc.serial ≠ sc.map)
    (hS : w.cells[sc.serial]? = some (.int 0)) (hM : w.cells[sc.map]? = some .lnil)
    (hx : w.obs[sc.sub]? = some x) (hsub : x.isSub = true)
    (hk : WP (K w.obs.length)
      { w with cells := (w.cells.set sc.serial (.int ((1 : Nat) : Int))).set sc.map (encMap [(0, w.obs.length)]),
               obs := w.obs ++ [⟨some (.code (n 0)), some (.code (e 0)), some (.code (c 0)), none⟩] } Q) :
    WP (sc.newObserver n e c K) w Q :=
  wp_newObserver sc n e c K (M := []) (s0 := 0) hh hne hS hM nofun ⟨x, hx, hsub⟩ hk

theorem set2_app {α} (l r : List α) (a b x y : α) :
    ((l ++ [a] ++ [b] ++ r).set l.length x).set (l.length + 1) y = l ++ [x] ++ [y] ++ r := by
  simp

theorem stagePost0 (s : Nat) (fin : Prog) (o : Obs) (hs : s < w.obs.length) :
    StagePost0 w
      { w with cells := w.cells ++ [.int ((1 : Nat) : Int)] ++ [encMap [(0, w.obs.length)]],
               slots := w.slots ++ [none],
               obs := w.obs.modify s (fun x => { x with onUnsub := some fin }) ++ [o] } s fin o where
  cellsLen := by simp
  cellsOld n hn := by simp [List.getElem?_append_left, hn]
  cSer := by simp
  cMap := by simp
  slotsLen := by simp
  slotsOld n hn := List.getElem?_append_left hn
  slotNew := by simp
  obsLen := by simp
  obsOld n hn hne := by
    show (w.obs.modify s _ ++ _)[n]? = _
    rw [List.getElem?_append_left (by rw [List.length_modify]; exact hn), modify_get_other _ _ (Ne.symm hne)]
  obsS x hx := by
    show (w.obs.modify s _ ++ _)[s]? = _
    rw [List.getElem?_append_left (by rw [List.length_modify]; exact hs), modify_get_same _ _ hx]
  obsNew := by
    show (w.obs.modify s _ ++ _)[w.obs.length]? = _
    rw [List.getElem?_append_right (by simp)]; simp
  users := rfl
  held := rfl
  status := rfl
  trace := rfl

theorem StagePost0.ext {w w' : World} {s : Nat} {fin : Prog} {o : Obs} (h : StagePost0 w w' s fin o) (d : Data) :
    StagePost w { w' with cells := w'.cells ++ [d] } s fin d o :=
  { h with
    cellsLen := by show (w'.cells ++ [d]).length = _; simp [h.cellsLen]
    cellsOld := fun n hn => (List.getElem?_append_left (by rw [h.cellsLen]; omega)).trans (h.cellsOld n hn)
    cSer := (List.getElem?_append_left (by rw [h.cellsLen]; omega)).trans h.cSer
    cMap := (List.getElem?_append_left (by rw [h.cellsLen]; omega)).trans h.cMap
    cExt := by show (w'.cells ++ [d])[_]? = _; rw [← h.cellsLen]; simp }

theorem StagePost.cell {w w' : World} {s : Nat} {fin : Prog} {d : Data} {o : Obs} (p : StagePost w w' s fin d o)
    {c : Nat} {v : Data} (h : w.cells[c]? = some v) : w'.cells[c]? = some v :=
  (p.cellsOld c (getElem?_lt h)).trans h

theorem StagePost.slot {w w' : World} {s : Nat} {fin : Prog} {d : Data} {o : Obs} (p : StagePost w w' s fin d o)
    {t : Nat} {v : Option (Data → Prog)} (h : w.slots[t]? = some v) : w'.slots[t]? = some v :=
  (p.slotsOld t (getElem?_lt h)).trans h

theorem StagePost.ob {w w' : World} {s : Nat} {fin : Prog} {d : Data} {o : Obs} (p : StagePost w w' s fin d o)
    {n : Nat} {x : Obs} (hne : n ≠ s) (h : w.obs[n]? = some x) : w'.obs[n]? = some x :=
  (p.obsOld n (getElem?_lt h) hne).trans h

theorem wp_stage1 {C S O : Nat} (hC : w.cells.length = C) (hS : w.slots.length = S) (hO : w.obs.length = O) (s : Nat)
    (d : Data) (n : Sctl → Nat → Nat → Data → Prog) (e : Sctl → Nat → Nat → Nat → Prog) (cc : Sctl → Nat → Nat → Prog)
    (K : Sctl → Nat → Nat → Prog) {x : Obs} (hh : w.held = []) (hx : w.obs[s]? = some x) (hsub : x.isSub = true)
    (hk : ∀ w', StagePost w w' s (Sctl.finalize ⟨s, C, C + 1, S⟩) d
        ⟨some (.code (n ⟨s, C, C + 1, S⟩ (C + 2) 0)), some (.code (e ⟨s, C, C + 1, S⟩ (C + 2) 0)),
         some (.code (cc ⟨s, C, C + 1, S⟩ (C + 2) 0)), none⟩ → WP (K ⟨s, C, C + 1, S⟩ (C + 2) O) w' Q) :
    WP (sctlNew s fun sc => .cellNew d fun c => sc.newObserver (n sc c) (e sc c) (cc sc c) fun o => K sc c o) w Q := by
  subst hC hS hO
  have hs := getElem?_lt hx
  refine wp_sctlNew s _ hh (wp_cellNew (wp_newObserver_first _ _ _ _ _ (x := { x with onUnsub := some _ }) hh
    (Nat.ne_of_lt (Nat.lt_succ_self _)) (by simp) (by simp) (modify_get_same _ _ hx) hsub ?_))
  simp only [List.length_append, List.length_cons, List.length_nil, List.length_modify, set2_app]
  exact hk _ ((stagePost0 s _ _ hs).ext d)

theorem wp_stage0 {C S O : Nat} (hC : w.cells.length = C) (hS : w.slots.length = S) (hO : w.obs.length = O) (s : Nat)
    (n : Sctl → Nat → Data → Prog) (e : Sctl → Nat → Nat → Prog) (cc : Sctl → Nat → Prog) (K : Sctl → Nat → Prog)
    {x : Obs} (hh : w.held = []) (hx : w.obs[s]? = some x) (hsub : x.isSub = true)
    (hk : ∀ w', StagePost0 w w' s (Sctl.finalize ⟨s, C, C + 1, S⟩)
        ⟨some (.code (n ⟨s, C, C + 1, S⟩ 0)), some (.code (e ⟨s, C, C + 1, S⟩ 0)),
         some (.code (cc ⟨s, C, C + 1, S⟩ 0)), none⟩ → WP (K ⟨s, C, C + 1, S⟩ O) w' Q) :
    WP (sctlNew s fun sc => sc.newObserver (n sc) (e sc) (cc sc) fun o => K sc o) w Q := by
  subst hC hS hO
  have hs := getElem?_lt hx
  refine wp_sctlNew s _ hh (wp_newObserver_first _ _ _ _ _ (x := { x with onUnsub := some _ }) hh
    (Nat.ne_of_lt (Nat.lt_succ_self _)) (by simp) (by simp) (modify_get_same _ _ hx) hsub ?_)
  simp only [List.length_modify]
  rw [← List.append_nil (w.cells ++ _ ++ _), set2_app, List.append_nil]
  exact hk _ (stagePost0 s _ _ hs)

/-- the world after the chains `< j` have been built -/
structure SetupInv (k j : Nat) (w : World) : Prop where
  status : w.status = .ok
  held : w.held = []
  user : ∃ u, w.users[0]? = some u ∧ u.react = noReact
  trace : w.trace = []
  cLen : w.cells.length = 2 * k + 5 + 6 * j
  sLen : w.slots.length = 2 * k + 2 + 2 * j
  oLen : w.obs.length = k + 2 + 2 * j
  root : w.obs[0]? = some (rootObs k true)
  o1 : w.obs[1]? = some (outerObs k (some (scZ k).finalize))
  oS : w.cells[oser k]? = some (.int ((1 : Nat) : Int))
  oM : w.cells[omap k]? = some (encMap [(0, 1)])
  oF : w.slots[ofin k]? = some none
  zS : w.cells[zser k]? = some (.int (k : Int))
  zM : w.cells[zmap k]? = some (encMap ((List.range k).map fun i => (i, Zo i)))
  zQ : w.cells[zq k]? = some (encQ (List.replicate k []))
  zF : w.slots[zfin k]? = some none
  zfresh : ∀ j', j ≤ j' → j' < k → w.obs[Zo j']? = some (zipObs k j' none)
  sfresh : ∀ j', j ≤ j' → j' < k → w.cells[2 * j']? = some .lnil ∧ w.cells[2 * j' + 1]? = some (.int 0) ∧
    w.slots[2 * j']? = some none ∧ w.slots[2 * j' + 1]? = some none
  done : ∀ j', j' < j → ChainAt k j' bLive w

/-- the abstract state when the history starts -/
def σ0 (k : Nat) : GS :=
  { alive := true, oL := true, oH := true, oR := true, reg := List.range k, qs := List.replicate k [],
    ch := fun _ => bLive, out := [] }

theorem SetupInv.topTab (h : SetupInv k j w) : Tab w.cells (topAddrs k) (topVals k (σ0 k)) :=
  .cons h.oS (.cons h.oM (.cons h.zS (.cons h.zM (.cons h.zQ .nil))))

/-- the invariant after concat_j's stage (`p1`), map_j's stage (`p2`) and the subscription to subject `j`.  Only the
    addresses of the new chain need the sizes of the worlds: whatever could be looked up before still can. -/
theorem SetupInv.step {w1 w2 : World} (h : SetupInv k j w) (hj : j < k)
    (p1 : StagePost w w1 (Zo j) (scC k j).finalize (.int 0) (concatObs k j none))
    (p2 : StagePost w1 w2 (Co k j) (scM k j).finalize .unit (mapObs k j none)) :
    SetupInv k (j + 1) (subWorld (sjOf j) w2 (Mo k j) 0 []) := by
  have cell : ∀ {c v}, c < 2 * j ∨ 2 * j + 1 < c → w2.cells[c]? = some v →
      (subWorld (sjOf j) w2 (Mo k j) 0 []).cells[c]? = some v := fun hc hv =>
    ((set_get_other _ (hc.elim (fun q => Nat.ne_of_gt q) fun q => Nat.ne_of_lt (Nat.lt_of_succ_lt q))).trans
      (set_get_other _ (hc.elim (fun q => Nat.ne_of_gt (Nat.lt_succ_of_lt q)) fun q => Nat.ne_of_lt q))).trans hv
  have slot : ∀ {t v}, w.slots[t]? = some v → (subWorld (sjOf j) w2 (Mo k j) 0 []).slots[t]? = some v :=
    fun hv => p2.slot (p1.slot hv)
  have eC : Co k j = w.obs.length := h.oLen.symm
  have eM : Mo k j = w.obs.length + 1 := by rw [h.oLen]; rfl
  have ob : ∀ {o x}, o ≠ Zo j → w.obs[o]? = some x →
      (subWorld (sjOf j) w2 (Mo k j) 0 []).obs[o]? = some x := fun {o x} hne hv =>
    have hlt := getElem?_lt hv
    (modify_get_other _ _ (eM ▸ Nat.ne_of_gt (Nat.lt_succ_of_lt hlt))).trans
      (p2.ob (eC ▸ Nat.ne_of_lt hlt) (p1.ob hne hv))
  have hi : 2 * j + 1 < 2 * k := by omega
  have T := h.topTab.mono fun c hc v hv => cell (.inr (Nat.lt_of_lt_of_le hi (topAddrs_range hc).1)) (p2.cell (p1.cell hv))
  have c1 : w1.cells.length = mser k j := by rw [p1.cellsLen, h.cLen]; rfl
  have s1 : w1.slots.length = mfin k j := by rw [p1.slotsLen, h.sLen]; rfl
  have nS := p2.cell p1.cSer; rw [h.cLen] at nS
  have nM := p2.cell p1.cMap; rw [h.cLen, ← eC] at nM
  have nQ := p2.cell p1.cExt; rw [h.cLen] at nQ
  have nM' := p2.cMap; rw [c1, p1.obsLen, ← eM] at nM'
  have nT := p2.cExt; rw [c1] at nT
  have nF := p2.slot p1.slotNew; rw [h.sLen] at nF
  have nF' := p2.slotNew; rw [s1] at nF'
  have nZ := p2.ob (eC ▸ Nat.ne_of_lt (getElem?_lt (h.zfresh j (Nat.le_refl _) hj)))
    (p1.obsS _ (h.zfresh j (Nat.le_refl _) hj))
  have nC := p2.obsS _ (by have := p1.obsNew; rwa [← eC] at this)
  have nO := p2.obsNew; rw [p1.obsLen, ← eM] at nO
  exact
  { status := (p2.status.trans p1.status).trans h.status
    held := (p2.held.trans p1.held).trans h.held
    user := by show ∃ u, w2.users[0]? = some u ∧ _; rw [p2.users, p1.users]; exact h.user
    trace := (p2.trace.trans p1.trace).trans h.trace
    cLen := by
      show (List.set (List.set _ _ _) _ _).length = _
      rw [List.length_set, List.length_set, p2.cellsLen, p1.cellsLen, h.cLen]; rfl
    sLen := by show w2.slots.length = _; rw [p2.slotsLen, p1.slotsLen, h.sLen]; rfl
    oLen := by show (w2.obs.modify _ _).length = _; rw [List.length_modify, p2.obsLen, p1.obsLen, h.oLen]; rfl
    root := ob (Nat.ne_of_lt (Nat.lt_add_right j (by decide))) h.root
    o1 := ob (Nat.ne_of_lt (Nat.lt_add_right j (by decide))) h.o1
    oS := T.get (i := 0) rfl rfl, oM := T.get (i := 1) rfl rfl, oF := slot h.oF
    zS := T.get (i := 2) rfl rfl, zM := T.get (i := 3) rfl rfl, zQ := T.get (i := 4) rfl rfl, zF := slot h.zF
    zfresh := fun j' h1 h2 => ob (fun q => Nat.ne_of_gt h1 (Nat.add_left_cancel q)) (h.zfresh j' (Nat.le_of_lt h1) h2)
    sfresh := fun j' h1 h2 =>
      let ⟨a1, a2, a3, a4⟩ := h.sfresh j' (Nat.le_of_lt h1) h2
      ⟨cell (.inr (by omega)) (p2.cell (p1.cell a1)), cell (.inr (by omega)) (p2.cell (p1.cell a2)), slot a3, slot a4⟩
    done := by
      intro j' hj'
      rcases Nat.lt_or_ge j' j with hlt | hge
      · -- an older chain: untouched
        refine (h.done j' hlt).mono (fun c hc v hv => cell ?_ (p2.cell (p1.cell hv))) (fun o ho x hx => ob ?_ hx)
          fun t _ v hv => slot hv
        · have := cellAddrs_range hc; omega
        · simp only [chainObs, lowObs, jl, bLive, List.map_nil, List.mem_cons, List.not_mem_nil, or_false, Zo, Co,
            Mo] at ho ⊢
          omega
      · -- the new chain
        obtain rfl : j' = j := Nat.le_antisymm (Nat.le_of_lt_succ hj') hge
        obtain ⟨sf1, sf2, sf3, sf4⟩ := h.sfresh j' (Nat.le_refl _) hj
        have hc : ∀ r, 2 * j' + 1 < 2 * k + 5 + 6 * j' + r := fun r => by omega
        exact
        { subjO := set_get_same _ ((set_get_other _ (Nat.succ_ne_self _)).trans (p2.cell (p1.cell sf1)))
          subjS := (set_get_other _ (Nat.succ_ne_self _).symm).trans (set_get_same _ (p2.cell (p1.cell sf2)))
          sl1 := slot sf3, sl2 := slot sf4, sl3 := nF, sl4 := nF'
          cS := cell (.inr (hc 0)) nS
          cM := cell (.inr (hc 1)) nM
          cQ := cell (.inr (hc 2)) nQ
          mM := cell (.inr (hc 4)) nM'
          mT := cell (.inr (hc 5)) nT
          oZ := (modify_get_other _ _ (by simp only [Mo, Zo]; omega)).trans nZ
          oC := (modify_get_other _ _ (Nat.succ_ne_self _)).trans nC
          oM := modify_get_same _ _ nO
          oJ := fun p hp => by cases hp } }

theorem setup_step (h : SetupInv k j w) (hj : j < k) :
    WP ((oWithEnd (sjOf j).observable).sub (Zo j)) w (SetupInv k (j + 1)) := by
  have hZ := h.zfresh j (Nat.le_refl _) hj
  obtain ⟨sf1, sf2, sf3, _⟩ := h.sfresh j (Nat.le_refl _) hj
  simp only [Obsv.sub]
  refine wp_obsIsSub hZ ?_
  simp only [zipObs, Obs.isSub, Option.isSome_some, Bool.and_self, ↓reduceIte, oWithEnd, oConcat]
  refine wp_stage1 (C := cser k j) (S := cfin k j) (O := Co k j) h.cLen h.sLen h.oLen (Zo j) _ _ _ _
    (fun _ _ ob => (stdOp kSome (sjOf j).observable).sub ob) h.held hZ rfl fun w1 p1 => ?_
  -- concat_j has been created; now map_j
  replace p1 : StagePost w w1 (Zo j) (scC k j).finalize (.int 0) (concatObs k j none) := p1
  have hC : w1.obs[Co k j]? = some (concatObs k j none) := by have := p1.obsNew; rwa [h.oLen] at this
  simp only [Obsv.sub]
  refine wp_obsIsSub hC ?_
  simp only [concatObs, Obs.isSub, Option.isSome_some, Bool.and_self, ↓reduceIte, stdOp]
  refine wp_stage1 (C := mser k j) (S := mfin k j) (O := Mo k j) (by rw [p1.cellsLen, h.cLen]; rfl)
    (by rw [p1.slotsLen, h.sLen]; rfl) (by rw [p1.obsLen, h.oLen]; rfl) (Co k j) _ _ _ _
    (fun _ _ o => (sjOf j).observable.sub o) (p1.held.trans h.held) hC rfl fun w2 p2 => ?_
  -- map_j has been created; now the subject
  replace p2 : StagePost w1 w2 (Co k j) (scM k j).finalize .unit (mapObs k j none) := p2
  have hM : w2.obs[Mo k j]? = some (mapObs k j none) := by
    have := p2.obsNew; rwa [show w1.obs.length = Mo k j by rw [p1.obsLen, h.oLen]; rfl] at this
  simp only [Obsv.sub]
  refine wp_obsIsSub hM ?_
  simp only [mapObs, Obs.isSub, Option.isSome_some, Bool.and_self, ↓reduceIte]
  exact observable_spec (sj := sjOf j) (serial := 0) (obsl := []) ((p2.held.trans p1.held).trans h.held) hM rfl
    (by simp [sjOf]) (p2.cell (p1.cell sf2)) (p2.cell (p1.cell sf1)) (by intro p hp; cases hp)
    (p2.slot (p1.slot sf3)) (h.step hj p1 p2)

/-- "subscribe all": source `j, j+1, ..` -/
theorem setup_loop : ∀ (n j : Nat) (w : World), j + n = k → SetupInv k j w →
    WP (subscribeAll ((List.range' j n).map fun i => (oWithEnd (sjOf i).observable, Zo i))) w (SetupInv k k) := by
  intro n
  induction n with
  | zero => intro j w hj h; have : j = k := by omega
            subst this; exact WP.done h
  | succ n ih =>
    intro j w hj h
    simp only [List.range'_succ, List.map_cons, subscribeAll]
    apply WP.seq
    exact (setup_step h (by omega)).conseq fun w1 h1 => ih (j + 1) w1 (by omega) h1

theorem corr0 (hk : 0 < k) : CorrOk k (List.range k) (List.replicate k []) (σ0 k) where
  ready := ⟨⟨rfl, rfl, rfl, rfl, List.nodup_range⟩, by
      cases k with
      | zero => omega
      | succ m => simp [σ0, Zip.ne, List.replicate_succ], by simp [σ0], hk⟩
  reg := rfl
  qs := rfl
  chL := fun _ _ _ => rfl
  chD := by intro j hj hc; simp [hj] at hc
  rlt := by intro j hj; simpa using hj

/-- the set-up is complete and `subscribe` has returned -/
theorem setup_final (hk : 0 < k) {w : World} (h : SetupInv k k w) :
    QRel k (Over.init k) [] (w.setUser 0 fun u => { u with ready := true }) := by
  refine ⟨σ0 k, ?_, rfl, .inl ⟨List.range k, List.replicate k [], rfl, corr0 hk⟩⟩
  exact
  { status := h.status, held := h.held, hlOk := by intro p hp; cases hp
    root := h.root
    user := by
      obtain ⟨u, hu, hr⟩ := h.user
      exact ⟨{ u with ready := true }, modify_get_same _ _ hu, hr⟩
    log := by show logOf w 0 = []; simp [logOf, h.trace]
    oS := h.oS, oM := h.oM, oF := h.oF
    o1 := h.o1
    zS := h.zS, zM := h.zM, zQ := h.zQ, zF := h.zF
    regLt := by intro i hi; simpa [σ0] using hi
    chains := fun j hj => (h.done j hj).congr (fun _ _ => rfl) (fun _ _ => rfl) rfl
    jInj := by intro j j' p p' _ _ hp; cases hp }

/-- the world in which `zip` is subscribed -/
structure PreZip (k : Nat) (w : World) : Prop where
  status : w.status = .ok
  held : w.held = []
  user : ∃ u, w.users[0]? = some u ∧ u.react = noReact
  trace : w.trace = []
  cLen : w.cells.length = 2 * k + 2
  sLen : w.slots.length = 2 * k + 1
  oLen : w.obs.length = 2
  root : w.obs[0]? = some (rootObs k true)
  o1 : w.obs[1]? = some (outerObs k none)
  oS : w.cells[oser k]? = some (.int ((1 : Nat) : Int))
  oM : w.cells[omap k]? = some (encMap [(0, 1)])
  oF : w.slots[ofin k]? = some none
  sfresh : ∀ j', j' < k → w.cells[2 * j']? = some .lnil ∧ w.cells[2 * j' + 1]? = some (.int 0) ∧
    w.slots[2 * j']? = some none ∧ w.slots[2 * j' + 1]? = some none

theorem app3_get {α} (l : List α) (a b c : α) :
    (l ++ [a] ++ [b] ++ [c])[l.length]? = some a ∧ (l ++ [a] ++ [b] ++ [c])[l.length + 1]? = some b ∧
      (l ++ [a] ++ [b] ++ [c])[l.length + 2]? = some c := by simp

theorem zip_stage (h : PreZip k w) (src : Obsv) (others : List Obsv) (hlen : others.length + 1 = k)
    (hs : src :: others = (List.range k).map fun i => oWithEnd (sjOf i).observable) :
    WP ((oZip src others).sub 1) w (SetupInv k k) := by
  have hh := h.held
  simp only [Obsv.sub]
  refine wp_obsIsSub h.o1 ?_
  simp only [outerObs, Obs.isSub, Option.isSome, Bool.and_self, ↓reduceIte, oZip, hlen]
  refine wp_sctlNew 1 _ hh ?_
  refine wp_cellNew ?_
  simp only [List.length_append, List.length_cons, List.length_nil, h.cLen, h.sLen]
  obtain ⟨g0, g1, _⟩ := app3_get w.cells (.int 0) .lnil (Data.ofList (List.replicate k .lnil))
  rw [h.cLen] at g0 g1
  refine wp_newObservers (scZ k) _ k _ _ [] 0 _ hh (Nat.ne_of_lt (Nat.lt_succ_self _)) g0 g1 nofun
    ⟨_, modify_get_same _ _ h.o1, rfl⟩ ?_
  simp only [List.length_modify, h.oLen]
  have ez : (src :: others).zip ((List.range k).map (2 + ·))
      = (List.range' 0 k).map fun i => (oWithEnd (sjOf i).observable, Zo i) := by
    rw [hs, show (List.range k).map (2 + ·) = (List.range k).map Zo from rfl, List.range_eq_range', List.zip_map']
  rw [ez]
  refine setup_loop k 0 _ (Nat.zero_add k) ?_
  have ec : ∀ a b, ((w.cells ++ [Data.int 0] ++ [Data.lnil] ++ [Data.ofList (List.replicate k .lnil)]).set (zser k)
      a).set (zmap k) b = w.cells ++ [a] ++ [b] ++ [encQ (List.replicate k [])] := fun a b => by
    rw [show zser k = w.cells.length from h.cLen.symm, show zmap k = w.cells.length + 1 by rw [h.cLen]; rfl,
      set2_app, Zip.encQ_init]; rfl
  simp only [newObsWorld, scZ, ec, Nat.zero_add, List.nil_append, List.length_modify, h.oLen]
  obtain ⟨n0, n1, n2⟩ := app3_get w.cells (.int (k : Int)) (encMap ((List.range k).map fun j => (j, 2 + j)))
    (encQ (List.replicate k []))
  rw [h.cLen] at n0 n1 n2
  have cell : ∀ {c v} {a b d : Data}, w.cells[c]? = some v → (w.cells ++ [a] ++ [b] ++ [d])[c]? = some v :=
    fun hv => (((Tab.cons hv .nil).append _).append _).append _ |>.get (i := 0) rfl rfl
  have slot : ∀ {t v}, w.slots[t]? = some v → (w.slots ++ [none])[t]? = some v :=
    fun hv => RefR.getElem?_append_some hv
  have ob : ∀ {o x} {g : Obs → Obs} {l : List Obs}, (w.obs.modify 1 g)[o]? = some x → (w.obs.modify 1 g ++ l)[o]? = some x :=
    fun hv => RefR.getElem?_append_some hv
  exact
  { status := h.status, held := hh, user := h.user, trace := h.trace
    cLen := by show (w.cells ++ _ ++ _ ++ _).length = _; simp [h.cLen]
    sLen := by show (w.slots ++ [none]).length = _; simp [h.sLen]
    oLen := by show (w.obs.modify 1 _ ++ _).length = _; simp [h.oLen]; omega
    root := ob ((modify_get_other _ _ (by decide)).trans h.root)
    o1 := ob (modify_get_same _ _ h.o1)
    oS := cell h.oS, oM := cell h.oM, oF := slot h.oF
    zS := n0, zM := n1, zQ := n2
    zF := by show (w.slots ++ [none])[zfin k]? = _; simp [zfin, h.sLen]
    zfresh := by
      intro j' _ hj'
      show (w.obs.modify 1 _ ++ _)[Zo j']? = _
      rw [List.getElem?_append_right (by simp [Zo, h.oLen])]
      simp [Zo, h.oLen, hj', codeObs, zipObs, zPush]
      exact ⟨rfl, rfl, rfl⟩
    sfresh := fun j' _ hj' =>
      let ⟨a, b, c, d⟩ := h.sfresh j' hj'
      ⟨cell a, cell b, slot c, slot d⟩
    done := fun j' hj' => absurd hj' (Nat.not_lt_zero _) }

end Rx.SeqRef
