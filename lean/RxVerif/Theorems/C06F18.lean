import RxVerif.Machine.Case
/-
C06, known finding F18 (recorded in known_findings.json, DESIGN 10.4) — the witness, on model A.

`(conn x ref_count (cold 0 (n 0) c))  (sub (take 1 (ref x)))`: the connectable is built over a probed cold source that
emits `0` and completes synchronously inside `subscribe`; the only subscriber takes one item.  The subscriber's
`complete` is delivered (it has all it needs) while the source is still inside its synchronous run — and the source's
next `is_subscribed()` probe still reads `true`: the shared source is NOT unsubscribed when the last subscriber leaves
during the connecting subscribe (ref_count.rs stores the connection handle only after `source.subscribe` has returned;
until then it can only set `cancelled`).  The real code produces the same trace (corpus/C06, replay of the finding).
`replay()` shares the code path.
-/
namespace Rx.C06F18
open Rx

/-- the world after `(conn x ref_count (cold 0 (n 0) c))`, and the id of the connectable's observable -/
def built : World × Nat :=
  let w : World := {}
  let o := oScript 0 true [.next (.int 0), .complete]
  let (w, sj) := w.allocSubj
  let (w, c) := w.allocCell (.bool false)
  let (w, sb) := w.allocCell .lnil
  let (w, cn) := w.allocCell (.bool false)
  let (w, id) := w.allocObsv sj.observable
  (run fuelPerStep
    [refCountHooks ⟨c, sb, cn⟩ o sj.onSub sj.onUnsub (fun x => sj.next x) (fun e => sj.error e) sj.complete] w, id)

/-- `(sub (take 1 (ref x)))`, the subscriber reacting to nothing -/
def afterSub : World :=
  let (w, id) := built
  let (w, id2) := w.allocObsv (stdOp (kTake 1) (fun o => .obsvSub id o .done))
  run fuelPerStep [.userSub id2 (fun _ _ _ => .done) .done] w

def trace : List Rec := afterSub.trace

/-- **F18 witness.**  The source was subscribed once (`probe 0`), saw `is_subscribed() = true` (`probe 1`), emitted;
    subscriber 0 received the item and — through `take(1)` — its `complete`; and the source's NEXT probe, after the
    subscription had ended, still reads `true`. -/
theorem refcount_source_not_stopped_during_connect :
    trace = [.probe 0 (.int 2), .probe 1 (.bool true), .ev 0 (.next (.int 0)), .ev 0 .complete, .probe 1 (.bool true)] ∧
    afterSub.status = .ok := by
  decide

end Rx.C06F18

#print axioms Rx.C06F18.refcount_source_not_stopped_during_connect
