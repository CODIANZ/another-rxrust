import RxVerif.Theorems.C03RefSetup
/-
C03-REF (general form).  The relation of C03RefBase assumes one inner observer per subject and the
controller's cells right after the subjects.  flat_map needs several observers on one subject (created while the
history runs), skip_until / sample allocate their own cell BEFORE the controller.  `Rel` here covers both:

  * entities `e` (inner observers) are attached to subject `E.sub e` under key `E.key e`; `E.mode e` says whether
    the observer is created but not subscribed (`fresh`), registered in its subject (`on`), or taken out of the
    subject's map by a terminal broadcast that has not reached it yet (`pend`)
  * the controller's cells `cs cm`, the operator's cell `cx` and the slot `fin` are layout parameters
-/
namespace Rx.GRef
open Rx.Sim Rx.Ref Rx.Comb Rx.CRef

inductive Mode where | fresh | on | pend
deriving DecidableEq, Repr

def Mode.isOn : Mode → Bool
  | .on => true
  | _ => false

theorem Mode.isOn_iff (m : Mode) : m.isOn = true ↔ m = .on := by cases m <;> simp [Mode.isOn]

/-- `k` subjects (cells `2j`, `2j + 1`, slots below `2k`); the controller's cells `cs` (serial counter) and `cm` (map),
    the operator's own cell `cx`, the slot `fin`; inner observer `e` is observer `ob e`, registered under serial
    `ser e`, with closures `hn e / he e / hc e` -/
structure GLay where
  k : Nat
  cs : Nat
  cm : Nat
  cx : Nat
  fin : Nat
  ser : Nat → Nat
  ob : Nat → Nat
  hn : Nat → Data → Prog
  he : Nat → Nat → Prog
  hc : Nat → Prog

def GLay.sc (L : GLay) : Sctl := ⟨0, L.cs, L.cm, L.fin⟩

/-- the controller's cells and slot lie above those of the subjects (`2k ≤ …`) and apart; `obPos`: observer 0 is the
    root observer -/
structure GLay.Ok (L : GLay) : Prop where
  cs : 2 * L.k ≤ L.cs
  cm : 2 * L.k ≤ L.cm
  cx : 2 * L.k ≤ L.cx
  ne1 : L.cs ≠ L.cm
  ne2 : L.cs ≠ L.cx
  ne3 : L.cm ≠ L.cx
  fin : 2 * L.k ≤ L.fin
  obPos : ∀ e, 0 < L.ob e
  obInj : ∀ e e', L.ob e = L.ob e' → e = e'
  serInj : ∀ e e', L.ser e = L.ser e' → e = e'

/-- what set-up by `newObservers` needs on top of `Ok`: the observers are created in the order of their serials, and
    `ser` is its own inverse (in every operator it is the identity or `rev`) -/
structure GLay.Std (L : GLay) : Prop where
  ob : ∀ e, L.ob e = 1 + L.ser e
  ser : ∀ e, L.ser (L.ser e) = e
  serLt : ∀ e, e < L.k → L.ser e < L.k

theorem inj_of_inv {f : Nat → Nat} (h : ∀ e, f (f e) = e) (e e' : Nat) (q : f e = f e') : e = e' := by
  rw [← h e, q, h]

/-- the layout of an operator that creates its controller right after the subjects, then its own cell -/
def GLay.std (k : Nat) (ser : Nat → Nat) (hn : Nat → Data → Prog) (he : Nat → Nat → Prog) (hc : Nat → Prog) : GLay :=
  ⟨k, 2 * k, 2 * k + 1, 2 * k + 2, 2 * k, ser, fun e => 1 + ser e, hn, he, hc⟩

theorem GLay.std_ok {k : Nat} {ser : Nat → Nat} {hn : Nat → Data → Prog} {he : Nat → Nat → Prog} {hc : Nat → Prog}
    (hs : ∀ e, ser (ser e) = e) : (GLay.std k ser hn he hc).Ok where
  cs := Nat.le_refl _
  cm := by simp only [GLay.std]; omega
  cx := by simp only [GLay.std]; omega
  ne1 := by simp only [GLay.std]; omega
  ne2 := by simp only [GLay.std]; omega
  ne3 := by simp only [GLay.std]; omega
  fin := Nat.le_refl _
  obPos := fun _ => Nat.add_pos_left Nat.one_pos _
  obInj := fun e e' h => inj_of_inv hs e e' (Nat.add_left_cancel h)
  serInj := inj_of_inv hs

theorem GLay.std_std {k : Nat} {ser : Nat → Nat} {hn : Nat → Data → Prog} {he : Nat → Nat → Prog} {hc : Nat → Prog}
    (hs : ∀ e, ser (ser e) = e) (hlt : ∀ e, e < k → ser e < k) : (GLay.std k ser hn he hc).Std :=
  ⟨fun _ => rfl, hs, hlt⟩

/-- serials handed out in reverse source order (`pop()` takes the observers from the back) -/
def rev (k e : Nat) : Nat := if e < k then k - 1 - e else e

theorem rev_rev (k e : Nat) : rev k (rev k e) = e := by
  unfold rev; split
  · rw [if_pos (by omega)]; omega
  · rfl

theorem rev_lt {k e : Nat} (h : e < k) : rev k e < k := by unfold rev; rw [if_pos h]; omega

/-- where the entities are attached -/
structure Ent where
  sub : Nat → Nat
  key : Nat → Nat
  mode : Nat → Mode
  cnt : Nat → Nat      -- the subjects' serial counters

/-- the entities `Rel` speaks of: live, or still registered -/
def known (c : Ctl) (e : Nat) : Bool := c.live.contains e || c.reg.contains e

/-- the entities registered in subject `j`, in registration order -/
def inMap (E : Ent) (c : Ctl) (j : Nat) : List Nat :=
  c.live.filter fun e => E.sub e == j && (E.mode e).isOn

theorem mem_inMap {E : Ent} {c : Ctl} {j a : Nat} (h : a ∈ inMap E c j) :
    c.live.contains a = true ∧ E.sub a = j ∧ E.mode a = .on := by
  simp only [inMap, List.mem_filter, Bool.and_eq_true, beq_iff_eq, Mode.isOn_iff] at h
  exact ⟨by simpa using h.1, h.2.1, h.2.2⟩

def hookE (E : Ent) (e : Nat) : Prog := hookProg (sjOf (E.sub e)) ((E.key e : Nat) : Int)

def InnerSt (L : GLay) (E : Ent) (c : Ctl) (e : Nat) (o : Obs) : Prop :=
  if c.live.contains e then
    o = ⟨some (.code (L.hn e)), some (.code (L.he e)), some (.code (L.hc e)),
         if E.mode e = .fresh then none else some (hookE E e)⟩
  else o.next = none ∧ o.error = none ∧ o.complete = none ∧
    (o.onUnsub = none ∨ (o.onUnsub = some (hookE E e) ∧ E.mode e ≠ .fresh))

def rootObs (L : GLay) (alive : Bool) : Obs :=
  ⟨if alive then some (.user 0) else none, if alive then some (.user 0) else none,
   if alive then some (.user 0) else none, some L.sc.finalize⟩

/-- World ↔ `Comb.Ctl` for attachment `E`.  `hl`: the guards held (only ever on the controller's map); `x`: what the
    controller macros leave alone (`Fr`: the operator's cell, the serial counter, the number of observers); `out`: what
    test user 0 has received. -/
structure Rel (L : GLay) (E : Ent) (hl : List (LockId × Bool)) (c : Ctl) (x : Fr) (out : List Ev)
    (w : World) : Prop where
  status : w.status = .ok
  held : w.held = hl
  hlOk : ∀ p ∈ hl, p.1 = .cell L.cm
  root : w.obs[0]? = some (rootObs L c.alive)
  user : ∃ u, w.users[0]? = some u ∧ u.react = noReact
  subLt : ∀ e, known c e = true → E.sub e < L.k
  ex : ∀ e, known c e = true → L.ob e < w.obs.length
  subjO : ∀ j, j < L.k → w.cells[2 * j]? = some (encMap ((inMap E c j).map fun e => (E.key e, L.ob e)))
  subjS : ∀ j, j < L.k → w.cells[2 * j + 1]? = some (.int ((E.cnt j : Nat) : Int))
  keyLe : ∀ e, known c e = true → E.mode e ≠ .fresh → E.key e ≤ E.cnt (E.sub e)
  keyInj : ∀ e e', known c e = true → known c e' = true → E.mode e ≠ .fresh → E.mode e' ≠ .fresh →
    E.sub e = E.sub e' → E.key e = E.key e' → e = e'
  slots : ∀ j, j < 2 * L.k → w.slots[j]? = some none
  slotF : w.slots[L.fin]? = some none
  mapC : ∃ l : List Nat, w.cells[L.cm]? = some (encMap (l.map fun e => (L.ser e, L.ob e))) ∧
    ∀ e, e ∈ l ↔ e ∈ c.reg
  serC : w.cells[L.cs]? = some (.int (x.sv : Int)) ∧ ∀ e ∈ c.reg, L.ser e < x.sv
  nObs : w.obs.length = x.no
  inner : ∀ e o, w.obs[L.ob e]? = some o → InnerSt L E c e o
  xc : w.cells[L.cx]?.getD .unit = x.x
  log : logOf w 0 = out

variable {L : GLay} {E : Ent} {hl : List (LockId × Bool)} {c : Ctl} {x : Fr} {out : List Ev} {w : World}

theorem Rel.noconf (h : Rel L E hl c x out w) {l : LockId} (hne : l ≠ .cell L.cm) (wr : Bool) :
    w.conflicts l wr = false :=
  noconf_other (by rw [h.held]; exact h.hlOk) hne

theorem rootObs_isSub (L : GLay) (a : Bool) : (rootObs L a).isSub = a := by cases a <;> rfl

/-- `subscriber.is_subscribed()` -/
theorem Rel.wp_isSub (h : Rel L E hl c x out w) {K : Bool → Prog} {Q : World → Prop} (hk : WP (K c.alive) w Q) :
    WP (.obsIsSub 0 K) w Q :=
  wp_obsIsSub h.root (by rw [rootObs_isSub]; exact hk)

theorem Rel.setHeld (h : Rel L E hl c x out w) (hl' : List (LockId × Bool)) (hok : ∀ p ∈ hl', p.1 = .cell L.cm) :
    Rel L E hl' c x out { w with held := hl' } :=
  { h with held := rfl, hlOk := hok }

theorem known_kill (c : Ctl) (e e' : Nat) (h : known { c with live := c.live.filter (· != e) } e' = true) :
    known c e' = true := by
  simp only [known, contains_filter_ne, Bool.or_eq_true, Bool.and_eq_true] at h ⊢
  rcases h with q | q
  · exact .inl q.1
  · exact .inr q

theorem inMap_kill (E : Ent) (c : Ctl) (e j : Nat) :
    inMap E { c with live := c.live.filter (· != e) } j = (inMap E c j).filter (· != e) := by
  simp only [inMap, List.filter_filter]; apply List.filter_congr; intro a _; rw [Bool.and_comm]

theorem inMap_kill_notin (E : Ent) (c : Ctl) (e j : Nat) (h : e ∉ inMap E c j) :
    inMap E { c with live := c.live.filter (· != e) } j = inMap E c j := by
  rw [inMap_kill, List.filter_eq_self]; intro a ha; simp only [bne_iff_ne]; intro q; exact h (q ▸ ha)

/-- the `dead` shape of an inner observer -/
def DeadObs (E : Ent) (e : Nat) (o : Obs) : Prop :=
  o.next = none ∧ o.error = none ∧ o.complete = none ∧
    (o.onUnsub = none ∨ (o.onUnsub = some (hookE E e) ∧ E.mode e ≠ .fresh))

theorem innerSt_dead {c : Ctl} {e : Nat} {o : Obs} (hl : c.live.contains e = false) :
    InnerSt L E c e o ↔ DeadObs E e o := by
  simp only [InnerSt, hl, Bool.false_eq_true, ↓reduceIte, DeadObs]

/-- the world after inner observer `e` lost its callbacks, subject `E.sub e` holding what is left of its map -/
theorem Rel.kill_unsub (ok : L.Ok) (h : Rel L E hl c x out w) {e : Nat} {o : Obs}
    (ho : w.obs[L.ob e]? = some o) (hj : E.sub e < L.k) (f : Obs → Obs) (hf : DeadObs E e (f o))
    (cells' : List Data) (hc1 : ∀ n : Nat, n ≠ 2 * E.sub e → cells'[n]? = w.cells[n]?)
    (hc2 : cells'[2 * E.sub e]? = some (encMap
      ((inMap E { c with live := c.live.filter (· != e) } (E.sub e)).map fun a => (E.key a, L.ob a)))) :
    Rel L E hl { c with live := c.live.filter (· != e) } x out
      { w with obs := w.obs.modify (L.ob e) f, cells := cells' } := by
  -- (with `hj`, for the `omega`s that tell the controller's cells from `2 * E.sub e`)
  have h1 := ok.cs; have h2 := ok.cm; have h3 := ok.cx
  exact
  { status := h.status, held := h.held, hlOk := h.hlOk
    root := by
      show (w.obs.modify _ _)[0]? = _
      rw [modify_get_other _ _ (by have := ok.obPos e; omega)]; exact h.root
    user := h.user
    subLt := fun a ha => h.subLt a (known_kill c e a ha)
    ex := by
      intro a ha; show _ < (w.obs.modify _ _).length
      rw [List.length_modify]; exact h.ex a (known_kill c e a ha)
    subjO := by
      intro j hjk
      show cells'[2 * j]? = _
      by_cases q : j = E.sub e
      · subst q; exact hc2
      · rw [hc1 _ (by omega), h.subjO j hjk, inMap_kill_notin]
        exact fun hm => q (mem_inMap hm).2.1.symm
    subjS := by
      intro j hjk; show cells'[2 * j + 1]? = _
      rw [hc1 _ (by omega)]; exact h.subjS j hjk
    keyLe := fun a ha => h.keyLe a (known_kill c e a ha)
    keyInj := fun a b ha hb => h.keyInj a b (known_kill c e a ha) (known_kill c e b hb)
    slots := h.slots, slotF := h.slotF
    mapC := by
      obtain ⟨l, hm, hmem⟩ := h.mapC
      exact ⟨l, by show cells'[_]? = _; rw [hc1 _ (by omega)]; exact hm, hmem⟩
    serC := ⟨by show cells'[_]? = _; rw [hc1 _ (by omega)]; exact h.serC.1, h.serC.2⟩
    nObs := by show (w.obs.modify _ _).length = _; rw [List.length_modify]; exact h.nObs
    inner := by
      intro a oa hoa
      have hoa' : (w.obs.modify (L.ob e) f)[L.ob a]? = some oa := hoa
      by_cases q : a = e
      · subst q
        rw [modify_get_same _ _ ho] at hoa'
        cases hoa'
        rw [innerSt_dead (by rw [contains_filter_ne]; simp)]; exact hf
      · rw [modify_get_other _ _ (fun r => q (ok.obInj _ _ r).symm)] at hoa'
        have := h.inner a oa hoa'
        have hq : (a != e) = true := by simp [q]
        simpa [InnerSt, contains_filter_ne, hq] using this
    xc := by show cells'[_]?.getD _ = _; rw [hc1 _ (by omega)]; exact h.xc
    log := h.log }

theorem known_live {c : Ctl} {e : Nat} (h : c.live.contains e = true) : known c e = true := by
  simp only [known, h, Bool.true_or]

theorem known_reg {c : Ctl} {e : Nat} (h : c.reg.contains e = true) : known c e = true := by
  simp only [known, h, Bool.or_true]

theorem known_eq_false {c : Ctl} {e : Nat} (hl : e ∉ c.live) (hr : e ∉ c.reg) : known c e = false := by
  simp [known, hl, hr]

theorem Rel.hkey (h : Rel L E hl c x out w) {e : Nat} (hk : known c e = true) (hm : E.mode e ≠ .fresh) :
    ∀ a ∈ inMap E c (E.sub e), E.key a = E.key e → a = e := by
  intro a ha q
  obtain ⟨h1, h2, h3⟩ := mem_inMap ha
  exact h.keyInj a e (known_live h1) hk (by rw [h3]; exact fun r => nomatch r) hm h2 q

/-- `unsubscribe` of inner observer `e` (observer.rs:53-60, then subject.rs:74-83) -/
theorem unsub_inner_aux (ok : L.Ok) (h : Rel L E hl c x out w) {e : Nat} (hj : E.sub e < L.k) {o : Obs}
    (ho : w.obs[L.ob e]? = some o)
    (hkey : E.mode e ≠ .fresh → ∀ a ∈ inMap E c (E.sub e), E.key a = E.key e → a = e) :
    WP (.obsUnsub (L.ob e) .done) w (Rel L E hl { c with live := c.live.filter (· != e) } x out) := by
  have hcm := ok.cm
  have hst := h.inner e o ho
  cases hf : o.onUnsub with
  | none =>
    refine wp_obsUnsub_none ho hf (WP.done ?_)
    refine h.kill_unsub ok ho hj _ (by simp [DeadObs, Obs.cleared]) w.cells (fun _ _ => rfl) ?_
    rw [h.subjO _ hj, inMap_kill_notin]
    intro hm
    obtain ⟨hlv, _, hon⟩ := mem_inMap hm
    simp only [InnerSt, hlv, ↓reduceIte] at hst
    rw [hst] at hf
    simp [hon] at hf
  | some f =>
    have hfe : f = hookE E e ∧ E.mode e ≠ .fresh := by
      cases hlv : c.live.contains e with
      | false =>
        rw [innerSt_dead hlv] at hst
        rcases hst.2.2.2 with q | q
        · rw [hf] at q; cases q
        · rw [hf] at q; exact ⟨Option.some.inj q.1, q.2⟩
      | true =>
        simp only [InnerSt, hlv, ↓reduceIte] at hst
        rw [hst] at hf
        by_cases hm : E.mode e = .fresh
        · simp [hm] at hf
        · simp only [hm, ↓reduceIte] at hf; exact ⟨(Option.some.inj hf).symm, hm⟩
    obtain ⟨rfl, hm⟩ := hfe
    refine wp_obsUnsub_some ho hf ?_
    simp only [hookE, hookProg, sjOf]
    refine wp_cellRead_nc (h.noconf (cell_ne (by omega)) _) ?_
    have hread : ((w.setObs (L.ob e) fun x => { x.cleared with onUnsub := none }).cells[2 * E.sub e]?).getD .unit =
        encMap ((inMap E c (E.sub e)).map fun a => (E.key a, L.ob a)) := by
      show (w.cells[2 * E.sub e]?).getD .unit = _
      rw [h.subjO _ hj]; rfl
    rw [hread, amapRemove_encMap, filter_map_key (hkey hm), ← inMap_kill]
    refine wp_cellWrite_nc (h.noconf (cell_ne (by omega)) _) ?_
    refine wp_lockedSlotCall_none' (h.noconf (by simp) _) (h.slots _ (by omega)) (WP.done (WP.done ?_))
    exact h.kill_unsub ok ho hj _ (by simp [DeadObs, Obs.cleared]) _
      (fun n hn => set_get_other _ (Ne.symm hn)) (set_get_same _ (h.subjO _ hj))

theorem unsub_inner (ok : L.Ok) (h : Rel L E hl c x out w) {e : Nat} (hk : known c e = true) :
    WP (.obsUnsub (L.ob e) .done) w (Rel L E hl { c with live := c.live.filter (· != e) } x out) :=
  unsub_inner_aux ok h (h.subLt e hk) (List.getElem?_eq_getElem (h.ex e hk)) (fun hm => h.hkey hk hm)

theorem known_fin {c : Ctl} {e : Nat} (h : known c.finalize e = true) : known c e = true := by
  simp only [known, Ctl.finalize, List.contains_nil, Bool.or_false] at h
  have : e ∈ c.live := by
    have q : e ∈ c.live.filter fun i => !c.reg.contains i := by simpa using h
    exact (List.mem_filter.1 q).1
  exact known_live (by simpa using this)

theorem known_sub {c : Ctl} {reg' : List Nat} (hsub : ∀ j ∈ reg', j ∈ c.reg) {e : Nat}
    (h : known { c with reg := reg' } e = true) : known c e = true := by
  simp only [known, Bool.or_eq_true] at h ⊢
  rcases h with q | q
  · exact .inl q
  · exact .inr (by simpa using hsub e (by simpa using q))

/-- the map cell rewritten with part of `reg` -/
theorem Rel.setReg (ok : L.Ok) (h : Rel L E hl c x out w) (l' reg' : List Nat) (hsub : ∀ j ∈ reg', j ∈ c.reg)
    (hmem' : ∀ j, j ∈ l' ↔ j ∈ reg') :
    Rel L E hl { c with reg := reg' } x out
      { w with cells := w.cells.set L.cm (encMap (l'.map fun j => (L.ser j, L.ob j))) } := by
  have h2' := ok.cm; have h4' := ok.ne1; have h5' := ok.ne3
  exact
  { h with
    subLt := fun e he => h.subLt e (known_sub hsub he)
    ex := fun e he => h.ex e (known_sub hsub he)
    subjO := by
      intro i hi; show (w.cells.set _ _)[_]? = _
      rw [set_get_other _ (by omega)]; exact h.subjO i hi
    subjS := by
      intro i hi; show (w.cells.set _ _)[_]? = _
      rw [set_get_other _ (by omega)]; exact h.subjS i hi
    keyLe := fun e he => h.keyLe e (known_sub hsub he)
    keyInj := fun a b ha hb => h.keyInj a b (known_sub hsub ha) (known_sub hsub hb)
    mapC := by
      obtain ⟨l, hm, _⟩ := h.mapC
      exact ⟨l', set_get_same _ hm, hmem'⟩
    serC := by
      refine ⟨?_, fun j hj => h.serC.2 j (hsub j hj)⟩
      show (w.cells.set _ _)[_]? = _
      rw [set_get_other _ (Ne.symm h4')]; exact h.serC.1
    xc := by
      show (w.cells.set _ _)[_]?.getD _ = _
      rw [set_get_other _ h5']; exact h.xc }

theorem foldl_filter_ne : ∀ l s : List Nat,
    l.foldl (fun s e => s.filter (· != e)) s = s.filter fun a => !l.contains a
  | [], s => by simp [List.filter_eq_self.2]
  | i :: l, s => by
    rw [List.foldl_cons, foldl_filter_ne l, List.filter_filter]
    apply List.filter_congr; intro a _
    simp only [List.contains_cons, Bool.not_or, bne]; rw [Bool.and_comm]

/-- `StreamController::finalize` (stream_controller.rs:146-159) once the subscriber has lost its callbacks -/
theorem finalize_spec (ok : L.Ok) (h : Rel L E [] c x out w) (ha : c.alive = false) :
    WP L.sc.finalize w (Rel L E [] c.finalize x out) := by
  obtain ⟨l, hm, hmem⟩ := h.mapC
  have hw := h.held
  have es : ∀ e, (fun a => L.ser a != L.ser e) = (· != e) := fun e => funext fun a => by
    rw [Bool.eq_iff_iff, bne_iff_ne, bne_iff_ne]; exact not_congr ⟨ok.serInj a e, congrArg L.ser⟩
  refine wp_finalize L.sc _ (fun p live => live.filter (L.ser · != p.1))
    (fun live => Rel L E [(.cell L.cm, false)] { c with live := live } x out) hm (fun p hp => by rw [hw] at hp; cases hp)
    (by rw [hw]; exact h.setHeld _ (by simp)) ?_ (by simp only [List.foldl_map, es]; exact foldl_filter_ne l _) ?_
  · rintro p live w1 hp h1
    obtain ⟨e, he, rfl⟩ := List.mem_map.1 hp
    rw [es]
    exact unsub_inner ok h1 (known_reg (by simpa using (hmem e).1 he))
  · intro w2 h2
    refine ⟨by rw [h2.held, hw]; rfl, ⟨_, h2.root, by rw [rootObs_isSub]; exact ha⟩, h2.slotF, ?_⟩
    have el : c.live.filter (fun j => !l.contains j) = c.live.filter (fun j => !c.reg.contains j) := by
      apply List.filter_congr; intro j _
      congr 1; rw [Bool.eq_iff_iff]; simp [hmem j]
    have e : c.finalize = { c with live := c.live.filter fun j => !l.contains j, reg := [] } := by
      cases c; simp only [Ctl.finalize] at ha ⊢; rw [ha, el]
    rw [e, hw]
    exact (h2.setHeld [] nofun).setReg ok [] [] nofun fun _ => Iff.rfl

end Rx.GRef
