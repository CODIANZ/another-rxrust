import RxVerif.Theorems.C03RefSkipUntil
/-
C03-REF, sample: model A's `oSample` (Machine/Lib.lean, transliterating src/operators/sample.rs) over two plain hot
subjects (0 = source, 1 = trigger) REFINES the pure history machine `Comb.sample`.
-/
namespace Rx.GRef.Sample
open Rx.Sim Rx.Ref Rx.Comb Rx.CRef Rx.GRef.SkipUntil

/-- sample.rs:38-71, the closures by serial (0 = the trigger's observer); the latest value is the operator's cell
    (allocated before the controller, as in skip_until) -/
def mk : Nat → (Nat → Data → Prog) × (Nat → Nat → Prog) × (Nat → Prog) := fun m =>
  if m = 0 then
    (fun _ _ => .cellRead 4 false fun cur => .cellWrite 4 false .lnil <|
        match Data.optDec cur with | some x => sc.sinkNext x | none => .done, fun _ _ => .done, fun _ => .done)
  else (fun _ x => .cellWrite 4 false (Data.optEnc (some x)) .done, fun _ e => sc.sinkError e,
        fun _ => sc.sinkCompleteForce)

def lay : GLay := lay2 mk

theorem lay_ok : lay.Ok := lay2_ok

theorem optEnc_ne (v : Option Data) : Data.optEnc v ≠ .unit := by cases v <;> simp [Data.optEnc]

def sim : StaticSim lay sample.step where
  ok := lay_ok
  ctl s := s.ctl
  fr s := ⟨Data.optEnc s.value, 2, 3⟩
  dead s p h := if_neg (by rw [show s.ctl.isLive p.1 = false from h]; decide)
  body s i ev out w _ hi hlv h := by
    have hi : i < 2 := hi
    obtain ⟨c, v⟩ := s
    have ok := lay_ok
    refine WP.conseq ?_ fun _ q => ⟨q, trivial⟩
    rcases (by omega : i = 0 ∨ i = 1) with e | e <;> subst e <;> cases ev <;>
      simp only [sample.step, Ctl.isLive, hlv, ↓reduceIte, beq_self_eq_true, show ((1 : Nat) == 0) = false from rfl,
        Bool.false_eq_true, List.append_nil]
    · show WP (.cellWrite 4 false (Data.optEnc (some _)) .done) _ _
      exact wp_cellWrite h.held (WP.done (h.setX ok (optEnc_ne _) _))
    · exact h.sinkError ok _
    · exact h.sinkCompleteForce ok
    · show WP (.cellRead 4 false fun cur => .cellWrite 4 false .lnil <|
          match Data.optDec cur with | some v => sc.sinkNext v | none => .done) _ _
      refine wp_cellRead_val h.held (h.xc_some (optEnc_ne _)) (wp_cellWrite h.held ?_)
      have h2 := h.setX ok (optEnc_ne _) .lnil
      cases v with
      | none => simp only [Data.optEnc, Data.optDec, List.append_nil]; exact WP.done h2
      | some x => exact h2.sinkNext ok x
    · exact WP.done h
    · exact WP.done h

/-- two plain subjects; test user 0 subscribes to `s0.sample(s1)`; then the history -/
def prog (H : History) : Prog :=
  subjsNew 2 fun sjs =>
    .obsvNew (oSample (sjs.getD 0 default).observable (sjs.getD 1 default).observable) fun id =>
    .userSub id noReact (drive sjs H)

def theObsv : Nat → Prog := oSample (sjOf 0).observable (sjOf 1).observable

/-- For EVERY history over the two subjects the program ends, for all sufficient fuel, with
    `status = ok`, no guard held, the user's log equal to the output of `Comb.sample`, and subject `i` holding one
    observer iff `i` is in the machine's final `live` set. -/
theorem sample_refines (H : History) :
    ∃ n0, ∀ fuel, n0 ≤ fuel →
      Agrees 2 (run fuel [prog H] {}) (finalFrom sample.step sample.init H).ctl.live (sample.run 2 H) := by
  refine sim.refines (fun sjs => oSample (sjs.getD 0 default).observable (sjs.getD 1 default).observable) H
    sample.init trivial ?_
  show WP (theObsv 0) (startWorld 2 theObsv) (SRel lay (Ctl.init 2) ⟨Data.optEnc none, 2, 3⟩ [])
  simp only [theObsv, oSample, sctlNew]
  refine wp_cellNew (wp_cellNew (wp_cellNew (wp_slotNew (wp_obsSetOnUnsub rfl ?_))))
  show WP (newObservers sc 2 mk fun os =>
    (sjOf 1).observable.sub (os.getD 0 0) ;; (sjOf 0).observable.sub (os.getD 1 0)) (W0 _ _) _
  refine wp_prepare lay_ok lay2_std mk (fun _ _ => rfl) (rel_W0 _ _) fun w1 h1 => WP.seq ?_
  have hnd : (Ctl.init 2).live.Nodup := by decide
  refine (subscribe_static lay_ok h1 hnd (j := 1) (by decide) rfl rfl).conseq fun w2 h2 => ?_
  refine (subscribe_static lay_ok h2 hnd (j := 0) (by decide) rfl rfl).conseq fun w3 h3 => ?_
  exact ⟨_, h3, Static.of_on hnd (by decide)⟩

theorem sample_machine_spec (H : History) (hwf : WellFormed 2 H) :
    ∃ n0, ∀ fuel, n0 ≤ fuel → (run fuel [prog H] {}).status = .ok ∧
      logOf (run fuel [prog H] {}) 0 = sampleSpec H :=
  machine_spec_of (sample_refines H) (sample_spec 2 H hwf)

def demo : History :=
  [(1, .next (.int 0)), (0, .next (.int 1)), (0, .next (.int 2)), (1, .next (.int 0)), (1, .next (.int 0)),
   (0, .next (.int 3)), (1, .complete), (0, .next (.int 4)), (0, .complete)]

theorem demo_run : (run 3000 [prog demo] {}).status = .ok ∧
    logOf (run 3000 [prog demo] {}) 0 = [.next (.int 2), .complete] := by
  decide +kernel

example : (run 3000 [prog demo] {}).status = .ok := demo_run.1
example : logOf (run 3000 [prog demo] {}) 0 = [.next (.int 2), .complete] := demo_run.2
example : sample.run 2 demo = [.next (.int 2), .complete] := by decide +kernel
example : (List.range 2).map (regCount (run 3000 [prog (demo.take 7)] {})) = [1, 0] ∧
    (finalFrom sample.step sample.init (demo.take 7)).ctl.live = [0] := by decide +kernel
example : WellFormed 2 demo := by decide
example : logOf (run 3000 [prog demo] {}) 0 = sampleSpec demo := demo_run.2.trans (by decide +kernel)

#print axioms sample_refines
#print axioms sample_machine_spec

end Rx.GRef.Sample
