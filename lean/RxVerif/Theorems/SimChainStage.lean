import RxVerif.Theorems.SimChainPure
/-
SIM for chains (pure side): ONE stage.  Feeding observer `j+1` politely with a list of events has,
below observer `j`, the same effect as feeding observer `j` politely with the (machine-exact) kernel run
of stage `j` on those events — even though downstream may unsubscribe observer `j` early (which tears
stage `j` down and cancels its upstream): from then on nothing reaches the part below `j` on either side.
-/
namespace Rx.Chain
open Rx.Sim

/-- polite feeding of observer `j`: `is_subscribed` is asked before each event -/
def pf (n : Nat) (ks : Nat → DK) (j : Nat) (l : List Ev) (z : CSt) : CSt :=
  l.foldl (fun z e => if z.sub j then deliver n ks j e z else z) z

theorem pf_nil (n ks j z) : pf n ks j [] z = z := rfl
theorem pf_cons (n ks j e l z) :
    pf n ks j (e :: l) z = pf n ks j l (if z.sub j then deliver n ks j e z else z) := rfl
theorem pf_append (n ks j l1 l2 z) : pf n ks j (l1 ++ l2) z = pf n ks j l2 (pf n ks j l1 z) := by
  simp [pf, List.foldl_append]

theorem pf_dead (n ks j) (l : List Ev) (z : CSt) (h : z.sub j = false) : pf n ks j l z = z := by
  induction l with
  | nil => rfl
  | cons e l ih => rw [pf_cons]; simp only [h, Bool.false_eq_true, ↓reduceIte]; exact ih

theorem scriptC_eq_pf (n ks) (l : List Ev) (x : CSt) : scriptC n ks l x = pf n ks n l x := by
  induction l generalizing x with
  | nil => rfl
  | cons e l ih =>
    rw [pf_cons]; simp only [scriptC]
    split
    · exact ih _
    · rename_i h; exact (pf_dead n ks n l x (by simpa using h)).symm

/-- the events one action appends to the stage's output -/
def delta (r : KRun) : Act → List Ev
  | .emit d => if r.alive then [.next d] else []
  | .emitAll ds => if r.alive then ds.map .next else []
  | .fail e => if r.alive then [.error e] else []
  | .complete => if r.alive then [.complete] else []
  | .abortSelf => []
  | .finalize => []

theorem actX_out (r : KRun) (a : Act) : (actX r a).out = r.out ++ delta r a := by
  cases a <;> simp only [actX, KRun.act, delta] <;> (try split) <;> simp

theorem delta_dead (r : KRun) (a : Act) (h : r.alive = false) : delta r a = [] := by
  cases a <;> simp [delta, h]

theorem actX_alive_false (r : KRun) (a : Act) (h : r.alive = false) : (actX r a).alive = false := by
  cases a <;> simp [actX, KRun.act, h]

/-- the stage's kernel run over a list of events, machine-exact (`actsX`) -/
def runR (D : DK) : List Ev → Data → KRun → KRun
  | [], _, r => r
  | ev :: l, st, r =>
    if r.cancelled then r
    else if ev.isTerminal then actsX r (D.handle st ev).2
    else runR D l (D.handle st ev).1 (actsX r (D.handle st ev).2)

theorem runR_eq (D : DK) (l : List Ev) : ∀ (st : Data) (r : KRun),
    runR D l st r =
      finishX D.kernel (feedX D.kernel st r (evsStream l).1).1 (feedX D.kernel st r (evsStream l).1).2
        (evsStream l).2 := by
  induction l with
  | nil => intro st r; rfl
  | cons e l ih =>
    intro st r
    cases e with
    | next d =>
      simp only [runR, evsStream, feedX, Ev.isTerminal, Bool.false_eq_true, ↓reduceIte]
      split
      · rename_i hc; rw [finishX_cancelled _ _ _ hc]
      · rw [ih]; rfl
    | error e => simp only [runR, evsStream, feedX, finishX, Ev.isTerminal, ↓reduceIte]; rfl
    | complete => simp only [runR, evsStream, feedX, finishX, Ev.isTerminal, ↓reduceIte]; rfl

/-! ### the coupling between the actual chain (`y`) and the stage's own kernel run `r`, whose output is fed
    politely into observer `j` of `z` as it appears -/

/-- observer `j` alive on both sides: everything below agrees, stage `j`'s flags are the kernel run's -/
structure Sync (j : Nat) (y : CSt) (r : KRun) (z : CSt) : Prop where
  sy : y.sub j = true
  ra : r.alive = true
  lo : LoEq j y z
  rg : y.rg j = r.registered

/-- the source side of stage `j` is asked to stop exactly when the kernel run says `cancelled` -/
def Link (j : Nat) (y : CSt) (r : KRun) : Prop := y.sub (j + 1) = !r.cancelled

/-- observer `j` dead in the chain; the independent run no longer reaches the part below either -/
structure Dead (j : Nat) (y : CSt) (r : KRun) (z : CSt) : Prop where
  sy : y.sub j = false
  zd : z.sub j = false ∨ r.alive = false
  lo : LoEqM j y z

/-- `lk = false` drops `Link` while a terminal `e` is being handled (`stage_feed`: `Rel j (!e.isTerminal)`): `got` has
    cleared observer `j+1` already, `r.cancelled` follows only with the stage's actions -/
def Rel (j : Nat) (lk : Bool) (y : CSt) (r : KRun) (z : CSt) : Prop :=
  (Sync j y r z ∧ (lk = true → Link j y r)) ∨ Dead j y r z

theorem Rel.loM {j lk y r z} (h : Rel j lk y r z) : LoEqM j y z := by
  rcases h with ⟨h, _⟩ | h
  · exact h.lo.toM
  · exact h.lo

theorem Rel.weaken {j lk y r z} (h : Rel j lk y r z) : Rel j false y r z := by
  rcases h with ⟨h, _⟩ | h
  · exact Or.inl ⟨h, fun e => by cases e⟩
  · exact Or.inr h

theorem Rel.flags {j lk y r r' z} (h : Rel j lk y r z) (ha : r'.alive = r.alive)
    (hg : r'.registered = r.registered) (hc : r'.cancelled = r.cancelled) : Rel j lk y r' z := by
  rcases h with ⟨h, hl⟩ | h
  · exact Or.inl ⟨⟨h.sy, ha.trans h.ra, h.lo, h.rg.trans hg.symm⟩, fun e => by show _ = _; rw [hc]; exact hl e⟩
  · exact Or.inr ⟨h.sy, h.zd.imp id ha.trans, h.lo⟩

theorem Dead.stepY {j y y' r z} (h : Dead j y r z) (hk : LoEqM j y' y) (hs : y'.sub j = false) : Dead j y' r z :=
  ⟨hs, h.zd, hk.trans h.lo⟩

section step
variable (n : Nat) (ks : Nat → DK) (j : Nat)

theorem Dead.stepR {y r z} (h : Dead j y r z) (a : Act) :
    Dead j y (actX r a) (pf n ks j (delta r a) z) := by
  rcases h.zd with hz | hr
  · rw [pf_dead n ks j _ z hz]; exact ⟨h.sy, Or.inl hz, h.lo⟩
  · rw [delta_dead r a hr, pf_nil]; exact ⟨h.sy, Or.inr (actX_alive_false r a hr), h.lo⟩

theorem Dead.stepRs {y x0 : CSt} (as : List Act) : ∀ {r : KRun}, Dead j y r (pf n ks j r.out x0) →
    Dead j y (actsX r as) (pf n ks j (actsX r as).out x0) := by
  induction as with
  | nil => intro r h; exact h
  | cons a as ih =>
    intro r h
    have h1 := h.stepR n ks j a
    rw [← pf_append, ← actX_out] at h1
    exact ih h1

theorem sync_deliver {lk y r z} (ev : Ev) (h : Sync j y r z) (hl : lk = true → Link j y r) :
    Rel j lk (deliver n ks j ev y) r (deliver n ks j ev z) := by
  have hlo := deliver_congr n ks j j (Nat.le_refl _) ev y z h.lo
  cases hs : (deliver n ks j ev y).sub j with
  | true =>
    have hu := (fr_deliver n ks j ev y).up j (Nat.le_refl _) hs
    exact Or.inl ⟨⟨hs, h.ra, hlo, (hu.1 j (Nat.le_refl _)).trans h.rg⟩,
      fun e => (hu.2 (j + 1) (Nat.lt_succ_self _)).trans (hl e)⟩
  | false => exact Or.inr ⟨hs, Or.inl ((hlo.sub j (Nat.le_refl _)).symm.trans hs), hlo.toM⟩

theorem emitAll_step {lk r} (ds : List Data) : ∀ {y z}, Sync j y r z → (lk = true → Link j y r) →
    Rel j lk (emitAllC n (deliver n ks j) j ds y) r (pf n ks j (ds.map .next) z) := by
  induction ds with
  | nil => intro y z h hl; exact Or.inl ⟨h, hl⟩
  | cons d ds ih =>
    intro y z h hl
    have hz : z.sub j = true := by rw [← h.lo.sub j (Nat.le_refl _)]; exact h.sy
    simp only [emitAllC, h.sy, ↓reduceIte, sinkNextC, List.map_cons, pf_cons, hz]
    rcases sync_deliver n ks j (.next d) h hl with ⟨h1, hl1⟩ | h1
    · exact ih h1 hl1
    · rw [emitAllC_dead _ _ _ _ _ h1.sy, pf_dead _ _ _ _ _ (h1.zd.resolve_right (by rw [h.ra]; nofun))]
      exact Or.inr h1

theorem act_step {lk : Bool} {y z : CSt} {r : KRun} (a : Act) (h : Rel j lk y r z) :
    Rel j lk (actC n (deliver n ks j) j a y) (actX r a) (pf n ks j (delta r a) z) := by
  rcases h with ⟨h, hl⟩ | h
  · have hz : z.sub j = true := by rw [← h.lo.sub j (Nat.le_refl _)]; exact h.sy
    have hra := h.ra
    have hun : LoEq j (y.unreg j) z := ((keep_unreg y (Nat.le_refl j)).withSub rfl).trans h.lo
    -- a terminal action: the stage delivers it (if at all) and finalizes
    have term : ∀ {y' z' : CSt} {r' : KRun}, LoEq j y' z' → r'.alive = false →
        Rel j lk (finC n j y') r' z' := fun hlo hr =>
      Or.inr ⟨finC_sub_false _ _ _, Or.inr hr, (finC_keep n j _).trans hlo.toM⟩
    cases a with
    | emit d =>
      simp only [actC, sinkNextC, h.sy, ↓reduceIte, delta, hra, pf_cons, pf_nil, hz, actX, KRun.act]
      exact (sync_deliver n ks j (.next d) h hl).flags hra.symm rfl rfl
    | emitAll ds =>
      simp only [actC, delta, hra, ↓reduceIte, actX, KRun.act]
      exact (emitAll_step n ks j ds h hl).flags hra.symm rfl rfl
    | fail e =>
      simp only [actC, h.sy, ↓reduceIte, delta, hra, pf_cons, pf_nil, hz]
      exact term (deliver_congr n ks j j (Nat.le_refl _) _ _ _ h.lo) (by simp [actX, KRun.act, hra])
    | complete =>
      simp only [actC, h.sy, ↓reduceIte, delta, hra, pf_cons, pf_nil, hz]
      exact term (deliver_congr n ks j j (Nat.le_refl _) _ _ _ hun) (by simp [actX, KRun.act, hra])
    | finalize =>
      simp only [actC, delta, pf_nil]
      exact term h.lo (by simp [actX, KRun.act])
    | abortSelf =>
      simp only [actC, delta, pf_nil, actX]
      left
      cases hrg : y.rg j with
      | true =>
        simp only [↓reduceIte]
        have hk := upO_keep n j (y.unreg j)
        have hsj := hk.sub j (Nat.lt_succ_self _)
        refine ⟨⟨hsj.trans h.sy, hra, hk.lo.trans hun, ?_⟩, fun _ => ?_⟩
        · rw [hk.rg j (Nat.lt_succ_self _)]; simp
        · show (upO n j (y.unreg j)).sub (j + 1) = _
          rw [upO, unsubO_sub_self, ← h.rg, hrg]; simp
      | false =>
        simp only [Bool.false_eq_true, ↓reduceIte]
        refine ⟨⟨h.sy, hra, hun, by simp⟩, fun e => ?_⟩
        show y.sub (j + 1) = _
        rw [← h.rg, hrg, Bool.or_false]; exact hl e
  · exact Or.inr ((h.stepY (actC_dead n _ j a y h.sy) ((fr_actC (fr_deliver n ks j) a y).mono j h.sy)).stepR n ks j a)

theorem acts_step {lk : Bool} {x0 : CSt} (as : List Act) : ∀ {y : CSt} {r : KRun},
    Rel j lk y r (pf n ks j r.out x0) →
    Rel j lk (actsC n (deliver n ks j) j as y) (actsX r as) (pf n ks j (actsX r as).out x0) := by
  induction as with
  | nil => intro y r h; exact h
  | cons a as ih =>
    intro y r h
    have h1 := act_step n ks j a h
    rw [← pf_append, ← actX_out] at h1
    exact ih h1

end step

section feed
variable (n : Nat) (ks : Nat → DK) (j : Nat)

def Out (y : CSt) (st : Data) (r : KRun) (z : CSt) : Prop :=
  (Sync j y r z ∧ Link j y r ∧ y.st j = st) ∨ Dead j y r z

theorem dead_stepY1 {y r z} (e : Ev) (h : Dead j y r z) :
    Dead j (if y.sub (j + 1) then deliver n ks (j + 1) e y else y) r z := by
  split
  · exact h.stepY (deliver_dead n ks j e y h.sy) ((fr_deliver n ks (j + 1) e y).mono j h.sy)
  · exact h

theorem dead_pf {r z} (l : List Ev) : ∀ {y : CSt}, Dead j y r z → LoEqM j (pf n ks (j + 1) l y) z := by
  induction l with
  | nil => intro y h; exact h.lo
  | cons e l ih => intro y h; exact ih (dead_stepY1 n ks j e h)

theorem stage_feed (x0 : CSt) (l : List Ev) : ∀ (y : CSt) (st : Data) (r : KRun),
    Out j y st r (pf n ks j r.out x0) →
    LoEqM j (pf n ks (j + 1) l y) (pf n ks j (runR (ks j) l st r).out x0) := by
  induction l with
  | nil =>
    intro y st r h
    rcases h with ⟨h, _, _⟩ | h
    · exact h.lo.toM
    · exact h.lo
  | cons e l ih =>
    intro y st r h
    rw [pf_cons]
    rcases h with ⟨h, hl, hst⟩ | h
    · have hsub : y.sub (j + 1) = !r.cancelled := hl
      cases hc : r.cancelled with
      | true =>
        rw [hc] at hsub
        simp only [hsub, Bool.not_true, Bool.false_eq_true, ↓reduceIte, runR, hc]
        rw [pf_dead _ _ _ _ _ hsub]
        exact h.lo.toM
      | false =>
        rw [hc] at hsub
        simp only [hsub, Bool.not_false, ↓reduceIte, runR, hc, Bool.false_eq_true, deliver_succ, hst]
        have hne : j ≠ j + 1 := Nat.ne_of_lt (Nat.lt_succ_self j)
        have h0 : Rel j (!e.isTerminal)
            { got y (j + 1) e with st := upd y.st j ((ks j).handle st e).1 } r (pf n ks j r.out x0) := by
          refine Or.inl ⟨⟨(got_sub_ne y e hne).trans h.sy, h.ra, ?_, h.rg⟩, fun ht => ?_⟩
          · exact (((keep_setSt (got y (j + 1) e) _ (Nat.le_refl j)).trans (keep_got y e (Nat.le_succ j))).withSub
              (got_sub_ne y e hne)).trans h.lo
          · show (got y (j + 1) e).sub (j + 1) = _
            rw [got_sub_self, ht, Bool.true_and]; exact hl
        have h1 := acts_step n ks j ((ks j).handle st e).2 h0
        have hfr := fr_actsC (n := n) (fr_deliver n ks j) ((ks j).handle st e).2
          { got y (j + 1) e with st := upd y.st j ((ks j).handle st e).1 }
        cases ht : e.isTerminal with
        | false =>
          simp only [Bool.false_eq_true, ↓reduceIte]
          apply ih
          rw [ht] at h1
          rcases h1 with ⟨h1, hl1⟩ | h1
          · exact Or.inl ⟨h1, hl1 rfl, (hfr.st j (Nat.le_refl _)).trans (upd_same _ _ _)⟩
          · exact Or.inr h1
        | true =>
          simp only [↓reduceIte]
          rw [pf_dead _ _ _ _ _ (hfr.mono (j + 1) (by
            show (got y (j + 1) e).sub (j + 1) = false
            rw [got_sub_self, ht]; rfl))]
          exact h1.loM
    · have hy := dead_stepY1 n ks j e h
      generalize (if y.sub (j + 1) then deliver n ks (j + 1) e y else y) = y1 at hy ⊢
      simp only [runR]
      split
      · exact dead_pf n ks j l hy
      · split
        · exact dead_pf n ks j l (hy.stepRs n ks j _)
        · exact ih _ _ _ (Or.inr (hy.stepRs n ks j _))

theorem stage_sim (x : CSt) (hs : x.sub j = true) (hs1 : x.sub (j + 1) = true) (hrg : x.rg j = true)
    (hst : x.st j = (ks j).init) (l : List Ev) :
    LoEqM j (pf n ks (j + 1) l x) (pf n ks j ((ks j).kernel.run (evsStream l)) x) := by
  have h := stage_feed n ks j x l x (ks j).init {}
    (Or.inl ⟨⟨hs, rfl, LoEq.refl _ _, hrg⟩, by show _ = _; rw [hs1]; rfl, hst⟩)
  rw [runR_eq] at h
  exact runFullX_out (ks j).kernel (evsStream l) ▸ h

end feed

end Rx.Chain
