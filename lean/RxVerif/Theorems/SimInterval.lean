import RxVerif.Theorems.Sim
import RxVerif.Theorems.C02a
/-
SIM for the ENDLESS polling producers (src/observables/interval.rs over the default scheduler, src/observables/repeat.rs):
`loop { if !s.is_subscribed() { break }; s.next(item) }`.

For EVERY standard operator `stdOp K` (any well-encoded kernel), subscribed in ANY ready world over such a producer with ANY
loop bound `F`: the machine run equals the machine-exact kernel run of `K` over the first `F` items of the producer and NO
terminal; once the kernel has cancelled its upstream the producer stops at its next poll, so the run does not depend on
`F` beyond the point of cancellation (`feedX` ignores everything after `cancelled`).  This is C06's "unbounded producers
(repeat, interval, endless iterators) stop" and C16's "interval emits 0,1,2,.. until unsubscribed" on model A.
-/
namespace Rx.Sim
open Rx

/-- the items an endless producer would deliver in its first `f` rounds -/
def countFrom : Nat → Nat → List Data
  | _, 0 => []
  | n, f+1 => Data.int n :: countFrom (n + 1) f

theorem countFrom_eq_range (n f : Nat) : countFrom n f = (List.range f).map fun i => Data.int ((n + i : Nat) : Int) := by
  induction f generalizing n with
  | zero => rfl
  | succ f ih =>
    rw [countFrom, ih, List.range_succ_eq_map]
    simp only [List.map_cons, List.map_map, Nat.add_zero]
    congr 1
    apply List.map_congr_left
    intro i _
    simp only [Function.comp]
    congr 2
    omega

theorem countFrom_length (n f : Nat) : (countFrom n f).length = f := by
  simp [countFrom_eq_range]

theorem countFrom_take (a n F : Nat) (h : n ≤ F) : (countFrom a F).take n = countFrom a n := by
  simp [countFrom_eq_range, ← List.map_take, List.take_range, Nat.min_eq_left h]

section handlers
variable {σ : Type} {K : Kernel σ} {c : Cfg}

theorem plays_interval (ok : c.Ok) (hh : Handlers K c) (hK : Kernel.WellEncoded K) :
    ∀ (f n : Nat), Plays K c (intervalLoop c.U n f) (countFrom n f) .silent
  | 0, _ => Plays.done
  | f + 1, n => Plays.poll (Plays.next ok hh hK (plays_interval ok hh hK f (n + 1))) WP.done

/-- `plays_interval` with `Plays` unfolded -/
theorem intervalLoop_spec (ok : c.Ok) (hh : Handlers K c) (hK : Kernel.WellEncoded K) :
    ∀ (f n : Nat) (st : σ) (r : KRun) (w : World), RepK c false r [] (K.enc st) w →
      WP (intervalLoop c.U n f) w
        (fun w' => ∃ cs', RepK c false (feedX K st r (countFrom n f)).2 [] cs' w') :=
  plays_interval ok hh hK

theorem plays_repeat (ok : c.Ok) (hh : Handlers K c) (hK : Kernel.WellEncoded K) (d : Data) :
    ∀ f : Nat, Plays K c (repeatLoop c.U d f) (List.replicate f d) .silent
  | 0 => Plays.done
  | f + 1 => Plays.poll (Plays.next ok hh hK (plays_repeat ok hh hK d f)) WP.done

end handlers

/-- a new subscriber subscribes `stdOp K` over interval's loop (default scheduler) with loop bound `F`; it is
    `subscribeOver K _`, by `rfl` -/
def subscribeInterval {σ} (K : Kernel σ) (F : Nat) : Prog :=
  .obsvNew (stdOp K (fun s => intervalLoop s 0 F)) fun id => .userSub id (fun _ _ _ => .done) .done

/-- the same over `repeat(d)` -/
def subscribeRepeat {σ} (K : Kernel σ) (d : Data) (F : Nat) : Prog :=
  .obsvNew (stdOp K (fun s => repeatLoop s d F)) fun id => .userSub id (fun _ _ _ => .done) .done

/-- **SIM for interval.**  For EVERY well-encoded kernel, ANY ready world and ANY loop bound `F`: the new subscriber
    sees `K.run` over the counter's first `F` values and no terminal, nobody else is disturbed, and the observer handed
    to the producer is unsubscribed iff the (machine-exact) kernel run cancelled its upstream. -/
theorem stdOp_sim_interval {σ} (K : Kernel σ) (hK : Kernel.WellEncoded K) (w : World) (hw : Ready w) (F : Nat) :
    ∃ N, ∀ fuel, N ≤ fuel →
      let w' := run fuel [subscribeInterval K F] w
      w'.status = .ok ∧
      logOf w' w.users.length = K.run (countFrom 0 F, .silent) ∧
      (∀ s', s' ≠ w.users.length → logOf w' s' = logOf w s') ∧
      upstreamCancelled w w' = (runFullX K (countFrom 0 F, .silent)).cancelled ∧
      w'.held = [] := by
  refine eventually_imp (stdOp_sim_of_plays K w hw (fun s => intervalLoop s 0 F) (countFrom 0 F, .silent)
    fun _ ok hh => plays_interval ok hh hK F 0).run_all fun fuel h => ?_
  rw [silent_bne_silent, Bool.or_false] at h
  exact h

theorem stdOp_sim_repeat {σ} (K : Kernel σ) (hK : Kernel.WellEncoded K) (w : World) (hw : Ready w) (d : Data) (F : Nat) :
    ∃ N, ∀ fuel, N ≤ fuel →
      let w' := run fuel [subscribeRepeat K d F] w
      w'.status = .ok ∧
      logOf w' w.users.length = K.run (List.replicate F d, .silent) ∧
      (∀ s', s' ≠ w.users.length → logOf w' s' = logOf w s') ∧
      upstreamCancelled w w' = (runFullX K (List.replicate F d, .silent)).cancelled ∧
      w'.held = [] := by
  refine eventually_imp (stdOp_sim_of_plays K w hw (fun s => repeatLoop s d F) (List.replicate F d, .silent)
    fun _ ok hh => plays_repeat ok hh hK d F).run_all fun fuel h => ?_
  rw [silent_bne_silent, Bool.or_false] at h
  exact h

theorem take_endless (n : Nat) (xs : List Data) (hn : 1 ≤ n) (hle : n ≤ xs.length) :
    (kTake n).run (xs, .silent) = (xs.take n).map .next ++ [.complete] ∧
    (runFullX (kTake n) (xs, .silent)).cancelled = true := by
  have hne : (xs, Ending.silent).1 ≠ [] := fun h0 => by
    have : xs.length = 0 := by simpa using congrArg List.length h0
    omega
  rw [cancelled_exact_silent (kTake n) (af_kTake n), Rx.C02.run_eq,
    Rx.C02.take_runFull_stop n (xs, .silent) hne hle]
  exact ⟨rfl, rfl⟩

/-- **C16 / C06 / C02 for `interval(d).take(n)` on the machine**: for every `n ≥ 1` and EVERY loop bound `F ≥ n` (the
    producer is endless: the bound does not matter) the subscriber sees exactly `0, 1, .., n-1` and `complete`, and the
    producer's observer is unsubscribed: the loop has stopped. -/
theorem take_interval (n F : Nat) (hn : 1 ≤ n) (hF : n ≤ F) (w : World) (hw : Ready w) :
    ∃ N, ∀ fuel, N ≤ fuel →
      let w' := run fuel [subscribeInterval (kTake n) F] w
      w'.status = .ok ∧
      logOf w' w.users.length = (countFrom 0 n).map .next ++ [.complete] ∧
      upstreamCancelled w w' = true := by
  have ht := take_endless n (countFrom 0 F) hn (by rwa [countFrom_length])
  rw [countFrom_take 0 n F hF] at ht
  exact eventually_imp (stdOp_sim_interval (kTake n) (we_kTake n) w hw F) fun _ h =>
    ⟨h.1, h.2.1.trans ht.1, h.2.2.2.1.trans ht.2⟩

/-- the same for `repeat(d).take(n)`: exactly `n` copies of `d`, `complete`, producer stopped — for every loop bound -/
theorem take_repeat (n F : Nat) (d : Data) (hn : 1 ≤ n) (hF : n ≤ F) (w : World) (hw : Ready w) :
    ∃ N, ∀ fuel, N ≤ fuel →
      let w' := run fuel [subscribeRepeat (kTake n) d F] w
      w'.status = .ok ∧
      logOf w' w.users.length = (List.replicate n d).map .next ++ [.complete] ∧
      upstreamCancelled w w' = true := by
  have ht := take_endless n (List.replicate F d) hn (by rwa [List.length_replicate])
  rw [List.take_replicate, Nat.min_eq_left hF] at ht
  exact eventually_imp (stdOp_sim_repeat (kTake n) (we_kTake n) w hw d F) fun _ h =>
    ⟨h.1, h.2.1.trans ht.1, h.2.2.2.1.trans ht.2⟩

/-- C06 for `interval(d).take_while(p)`: if the counter reaches a value that fails `p` within the loop bound, the
    producer's observer ends unsubscribed - for every predicate and every loop bound -/
theorem takeWhile_interval_stops (p : Pred) (F : Nat) (h : ¬ (countFrom 0 F).all p.app = true) (w : World) (hw : Ready w) :
    ∃ N, ∀ fuel, N ≤ fuel →
      upstreamCancelled w (run fuel [subscribeInterval (kTakeWhile p) F] w) = true := by
  refine eventually_imp (stdOp_sim_interval (kTakeWhile p) (we_kTakeWhile p) w hw F) fun fuel hs => ?_
  rw [hs.2.2.2.1, cancelled_exact_silent (kTakeWhile p) (af_kTakeWhile p)]
  exact Rx.C02.takeWhile_cancels p (countFrom 0 F, .silent) h

end Rx.Sim

-- non-vacuity: interval under take 2 on the machine: the log with loop bound 5, the producer stopped with loop bound 50
open Rx in
example : logOf (run 400 [Sim.subscribeInterval (kTake 2) 5] {}) 0 = [.next (.int 0), .next (.int 1), .complete] := by decide
open Rx in
example : Sim.upstreamCancelled {} (run 400 [Sim.subscribeInterval (kTake 2) 50] {}) = true := by decide

#print axioms Rx.Sim.stdOp_sim_interval
#print axioms Rx.Sim.stdOp_sim_repeat
#print axioms Rx.Sim.take_interval
#print axioms Rx.Sim.take_repeat
#print axioms Rx.Sim.intervalLoop_spec
#print axioms Rx.Sim.takeWhile_interval_stops
