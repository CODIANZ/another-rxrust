import RxVerif.Theorems.C05
/-
C01 — Observer contract: `next*` then at most one terminal, nothing after.

The theorem is generic: it quantifies over EVERY client program of the machine (any stack of `Prog`s,
any fuel, any start world satisfying the invariant), hence over every operator of the crate, every
nesting depth, every ill-formed source, every re-entrant callback and every sequential interleaving of
hot sources — they are all `Prog`s, and user callbacks can only be created by `userSub`.
-/
namespace Rx.C01
open Rx

theorem run_inv (n : Nat) (st : List Prog) (w : World) (h : Inv w) : Inv (run n st w) :=
  run_closed inv_closed n st w h

/-- **C01.** Whatever client programs run (every operator, source, subject and callback of the crate is
    one), for however long, from the empty world: every subscriber's event sequence is `next*` followed
    by at most one terminal. -/
theorem contract_all_programs (fuel : Nat) (progs : List Prog) (s : Nat) :
    Contract (logOf (run fuel progs {}) s) :=
  (run_inv fuel progs {} inv_empty).contract s

/-- the same from any world reached so far (histories are sequences of runs) -/
theorem contract_preserved (fuel : Nat) (progs : List Prog) (w : World) (h : Inv w) (s : Nat) :
    Contract (logOf (run fuel progs w) s) :=
  (run_inv fuel progs w h).contract s

/-- **C01, "nothing after the terminal".** Once a subscriber's log contains a terminal, no observer holds
    one of its callbacks, whatever programs run afterwards (so none can extend that log: `C05.silent_forever`). -/
theorem nothing_after_terminal (fuel : Nat) (progs : List Prog) (w : World) (h : Inv w) (s : Nat)
    (ht : terminated (logOf w s) = true) : Inv (run fuel progs w) ∧
    ∀ (o : Nat) (x : Obs), (run fuel progs w).obs[o]? = some x → x.holds s → False := by
  -- a subscriber with a terminal in its log exists (`Inv.quiet`) and is silent, hence stays so (C05)
  have hs : s < w.users.length := Nat.lt_of_not_le fun hge => by rw [h.quiet s hge] at ht; cases ht
  exact ⟨run_inv fuel progs w h, (C05.silent_forever w s h hs (C05.terminal_silences w s h ht) fuel progs).1⟩

end Rx.C01

-- non-vacuity: a source that misbehaves (`next 1; complete; next 2; error 7`) subscribed directly;
-- the run delivers exactly `n1 c`
open Rx in
example :
    let src : Nat → Prog := fun o =>
      .obsNext o (.int 1) <| .obsComplete o <| .obsNext o (.int 2) <| .obsError o 7 .done
    let w := run 100 [.obsvNew src fun id => .userSub id (fun _ _ _ => .done) .done] {}
    logOf w 0 = [.next (.int 1), .complete] := by
  decide

#print axioms Rx.C01.run_inv
#print axioms Rx.C01.contract_all_programs
#print axioms Rx.C01.contract_preserved
#print axioms Rx.C01.nothing_after_terminal
