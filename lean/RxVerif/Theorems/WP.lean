import RxVerif.Machine.Lib
import RxVerif.Theorems.ListFacts
/-
The weakest-precondition calculus for the fuel-indexed interpreter `run`.

  * `Sim.WP p w Q` and its structural rules; `WP.prim` / `WP.primCall` (`Ref.wp_step` / `wp_step2` with the next
    program and world explicit): one interpreter step, `wp_steps` / `wp_steps2`: `n` steps computed at once.
  * one rule per primitive and outcome that a refinement proof meets, world-generic.  A primitive that takes a lock
    carries the side condition in the form `run` tests it (`w.conflicts l wr = false`; for a cell accessed
    through a guard `g` that may already be held, `(!g && w.conflicts (.cell c) wr) = false`): `wp_cellRead'`,
    `wp_cellWrite'`, `wp_obsSetOnUnsub'`, `wp_lockAcq`, `wp_lockedSlotCall_none'`.  The other names are instances:
    unprimed = nothing is held (`noconf_of_held_nil`), `_g` = the access goes through a guard that is held, `…G` = only
    read guards on closure slots are held (`SlotReads`, below).  A refinement family with another lock discipline
    supplies the lemma that yields the side condition (`HF.free` in C03RefBase, `OnlyCc.noconf` in SimBase, …), as a
    rule from `noconf_ne`: a lock that none of the held guards is on does not conflict.
    No rule: `slotClear`, `slotHas`; `obsIsSub` / `obsUnsub` on an observer that does not exist; `slotCall` on a slot
    that does not exist; a delivery to a test subscriber that does more than record (`react` other than `.done`).
    Where the run stops (`panic`, a conflicting lock, `obsvSub` / `userSub` of an observable that does not exist) no
    `WP` holds.
  * deliveries of an event into an observer, whatever the event (`evProg`; `World.deliverTo`: the world after one
    into a recording test subscriber)
  * `slotTail`: the `lock; hook.call(d); unlock` tail of `Subject::observable` and of its teardown, hook absent / present
  * what a `WP` from a start world says about every sufficiently fuelled run (`WP.run_top`, `WP.run_all`, `FinalOf`,
    `refines_of`); `eventually_imp`, `eventually_and`: weakening and joining what holds from some fuel on
Namespaces: `Rx.Sim` the calculus; `Rx.Ref` the rules (and `WP.run_top`, which is therefore `Rx.Ref.WP.run_top`: dot
notation on a `Sim.WP` does not find it); `Rx.CRef`, the namespace of C03Ref* and C13Ref*: `obsvSub`, `slotSet`,
`noconf_ne` and the `SlotReads` discipline of hooks.
-/
namespace Rx.Sim

/-- `p`, run on top of ANY continuation stack from `w`, finishes after finitely many steps in a world
    satisfying `Q`, and the rest of the stack then continues from that world. -/
def WP (p : Prog) (w : World) (Q : World → Prop) : Prop :=
  ∃ n w', Q w' ∧ ∀ fuel st, run (fuel + n) (p :: st) w = run fuel st w'

theorem WP.conseq {p w} {Q Q' : World → Prop} (h : WP p w Q) (hq : ∀ w', Q w' → Q' w') : WP p w Q' := by
  obtain ⟨n, w', hQ, hr⟩ := h
  exact ⟨n, w', hq _ hQ, hr⟩

theorem WP.done {w} {Q : World → Prop} (h : Q w) : WP .done w Q :=
  ⟨1, w, h, fun _ _ => rfl⟩

/-- calling a closure `f` with `k` waiting below it on the stack -/
theorem WP.call {f k w} {Q : World → Prop} (h : WP f w fun w1 => WP k w1 Q) :
    ∃ n w', Q w' ∧ ∀ fuel st, run (fuel + n) (f :: k :: st) w = run fuel st w' := by
  obtain ⟨n1, w1, ⟨n2, w2, hQ, h2⟩, h1⟩ := h
  refine ⟨n2 + n1, w2, hQ, fun fuel st => ?_⟩
  rw [← Nat.add_assoc, h1 (fuel + n2) (k :: st), h2 fuel st]

theorem WP.prim {p p1 : Prog} {w w1 : World} {Q : World → Prop}
    (hs : ∀ fuel st, run (fuel + 1) (p :: st) w = run fuel (p1 :: st) w1) (hk : WP p1 w1 Q) : WP p w Q := by
  obtain ⟨n, w', hQ, hr⟩ := hk
  exact ⟨n + 1, w', hQ, fun fuel st => by rw [← Nat.add_assoc, hs, hr]⟩

theorem WP.primCall {p f k : Prog} {w w1 : World} {Q : World → Prop}
    (hs : ∀ fuel st, run (fuel + 1) (p :: st) w = run fuel (f :: k :: st) w1)
    (hk : WP f w1 fun w2 => WP k w2 Q) : WP p w Q := by
  obtain ⟨n, w', hQ, hr⟩ := WP.call hk
  exact ⟨n + 1, w', hQ, fun fuel st => by rw [← Nat.add_assoc, hs, hr]⟩

theorem WP.seq {p q w} {Q : World → Prop} (h : WP p w fun w1 => WP q w1 Q) : WP (p ;; q) w Q :=
  WP.primCall (fun _ _ => rfl) h

theorem WP.ite {b : Bool} {p q : Prog} {w} {Q : World → Prop}
    (h : WP (bif b then p else q) w Q) : WP (if b then p else q) w Q := by
  cases b <;> simpa using h

end Rx.Sim

namespace Rx.Ref
open Rx.Sim

theorem wp_step {p : Prog} {w : World} {Q : World → Prop} (k : Prog) (w1 : World)
    (hstep : ∀ fuel st, run (fuel + 1) (p :: st) w = run fuel (k :: st) w1) (hk : WP k w1 Q) : WP p w Q :=
  WP.prim hstep hk

/-- a step that calls a closure `f` and leaves `k` below it -/
theorem wp_step2 {p : Prog} {w : World} {Q : World → Prop} (f k : Prog) (w1 : World)
    (hstep : ∀ fuel st, run (fuel + 1) (p :: st) w = run fuel (f :: k :: st) w1)
    (hk : WP f w1 fun w2 => WP k w2 Q) : WP p w Q :=
  WP.primCall hstep hk

theorem wp_steps {p : Prog} {w : World} {Q : World → Prop} (n : Nat) (k : Prog) (w1 : World)
    (hsteps : ∀ fuel st, run (fuel + n) (p :: st) w = run fuel (k :: st) w1) (hk : WP k w1 Q) : WP p w Q := by
  obtain ⟨m, w', hQ, hr⟩ := hk
  refine ⟨m + n, w', hQ, fun fuel st => ?_⟩
  rw [← Nat.add_assoc, hsteps, hr]

/-- `n` steps of which the last calls a closure `f` and leaves `k` below it -/
theorem wp_steps2 {p : Prog} {w : World} {Q : World → Prop} (n : Nat) (f k : Prog) (w1 : World)
    (hsteps : ∀ fuel st, run (fuel + n) (p :: st) w = run fuel (f :: k :: st) w1)
    (hk : WP f w1 fun w2 => WP k w2 Q) : WP p w Q := by
  obtain ⟨m, w', hQ, hr⟩ := WP.call hk
  exact ⟨m + n, w', hQ, fun fuel st => by rw [← Nat.add_assoc, hsteps, hr]⟩

theorem WP.run_top {p : Prog} {w : World} {Q : World → Prop} (h : WP p w Q) :
    ∃ n0 w', Q w' ∧ ∀ fuel, n0 ≤ fuel → run fuel [p] w = w' := by
  obtain ⟨n, w', hQ, hr⟩ := h
  refine ⟨n + 1, w', hQ, fun fuel hf => ?_⟩
  obtain ⟨m, rfl⟩ : ∃ m, fuel = (m + 1) + n := ⟨fuel - n - 1, by omega⟩
  rw [hr (m + 1) []]; rfl

theorem noconf_of_held_nil {w : World} (h : w.held = []) (l : LockId) (wr : Bool) : w.conflicts l wr = false := by
  simp [World.conflicts, h]

theorem toNat_int (o : Nat) : (Data.int (o : Int)).toInt.toNat = o := by simp [Data.toInt]

section prims
variable {w : World} {Q : World → Prop}

theorem wp_obsNew {nx : Data → Prog} {e : Nat → Prog} {c : Prog} {k : Nat → Prog}
    (hk : WP (k w.obs.length)
      { w with obs := w.obs ++ [⟨some (.code nx), some (.code e), some (.code c), none⟩] } Q) :
    WP (.obsNew nx e c k) w Q :=
  wp_step _ _ (fun _ _ => rfl) hk

theorem wp_cellNew {d : Data} {k : Nat → Prog}
    (hk : WP (k w.cells.length) { w with cells := w.cells ++ [d] } Q) : WP (.cellNew d k) w Q :=
  wp_step _ _ (fun _ _ => by simp only [run]) hk

theorem wp_slotNew {k : Nat → Prog}
    (hk : WP (k w.slots.length) { w with slots := w.slots ++ [none] } Q) : WP (.slotNew k) w Q :=
  wp_step _ _ (fun _ _ => by simp only [run]) hk

theorem wp_obsvNew {f : Nat → Prog} {k : Nat → Prog}
    (hk : WP (k w.obsvs.length) { w with obsvs := w.obsvs ++ [f] } Q) : WP (.obsvNew f k) w Q :=
  wp_step _ _ (fun _ _ => by simp only [run]) hk

/-! cells and locks; `g`: the access goes through a guard that is held already (for `g = false` the side
    condition is, by computation, `w.conflicts (.cell c) wr = false`) -/

theorem wp_cellRead' {c : Nat} {g : Bool} {k : Data → Prog} (hnc : (!g && w.conflicts (.cell c) false) = false)
    (hk : WP (k (w.cells[c]?.getD .unit)) w Q) : WP (.cellRead c g k) w Q :=
  wp_step _ _ (fun _ _ => by simp only [run, hnc]; rfl) hk

theorem wp_cellWrite' {c : Nat} {g : Bool} {d : Data} {k : Prog} (hnc : (!g && w.conflicts (.cell c) true) = false)
    (hk : WP k { w with cells := w.cells.set c d } Q) : WP (.cellWrite c g d k) w Q :=
  wp_step _ _ (fun _ _ => by simp only [run, hnc]; rfl) hk

theorem wp_cellRead {c : Nat} {k : Data → Prog} (hh : w.held = [])
    (hk : WP (k (w.cells[c]?.getD .unit)) w Q) : WP (.cellRead c false k) w Q :=
  wp_cellRead' (noconf_of_held_nil hh _ _) hk

theorem wp_cellWrite {c : Nat} {d : Data} {k : Prog} (hh : w.held = [])
    (hk : WP k { w with cells := w.cells.set c d } Q) : WP (.cellWrite c false d k) w Q :=
  wp_cellWrite' (noconf_of_held_nil hh _ _) hk

theorem wp_cellRead_g {c : Nat} {k : Data → Prog}
    (hk : WP (k (w.cells[c]?.getD .unit)) w Q) : WP (.cellRead c true k) w Q :=
  wp_cellRead' rfl hk

theorem wp_cellWrite_g {c : Nat} {d : Data} {k : Prog}
    (hk : WP k { w with cells := w.cells.set c d } Q) : WP (.cellWrite c true d k) w Q :=
  wp_cellWrite' rfl hk

theorem wp_lockAcq {l : LockId} {wr : Bool} {k : Prog} (hnc : w.conflicts l wr = false)
    (hk : WP k { w with held := (l, wr) :: w.held } Q) : WP (.lockAcq l wr k) w Q :=
  wp_step _ _ (fun _ _ => by simp only [run, hnc]; rfl) hk

theorem wp_lockRel {l : LockId} {k : Prog} (hk : WP k (w.release l) Q) : WP (.lockRel l k) w Q :=
  wp_step _ _ (fun _ _ => by simp only [run]) hk

/-- releasing the guard that was acquired last -/
theorem release_head (w : World) (l : LockId) (b : Bool) (hl : List (LockId × Bool)) (h : w.held = (l, b) :: hl) :
    w.release l = { w with held := hl } := by
  cases w; simp_all [World.release]

theorem wp_obsIsSub {o : Nat} {x : Obs} {k : Bool → Prog} (ho : w.obs[o]? = some x)
    (hk : WP (k x.isSub) w Q) : WP (.obsIsSub o k) w Q :=
  wp_step _ _ (fun _ _ => by simp only [run, ho]) hk

theorem wp_obsSetOnUnsub' {o : Nat} {f k : Prog} (hnc : w.conflicts (.obs o) true = false)
    (hk : WP k (w.setObs o fun x => { x with onUnsub := some f }) Q) : WP (.obsSetOnUnsub o f k) w Q :=
  wp_step _ _ (fun _ _ => by simp only [run, hnc]; rfl) hk

theorem wp_obsSetOnUnsub {o : Nat} {f k : Prog} (hh : w.held = [])
    (hk : WP k (w.setObs o fun x => { x with onUnsub := some f }) Q) : WP (.obsSetOnUnsub o f k) w Q :=
  wp_obsSetOnUnsub' (noconf_of_held_nil hh _ _) hk

theorem wp_obsUnsub_some {o : Nat} {k f : Prog} {x : Obs} (ho : w.obs[o]? = some x) (hf : x.onUnsub = some f)
    (hk : WP f (w.setObs o fun x => { x.cleared with onUnsub := none }) fun w2 => WP k w2 Q) :
    WP (.obsUnsub o k) w Q :=
  wp_step2 _ _ _ (fun _ _ => by simp only [run, ho, hf]) hk

theorem wp_obsUnsub_none {o : Nat} {k : Prog} {x : Obs} (ho : w.obs[o]? = some x) (hf : x.onUnsub = none)
    (hk : WP k (w.setObs o fun x => { x.cleared with onUnsub := none }) Q) :
    WP (.obsUnsub o k) w Q :=
  wp_step _ _ (fun _ _ => by simp only [run, ho, hf]) hk

theorem wp_slotCall_none {s : Nat} {d : Data} {cl : Bool} {k : Prog} (hs : w.slots[s]? = some none)
    (hk : WP k w Q) : WP (.slotCall s d cl k) w Q :=
  wp_step _ _ (fun _ _ => by simp only [run, hs]) hk

theorem wp_slotCall_some {s : Nat} {d : Data} {cl : Bool} {k : Prog} {f : Data → Prog}
    (hs : w.slots[s]? = some (some f))
    (hk : WP (f d) (if cl then { w with slots := w.slots.set s none } else w) fun w2 => WP k w2 Q) :
    WP (.slotCall s d cl k) w Q :=
  wp_step2 _ _ _ (fun _ _ => by simp only [run, hs]) hk

theorem wp_lockedSlotCall_none' {s : Nat} {d : Data} {wr cl : Bool} {k : Prog}
    (hnc : w.conflicts (.slot s) wr = false) (hs : w.slots[s]? = some none) (hk : WP k w Q) :
    WP (.lockAcq (.slot s) wr <| .slotCall s d cl <| .lockRel (.slot s) k) w Q := by
  refine wp_lockAcq hnc (wp_slotCall_none hs (wp_lockRel ?_))
  rw [release_head _ _ _ w.held rfl]
  exact hk

theorem wp_lockedSlotCall_none {s : Nat} {d : Data} {k : Prog} (hh : w.held = [])
    (hs : w.slots[s]? = some none) (hk : WP k w Q) :
    WP (.lockAcq (.slot s) false <| .slotCall s d false <| .lockRel (.slot s) k) w Q :=
  wp_lockedSlotCall_none' (noconf_of_held_nil hh _ _) hs hk

theorem wp_userSub {id : Nat} {react : Nat → Nat → Ev → Prog} {k : Prog} {f : Nat → Prog}
    (hf : w.obsvs[id]? = some f)
    (hk : WP (f w.obs.length)
      { w with
        obs := w.obs ++ [⟨some (.user w.users.length), some (.user w.users.length), some (.user w.users.length), none⟩]
        users := w.users ++ [⟨w.obs.length, react, false, true⟩] }
      fun w2 => WP (.userReady w.users.length k) w2 Q) : WP (.userSub id react k) w Q :=
  wp_step2 _ _ _ (fun _ _ => by simp only [run, hf]) hk

theorem wp_userReady {s : Nat} {k : Prog}
    (hk : WP k (w.setUser s fun u => { u with ready := true }) Q) : WP (.userReady s k) w Q :=
  wp_step _ _ (fun _ _ => by simp only [run]) hk

theorem wp_userUnsub_none {s : Nat} {k : Prog} (hu : w.users[s]? = none) (hk : WP k w Q) :
    WP (.userUnsub s k) w Q :=
  wp_step _ _ (fun _ _ => by simp only [run, hu]) hk

theorem wp_userUnsub_spent {s : Nat} {k : Prog} {u : User} (hu : w.users[s]? = some u)
    (ha : (u.ready && u.armed) = false) (hk : WP k w Q) : WP (.userUnsub s k) w Q :=
  wp_step _ _ (fun _ _ => by simp only [run, hu, ha]; rfl) hk

theorem wp_userUnsub_armed {s : Nat} {k : Prog} {u : User} (hu : w.users[s]? = some u)
    (ha : (u.ready && u.armed) = true)
    (hk : WP (.obsUnsub u.obs k) (w.setUser s fun u => { u with armed := false }) Q) : WP (.userUnsub s k) w Q :=
  wp_step _ _ (fun _ _ => by simp only [run, hu, ha]; rfl) hk

/-- what `Subscription::is_subscribed` of test subscriber `s` returns (the harness' `S=` column) -/
def _root_.Rx.World.isSubOf (w : World) (s : Nat) : Bool :=
  match w.users[s]? with
  | some u => (w.obs[u.obs]?.map Obs.isSub).getD false
  | none => false

theorem wp_userIsSub {s : Nat} {k : Bool → Prog} (hk : WP (k (w.isSubOf s)) w Q) : WP (.userIsSub s k) w Q := by
  refine wp_step _ _ (fun _ _ => ?_) hk
  simp only [run, World.isSubOf]
  cases hu : w.users[s]? with
  | none => rfl
  | some u =>
    simp only []
    cases ho : w.obs[u.obs]? <;> simp

theorem wp_probe {t : Nat} {d : Data} {k : Prog} (hk : WP k (w.emit (.probe t d)) Q) : WP (.probe t d k) w Q :=
  wp_step _ _ (fun _ _ => rfl) hk

/-! deliveries: the observer does not exist / its `fn_next` is gone / it is a recording test subscriber /
    it was made by `Observer::new` -/

def evProg (ev : Ev) (o : Nat) (k : Prog) : Prog :=
  match ev with
  | .next d => .obsNext o d k
  | .error e => .obsError o e k
  | .complete => .obsComplete o k

theorem emitEv_eq (o : Nat) (ev : Ev) : emitEv o ev = evProg ev o .done := by cases ev <;> rfl

theorem wp_ev_absent {ev : Ev} {o : Nat} {k : Prog} (ho : w.obs[o]? = none) (hk : WP k w Q) :
    WP (evProg ev o k) w Q := by
  cases ev <;> exact wp_step _ _ (fun _ _ => by simp only [evProg, run, ho]) hk

theorem wp_ev_dead {ev : Ev} {o : Nat} {k : Prog} {x : Obs} (ho : w.obs[o]? = some x) (hx : x.next = none)
    (hk : WP k w Q) : WP (evProg ev o k) w Q := by
  cases ev <;> exact wp_step _ _ (fun _ _ => by simp only [evProg, run, ho, hx]) hk

/-- what a delivery does to the world when the observer holds the callbacks of test subscriber `s` -/
def _root_.Rx.World.deliverTo (w : World) (o s : Nat) (ev : Ev) : World :=
  if ev.isTerminal then (w.setObs o Obs.cleared).emit (.ev s ev) else w.emit (.ev s ev)

theorem wp_ev_user {ev : Ev} {o s : Nat} {k : Prog} {x : Obs} {u : User} (ho : w.obs[o]? = some x)
    (hn : x.next = some (.user s)) (he : x.error = some (.user s)) (hc : x.complete = some (.user s))
    (hu : w.users[s]? = some u) (hr : u.react = fun _ _ _ => .done)
    (hk : WP k (w.deliverTo o s ev) Q) : WP (evProg ev o k) w Q := by
  cases ev with
  | next d => exact wp_step2 _ _ _ (fun _ _ => by simp only [evProg, run, ho, hn, hu, hr]; rfl) (WP.done hk)
  | error e => exact wp_step2 _ _ _ (fun _ _ => by simp only [evProg, run, ho, hn, he, hu, hr]; rfl) (WP.done hk)
  | complete => exact wp_step2 _ _ _ (fun _ _ => by simp only [evProg, run, ho, hn, hc, hu, hr]; rfl) (WP.done hk)

/-- the callback a code observer runs for an event -/
def codeBody (ev : Ev) (fn : Data → Prog) (fe : Nat → Prog) (fc : Prog) : Prog :=
  match ev with
  | .next d => fn d
  | .error e => fe e
  | .complete => fc

/-- a delivery into an observer made by `Observer::new` (library code): a terminal takes the callbacks first -/
theorem wp_ev_code {ev : Ev} {o : Nat} {k : Prog} {x : Obs} {fn : Data → Prog} {fe : Nat → Prog} {fc : Prog}
    (ho : w.obs[o]? = some x) (hn : x.next = some (.code fn)) (he : x.error = some (.code fe))
    (hc : x.complete = some (.code fc))
    (hk : WP (codeBody ev fn fe fc) (if ev.isTerminal then w.setObs o Obs.cleared else w) fun w2 => WP k w2 Q) :
    WP (evProg ev o k) w Q := by
  cases ev with
  | next d => exact wp_step2 _ _ _ (fun _ _ => by simp only [evProg, run, ho, hn]; rfl) hk
  | error e => exact wp_step2 _ _ _ (fun _ _ => by simp only [evProg, run, ho, hn, he]; rfl) hk
  | complete => exact wp_step2 _ _ _ (fun _ _ => by simp only [evProg, run, ho, hn, hc]; rfl) hk

end prims

end Rx.Ref

namespace Rx.CRef
open Rx.Sim Rx.Ref

section prims
variable {w : World} {Q : World → Prop}

theorem wp_obsvSub {id o : Nat} {k : Prog} {f : Nat → Prog} (hf : w.obsvs[id]? = some f)
    (hk : WP (f o) w fun w2 => WP k w2 Q) : WP (.obsvSub id o k) w Q :=
  wp_step2 _ _ _ (fun _ _ => by simp only [run, hf]) hk

theorem wp_slotSet {s : Nat} {f : Data → Prog} {k : Prog} (hh : w.held = [])
    (hk : WP k { w with slots := w.slots.set s (some f) } Q) : WP (.slotSet s f k) w Q :=
  wp_step _ _ (fun _ _ => by simp only [run, noconf_of_held_nil hh]; rfl) hk

end prims

/-! ### while read guards on closure slots are held

The `on_subscribe` / `on_unsubscribe` hooks of ref_count.rs / replay.rs run inside `Subject::observable`'s
`slot.read()` scope. -/

/-- a lock that none of the held guards is on does not conflict -/
theorem noconf_ne {w : World} {l : LockId} (wr : Bool) (h : ∀ p ∈ w.held, p.1 ≠ l) : w.conflicts l wr = false := by
  simp only [World.conflicts, List.any_eq_false]
  intro p hp
  have := h p hp
  obtain ⟨a, b⟩ := p
  simp only [Bool.and_eq_true, beq_iff_eq, not_and]
  intro q; exact absurd q this

/-- only read guards on closure slots are held -/
def SlotReads (H : List (LockId × Bool)) : Prop := ∀ p ∈ H, (∃ s, p.1 = LockId.slot s) ∧ p.2 = false

theorem SlotReads.nil : SlotReads [] := by intro p hp; cases hp

theorem SlotReads.cons {H} (h : SlotReads H) (s : Nat) : SlotReads ((LockId.slot s, false) :: H) := by
  intro p hp
  rcases List.mem_cons.1 hp with rfl | hp
  · exact ⟨⟨s, rfl⟩, rfl⟩
  · exact h p hp

theorem SlotReads.of_nil {H} (h : H = []) : SlotReads H := h ▸ SlotReads.nil

theorem SlotReads.noconf_cell {w : World} (h : SlotReads w.held) (c : Nat) (wr : Bool) :
    w.conflicts (.cell c) wr = false :=
  noconf_ne wr fun p hp q => by obtain ⟨⟨s, hs⟩, _⟩ := h p hp; rw [hs] at q; cases q

theorem SlotReads.noconf_obs {w : World} (h : SlotReads w.held) (o : Nat) (wr : Bool) :
    w.conflicts (.obs o) wr = false :=
  noconf_ne wr fun p hp q => by obtain ⟨⟨s, hs⟩, _⟩ := h p hp; rw [hs] at q; cases q

theorem SlotReads.noconf_slot_read {w : World} (h : SlotReads w.held) (s : Nat) :
    w.conflicts (.slot s) false = false := by
  simp only [World.conflicts, List.any_eq_false]
  intro p hp
  obtain ⟨_, hb⟩ := h p hp
  obtain ⟨l, b⟩ := p
  simp only at hb; subst hb; simp

section prims
variable {w : World} {Q : World → Prop}

theorem wp_cellReadG {c : Nat} {k : Data → Prog} (hh : SlotReads w.held)
    (hk : WP (k (w.cells[c]?.getD .unit)) w Q) : WP (.cellRead c false k) w Q :=
  wp_cellRead' (hh.noconf_cell _ _) hk

theorem wp_cellWriteG {c : Nat} {d : Data} {k : Prog} (hh : SlotReads w.held)
    (hk : WP k { w with cells := w.cells.set c d } Q) : WP (.cellWrite c false d k) w Q :=
  wp_cellWrite' (hh.noconf_cell _ _) hk

theorem wp_obsSetOnUnsubG {o : Nat} {f k : Prog} (hh : SlotReads w.held)
    (hk : WP k (w.setObs o fun x => { x with onUnsub := some f }) Q) : WP (.obsSetOnUnsub o f k) w Q :=
  wp_obsSetOnUnsub' (hh.noconf_obs _ _) hk

/-- `lock; slot.call(d); unlock` on an empty slot, possibly inside another hook -/
theorem wp_lockedSlotCall_noneG {s : Nat} {d : Data} {k : Prog} (hh : SlotReads w.held)
    (hs : w.slots[s]? = some none) (hk : WP k w Q) :
    WP (.lockAcq (.slot s) false <| .slotCall s d false <| .lockRel (.slot s) k) w Q :=
  wp_lockedSlotCall_none' (hh.noconf_slot_read s) hs hk

/-- `lock; slot.call(d); unlock` on a slot holding the hook `f`: `f d` runs under the read guard -/
theorem wp_lockedSlotCall_someG {s : Nat} {d : Data} {k : Prog} {f : Data → Prog} (hh : SlotReads w.held)
    (hs : w.slots[s]? = some (some f))
    (hk : WP (f d) { w with held := (.slot s, false) :: w.held } fun w2 => WP (.lockRel (.slot s) k) w2 Q) :
    WP (.lockAcq (.slot s) false <| .slotCall s d false <| .lockRel (.slot s) k) w Q :=
  wp_lockAcq (hh.noconf_slot_read s) (wp_slotCall_some (cl := false) hs hk)

end prims

/-- the `lock; hook.call(d); unlock` tail of `Subject::observable` / of its teardown -/
def slotTail (s : Nat) (d : Data) : Prog :=
  .lockAcq (.slot s) false <| .slotCall s d false <| .lockRel (.slot s) .done

theorem slotTail_none {s : Nat} {d : Data} {w : World} {Q : World → Prop} (hh : SlotReads w.held)
    (hs : w.slots[s]? = some none) (hQ : Q w) : WP (slotTail s d) w Q :=
  wp_lockedSlotCall_noneG hh hs (WP.done hQ)

theorem release_single (w : World) (l : LockId) (b : Bool) (h : w.held = [(l, b)]) :
    w.release l = { w with held := [] } :=
  release_head w l b [] h

/-- `T Hd`: what the hook establishes while the guards `Hd` are held -/
theorem slotTail_spec {w : World} {s : Nat} {d : Data} {f : Data → Prog} {T : List (LockId × Bool) → World → Prop}
    (hh : w.held = []) (hs : w.slots[s]? = some (some f))
    (hf : WP (f d) { w with held := [(.slot s, false)] } (T [(.slot s, false)]))
    (hT : ∀ w2, T [(.slot s, false)] w2 → w2.held = [(.slot s, false)] ∧ T [] { w2 with held := [] }) :
    WP (slotTail s d) w (T []) := by
  refine wp_lockedSlotCall_someG (SlotReads.of_nil hh) hs ?_
  rw [hh]
  refine hf.conseq fun w2 h2 => wp_lockRel (WP.done ?_)
  rw [release_single w2 _ false (hT w2 h2).1]
  exact (hT w2 h2).2

end Rx.CRef

namespace Rx.Sim

theorem eventually_imp {P Q : Nat → Prop} (h : ∃ N, ∀ fuel, N ≤ fuel → P fuel) (hpq : ∀ fuel, P fuel → Q fuel) :
    ∃ N, ∀ fuel, N ≤ fuel → Q fuel :=
  let ⟨N, hN⟩ := h
  ⟨N, fun fuel hf => hpq fuel (hN fuel hf)⟩

theorem eventually_and {P Q : Nat → Prop} (hp : ∃ N, ∀ fuel, N ≤ fuel → P fuel) (hq : ∃ N, ∀ fuel, N ≤ fuel → Q fuel) :
    ∃ N, ∀ fuel, N ≤ fuel → P fuel ∧ Q fuel :=
  let ⟨N₁, a⟩ := hp
  let ⟨N₂, b⟩ := hq
  ⟨max N₁ N₂, fun fuel hf => ⟨a fuel (by omega), b fuel (by omega)⟩⟩

theorem WP.run_all {p : Prog} {w : World} {Q : World → Prop} (h : WP p w Q) :
    ∃ n0, ∀ fuel, n0 ≤ fuel → Q (run fuel [p] w) :=
  let ⟨n0, _, hQ, hrun⟩ := Ref.WP.run_top h
  ⟨n0, fun fuel hf => by rw [hrun fuel hf]; exact hQ⟩

/-- `w` is the world in which `p`, run from the empty world, comes to rest -/
def FinalOf (p : Prog) (w : World) : Prop := ∃ n0, ∀ fuel, n0 ≤ fuel → run fuel [p] {} = w

theorem FinalOf.unique {p w w'} (h : FinalOf p w) (h' : FinalOf p w') : w = w' := by
  obtain ⟨a, ha⟩ := h
  obtain ⟨b, hb⟩ := h'
  rw [← ha (a + b) (by omega), ← hb (a + b) (by omega)]

theorem refines_of {p : Prog} {Q : World → Prop} (h : WP p {} Q) : ∃ w, FinalOf p w ∧ Q w :=
  let ⟨n0, w, hQ, hrun⟩ := Ref.WP.run_top h
  ⟨w, ⟨n0, hrun⟩, hQ⟩

theorem FinalOf.sat {p : Prog} {Q : World → Prop} {w} (hf : FinalOf p w) (h : ∃ w', FinalOf p w' ∧ Q w') : Q w := by
  obtain ⟨w', hf', hq⟩ := h
  rw [hf.unique hf']; exact hq

end Rx.Sim
