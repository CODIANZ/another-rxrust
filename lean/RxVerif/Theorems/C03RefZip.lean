import RxVerif.Theorems.C03RefMerge
/-
C03-REF, zip: model A's `oZip` (Machine/Lib.lean, transliterating src/operators/zip.rs) over `k` plain hot subjects
REFINES the pure history machine `Comb.zip`.
-/
namespace Rx.CRef.Zip
open Rx.Sim Rx.Ref Rx.Comb Rx.CRef Rx.GRef

/-- the queues as stored in cell `2k+2` -/
def encQ (qs : List (List Data)) : Data := Data.ofList (qs.map Data.ofList)

theorem encQ_ne (qs : List (List Data)) : encQ qs ≠ .unit := by
  cases qs <;> simp [encQ, Data.ofList]

/-- zip.rs:41-47 + the emit loop: push the item on queue `id`, then `zipTryEmit` -/
def pushProg (k id : Nat) (x : Data) : Prog :=
  .cellRead (2 * k + 2) false fun qs =>
    let queues := qs.toList
    .cellWrite (2 * k + 2) false (Data.ofList (queues.modify id fun q => Data.ofList (q.toList ++ [x]))) <|
    zipTryEmit (Merge.scOf k) (2 * k + 2) 100000

/-- zip.rs:30-90: source `i` gets serial `i` (`pop_front`) -/
def lay (k : Nat) : GLay :=
  GLay.std k id (fun i x => pushProg k i x) (fun _ e => (Merge.scOf k).sinkError e) fun i => (Merge.scOf k).sinkComplete i

theorem lay_ok (k : Nat) : (lay k).Ok := GLay.std_ok fun _ => rfl

def ne (qs : List (List Data)) : Bool := qs.all fun q => !q.isEmpty

theorem toList_map_ofList (qs : List (List Data)) : (qs.map Data.ofList).map Data.toList = qs := by
  simp [List.map_map, Function.comp_def]

theorem modify_enc (qs : List (List Data)) (i : Nat) (d : Data) :
    (qs.map Data.ofList).modify i (fun q => Data.ofList (q.toList ++ [d])) =
      (qs.modify i (· ++ [d])).map Data.ofList := by
  apply List.ext_getElem?
  intro j
  simp only [List.getElem?_modify, List.getElem?_map]
  cases qs[j]? with
  | none => rfl
  | some q => by_cases e : i = j <;> simp [e]

theorem all_len_ne (qs : List (List Data)) : (qs.all fun q => decide (q.length > 0)) = ne qs :=
  all_pos qs

theorem tails_enc (qs : List (List Data)) :
    (qs.map fun q => Data.ofList (q.drop 1)) = (qs.map List.tail).map Data.ofList := by
  simp [List.map_map, Function.comp_def]

theorem push_fills (qs : List (List Data)) (i : Nat) (d : Data) (h0 : ne qs = false)
    (h1 : ne (qs.modify i (· ++ [d])) = true) :
    ne ((qs.modify i (· ++ [d])).map List.tail) = false ∧ ((qs.modify i (· ++ [d])).getD i []).length = 1 := by
  refine ⟨nonEmpty_tails_modify qs i d h0 h1, ?_⟩
  simp only [ne, List.all_eq_false, List.all_eq_true] at h0 h1
  obtain ⟨q, hq, hqe⟩ := h0
  obtain ⟨j, hj, rfl⟩ := List.getElem_of_mem hq
  -- the one empty queue is the one pushed into
  have hji : j = i := by
    apply Classical.byContradiction; intro hne
    have : (qs.modify i (· ++ [d]))[j]? = some qs[j] := by
      rw [List.getElem?_modify]; simp [hj, Ne.symm hne]
    have := h1 _ (List.mem_of_getElem? this)
    simp at hqe; simp [hqe] at this
  subst hji
  have hq0 : qs[j] = [] := by simpa using hqe
  have hget : (qs.modify j (· ++ [d]))[j]? = some [d] := by
    rw [List.getElem?_modify]; simp [hj, hq0]
  simp [List.getD, hget]

theorem drain_stop (a : Bool) (f : Nat) (qs : List (List Data)) (h : ne qs = false) :
    zip.drain a (f + 1) qs = (qs, []) := by
  simp only [zip.drain]; rw [show (qs.all fun q => !q.isEmpty) = ne qs from rfl, h]; rfl

theorem drain_dead (f : Nat) (qs : List (List Data)) (h : ne qs = true) :
    zip.drain false (f + 1) qs = (qs.map List.tail, []) := by
  simp only [zip.drain]; rw [show (qs.all fun q => !q.isEmpty) = ne qs from rfl, h]; rfl

/-! ### the `next` closure in any world: no guard held, the queues in cell `c` -/

section anyWorld
variable {sc : Sctl} {c : Nat} {w : World} {Q : World → Prop} {qs : List (List Data)}

/-- `zipTryEmit` when some queue is empty: nothing happens -/
theorem wp_tryEmit_stop (hh : w.held = []) (hc : w.cells[c]? = some (encQ qs)) (hne : ne qs = false) (f : Nat)
    (hq : Q w) : WP (zipTryEmit sc c (f + 1)) w Q := by
  simp only [zipTryEmit]
  refine wp_cellRead_val hh hc ?_
  simp only [encQ, Data.toList_ofList, toList_map_ofList, all_len_ne, hne, Bool.false_and, Bool.false_eq_true,
    ↓reduceIte]
  exact WP.done hq

/-- zip.rs:41-69.  Some queue was empty before (`h0`), so after one tuple one is empty again and the loop ends; what
    `sink_next` must leave in place is the queue cell.  `f + 2`: two rounds of `zipTryEmit` at most; `push_spec` takes
    `f := 99998` for the literal fuel `100000` of `oZip` (Machine/Lib.lean). -/
theorem wp_push {i f : Nat} {x : Data} {o : Obs} {a : Bool} {qs' : List (List Data)} (hh : w.held = [])
    (hc : w.cells[c]? = some (encQ qs)) (ho : w.obs[sc.sub]? = some o) (ha : o.isSub = a) (hl : 0 < qs.length)
    (h0 : a = true → ne qs = false) (hq : qs.modify i (· ++ [x]) = qs')
    (stop : ne qs' = false → Q { w with cells := w.cells.set c (encQ qs') })
    (dead : a = false → ne qs' = true →
      Q { w with cells := (w.cells.set c (encQ qs')).set c (encQ (qs'.map List.tail)) })
    (live : a = true → ne qs' = true →
      WP (sc.sinkNext (Data.ofList (qs'.map fun q => q.headD .unit)))
        { w with cells := (w.cells.set c (encQ qs')).set c (encQ (qs'.map List.tail)) }
        fun w4 => w4.held = [] ∧ w4.cells[c]? = some (encQ (qs'.map List.tail)) ∧ Q w4) :
    WP (.cellRead c false fun q =>
        .cellWrite c false (Data.ofList (q.toList.modify i fun q => Data.ofList (q.toList ++ [x]))) <|
        zipTryEmit sc c (f + 2)) w Q := by
  refine wp_cellRead_val hh hc ?_
  simp only [encQ, Data.toList_ofList, modify_enc, hq]
  refine wp_cellWrite hh ?_
  have hc1 := set_get_same (encQ qs') hc
  cases hne : ne qs' with
  | false => exact wp_tryEmit_stop (w := { w with cells := w.cells.set c (encQ qs') }) hh hc1 hne _ (stop hne)
  | true =>
    rw [zipTryEmit]
    refine wp_cellRead_val hh hc1 ?_
    have hl0 : decide (qs'.length > 0) = true := by rw [← hq, List.length_modify]; simpa using hl
    simp only [encQ, Data.toList_ofList, toList_map_ofList, all_len_ne, hne, hl0, Bool.and_self, ↓reduceIte,
      tails_enc]
    refine wp_cellWrite hh ?_
    simp only [Sctl.isSub]
    refine wp_obsIsSub ho ?_
    rw [ha]
    cases a with
    | false => exact WP.done (dead rfl hne)
    | true =>
      refine WP.seq ((live rfl hne).conseq fun w4 h4 => ?_)
      exact wp_tryEmit_stop h4.1 h4.2.1 (hq ▸ nonEmpty_tails_modify qs i x (h0 rfl) (hq ▸ hne)) _ h4.2.2

end anyWorld

/-- while the subscriber is alive some queue is empty (`inv`): so a push completes at most one tuple -/
structure Inv (k : Nat) (s : zip.State) : Prop where
  inv : s.ctl.alive = true → ne s.queues = false
  len : s.queues.length = k
  kpos : 0 < k

/-- `SRel` with the queues `qs` in the operator's cell -/
abbrev RelQ (k : Nat) (c : Ctl) (qs : List (List Data)) (out : List Ev) (w : World) : Prop :=
  SRel (lay k) c ⟨encQ qs, k, 1 + k⟩ out w

/-- the closure of inner observer `i` on `next(d)` (zip.rs:41-69) = the `.next` case of `Comb.zip.step` -/
theorem push_spec {k : Nat} {s : zip.State} {out : List Ev} {w : World} (h : RelQ k s.ctl s.queues out w)
    (hi : Inv k s) (i : Nat) (d : Data) :
    WP (pushProg k i d) w fun w' =>
      RelQ k s.ctl (zip.drain s.ctl.alive (((s.queues.modify i (· ++ [d])).getD i []).length + 1)
          (s.queues.modify i (· ++ [d]))).1
        (out ++ (zip.drain s.ctl.alive (((s.queues.modify i (· ++ [d])).getD i []).length + 1)
          (s.queues.modify i (· ++ [d]))).2) w' ∧
      Inv k { s with queues := (zip.drain s.ctl.alive (((s.queues.modify i (· ++ [d])).getD i []).length + 1)
          (s.queues.modify i (· ++ [d]))).1 } := by
  have ok := lay_ok k
  generalize hq : s.queues.modify i (· ++ [d]) = qs'
  have hlen : qs'.length = k := by rw [← hq, List.length_modify]; exact hi.len
  have h2 : RelQ k s.ctl qs' out _ := h.setX ok (encQ_ne _) (encQ qs')
  have h3 : RelQ k s.ctl (qs'.map List.tail) out _ := h2.setX ok (encQ_ne _) (encQ _)
  refine wp_push (f := 99998) h.held (h.xc_some (encQ_ne _)) (h.elim fun _ hr => hr.1.root) (rootObs_isSub ..)
    (by rw [hi.len]; exact hi.kpos) hi.inv hq ?_ ?_ ?_
  · intro hne
    rw [drain_stop _ _ _ hne, List.append_nil]
    exact ⟨h2, fun _ => hne, hlen, hi.kpos⟩
  · intro ha hne
    rw [ha, drain_dead _ _ hne, List.append_nil]
    exact ⟨h3, fun q => (by rw [ha] at q; cases q), by simpa using hlen, hi.kpos⟩
  · intro ha hne
    have hne2 := hq ▸ nonEmpty_tails_modify s.queues i d (hi.inv ha) (hq ▸ hne)
    rw [ha, ← hq, drain_after_push _ _ _ _ (hi.inv ha), hq, if_pos (show nonEmptyAll qs' = true from hne)]
    refine (h3.sinkNext ok _).conseq fun w4 h4 => ?_
    rw [Ctl.sinkNext_alive ha] at h4
    exact ⟨h4.held, h4.xc_some (encQ_ne _), h4, fun _ => hne2, by simpa [tails] using hlen, hi.kpos⟩

theorem sinkError_dead (c : Ctl) (e : Nat) : (c.sinkError e).1.alive = false := by
  unfold Ctl.sinkError; split <;> rfl

theorem sinkComplete_alive (c : Ctl) (i : Nat) (h : (c.sinkComplete i).1.alive = true) : c.alive = true := by
  unfold Ctl.sinkComplete at h
  cases ha : c.alive with
  | true => rfl
  | false => simp [ha, Ctl.finalize] at h

def sim (k : Nat) : StaticSim (lay k) zip.step where
  ok := lay_ok k
  ctl s := s.ctl
  fr s := ⟨encQ s.queues, k, 1 + k⟩
  Inv := Inv k
  dead s p h := if_neg (by rw [show s.ctl.isLive p.1 = false from h]; decide)
  body s i ev out w hi _ hlv h := by
    simp only [zip.step, Ctl.isLive, hlv, ↓reduceIte]
    cases ev with
    | next d => exact push_spec h hi i d
    | error e =>
      exact (h.sinkError (lay_ok k) e).conseq fun w2 h2 =>
        ⟨h2, fun q => (by rw [sinkError_dead] at q; cases q), hi.len, hi.kpos⟩
    | complete =>
      exact (h.sinkComplete (lay_ok k) i).conseq fun w2 h2 =>
        ⟨h2, fun q => hi.inv (sinkComplete_alive (s.ctl.kill i) i q), hi.len, hi.kpos⟩

/-- `n+1` plain subjects; test user 0 subscribes to `s0.zip(&[s1, .., sn])`; then the history -/
def prog (n : Nat) (H : History) : Prog :=
  subjsNew (n + 1) fun sjs =>
    .obsvNew (oZip (sjs.headD default).observable (sjs.tail.map Subj.observable)) fun id =>
    .userSub id noReact (drive sjs H)

theorem encQ_init (k : Nat) : Data.ofList (List.replicate k .lnil) = encQ (List.replicate k []) := by
  simp [encQ, List.map_replicate, Data.ofList]

theorem zip_eq (n : Nat) :
    (((sjs (n + 1)).headD default).observable :: (sjs (n + 1)).tail.map Subj.observable).zip
      ((List.range (n + 1)).map (1 + ·)) =
    (List.range' 0 (n + 1)).map fun i => ((sjOf i).observable, (lay (n + 1)).ob i) := by
  rw [Merge.srcs_eq, List.range_eq_range', List.zip_map']
  rfl

/-- **C03-REF, zip.**  For EVERY history the zip program ends, for all sufficient fuel, with `status = ok`, no guard
    held, the user's log equal to the output of `Comb.zip`, and subject `i` holding one observer iff `i` is in the
    machine's final `live` set. -/
theorem zip_refines (n : Nat) (H : History) :
    ∃ n0, ∀ fuel, n0 ≤ fuel →
      Agrees (n + 1) (run fuel [prog n H] {}) (finalFrom zip.step (zip.init (n + 1)) H).ctl.live
        (zip.run (n + 1) H) := by
  refine (sim (n + 1)).refines (fun sjs => oZip (sjs.headD default).observable (sjs.tail.map Subj.observable)) H
    (zip.init (n + 1)) ⟨fun _ => by simp [zip.init, ne, List.replicate_succ], by simp [zip.init], by omega⟩ ?_
  rw [show (lay (n + 1)).k = n + 1 from rfl]
  simp only [oZip]
  rw [show ((sjs (n + 1)).tail.map Subj.observable).length + 1 = n + 1 by simp [sjs], encQ_init]
  refine wp_sctlNew_start (wp_cellNew_ctl ?_)
  exact wp_setup (lay_ok (n + 1)) (GLay.std_std (fun _ => rfl) fun _ h => h) _ (fun _ _ => rfl)
    (rel_ctlWorld (lay_ok (n + 1)) (fun _ => rfl) [_] _)
    (congrArg subscribeAll (zip_eq n))

/-- the C03 list specification transported to model A -/
theorem zip_machine_spec (n : Nat) (H : History) (hwf : WellFormed (n + 1) H) :
    ∃ n0, ∀ fuel, n0 ≤ fuel → (run fuel [prog n H] {}).status = .ok ∧
      logOf (run fuel [prog n H] {}) 0 = zipSpec (n + 1) H :=
  machine_spec_of (zip_refines n H) (zip_spec _ (by omega) H hwf)

def demo : History :=
  [(0, .next (.int 1)), (0, .next (.int 2)), (1, .next (.int 10)), (2, .next (.int 20)), (2, .next (.int 21)),
   (1, .next (.int 11)), (1, .complete), (0, .complete), (2, .complete)]

theorem demo_run : (run 4000 [prog 2 demo] {}).status = .ok ∧ logOf (run 4000 [prog 2 demo] {}) 0 =
    [.next (Data.ofList [.int 1, .int 10, .int 20]), .next (Data.ofList [.int 2, .int 11, .int 21]), .complete] := by
  decide +kernel

example : (run 4000 [prog 2 demo] {}).status = .ok := demo_run.1
example : logOf (run 4000 [prog 2 demo] {}) 0 =
    [.next (Data.ofList [.int 1, .int 10, .int 20]), .next (Data.ofList [.int 2, .int 11, .int 21]), .complete] :=
  demo_run.2
example : zip.run 3 demo =
    [.next (Data.ofList [.int 1, .int 10, .int 20]), .next (Data.ofList [.int 2, .int 11, .int 21]), .complete] := by
  decide +kernel
example : (List.range 3).map (regCount (run 4000 [prog 2 (demo.take 7)] {})) = [1, 0, 1] ∧
    (finalFrom zip.step (zip.init 3) (demo.take 7)).ctl.live = [0, 2] := by decide +kernel
example : WellFormed 3 demo := by decide
example : logOf (run 4000 [prog 2 demo] {}) 0 = zipSpec 3 demo :=
  demo_run.2.trans (by decide +kernel)

#print axioms zip_refines
#print axioms zip_machine_spec

end Rx.CRef.Zip
