import RxVerif.Theorems.C03RefSeqEqLay
/-
C03-REF, sequence_equal: one source's chain  subject j ─ map_j ─ concat_j ─ (zip's observer j)  in an
arbitrary state of decay (`CB`: which observers still have their callbacks / their teardown, which maps still hold
their entry), and its teardown  `unsubscribe(zip's observer j)`  with the cascade of `finalize` calls it triggers.
Every teardown lemma also says that nothing outside the chain changed (`Same`).

`ChainAt` is read as three tables (cells, slots, observers of the chain and what they hold in state `b`), so that
a write to one position is a change of one entry.
-/
namespace Rx.SeqRef
open Rx.Sim Rx.Ref Rx.Comb Rx.CRef

structure CB where
  zL : Bool   -- zip's observer j has its callbacks
  zH : Bool   -- ... its teardown (`concat_j.finalize`)
  cL : Bool   -- concat_j's observer on map_j
  cH : Bool   -- ... its teardown (`map_j.finalize`)
  mL : Bool   -- map_j's observer on subject j
  mH : Bool   -- ... its teardown (the subject's hook)
  cR : Bool   -- concat_j's map still holds its entries
  mR : Bool   -- map_j's map still holds its entry
  sR : Bool   -- subject j still holds map_j's observer
  jx : Option (Nat × Bool)   -- concat_j's observer on `just(None)`: its index, and whether it has its callbacks
  cs : Nat    -- concat_j's serial counter
  q : Nat     -- concat_j's position in `theEnd`

def cmapOf (k j : Nat) (b : CB) : List (Nat × Nat) :=
  if b.cR then (0, Co k j) :: (match b.jx with | some p => [(1, p.1)] | none => []) else []

structure ChainAt (k j : Nat) (b : CB) (w : World) : Prop where
  subjO : w.cells[2 * j]? = some (encMap (if b.sR then [(1, Mo k j)] else []))
  subjS : w.cells[2 * j + 1]? = some (.int ((1 : Nat) : Int))
  sl1 : w.slots[2 * j]? = some none
  sl2 : w.slots[2 * j + 1]? = some none
  sl3 : w.slots[cfin k j]? = some none
  sl4 : w.slots[mfin k j]? = some none
  cS : w.cells[cser k j]? = some (.int (b.cs : Int))
  cM : w.cells[cmap k j]? = some (encMap (cmapOf k j b))
  cQ : w.cells[cq k j]? = some (.int (b.q : Int))
  mM : w.cells[mmap k j]? = some (encMap (if b.mR then [(0, Mo k j)] else []))
  mT : w.cells[mst k j]? = some .unit
  oZ : w.obs[Zo j]? = some (if b.zL then zipObs k j (optHook b.zH (scC k j).finalize)
        else deadObs (optHook b.zH (scC k j).finalize))
  oC : w.obs[Co k j]? = some (if b.cL then concatObs k j (optHook b.cH (scM k j).finalize)
        else deadObs (optHook b.cH (scM k j).finalize))
  oM : w.obs[Mo k j]? = some (if b.mL then mapObs k j (optHook b.mH (hookOf j))
        else deadObs (optHook b.mH (hookOf j)))
  -- `3k+2`: the first observer index after the set-up, so a `just(None)` observer is none of the `Zo`, `Co`, `Mo`
  oJ : ∀ p, b.jx = some p → 3 * k + 2 ≤ p.1 ∧ w.obs[p.1]? = some (if p.2 then justObs k j else deadObs none)

/-- nothing but the listed cells / observers changed -/
structure Same (w w' : World) (cs : List Nat) (os : List Nat) : Prop where
  cells : ∀ c, c ∉ cs → w'.cells[c]? = w.cells[c]?
  obs : ∀ o, o ∉ os → w'.obs[o]? = w.obs[o]?
  slots : w'.slots = w.slots
  users : w'.users = w.users
  trace : w'.trace = w.trace
  status : w'.status = w.status
  held : w'.held = w.held
  obsLen : w'.obs.length = w.obs.length

theorem Same.refl (w : World) (cs os : List Nat) : Same w w cs os :=
  ⟨fun _ _ => rfl, fun _ _ => rfl, rfl, rfl, rfl, rfl, rfl, rfl⟩

theorem Same.trans {w1 w2 w3 : World} {cs os : List Nat} (h1 : Same w1 w2 cs os) (h2 : Same w2 w3 cs os) :
    Same w1 w3 cs os :=
  ⟨fun c hc => (h2.cells c hc).trans (h1.cells c hc), fun o ho => (h2.obs o ho).trans (h1.obs o ho),
   h2.slots.trans h1.slots, h2.users.trans h1.users, h2.trace.trans h1.trace, h2.status.trans h1.status,
   h2.held.trans h1.held, h2.obsLen.trans h1.obsLen⟩

theorem Same.mono {w w' : World} {cs cs' os os' : List Nat} (h : Same w w' cs os) (hc : ∀ c ∈ cs, c ∈ cs')
    (ho : ∀ o ∈ os, o ∈ os') : Same w w' cs' os' :=
  { h with cells := fun c q => h.cells c fun r => q (hc c r), obs := fun o q => h.obs o fun r => q (ho o r) }

theorem Same.setObs (w : World) (o : Nat) (f : Obs → Obs) {cs os : List Nat} (ho : o ∈ os) :
    Same w (w.setObs o f) cs os :=
  ⟨fun _ _ => rfl, fun _ ha => modify_get_other _ _ fun q => ha (q ▸ ho), rfl, rfl, rfl, rfl, rfl,
    List.length_modify ..⟩

theorem Same.setCell (w : World) {c : Nat} (v : Data) {cs os : List Nat} (hc : c ∈ cs) :
    Same w { w with cells := w.cells.set c v } cs os :=
  ⟨fun _ ha => set_get_other _ fun q => ha (q ▸ hc), fun _ _ => rfl, rfl, rfl, rfl, rfl, rfl, rfl⟩

theorem Same.unlock {w w' : World} {hl : List (LockId × Bool)} {cs os : List Nat}
    (h : Same { w with held := hl } w' cs os) : Same w { w' with held := w.held } cs os :=
  ⟨h.cells, h.obs, h.slots, h.users, h.trace, h.status, rfl, h.obsLen⟩

theorem Same.setHeld {w w' : World} {cs os : List Nat} (h : Same w { w' with held := w.held } cs os)
    (hl : List (LockId × Bool)) : Same { w with held := hl } { w' with held := hl } cs os :=
  ⟨h.cells, h.obs, h.slots, h.users, h.trace, h.status, rfl, h.obsLen⟩

def cellAddrs (k j : Nat) : List Nat := [2 * j, 2 * j + 1, cser k j, cmap k j, cq k j, mmap k j, mst k j]

def cellVals (k j : Nat) (b : CB) : List Data :=
  [encMap (if b.sR then [(1, Mo k j)] else []), .int ((1 : Nat) : Int), .int (b.cs : Int), encMap (cmapOf k j b),
   .int (b.q : Int), encMap (if b.mR then [(0, Mo k j)] else []), .unit]

def slotAddrs (k j : Nat) : List Nat := [2 * j, 2 * j + 1, cfin k j, mfin k j]

/-- the entry of the `just(None)` observer in concat_j's map -/
def jl (b : CB) : List (Nat × Nat) := match b.jx with | some p => [(1, p.1)] | none => []

/-- the observers of chain `j` below zip's observer -/
def lowObs (k j : Nat) (b : CB) : List Nat := Co k j :: Mo k j :: (jl b).map (·.2)

def chainObs (k j : Nat) (b : CB) : List Nat := Zo j :: lowObs k j b

/-- zip's observer `j`, concat_j's observer on map_j, map_j's observer on the subject in state `b` -/
def zOb (k j : Nat) (b : CB) : Obs :=
  if b.zL then zipObs k j (optHook b.zH (scC k j).finalize) else deadObs (optHook b.zH (scC k j).finalize)
def cOb (k j : Nat) (b : CB) : Obs :=
  if b.cL then concatObs k j (optHook b.cH (scM k j).finalize) else deadObs (optHook b.cH (scM k j).finalize)
def mOb (k j : Nat) (b : CB) : Obs :=
  if b.mL then mapObs k j (optHook b.mH (hookOf j)) else deadObs (optHook b.mH (hookOf j))

def obsVals (k j : Nat) (b : CB) : List Obs :=
  zOb k j b :: cOb k j b :: mOb k j b ::
    (match b.jx with | some p => [if p.2 then justObs k j else deadObs none] | none => [])

variable {k j : Nat} {b : CB} {w : World}

theorem chainAt_iff : ChainAt k j b w ↔
    Tab w.cells (cellAddrs k j) (cellVals k j b) ∧ Tab w.slots (slotAddrs k j) [none, none, none, none] ∧
    Tab w.obs (chainObs k j b) (obsVals k j b) ∧ ∀ o ∈ (jl b).map (·.2), 3 * k + 2 ≤ o := by
  constructor
  · intro h
    refine ⟨.cons h.subjO (.cons h.subjS (.cons h.cS (.cons h.cM (.cons h.cQ (.cons h.mM (.cons h.mT .nil)))))),
      .cons h.sl1 (.cons h.sl2 (.cons h.sl3 (.cons h.sl4 .nil))), .cons h.oZ (.cons h.oC (.cons h.oM ?_)), ?_⟩
    · cases hx : b.jx with
      | none => simp only [jl, hx]; exact .nil
      | some p => simp only [jl, hx]; exact .cons (h.oJ p hx).2 .nil
    · cases hx : b.jx with
      | none => simp [jl, hx]
      | some p => simp only [jl, hx, List.map_cons, List.map_nil, List.mem_singleton]; rintro _ rfl; exact (h.oJ p hx).1
  · rintro ⟨hc, hs, ho, hJ⟩
    exact
    { subjO := hc.get (i := 0) rfl rfl, subjS := hc.get (i := 1) rfl rfl, cS := hc.get (i := 2) rfl rfl
      cM := hc.get (i := 3) rfl rfl, cQ := hc.get (i := 4) rfl rfl, mM := hc.get (i := 5) rfl rfl
      mT := hc.get (i := 6) rfl rfl, sl1 := hs.get (i := 0) rfl rfl, sl2 := hs.get (i := 1) rfl rfl
      sl3 := hs.get (i := 2) rfl rfl, sl4 := hs.get (i := 3) rfl rfl, oZ := ho.get (i := 0) rfl rfl
      oC := ho.get (i := 1) rfl rfl, oM := ho.get (i := 2) rfl rfl
      oJ := fun p hp => by
        simp only [chainObs, lowObs, obsVals, jl, hp] at ho hJ
        exact ⟨hJ _ (.head _), ho.get (i := 3) rfl rfl⟩ }

theorem cellAddrs_range {c : Nat} (hc : c ∈ cellAddrs k j) :
    (c = 2 * j ∨ c = 2 * j + 1) ∨ (2 * k + 5 + 6 * j ≤ c ∧ c < 2 * k + 5 + 6 * j + 6) := by
  simp only [cellAddrs, cser, cmap, cq, mmap, mst, List.mem_cons, List.not_mem_nil, or_false] at hc
  omega

theorem cellAddrs_nodup (k j : Nat) : (cellAddrs k j).Nodup := by
  simp only [cellAddrs, cser, cmap, cq, mmap, mst, List.nodup_cons, List.mem_cons, List.not_mem_nil, or_false, not_or,
    List.nodup_nil, and_true, not_false_eq_true]
  omega

theorem cells_ne : 2 * j ≠ cmap k j ∧ 2 * j ≠ mmap k j ∧ cmap k j ≠ mmap k j ∧ 2 * j + 1 ≠ cmap k j ∧
    2 * j + 1 ≠ mmap k j ∧ cser k j ≠ cmap k j ∧ cser k j ≠ mmap k j ∧ cq k j ≠ cmap k j ∧ cq k j ≠ mmap k j ∧
    mst k j ≠ cmap k j ∧ mst k j ≠ mmap k j := by
  simp only [cmap, mmap, cser, cq, mst]; omega

theorem idx_lt (hj : j < k) : Zo j < Co k j ∧ Co k j < Mo k j ∧ Mo k j < 3 * k + 2 ∧ 1 < Zo j := by
  simp only [Zo, Co, Mo]; omega

theorem chainObs_nodup (hj : j < k) (hJ : ∀ o ∈ (jl b).map (·.2), 3 * k + 2 ≤ o) : (chainObs k j b).Nodup := by
  obtain ⟨h1, h2, h3, _⟩ := idx_lt hj
  cases hx : b.jx with
  | none => simp only [chainObs, lowObs, jl, hx, List.map_nil, List.nodup_cons, List.mem_cons, List.not_mem_nil,
              or_false, not_or, List.nodup_nil, and_true, not_false_eq_true]; omega
  | some p =>
    have := hJ p.1 (by simp [jl, hx])
    simp only [chainObs, lowObs, jl, hx, List.map_cons, List.map_nil, List.nodup_cons, List.mem_cons, List.not_mem_nil,
      or_false, not_or, List.nodup_nil, and_true, not_false_eq_true]; omega

theorem ChainAt.mono {w' : World} (h : ChainAt k j b w)
    (hc : ∀ c ∈ cellAddrs k j, ∀ v, w.cells[c]? = some v → w'.cells[c]? = some v)
    (ho : ∀ o ∈ chainObs k j b, ∀ x, w.obs[o]? = some x → w'.obs[o]? = some x)
    (hs : ∀ t ∈ slotAddrs k j, ∀ v, w.slots[t]? = some v → w'.slots[t]? = some v) : ChainAt k j b w' :=
  let ⟨h1, h2, h3, h4⟩ := chainAt_iff.1 h
  chainAt_iff.2 ⟨h1.mono hc, h2.mono hs, h3.mono ho, h4⟩

theorem ChainAt.congr' {w' : World} (h : ChainAt k j b w)
    (hc : ∀ c, c ∈ [2 * j, 2 * j + 1, cser k j, cmap k j, cq k j, mmap k j, mst k j] → w'.cells[c]? = w.cells[c]?)
    (ho : ∀ o, o ∈ chainObs k j b → w'.obs[o]? = w.obs[o]?)
    (hs : ∀ t, t ∈ [2 * j, 2 * j + 1, cfin k j, mfin k j] → w'.slots[t]? = w.slots[t]?) : ChainAt k j b w' :=
  h.mono (fun c q _ hv => (hc c q).trans hv) (fun o q _ hv => (ho o q).trans hv) fun t q _ hv => (hs t q).trans hv

theorem ChainAt.congr {w' : World} (h : ChainAt k j b w) (hc : ∀ c ∈ cellAddrs k j, w'.cells[c]? = w.cells[c]?)
    (ho : ∀ o ∈ chainObs k j b, w'.obs[o]? = w.obs[o]?) (hs : w'.slots = w.slots) : ChainAt k j b w' :=
  h.mono (fun c q _ hv => (hc c q).trans hv) (fun o q _ hv => (ho o q).trans hv) fun _ _ _ hv => hs ▸ hv

/-- a chain is not affected by changes outside its own cells and observers -/
theorem ChainAt.of_same {w' : World} {cs os : List Nat} (h : ChainAt k j b w) (s : Same w w' cs os)
    (hc : ∀ c ∈ cellAddrs k j, c ∉ cs) (ho : ∀ o ∈ chainObs k j b, o ∉ os) : ChainAt k j b w' :=
  h.congr (fun c q => s.cells c (hc c q)) (fun o q => s.obs o (ho o q)) s.slots

theorem ChainAt.setHeld (h : ChainAt k j b w) (hl : List (LockId × Bool)) : ChainAt k j b { w with held := hl } :=
  { h with }

/-- a chain is not affected by a new observer -/
theorem ChainAt.appendObs (h : ChainAt k j b w) (o : Obs) : ChainAt k j b { w with obs := w.obs ++ [o] } :=
  h.mono (fun _ _ _ hv => hv) (fun _ _ _ hv => RefR.getElem?_append_some hv)
    fun _ _ _ hv => hv

theorem ChainAt.setCell (h : ChainAt k j b w) {i c : Nat} (hc : (cellAddrs k j)[i]? = some c) (v : Data) {b' : CB}
    (hv : cellVals k j b' = (cellVals k j b).set i v) (hx : b'.jx = b.jx) (ho : obsVals k j b' = obsVals k j b) :
    ChainAt k j b' { w with cells := w.cells.set c v } := by
  obtain ⟨h1, h2, h3, h4⟩ := chainAt_iff.1 h
  have e : jl b' = jl b := by simp only [jl, hx]
  refine chainAt_iff.2 ⟨hv ▸ h1.set (cellAddrs_nodup k j) hc v, h2, ?_, e ▸ h4⟩
  rw [ho, show chainObs k j b' = chainObs k j b by simp only [chainObs, lowObs, e]]
  exact h3

theorem ChainAt.setOb (h : ChainAt k j b w) (hj : j < k) {i o : Nat} (hi : (chainObs k j b)[i]? = some o)
    (f : Obs → Obs) {b' : CB} (hv : obsVals k j b' = (obsVals k j b).modify i f)
    (hO : chainObs k j b' = chainObs k j b) (hc : cellVals k j b' = cellVals k j b) :
    ChainAt k j b' { w with obs := w.obs.modify o f } := by
  obtain ⟨h1, h2, h3, h4⟩ := chainAt_iff.1 h
  refine chainAt_iff.2 ⟨hc ▸ h1, h2, ?_, ?_⟩
  · rw [hv, hO]; exact h3.modify (chainObs_nodup hj h4) hi f
  · have : (jl b').map (·.2) = (jl b).map (·.2) := by
      simp only [chainObs, lowObs, List.cons.injEq, true_and] at hO; exact hO
    rw [this]; exact h4

theorem ChainAt.clearS (h : ChainAt k j b w) :
    ChainAt k j { b with sR := false } { w with cells := w.cells.set (2 * j) .lnil } :=
  h.setCell (i := 0) rfl _ rfl rfl rfl

theorem ChainAt.clearM (h : ChainAt k j b w) :
    ChainAt k j { b with mR := false } { w with cells := w.cells.set (mmap k j) .lnil } :=
  h.setCell (i := 5) rfl _ rfl rfl rfl

theorem ChainAt.clearC (h : ChainAt k j b w) :
    ChainAt k j { b with cR := false } { w with cells := w.cells.set (cmap k j) .lnil } :=
  h.setCell (i := 3) rfl _ rfl rfl rfl

theorem ChainAt.setQ (h : ChainAt k j b w) (v : Nat) :
    ChainAt k j { b with q := v } { w with cells := w.cells.set (cq k j) (.int (v : Int)) } :=
  h.setCell (i := 4) rfl _ rfl rfl rfl

theorem ChainAt.setCs (h : ChainAt k j b w) (v : Nat) :
    ChainAt k j { b with cs := v } { w with cells := w.cells.set (cser k j) (.int (v : Int)) } :=
  h.setCell (i := 2) rfl _ rfl rfl rfl

/-- one of the chain's three named observers changes; `l`, `hk` = whether it has its callbacks / its teardown then -/
theorem ChainAt.setZ (h : ChainAt k j b w) (hj : j < k) (f : Obs → Obs) (l hk : Bool)
    (hf : f (zOb k j b) =
      if l then zipObs k j (optHook hk (scC k j).finalize) else deadObs (optHook hk (scC k j).finalize)) :
    ChainAt k j { b with zL := l, zH := hk } { w with obs := w.obs.modify (Zo j) f } :=
  h.setOb hj (i := 0) rfl f (by simp only [obsVals, List.modify_cons, hf]; rfl) rfl rfl

theorem ChainAt.setC (h : ChainAt k j b w) (hj : j < k) (f : Obs → Obs) (l hk : Bool)
    (hf : f (cOb k j b) =
      if l then concatObs k j (optHook hk (scM k j).finalize) else deadObs (optHook hk (scM k j).finalize)) :
    ChainAt k j { b with cL := l, cH := hk } { w with obs := w.obs.modify (Co k j) f } :=
  h.setOb hj (i := 1) rfl f (by simp only [obsVals, List.modify_cons, hf]; rfl) rfl rfl

theorem ChainAt.setM (h : ChainAt k j b w) (hj : j < k) (f : Obs → Obs) (l hk : Bool)
    (hf : f (mOb k j b) = if l then mapObs k j (optHook hk (hookOf j)) else deadObs (optHook hk (hookOf j))) :
    ChainAt k j { b with mL := l, mH := hk } { w with obs := w.obs.modify (Mo k j) f } :=
  h.setOb hj (i := 2) rfl f (by simp only [obsVals, List.modify_cons, hf]; rfl) rfl rfl

theorem ChainAt.deadJ (h : ChainAt k j b w) (hj : j < k) {p : Nat × Bool} (hp : b.jx = some p) (f : Obs → Obs)
    (hf : f (if p.2 then justObs k j else deadObs none) = deadObs none) :
    ChainAt k j { b with jx := some (p.1, false) } { w with obs := w.obs.modify p.1 f } :=
  h.setOb hj (i := 3) (by simp only [chainObs, lowObs, jl, hp]; rfl) f
    (by simp only [obsVals, hp, List.modify_cons, hf]; rfl)
    (by simp only [chainObs, lowObs, jl, hp]) (by simp only [cellVals, cmapOf, hp])

theorem ChainAt.killJ (h : ChainAt k j b w) (hj : j < k) (J : Nat) (l : Bool) (hp : b.jx = some (J, l)) :
    ChainAt k j { b with jx := some (J, false) } { w with obs := w.obs.modify J Obs.cleared } :=
  h.deadJ hj hp Obs.cleared (by cases l <;> rfl)

def tM (b : CB) : CB := { b with mL := false, mH := false, sR := if b.mH then false else b.sR }

/-- `unsubscribe` of map_j's observer on the subject (the teardown is the subject's hook) -/
theorem unsubM_spec (h : ChainAt k j b w) (hj : j < k) (hf : HF [2 * j] w) :
    WP (.obsUnsub (Mo k j) .done) w (fun w' => ChainAt k j (tM b) w' ∧ Same w w' [2 * j] [Mo k j]) := by
  have hM := h.setM hj (fun x => { x.cleared with onUnsub := none }) false false (dead_of ..)
  have hs := Same.setObs w (Mo k j) (fun x => { x.cleared with onUnsub := none }) (cs := [2 * j]) (os := [Mo k j])
    (.head _)
  refine unsub_hook_spec h.oM rfl (fun hH => ⟨?_, hs⟩) fun hH => ?_
  · rw [tM, hH]; exact hM
  · simp only [hookOf, hookProg, sjOf]
    refine wp_cellRead_nc (hf.free (.head _) _) ?_
    have hread : ((w.setObs (Mo k j) fun x => { x.cleared with onUnsub := none }).cells[2 * j]?).getD .unit =
        encMap (if b.sR then [(1, Mo k j)] else []) := by
      show (w.cells[2 * j]?).getD .unit = _; rw [h.subjO]; rfl
    have hfil : (if b.sR then [(1, Mo k j)] else []).filter (fun p => p.1 != 1) = [] := by
      cases b.sR <;> rfl
    rw [hread, amapRemove_encMap, hfil]
    refine wp_cellWrite_nc (hf.free (.head _) _)
      (wp_lockedSlotCall_none' (hf.slot _ _) h.sl2 (WP.done ⟨?_, hs.trans (Same.setCell _ _ ?_)⟩))
    · rw [tM, hH]; exact hM.clearS
    · exact .head _

def tFM (b : CB) : CB := { (if b.mR then tM b else b) with mR := false }

/-- `map_j.finalize` (its subscriber, concat_j's observer, has already lost its callbacks) -/
theorem finMap_spec (h : ChainAt k j b w) (hj : j < k) (hc : b.cL = false) (hf : HF [mmap k j, 2 * j] w) :
    WP (scM k j).finalize w (fun w' => ChainAt k j (tFM b) w' ∧ Same w w' [mmap k j, 2 * j] [Mo k j]) := by
  refine wp_finalize (scM k j) (if b.mR then [(0, Mo k j)] else []) (fun _ => tM)
    (fun s w1 => ChainAt k j s w1 ∧ s.cL = false ∧
      Same { w with held := (.cell (mmap k j), false) :: w.held } w1 [2 * j] [Mo k j])
    (sE := if b.mR then tM b else b) h.mM (hf.mono fun _ q => List.mem_cons.2 (.inl (List.mem_singleton.1 q)))
    ⟨h.setHeld _, hc, Same.refl ..⟩ ?_ (by cases b.mR <;> rfl) ?_
  · rintro p s w1 hp ⟨hch, hcl, hs⟩
    have hp' : p.2 = Mo k j := by
      cases hR : b.mR <;> simp only [hR, Bool.false_eq_true, ↓reduceIte, List.mem_singleton, List.not_mem_nil] at hp
      rw [hp]
    rw [hp']
    have hf1 : HF [2 * j] w1 := hf.push hs.held (fun _ q => .tail _ q) (by simp [mmap]; omega)
    exact (unsubM_spec hch hj hf1).conseq fun w2 ⟨h2, s2⟩ => ⟨h2, hcl, hs.trans s2⟩
  · rintro w2 ⟨hch, hcl, hs⟩
    have hsub := hch.oC
    rw [hcl] at hsub
    refine ⟨hs.held, ⟨_, hsub, rfl⟩, hch.sl4, (hch.setHeld w.held).clearM, ?_⟩
    exact (hs.unlock.mono (fun _ q => .tail _ q) fun _ q => q).trans
      (Same.setCell _ _ (.head _))

def tC (b : CB) : CB := if b.cH then tFM { b with cL := false, cH := false } else { b with cL := false, cH := false }

/-- `unsubscribe` of concat_j's observer on map_j (its teardown is `map_j.finalize`) -/
theorem unsubC_spec (h : ChainAt k j b w) (hj : j < k) (hf : HF [mmap k j, 2 * j] w) :
    WP (.obsUnsub (Co k j) .done) w
      (fun w' => ChainAt k j (tC b) w' ∧ Same w w' [mmap k j, 2 * j] [Co k j, Mo k j]) := by
  have hC := h.setC hj (fun x => { x.cleared with onUnsub := none }) false false (dead_of ..)
  have hs := Same.setObs w (Co k j) (fun x => { x.cleared with onUnsub := none }) (cs := [mmap k j, 2 * j])
    (os := [Co k j, Mo k j]) (.head _)
  refine unsub_hook_spec h.oC rfl (fun hH => ⟨?_, hs⟩) fun hH => ?_
  · rw [tC, hH]; exact hC
  · refine (finMap_spec hC hj rfl hf).conseq fun w2 ⟨h2, s2⟩ => ⟨?_, hs.trans (s2.mono (fun _ q => q) fun _ q => .tail _ q)⟩
    rw [tC, hH]; exact h2

def tJ (b : CB) : CB := { b with jx := b.jx.map fun p => (p.1, false) }

/-- `unsubscribe` of concat_j's observer on `just(None)` (it has no teardown) -/
theorem unsubJ_spec (h : ChainAt k j b w) (hj : j < k) (J : Nat) (hJ : b.jx.map (·.1) = some J) :
    WP (.obsUnsub J .done) w (fun w' => ChainAt k j (tJ b) w' ∧ Same w w' [] [J]) := by
  obtain ⟨p, hp, rfl⟩ := Option.map_eq_some_iff.1 hJ
  have q2 := (h.oJ p hp).2
  refine wp_obsUnsub_none q2 (by cases p.2 <;> rfl) (WP.done ⟨?_, Same.setObs w _ _ (.head _)⟩)
  have := h.deadJ hj hp (fun x => { x.cleared with onUnsub := none }) (by cases p.2 <;> rfl)
  rw [tJ, hp]; exact this

def tFC (b : CB) : CB := { (if b.cR then tJ (tC b) else b) with cR := false }

/-- what the teardowns preserve: the three bits read further up, once down, stay down; the observer on `just(None)`
    stays where it is -/
structure CB.le (b' b : CB) : Prop where
  zL : b.zL = false → b'.zL = false
  cL : b.cL = false → b'.cL = false
  sR : b.sR = false → b'.sR = false
  jx : b'.jx.map (·.1) = b.jx.map (·.1)

theorem CB.le.refl (b : CB) : b.le b := ⟨id, id, id, rfl⟩

theorem CB.le.trans {a b c : CB} (h1 : a.le b) (h2 : b.le c) : a.le c :=
  ⟨fun h => h1.zL (h2.zL h), fun h => h1.cL (h2.cL h), fun h => h1.sR (h2.sR h), h1.jx.trans h2.jx⟩

theorem tM_le (b : CB) : (tM b).le b := ⟨id, id, fun h => by simp only [tM, h, ite_self], rfl⟩

theorem tFM_le (b : CB) : (tFM b).le b := by
  have : (if b.mR then tM b else b).le b := by split; exact tM_le b; exact .refl b
  exact ⟨this.zL, this.cL, this.sR, this.jx⟩

theorem tC_le (b : CB) : (tC b).le b := by
  rw [tC]; split
  · exact (tFM_le _).trans ⟨id, fun _ => rfl, id, rfl⟩
  · exact ⟨id, fun _ => rfl, id, rfl⟩

theorem tJ_le (b : CB) : (tJ b).le b := ⟨id, id, id, by simp only [tJ]; cases b.jx <;> rfl⟩

theorem tFC_le (b : CB) : (tFC b).le b := by
  have : (if b.cR then tJ (tC b) else b).le b := by split; exact (tJ_le _).trans (tC_le b); exact .refl b
  exact ⟨this.zL, this.cL, this.sR, this.jx⟩

theorem tC_jx (b : CB) : (tC b).jx = b.jx := by
  simp only [tC, tFM, tM]; split <;> (try split) <;> rfl
theorem tC_z (b : CB) : (tC b).zL = b.zL ∧ (tC b).zH = b.zH := by
  simp only [tC, tFM, tM]; split <;> (try split) <;> exact ⟨rfl, rfl⟩
theorem tFM_jx (b : CB) : (tFM b).jx = b.jx := by
  simp only [tFM, tM]; split <;> rfl
theorem CB.le.sR_true {b' b : CB} (h : b'.le b) (hb : b'.sR = true) : b.sR = true := by
  cases hs : b.sR
  · rw [h.sR hs] at hb; cases hb
  · rfl
theorem tFM_sR (b : CB) (h : (tFM b).sR = true) : b.sR = true := (tFM_le b).sR_true h
theorem tFC_sR (b : CB) (h : (tFC b).sR = true) : b.sR = true := (tFC_le b).sR_true h
theorem tFC_jx (b : CB) : (tFC b).jx.map (·.1) = b.jx.map (·.1) := (tFC_le b).jx
theorem tFC_cL (b : CB) (h : b.cL = false) : (tFC b).cL = false := (tFC_le b).cL h

theorem tC_cR (b : CB) : (tC b).cR = b.cR := by
  rw [tC]; split
  · show (if _ then tM _ else _).cR = _; split <;> rfl
  · rfl

theorem tJ_none (h : b.jx = none) : tJ b = b := by cases b; simp_all [tJ]

/-- `concat_j.finalize` (its subscriber, zip's observer `j`, has already lost its callbacks) -/
theorem finConcat_spec (h : ChainAt k j b w) (hj : j < k) (hz : b.zL = false)
    (hf : HF [cmap k j, mmap k j, 2 * j] w) :
    WP (scC k j).finalize w
      (fun w' => ChainAt k j (tFC b) w' ∧ Same w w' [cmap k j, mmap k j, 2 * j] (lowObs k j b)) := by
  refine wp_finalize (scC k j) (cmapOf k j b) (fun p s => if p.1 = 0 then tC s else tJ s)
    (fun s w1 => ChainAt k j s w1 ∧ s.le b ∧
      Same { w with held := (.cell (cmap k j), false) :: w.held } w1 [mmap k j, 2 * j] (lowObs k j b))
    (sE := if b.cR then tJ (tC b) else b) h.cM
    (hf.mono fun _ q => List.mem_cons.2 (.inl (List.mem_singleton.1 q)))
    ⟨h.setHeld _, .refl b, Same.refl ..⟩ ?_ ?_ ?_
  · rintro p s w1 hp ⟨hch, hle, hs⟩
    have hcR : b.cR = true := by
      cases hR : b.cR
      · simp [cmapOf, hR] at hp
      · rfl
    simp only [cmapOf, hcR, ↓reduceIte, List.mem_cons] at hp
    rcases hp with rfl | hp
    · have hf1 : HF [mmap k j, 2 * j] w1 :=
        hf.push hs.held (fun _ q => .tail _ q) (by simp [cmap, mmap]; omega)
      exact (unsubC_spec hch hj hf1).conseq fun w2 ⟨h2, s2⟩ =>
        ⟨h2, (tC_le s).trans hle, hs.trans (s2.mono (fun _ q => q) (by simp [lowObs]))⟩
    · cases hx : b.jx with
      | none => simp [hx] at hp
      | some pj =>
        simp only [hx, List.mem_singleton] at hp
        subst hp
        exact (unsubJ_spec hch hj pj.1 (hle.jx.trans (by rw [hx]; rfl))).conseq fun w2 ⟨h2, s2⟩ =>
          ⟨h2, (tJ_le s).trans hle, hs.trans (s2.mono nofun (by simp [lowObs, jl, hx]))⟩
  · cases hR : b.cR
    · simp only [cmapOf, hR]; rfl
    · cases hx : b.jx with
      | none => simp only [cmapOf, hR, hx, ↓reduceIte, List.foldl_cons, List.foldl_nil]
                rw [tJ_none (Option.map_eq_none_iff.1 ((tC_le b).jx.trans (by rw [hx]; rfl)))]
      | some pj => simp only [cmapOf, hR, hx, ↓reduceIte, List.foldl_cons, List.foldl_nil, Nat.succ_ne_self]
  · rintro w2 ⟨hch, hle, hs⟩
    have hsub := hch.oZ
    rw [hle.zL hz] at hsub
    refine ⟨hs.held, ⟨_, hsub, rfl⟩, hch.sl3, (hch.setHeld w.held).clearC, ?_⟩
    exact (hs.unlock.mono (fun _ q => .tail _ q) fun _ q => q).trans
      (Same.setCell _ _ (.head _))

def tZ (b : CB) : CB := if b.zH then tFC { b with zL := false, zH := false } else { b with zL := false, zH := false }

theorem tZ_le (b : CB) : (tZ b).le b := by
  rw [tZ]; split
  · exact (tFC_le _).trans ⟨fun _ => rfl, id, id, rfl⟩
  · exact ⟨fun _ => rfl, id, id, rfl⟩

theorem tZ_cL (b : CB) (h : b.cL = false) : (tZ b).cL = false := (tZ_le b).cL h

/-- the cells a teardown of chain `j` may touch -/
def chainCells (k j : Nat) : List Nat := [cmap k j, mmap k j, 2 * j]

/-- `unsubscribe` of zip's observer `j` (its teardown is `concat_j.finalize`): the whole chain is torn down -/
theorem unsubZ_spec (h : ChainAt k j b w) (hj : j < k) (hf : HF (chainCells k j) w) :
    WP (.obsUnsub (Zo j) .done) w
      (fun w' => ChainAt k j (tZ b) w' ∧ Same w w' (chainCells k j) (chainObs k j b)) := by
  have hZ := h.setZ hj (fun x => { x.cleared with onUnsub := none }) false false (dead_of ..)
  have hs := Same.setObs w (Zo j) (fun x => { x.cleared with onUnsub := none }) (cs := chainCells k j)
    (os := chainObs k j b) (.head _)
  refine unsub_hook_spec h.oZ rfl (fun hH => ⟨?_, hs⟩) fun hH => ?_
  · rw [tZ, hH]; exact hZ
  · refine (finConcat_spec hZ hj rfl hf).conseq fun w2 ⟨h2, s2⟩ =>
      ⟨?_, hs.trans (s2.mono (fun _ q => q) fun _ q => .tail _ q)⟩
    rw [tZ, hH]; exact h2

end Rx.SeqRef
