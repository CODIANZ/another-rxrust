import RxVerif.Conc.Timed
/-
C16 — timer logic in virtual time (model: `RxVerif/Conc/Timed.lean`).

"interval(d) emits 0,1,2,... at d, 2d, 3d,... after subscription until unsubscribed; timer(d) emits once at d and
completes; delay(d) hands each item on d after receiving it, preserving order; timeout(d) passes items through and fails
with a TimedOut error exactly when more than d elapses after an item with no successor and no completion; sample and
debounce only ever deliver items the source emitted, in source order, none twice."

All theorems quantify over every period, every script and EVERY interleaving (every label list accepted by `step`);
they are proved by invariants over `Reach`.  This file also holds the invariants shared with `C15.lean`
(`IW.Inv`, `IW.TInv`, `Interval.Inv`, `Timeout.Inv`, `Debounce.Inv`, `Timer.Inv`).  `Until` says what the log of a subscription
is that a second thread may end at `unsubAt`; `Delay.Inv` and `Timeout.GInv` carry it, `delay_times` and `timeout_times`
are its projection `Until.times`.
`Timeout` follows operators/timeout.rs (on_finalize cancels the armed timer; re-check after the store)
and has consumer handling times (`Params.handling`): the downstream callback blocks the source thread inside `sink_next`.

Main theorems: `Interval.interval_ticks` (+ `interval_emits`, `interval_only`, `interval_tie_delivered/_dropped`,
`interval_take_unsub_between`),
`Timer.timer_once`, `Delay.delay_times` (+ `expected_events`, `expected_sorted`, `expected_rel/abs`; with consumer
handling times `Params.handling`),
`Timeout.timeout_times` (+ `timeout_exact`, its case without unsubscription; `expected_no_gap`, `expected_gap`,
`timeout_never_fires_on_slow_consumer`, `timeout_tie_fires/_passes`),
`Debounce.debounce_subsequence`, `Sample.sample_subsequence`; for the executable expectations of the model file
(`expectedLine`): `Interval.interval_expected`, `Interval.interval_take_expected`, `Timer.timer_expected`.
-/
namespace Rx.Timed

theorem reach_induct {σ ℓ : Type} {step : σ → ℓ → Option σ} {init : σ} (P : σ → Prop)
    (h0 : P init) (hs : ∀ s l s', P s → step s l = some s' → P s') : ∀ s, Reach step init s → P s := by
  intro s ⟨ls, h⟩
  induction ls generalizing init with
  | nil => cases h; exact h0
  | cons l ls ih =>
    simp only [runFrom] at h
    split at h
    · next s' hs' => exact ih (hs _ _ _ h0 hs') h
    · contradiction

/-- the step behind every `stepsAfterEnd ≤ stepBound pc` clause: the step counts only if the subscription is over
    (`sub = false`), and then the bound at the new program point (`b'`) is larger than at the old one (`b`) -/
theorem count_late {sub : Bool} {c b b' : Nat} (h : c ≤ b ∧ (sub = true → c = 0)) (hb : sub = true ∨ b < b') :
    c + (if sub = true then 0 else 1) ≤ b' ∧ (sub = true → c + (if sub = true then 0 else 1) = 0) := by
  cases sub
  · simp at hb h ⊢; omega
  · simp at h ⊢; omega

theorem ended_of_not_sub {sub : Bool} {ended : Option Nat} (h : sub = true ↔ ended = none) (hs : sub = false) :
    ∃ e, ended = some e := by
  cases he : ended with
  | some e => exact ⟨e, rfl⟩
  | none => rw [h.2 he] at hs; cases hs

theorem not_sub_of_ended {sub : Bool} {ended : Option Nat} {e : Nat} (h : sub = true ↔ ended = none) (he : ended = some e) :
    sub = false := by
  cases hs : sub with
  | false => rfl
  | true => rw [h.1 hs] at he; cases he

namespace Src

theorem wakeUp_eq_some {now : Nat} {x x' : Src} (h : x.wakeUp now = some x') :
    x.pc = .sleeping ∧ x.wake ≤ now ∧ x' = { x with pc := .call } := by
  unfold wakeUp at h
  split at h
  · next hc => cases h; exact ⟨hc.1, hc.2, rfl⟩
  · cases h

@[simp] theorem start_rest (now : Nat) (r : Script) : (start now r).rest = r := by cases r <;> rfl

@[simp] theorem start_base (now : Nat) (r : Script) : (start now r).base = now := by cases r <;> rfl

@[simp] theorem advance_rest (now : Nat) (x : Src) : (x.advance now).rest = x.rest.tail := start_rest _ _

theorem start_pc (now : Nat) (r : Script) : (start now r).pc = .sleeping ∨ (start now r).pc = .done := by
  cases r
  · exact .inr rfl
  · exact .inl rfl

theorem start_pc_ne {now : Nat} {r : Script} (q : SPc) (hq : q ≠ .sleeping ∧ q ≠ .done := by decide) :
    (start now r).pc ≠ q :=
  fun h => (start_pc now r).elim (fun h' => hq.1 (h.symm.trans h')) (fun h' => hq.2 (h.symm.trans h'))

theorem advance_pc_ne {now : Nat} {x : Src} (q : SPc) (hq : q ≠ .sleeping ∧ q ≠ .done := by decide) :
    (x.advance now).pc ≠ q :=
  start_pc_ne q hq

/-- the facts about a scripted thread that do not depend on what its calls do -/
structure Inv (now : Nat) (x : Src) : Prop where
  done : x.pc = .done ↔ x.rest = []
  sl : x.pc = .sleeping → now ≤ x.wake ∧ ∀ (w : Wait) (ev : Ev) (r : Script), x.rest = (w, ev) :: r → x.wake = w.wake x.base
  call : x.pc = .call → ∀ (w : Wait) (ev : Ev) (r : Script), x.rest = (w, ev) :: r → now = w.wake x.base

theorem Inv.start (now : Nat) (r : Script) : Inv now (start now r) := by
  cases r with
  | nil => exact ⟨⟨fun _ => rfl, fun _ => rfl⟩, nofun, nofun⟩
  | cons a r => exact ⟨⟨nofun, nofun⟩, fun _ => ⟨a.1.le_wake now, fun _ _ _ h => by cases h; rfl⟩, nofun⟩

theorem Inv.wakeUp {now : Nat} {x : Src} (h : Inv now x) (hp : x.pc = .sleeping) (hw : x.wake ≤ now) :
    Inv now { x with pc := .call } :=
  ⟨⟨nofun, fun hr => by rw [h.done.2 hr] at hp; cases hp⟩, nofun,
   fun _ w ev r hr => (h.sl hp).2 w ev r hr ▸ Nat.le_antisymm (h.sl hp).1 hw⟩

theorem Inv.mid {now now' : Nat} {x x' : Src} (h : Inv now x) (hp : x.pc ≠ .done) (hr : x'.rest = x.rest)
    (hp' : x'.pc = .mid1 ∨ x'.pc = .mid2) : Inv now' x' := by
  refine ⟨⟨fun hd => ?_, fun hn => ?_⟩, fun hs => ?_, fun hc => ?_⟩
  · rw [hd] at hp'; exact hp'.elim nofun nofun
  · exact absurd (h.done.2 (hr ▸ hn)) hp
  · rw [hs] at hp'; exact hp'.elim nofun nofun
  · rw [hc] at hp'; exact hp'.elim nofun nofun

theorem Inv.tick {now t' : Nat} {x : Src} (h : Inv now x) (hs : x.pc = .sleeping → t' ≤ x.wake) (hc : x.pc ≠ .call) :
    Inv t' x :=
  ⟨h.done, fun hp => ⟨hs hp, (h.sl hp).2⟩, fun hp => absurd hp hc⟩

/-- outside a call the clock has not passed the instant of the next one -/
theorem Inv.idle_le {now : Nat} {x : Src} (h : Inv now x) (hq : x.pc = .sleeping ∨ x.pc = .call ∨ x.pc = .done)
    (w : Wait) (ev : Ev) (r : Script) (hr : x.rest = (w, ev) :: r) : now ≤ w.wake x.base := by
  rcases hq with hp | hp | hp
  · exact (h.sl hp).2 w ev r hr ▸ (h.sl hp).1
  · exact Nat.le_of_eq (h.call hp w ev r hr)
  · exact nomatch (h.done.1 hp).symm.trans hr

theorem allowsTick_eq_true {now t' : Nat} {x : Src} (h : x.allowsTick now t' = true) :
    (x.pc = .sleeping → t' ≤ x.wake) ∧ (x.pc = .sleeping ∨ x.pc = .done) := by
  unfold allowsTick at h
  split at h <;> simp_all

end Src

namespace IW

/-- the most steps a worker at this point has made since its subscription ended.  `emit ↦ 0`: a worker at `emit` found
    itself subscribed at its wake-up, one step ago, so the count starts there and the longest way out is
    `emit, top, sleeping, abort, ret, exited` (`Timer.stepBound`, `Debounce.stepBound`: likewise, from their tests) -/
def stepBound : WPc → Nat
  | .emit => 0 | .top => 1 | .sleeping => 2 | .abort => 3 | .ret => 4 | .exited => 5

structure Inv (d now : Nat) (w : IW) : Prop where
  sub_iff : w.sub = true ↔ w.endedAt = none
  ended_le : ∀ e : Nat, w.endedAt = some e → e ≤ now
  sl_now : w.pc = .sleeping → now ≤ w.wake ∧ w.wake ≤ now + d
  sl_end : w.pc = .sleeping → ∀ e : Nat, w.endedAt = some e → w.wake ≤ e + d
  run_end : (w.pc = .top ∨ w.pc = .emit) → ∀ e : Nat, w.endedAt = some e → now = e
  ab_end : (w.pc = .abort ∨ w.pc = .ret) → ∃ e : Nat, w.endedAt = some e ∧ now ≤ e + d
  ex_end : w.pc = .exited → ∃ e x : Nat, w.endedAt = some e ∧ w.exitedAt = some x ∧ x ≤ e + d ∧ x ≤ now
  exitedAt_pc : ∀ x : Nat, w.exitedAt = some x → w.pc = .exited
  sleeps : w.sleepsAfterEnd ≤ 1 ∧ (w.sub = true → w.sleepsAfterEnd = 0) ∧
           ((w.pc = .top ∨ w.pc = .emit) → w.sleepsAfterEnd = 0)
  steps : w.stepsAfterEnd ≤ stepBound w.pc ∧ (w.sub = true → w.stepsAfterEnd = 0)

theorem inv_new (d now b : Nat) : Inv d now { born := b } :=
  ⟨⟨fun _ => rfl, fun _ => rfl⟩, nofun, nofun, nofun, fun _ => nofun, by simp, nofun, nofun,
   ⟨Nat.zero_le _, fun _ => rfl, fun _ => rfl⟩, ⟨Nat.zero_le _, fun _ => rfl⟩⟩

theorem Inv.running {d now : Nat} {w : IW} (h : Inv d now w) (hs : w.sub = true) :
    w.pc = .top ∨ w.pc = .sleeping ∨ w.pc = .emit := by
  have hn := h.sub_iff.1 hs
  cases hp : w.pc with
  | top => exact .inl rfl
  | sleeping => exact .inr (.inl rfl)
  | emit => exact .inr (.inr rfl)
  | abort => obtain ⟨e, he, _⟩ := h.ab_end (.inl hp); cases hn.symm.trans he
  | ret => obtain ⟨e, he, _⟩ := h.ab_end (.inr hp); cases hn.symm.trans he
  | exited => obtain ⟨e, _, he, _⟩ := h.ex_end hp; cases hn.symm.trans he

theorem localStep_inv {d now : Nat} {w w' : IW} (h : Inv d now w) (hs : w.localStep d now = some w') :
    Inv d now w' := by
  revert hs
  fun_cases localStep d now w <;> intro hs <;> cases hs
  next hp =>
    exact { h with
      sl_now := fun _ => ⟨Nat.le_add_right _ _, Nat.le_refl _⟩
      sl_end := fun _ e he => h.run_end (.inl hp) e he ▸ Nat.le_refl _
      run_end := by simp
      ab_end := by simp
      ex_end := nofun
      exitedAt_pc := fun x hx => by rw [h.exitedAt_pc x hx] at hp; cases hp
      sleeps :=
        have := count_late (b' := 1) ⟨Nat.le_of_eq (h.sleeps.2.2 (.inl hp)), h.sleeps.2.1⟩ (.inr Nat.zero_lt_one)
        ⟨this.1, this.2, by simp⟩
      steps := count_late (b' := 2) h.steps (.inr (by rw [hp]; decide)) }
  next hp hw =>
    have hnow : now = w.wake := Nat.le_antisymm (h.sl_now hp).1 hw
    cases Bool.eq_false_or_eq_true w.sub with
    | inl hsub =>
      exact { h with
        sl_now := by simp [hsub]
        sl_end := by simp [hsub]
        run_end := fun _ e he => by rw [h.sub_iff.1 hsub] at he; cases he
        ab_end := by simp [hsub]
        ex_end := by simp [hsub]
        exitedAt_pc := fun x hx => by rw [h.exitedAt_pc x hx] at hp; cases hp
        sleeps := ⟨h.sleeps.1, h.sleeps.2.1, fun _ => h.sleeps.2.1 hsub⟩
        steps := count_late h.steps (.inl hsub) }
    | inr hsub =>
      obtain ⟨e, he⟩ := ended_of_not_sub h.sub_iff hsub
      exact { h with
        sl_now := by simp [hsub]
        sl_end := by simp [hsub]
        run_end := by simp [hsub]
        ab_end := fun _ => ⟨e, he, hnow ▸ h.sl_end hp e he⟩
        ex_end := by simp [hsub]
        exitedAt_pc := fun x hx => by rw [h.exitedAt_pc x hx] at hp; cases hp
        sleeps := ⟨h.sleeps.1, h.sleeps.2.1, by simp [hsub]⟩
        steps := count_late h.steps (.inr (by simp [hp, hsub, stepBound])) }
  next hp =>
    exact { h with
      sl_now := nofun
      sl_end := nofun
      run_end := by simp
      ab_end := fun _ => h.ab_end (.inl hp)
      ex_end := nofun
      exitedAt_pc := fun x hx => by rw [h.exitedAt_pc x hx] at hp; cases hp
      sleeps := ⟨h.sleeps.1, h.sleeps.2.1, by simp⟩
      steps := count_late (b' := 4) h.steps (.inr (by rw [hp]; decide)) }
  next hp =>
    obtain ⟨e, he, hle⟩ := h.ab_end (.inr hp)
    exact { h with
      sl_now := nofun
      sl_end := nofun
      run_end := by simp
      ab_end := by simp
      ex_end := fun _ => ⟨e, now, he, rfl, hle, Nat.le_refl _⟩
      exitedAt_pc := fun _ _ => rfl
      sleeps := ⟨h.sleeps.1, h.sleeps.2.1, by simp⟩
      steps := count_late (b' := 5) h.steps (.inr (by rw [hp]; decide)) }

theorem localStep_spec {d now : Nat} {w w' : IW} (hw : w.localStep d now = some w') :
    w'.n = w.n ∧ w'.sub = w.sub ∧ w'.endedAt = w.endedAt ∧ w'.born = w.born ∧ w'.pc ≠ .top ∧
    (w'.pc = .sleeping → w.pc = .top ∧ w'.wake = now + d) ∧
    (w'.pc = .emit → w.pc = .sleeping ∧ w.wake ≤ now ∧ w.sub = true) ∧
    (w.pc = .exited → False) ∧ (w.pc = .emit → False) := by
  revert hw
  fun_cases localStep d now w <;> intro hw <;> cases hw
  next hp => exact ⟨rfl, rfl, rfl, rfl, nofun, fun _ => ⟨hp, rfl⟩, nofun, (nomatch hp.symm.trans ·), (nomatch hp.symm.trans ·)⟩
  next hp hk =>
    refine ⟨rfl, rfl, rfl, rfl, ?_, ?_, ?_, (nomatch hp.symm.trans ·), (nomatch hp.symm.trans ·)⟩
    all_goals cases Bool.eq_false_or_eq_true w.sub with | _ hs => simp [hs, hp, hk]
  next hp => exact ⟨rfl, rfl, rfl, rfl, nofun, nofun, nofun, (nomatch hp.symm.trans ·), (nomatch hp.symm.trans ·)⟩
  next hp => exact ⟨rfl, rfl, rfl, rfl, nofun, nofun, nofun, (nomatch hp.symm.trans ·), (nomatch hp.symm.trans ·)⟩

theorem emitted_false (now : Nat) (w : IW) :
    w.emitted now false = { w with pc := .top, n := w.n + 1, stepsAfterEnd := w.stepsAfterEnd + w.late } := by
  simp [emitted]

theorem emitted_true (now : Nat) (w : IW) : w.emitted now true = (w.emitted now false).cancel now := by
  simp [emitted, cancel]

theorem emitted_true_sub (now : Nat) (w : IW) : (w.emitted now true).sub = false := by
  simp [emitted]

theorem emitted_true_endedAt (now : Nat) (w : IW) : (w.emitted now true).endedAt = (w.cancel now).endedAt := by
  simp [emitted, cancel]

theorem cancel_of_ended {now : Nat} {w : IW} (hs : w.sub = false) : w.cancel now = w := by
  cases w; simp_all [cancel]

theorem cancel_inv {d now : Nat} {w : IW} (h : Inv d now w) : Inv d now (w.cancel now) := by
  cases Bool.eq_false_or_eq_true w.sub with
  | inr hs => rw [cancel_of_ended hs]; exact h
  | inl hs =>
    have hE : (w.cancel now).endedAt = some now := if_pos hs
    exact { h with
      sub_iff := ⟨nofun, fun hn => nomatch hE.symm.trans hn⟩
      ended_le := fun e he => Nat.le_of_eq (Option.some.inj (he.symm.trans hE))
      sl_end := fun hp e he => Option.some.inj (hE.symm.trans he) ▸ (h.sl_now hp).2
      run_end := fun _ e he => Option.some.inj (hE.symm.trans he)
      ab_end := fun _ => ⟨now, hE, Nat.le_add_right _ _⟩
      ex_end := fun hp => let ⟨_, _, he, _⟩ := h.ex_end hp; nomatch (h.sub_iff.1 hs).symm.trans he
      sleeps := ⟨h.sleeps.1, nofun, h.sleeps.2.2⟩
      steps := ⟨h.steps.1, nofun⟩ }

theorem emitted_inv {d now : Nat} {w : IW} (stop : Bool) (h : Inv d now w) (hp : w.pc = .emit) :
    Inv d now (w.emitted now stop) := by
  have h0 : Inv d now (w.emitted now false) := by
    rw [emitted_false]
    exact { h with
      sl_now := nofun
      sl_end := nofun
      run_end := fun _ => h.run_end (.inr hp)
      ab_end := by simp
      ex_end := nofun
      exitedAt_pc := fun x hx => by rw [h.exitedAt_pc x hx] at hp; cases hp
      sleeps := ⟨h.sleeps.1, h.sleeps.2.1, fun _ => h.sleeps.2.2 (.inr hp)⟩
      steps := count_late (b' := 1) h.steps (.inr (by simp [hp, stepBound])) }
  cases stop
  · exact h0
  · rw [emitted_true]; exact cancel_inv h0

theorem allowsTick_eq_true {now t' : Nat} {w : IW} (h : w.allowsTick now t' = true) :
    (w.pc = .sleeping → t' ≤ w.wake) ∧ w.pc ≠ .top ∧ w.pc ≠ .emit ∧ w.pc ≠ .abort ∧ w.pc ≠ .ret := by
  unfold allowsTick at h
  split at h <;> simp_all

theorem tick_inv {d now t' : Nat} {w : IW} (h : Inv d now w) (ht : now < t') (ha : w.allowsTick now t' = true) :
    Inv d t' w :=
  have ⟨hw, h1, h2, h3, h4⟩ := allowsTick_eq_true ha
  { h with
    ended_le := fun e he => Nat.le_trans (h.ended_le e he) (Nat.le_of_lt ht)
    sl_now := fun hp => ⟨hw hp, Nat.le_trans (h.sl_now hp).2 (Nat.add_le_add_right (Nat.le_of_lt ht) d)⟩
    run_end := fun hp => hp.elim (absurd · h1) (absurd · h2)
    ab_end := fun hp => hp.elim (absurd · h3) (absurd · h4)
    ex_end := fun hp => let ⟨e, x, he, hx, h5, h6⟩ := h.ex_end hp; ⟨e, x, he, hx, h5, Nat.le_trans h6 (Nat.le_of_lt ht)⟩ }

/-- a worker whose subscription ended at `e` has left its scheduler thread once the clock passed `e + d` -/
theorem exited_after {d now e : Nat} {w : IW} (h : Inv d now w) (he : w.endedAt = some e) (hn : e + d < now) :
    w.pc = .exited := by
  cases hp : w.pc with
  | exited => rfl
  | top => have := h.run_end (.inl hp) e he; omega
  | emit => have := h.run_end (.inr hp) e he; omega
  | sleeping => have := h.sl_now hp; have := h.sl_end hp e he; omega
  | abort => obtain ⟨e', he', _⟩ := h.ab_end (.inl hp); cases he.symm.trans he'; omega
  | ret => obtain ⟨e', he', _⟩ := h.ab_end (.inr hp); cases he.symm.trans he'; omega

theorem stepBound_le (pc : WPc) : stepBound pc ≤ 5 := by cases pc <;> decide

/-- extra facts about a worker that serves `interval(d).take(1)` (the timers of `timeout`): while its observer is
    subscribed it is in its first round, started at `born` -/
structure TInv (d now : Nat) (w : IW) : Prop where
  born_le : w.born ≤ now
  first : w.sub = true → w.n = 0 ∧ (w.pc = .top ∨ w.pc = .sleeping ∨ w.pc = .emit)
  top : w.sub = true → w.pc = .top → now = w.born
  sl : w.sub = true → w.pc = .sleeping → w.wake = w.born + d
  em : w.sub = true → w.pc = .emit → now = w.born + d
  ended : ∀ e : Nat, w.endedAt = some e → e ≤ w.born + d

theorem tinv_new (d now : Nat) : TInv d now { born := now } :=
  ⟨Nat.le_refl _, fun _ => ⟨rfl, .inl rfl⟩, fun _ _ => rfl, fun _ => nofun, fun _ => nofun, nofun⟩

theorem TInv.now_le {d now : Nat} {w : IW} (h : Inv d now w) (ht : TInv d now w) (hs : w.sub = true) :
    now ≤ w.born + d := by
  rcases (ht.first hs).2 with hp | hp | hp
  · exact ht.top hs hp ▸ Nat.le_add_right _ _
  · exact ht.sl hs hp ▸ (h.sl_now hp).1
  · exact Nat.le_of_eq (ht.em hs hp)

theorem localStep_tinv {d now : Nat} {w w' : IW} (h : Inv d now w) (ht : TInv d now w)
    (hs : w.localStep d now = some w') : TInv d now w' := by
  have hns : ∀ {q : WPc}, w.pc = q → q ≠ .top ∧ q ≠ .sleeping ∧ q ≠ .emit → w.sub = true → False := fun hp hq hs => by
    rcases (ht.first hs).2 with h | h | h
    · exact hq.1 (hp.symm.trans h)
    · exact hq.2.1 (hp.symm.trans h)
    · exact hq.2.2 (hp.symm.trans h)
  revert hs
  fun_cases localStep d now w <;> intro hs <;> cases hs
  next hp =>
    exact { ht with
      first := fun hs => ⟨(ht.first hs).1, .inr (.inl rfl)⟩
      top := fun _ => nofun
      sl := fun hs _ => ht.top hs hp ▸ rfl
      em := fun _ => nofun }
  next hp hw =>
    exact { ht with
      first := fun hs => ⟨(ht.first hs).1, .inr (.inr (if_pos hs))⟩
      top := fun hs hq => by rw [if_pos hs] at hq; cases hq
      sl := fun hs hq => by rw [if_pos hs] at hq; cases hq
      em := fun hs _ => ht.sl hs hp ▸ Nat.le_antisymm (h.sl_now hp).1 hw }
  all_goals
    rename_i hp
    have hn := hns hp (by decide)
    exact { ht with first := (hn · |>.elim), top := (hn · |>.elim), sl := (hn · |>.elim), em := (hn · |>.elim) }

theorem TInv.cancel {d now : Nat} {w : IW} (hb : w.born ≤ now) (he : ∀ e : Nat, w.endedAt = some e → e ≤ w.born + d)
    (hn : w.sub = true → now ≤ w.born + d) : TInv d now (w.cancel now) :=
  { born_le := hb, first := nofun, top := nofun, sl := nofun, em := nofun
    ended := fun e h => by
      cases Bool.eq_false_or_eq_true w.sub with
      | inl hs => cases h.symm.trans (if_pos hs); exact hn hs
      | inr hs => rw [cancel_of_ended hs] at h; exact he e h }

theorem cancel_tinv {d now : Nat} {w : IW} (h : Inv d now w) (ht : TInv d now w) : TInv d now (w.cancel now) :=
  .cancel ht.born_le ht.ended (ht.now_le h)

theorem emitted_tinv {d now : Nat} {w : IW} (h : Inv d now w) (ht : TInv d now w) :
    TInv d now (w.emitted now true) := by
  have hn := ht.now_le h
  rw [emitted_true, emitted_false]
  exact .cancel ht.born_le ht.ended hn

theorem tick_tinv {d now t' : Nat} {w : IW} (ht : TInv d now w) (hlt : now < t') (ha : w.allowsTick now t' = true) :
    TInv d t' w :=
  have ⟨_, h1, h2, _⟩ := allowsTick_eq_true ha
  { ht with
    born_le := Nat.le_trans ht.born_le (Nat.le_of_lt hlt)
    top := fun _ hp => absurd hp h1
    em := fun _ hp => absurd hp h2 }

end IW

/-- used for `Interval.uAllowsTick` and `Timer.uAllowsTick` too: the model file defines the three by the same term -/
theorem Delay.uAllowsTick_eq_true {unsubAt : Option Nat} {udone : Bool} {now t' : Nat}
    (h : Delay.uAllowsTick unsubAt udone now t' = true) : udone = false → ∀ u : Nat, unsubAt = some u → t' ≤ u := by
  rintro rfl u rfl
  simpa [Delay.uAllowsTick] using And.right (by simpa [Delay.uAllowsTick] using h)

theorem UPc.allowsTick_waiting {unsubAt : Option Nat} {now t' : Nat} {q : UPc} (h : q.allowsTick unsubAt now t' = true)
    (hq : q = .waiting) : ∀ u : Nat, unsubAt = some u → t' ≤ u := by
  rintro u rfl; subst hq
  simpa [UPc.allowsTick] using And.right (by simpa [UPc.allowsTick] using h)

theorem UPc.allowsTick_ne_fin {unsubAt : Option Nat} {now t' : Nat} {u : UPc} (h : u.allowsTick unsubAt now t' = true) :
    u ≠ .fin := by
  rintro rfl; cases h

/-- `Interval.expected` of the model file (`ticks_eq`) -/
def ticks (d m : Nat) : List Out := (List.range m).map fun k => ((k + 1) * d, Ev.next (.int k))

theorem ticks_succ (d m : Nat) : ticks d (m + 1) = ticks d m ++ [((m + 1) * d, Ev.next (.int m))] := by
  simp [ticks, List.range_succ]

namespace Interval

theorem delivers_eq_true {p : Params} {w : IW} :
    delivers p w = true ↔ w.sub = true ∧ ∀ c : Nat, p.take = some c → w.n < c := by
  unfold delivers; cases p.take <;> simp

theorem completes_eq_true {p : Params} {w : IW} :
    completes p w = true ↔ w.sub = true ∧ ∃ c : Nat, p.take = some c ∧ c ≤ w.n + 1 := by
  unfold completes; cases p.take <;> simp

/-- the steps of `step`, by what happens to the subscriber -/
inductive Step (p : Params) (s : State) : Label → State → Prop
  | tick {t' : Nat} : s.now < t' → s.w.allowsTick s.now t' = true →
      (s.udone = false → ∀ u : Nat, p.unsubAt = some u → t' ≤ u) → Step p s (.tick t') { s with now := t' }
  | half2 : s.w.pc = .emit → s.half = true →
      Step p s (.run 0) { s with half := false, w := s.w.emitted s.now true,
                                 log := s.log ++ (if s.w.sub then [(s.now, Ev.complete)] else []) }
  | half1 : s.w.pc = .emit → s.half = false → s.w.sub = true → p.take = some (s.w.n + 1) →
      Step p s (.run 0) { s with half := true, log := s.log ++ [(s.now, Ev.next (.int s.w.n))] }
  | deliver : s.w.pc = .emit → s.half = false → s.w.sub = true → (∀ c : Nat, p.take = some c → s.w.n + 1 < c) →
      Step p s (.run 0) { s with w := s.w.emitted s.now false, log := s.log ++ [(s.now, Ev.next (.int s.w.n))] }
  /-- a tick beyond the count of `take` completes it without being delivered (reachable for `take(0)` only) -/
  | past {c : Nat} : s.w.pc = .emit → s.half = false → s.w.sub = true → p.take = some c → c ≤ s.w.n →
      Step p s (.run 0) { s with w := s.w.emitted s.now true, log := s.log ++ [(s.now, Ev.complete)] }
  | skip : s.w.pc = .emit → s.half = false → s.w.sub = false → Step p s (.run 0) { s with w := s.w.emitted s.now false }
  | loc {w' : IW} : s.w.pc ≠ .emit → s.w.localStep p.d s.now = some w' → Step p s (.run 0) { s with w := w' }
  | unsub {u : Nat} : p.unsubAt = some u → s.udone = false → u ≤ s.now →
      Step p s (.run 1) { s with udone := true, w := s.w.cancel s.now }

theorem Step.of_step {p : Params} {s s' : State} {l : Label} (h : step p s l = some s') : Step p s l s' := by
  revert h
  fun_cases step p s l <;> intro h <;> cases h
  next t' hc => exact .tick hc.1 hc.2.1 (Delay.uAllowsTick_eq_true hc.2.2)
  next hp hh => exact .half2 hp hh
  next hp hh hc =>
    obtain ⟨hs, hd⟩ := delivers_eq_true.1 hc.1
    obtain ⟨_, c, hc1, hc2⟩ := completes_eq_true.1 hc.2
    cases Nat.le_antisymm hc2 (hd c hc1)
    exact .half1 hp (eq_false_of_ne_true hh) hs hc1
  next hp hh hnc =>
    have hh : s.half = false := eq_false_of_ne_true hh
    cases Bool.eq_false_or_eq_true s.w.sub with
    | inr hs =>
      have hd : delivers p s.w = false := by simp [delivers, hs]
      have hc : completes p s.w = false := by simp [completes, hs]
      simp only [hd, hc, Bool.false_eq_true, ↓reduceIte, List.append_nil]
      exact .skip hp hh hs
    | inl hs =>
      cases Bool.eq_false_or_eq_true (delivers p s.w) with
      | inl hd =>
        have hc : completes p s.w = false := eq_false_of_ne_true fun hc => hnc ⟨hd, hc⟩
        simp only [hd, hc, Bool.false_eq_true, ↓reduceIte, List.append_nil]
        refine .deliver hp hh hs fun c hc' => ?_
        have := (delivers_eq_true.1 hd).2 c hc'
        have : ¬c ≤ s.w.n + 1 := fun hle => by
          rw [completes_eq_true.2 ⟨hs, c, hc', hle⟩] at hc; cases hc
        omega
      | inr hd =>
        cases htk : p.take with
        | none => simp [delivers, hs, htk] at hd
        | some c =>
          have hle : c ≤ s.w.n := by simpa [delivers, hs, htk] using hd
          have hc : completes p s.w = true := completes_eq_true.2 ⟨hs, c, htk, Nat.le_succ_of_le hle⟩
          simp only [hd, hc, Bool.false_eq_true, ↓reduceIte, List.append_nil]
          exact .past hp hh hs htk hle
  next w' hw hp => exact .loc hp hw
  next u hu hc => exact .unsub hu hc.1 hc.2

structure Inv (p : Params) (s : State) : Prop where
  iw : IW.Inv p.d s.now s.w
  top_now : s.w.pc = .top → s.now = s.w.n * p.d
  sl_wake : s.w.pc = .sleeping → s.w.wake = (s.w.n + 1) * p.d
  emit_now : s.w.pc = .emit → s.now = (s.w.n + 1) * p.d
  /-- the unsubscribing thread is blocked until the clock reaches `u`, and the clock waits for it there -/
  u_wait : s.udone = false → ∀ u : Nat, p.unsubAt = some u → s.now ≤ u
  u_none : p.unsubAt = none → s.udone = true
  sub_u : s.w.sub = true → s.udone = false ∨ p.unsubAt = none
  /-- `n = 0`: `take(0)` stays subscribed until the first tick (step `past`) -/
  take_sub : s.w.sub = true → ∀ c : Nat, p.take = some c → s.w.n = 0 ∨ s.w.n < c
  /-- between the two halves of a completing tick the worker is still inside `s.next(n)` -/
  half_emit : s.half = true → s.w.pc = .emit

theorem inv_init (p : Params) : Inv p (init p) :=
  ⟨IW.inv_new _ _ _, fun _ => (Nat.zero_mul _).symm, nofun, nofun, fun _ _ _ => Nat.zero_le _, congrArg Option.isNone,
   fun _ => by cases h : p.unsubAt <;> simp [init, h],
   fun _ _ _ => .inl rfl, nofun⟩

theorem step_inv {p : Params} {s s' : State} {l : Label} (h : Inv p s) (hs : step p s l = some s') : Inv p s' := by
  cases Step.of_step hs with
  | tick c1 c2 c3 =>
    have ⟨_, h1, h2, _⟩ := IW.allowsTick_eq_true c2
    exact { h with iw := IW.tick_inv h.iw c1 c2, top_now := (absurd · h1), emit_now := (absurd · h2), u_wait := c3 }
  | half2 hp hh =>
    exact { h with
      iw := IW.emitted_inv true h.iw hp, top_now := fun _ => h.emit_now hp, sl_wake := nofun, emit_now := nofun
      sub_u := (nomatch (IW.emitted_true_sub _ _).symm.trans ·)
      take_sub := (nomatch (IW.emitted_true_sub _ _).symm.trans ·)
      half_emit := nofun }
  | half1 hp hh hsub hc => exact { h with half_emit := fun _ => hp }
  | deliver hp hh hsub hc =>
    have hiw := IW.emitted_inv false h.iw hp
    rw [IW.emitted_false] at hiw ⊢
    exact { h with
      iw := hiw, top_now := fun _ => h.emit_now hp, sl_wake := nofun
      emit_now := nofun
      take_sub := fun _ c hc' => .inr (hc c hc')
      half_emit := (nomatch hh.symm.trans ·) }
  | past hp hh hsub hc hle =>
    exact { h with
      iw := IW.emitted_inv true h.iw hp, top_now := fun _ => h.emit_now hp, sl_wake := nofun, emit_now := nofun
      sub_u := (nomatch (IW.emitted_true_sub _ _).symm.trans ·)
      take_sub := (nomatch (IW.emitted_true_sub _ _).symm.trans ·)
      half_emit := (nomatch hh.symm.trans ·) }
  | skip hp hh hsub =>
    have hiw := IW.emitted_inv false h.iw hp
    rw [IW.emitted_false] at hiw ⊢
    exact { h with
      iw := hiw, top_now := fun _ => h.emit_now hp, sl_wake := nofun
      emit_now := nofun
      take_sub := (nomatch hsub.symm.trans ·)
      half_emit := (nomatch hh.symm.trans ·) }
  | loc hne hw =>
    obtain ⟨f1, f2, f3, _, f4, f5, f6, _⟩ := IW.localStep_spec hw
    exact { h with
      iw := IW.localStep_inv h.iw hw
      top_now := (absurd · f4)
      sl_wake := fun hp => by rw [(f5 hp).2, f1, h.top_now (f5 hp).1, Nat.succ_mul]
      emit_now := fun hp => by
        have ⟨hq, hwk, _⟩ := f6 hp
        rw [f1, ← h.sl_wake hq]; exact Nat.le_antisymm (h.iw.sl_now hq).1 hwk
      sub_u := fun hs => h.sub_u (f2 ▸ hs)
      take_sub := fun hs => f1 ▸ h.take_sub (f2 ▸ hs)
      half_emit := fun hh => absurd (h.half_emit hh) hne }
  | unsub hu hd hle =>
    exact { h with iw := IW.cancel_inv h.iw, u_wait := nofun, u_none := (nomatch hu.symm.trans ·), sub_u := nofun, take_sub := nofun }

theorem timely {p : Params} {s : State} (h : Inv p s) (hs : s.w.sub = true) (k : Nat)
    (hk : (k + 1) * p.d < s.now) : k < s.w.n := by
  rcases h.iw.running hs with hp | hp | hp
  · rw [h.top_now hp] at hk; have := Nat.lt_of_mul_lt_mul_right hk; omega
  · have := (h.iw.sl_now hp).1; rw [h.sl_wake hp] at this
    exact Nat.lt_of_add_lt_add_right (Nat.lt_of_mul_lt_mul_right (Nat.lt_of_lt_of_le hk this))
  · rw [h.emit_now hp] at hk; exact Nat.lt_of_add_lt_add_right (Nat.lt_of_mul_lt_mul_right hk)

theorem Inv.live {p : Params} {s : State} (h : Inv p s) (hs : s.w.sub = true) :
    (∀ u : Nat, p.unsubAt = some u → s.now ≤ u) ∧ (∀ k u : Nat, k < s.w.n → p.unsubAt = some u → (k + 1) * p.d ≤ u) ∧
    (∀ k c : Nat, k < s.w.n → p.take = some c → k < c) ∧ (∀ c : Nat, p.take = some c → ¬ max c 1 * p.d < s.now) := by
  have hu : ∀ u : Nat, p.unsubAt = some u → s.now ≤ u := fun u hu =>
    (h.sub_u hs).elim (h.u_wait · u hu) (nomatch ·.symm.trans hu)
  have hn : s.w.n * p.d ≤ s.now := by
    rcases h.iw.running hs with hp | hp | hp
    · exact Nat.le_of_eq (h.top_now hp).symm
    · have := (h.iw.sl_now hp).2; rw [h.sl_wake hp, Nat.succ_mul] at this; omega
    · rw [h.emit_now hp]; exact Nat.mul_le_mul_right _ (Nat.le_succ _)
  refine ⟨hu, fun k u hk hu' => ?_, fun k c hk hc => ?_, fun c hc hlt => ?_⟩
  · exact Nat.le_trans (Nat.le_trans (Nat.mul_le_mul_right _ hk) hn) (hu u hu')
  · have := h.take_sub hs c hc; omega
  · have := h.take_sub hs c hc
    have := timely h hs (max c 1 - 1) (by rwa [show max c 1 - 1 + 1 = max c 1 by omega])
    omega

/-- what `interval_ticks` says of a log with `m` ticks, the clock aside -/
structure Final (p : Params) (log : List Out) (m : Nat) : Prop where
  shape : log = ticks p.d m ∨ ∃ c : Nat, p.take = some c ∧ m = c ∧ log = ticks p.d c ++ [(max c 1 * p.d, Ev.complete)]
  before_u : ∀ k u : Nat, k < m → p.unsubAt = some u → (k + 1) * p.d ≤ u
  below_c : ∀ k c : Nat, k < m → p.take = some c → k < c
  timely : ∀ k : Nat, (∀ u : Nat, p.unsubAt = some u → (k + 1) * p.d < u) → (∀ c : Nat, p.take = some c → k < c) → k < m
  fin_due : ∀ c : Nat, p.take = some c → (∀ u : Nat, p.unsubAt = some u → max c 1 * p.d < u) →
    log = ticks p.d c ++ [(max c 1 * p.d, Ev.complete)]

/-- the log in the three phases of a subscription: the worker's count `n` is the number of ticks delivered as long as
    the observer is subscribed; the log is final once it is not (and `take` is not between the halves of its completing
    tick) -/
inductive Shape (p : Params) (s : State) : Prop
  | live : s.w.sub = true → s.half = false → s.log = ticks p.d s.w.n → Shape p s
  /-- between the two halves of the completing tick of `take(n+1)`: tick `n` is in the log, `n` is not yet incremented;
      the subscriber can only have been unsubscribed by thread 1, at this very instant -/
  | half : s.half = true → p.take = some (s.w.n + 1) → s.log = ticks p.d (s.w.n + 1) →
      (∀ u : Nat, p.unsubAt = some u → (s.w.n + 1) * p.d ≤ u) →
      (s.w.sub = false → p.unsubAt = some ((s.w.n + 1) * p.d)) → Shape p s
  | over {m : Nat} : s.w.sub = false → s.half = false → Final p s.log m → m ≤ s.w.n → Shape p s

theorem Shape.frame {p : Params} {s s' : State} (h : Shape p s) (hs : s'.w.sub = s.w.sub) (hn : s'.w.n = s.w.n)
    (hh : s'.half = s.half) (hl : s'.log = s.log) : Shape p s' := by
  cases h with
  | live a b c => exact .live (hs.trans a) (hh.trans b) (by rw [hl, hn]; exact c)
  | half a b c d e =>
    exact .half (hh.trans a) (by rw [hn]; exact b) (by rw [hl, hn]; exact c) (by rw [hn]; exact d)
      (by rw [hn, hs]; exact e)
  | over a b c d => exact .over (hs.trans a) (hh.trans b) (by rw [hl]; exact c) (hn ▸ d)

theorem shape_step {p : Params} {s s' : State} {l : Label} (h : Inv p s) (hm : Shape p s)
    (hs : step p s l = some s') : Shape p s' := by
  cases Step.of_step hs with
  | tick => exact hm.frame rfl rfl rfl rfl
  | loc _ hw => have ⟨f1, f2, _⟩ := IW.localStep_spec hw; exact hm.frame f2 f1 rfl rfl
  | skip hp hh hsub =>
    cases hm with
    | live a => cases hsub.symm.trans a
    | half a => cases hh.symm.trans a
    | over _ b c d => exact .over (by simp [IW.emitted, hsub]) b c (Nat.le_succ_of_le d)
  | half1 hp hh hsub hc =>
    cases hm with
    | live _ _ hl =>
      exact .half rfl hc (by rw [ticks_succ, ← hl, ← h.emit_now hp]) (h.emit_now hp ▸ (h.live hsub).1)
        (nomatch hsub.symm.trans ·)
    | half a => cases hh.symm.trans a
    | over a => cases hsub.symm.trans a
  | deliver hp hh hsub hc =>
    cases hm with
    | live _ _ hl =>
      refine .live (by simp [IW.emitted, hsub]) hh ?_
      show s.log ++ _ = ticks p.d (s.w.n + 1)
      rw [ticks_succ, ← hl, ← h.emit_now hp]
    | half a => cases hh.symm.trans a
    | over a => cases hsub.symm.trans a
  | past hp hh hsub hc hle =>
    cases hm with
    | live _ _ hl =>
      have hn : s.w.n = 0 := by have := h.take_sub hsub _ hc; omega
      cases Nat.le_zero.1 (hn ▸ hle)
      rw [hn] at hl
      refine .over (m := 0) (IW.emitted_true_sub _ _) hh ⟨.inr ⟨0, hc, rfl, ?_⟩, nofun, nofun, fun k _ hk => hk 0 hc, fun c hc' _ => ?_⟩
        (Nat.zero_le _)
      · show s.log ++ _ = _; rw [hl, h.emit_now hp, hn]; rfl
      · cases hc.symm.trans hc'; show s.log ++ _ = _; rw [hl, h.emit_now hp, hn]; rfl
    | half a => cases hh.symm.trans a
    | over a => cases hsub.symm.trans a
  | half2 hp hh =>
    cases hm with
    | live _ a => cases hh.symm.trans a
    | over _ a => cases hh.symm.trans a
    | half _ hc hl hu hun =>
      have hnow := h.emit_now hp
      have hmax : max (s.w.n + 1) 1 = s.w.n + 1 := by omega
      refine .over (m := s.w.n + 1) (IW.emitted_true_sub _ _) rfl ?_ (Nat.le_refl _)
      cases Bool.eq_false_or_eq_true s.w.sub with
      | inl hsub =>
        have hlog : s.log ++ (if s.w.sub = true then [(s.now, Ev.complete)] else []) =
            ticks p.d (s.w.n + 1) ++ [(max (s.w.n + 1) 1 * p.d, Ev.complete)] := by rw [if_pos hsub, hl, hmax, hnow]
        exact ⟨.inr ⟨_, hc, rfl, hlog⟩, fun k u hk hu' => Nat.le_trans (Nat.mul_le_mul_right _ hk) (hu u hu'),
          fun k c hk hc' => by cases hc.symm.trans hc'; exact hk, fun k _ hk => hk _ hc,
          fun c hc' _ => by cases hc.symm.trans hc'; exact hlog⟩
      | inr hsub =>
        have hlog : s.log ++ (if s.w.sub = true then [(s.now, Ev.complete)] else []) = ticks p.d (s.w.n + 1) := by
          rw [if_neg (by simp [hsub]), List.append_nil, hl]
        exact ⟨.inl hlog, fun k u hk hu' => Nat.le_trans (Nat.mul_le_mul_right _ hk) (hu u hu'),
          fun k c hk hc' => by cases hc.symm.trans hc'; exact hk, fun k _ hk => hk _ hc,
          fun c hc' hcu => by
            cases hc.symm.trans hc'
            exact absurd (hcu _ (hun hsub)) (by rw [hmax]; exact Nat.lt_irrefl _)⟩
  | @unsub u hu hd hle =>
    have hnow := Nat.le_antisymm (h.u_wait hd u hu) hle
    cases hm with
    | over a b c d => exact .over rfl b c d
    | half a b c d e => exact .half a b c d fun _ => hu.trans (congrArg some (hnow.symm.trans (h.emit_now (h.half_emit a))))
    | live hsub hh hl =>
      have ⟨_, l1, l2, l3⟩ := h.live hsub
      refine .over rfl hh ⟨.inl hl, l1, l2, fun k hk _ => timely h hsub k (hnow ▸ hk u hu), fun c hc hcu => ?_⟩ (Nat.le_refl _)
      exact absurd (hnow ▸ hcu u hu) (l3 c hc)

theorem reach_inv {p : Params} {s : State} (hr : Reach (step p) (init p) s) : Inv p s ∧ Shape p s :=
  reach_induct (fun s => Inv p s ∧ Shape p s) ⟨inv_init p, .live rfl rfl rfl⟩
    (fun _ _ _ h hs => ⟨step_inv h.1 hs, shape_step h.1 h.2 hs⟩) s hr

/-- **C16 `interval_ticks`.**  In every reachable state of `interval(d)[.take(c)]` (subscribed at time 0, optionally
unsubscribed by another thread at time `u`) the subscriber's log is `0 ↦ d, 1 ↦ 2d, …, m-1 ↦ m·d`
(plus `complete` at `c·d` when `take(c)` ended it), no tick later than `u` and none beyond `c` was delivered,
and every tick `k` with `(k+1)·d < u` (and `k < c`) IS in the log as soon as the clock passed `(k+1)·d`.
At equality `(k+1)·d = u` both outcomes occur (`interval_tie_delivered`, `interval_tie_dropped`). -/
theorem interval_ticks (p : Params) (s : State) (hr : Reach (step p) (init p) s) :
    ∃ m : Nat,
      (s.log = ticks p.d m ∨
        ∃ c : Nat, p.take = some c ∧ m = c ∧ s.log = ticks p.d c ++ [(max c 1 * p.d, Ev.complete)]) ∧
      (∀ k u : Nat, k < m → p.unsubAt = some u → (k + 1) * p.d ≤ u) ∧
      (∀ k c : Nat, k < m → p.take = some c → k < c) ∧
      (∀ k : Nat, (k + 1) * p.d < s.now → (∀ u : Nat, p.unsubAt = some u → (k + 1) * p.d < u) →
        (∀ c : Nat, p.take = some c → k < c) → k < m) ∧
      (∀ c : Nat, p.take = some c → max c 1 * p.d < s.now → (∀ u : Nat, p.unsubAt = some u → max c 1 * p.d < u) →
        s.log = ticks p.d c ++ [(max c 1 * p.d, Ev.complete)]) := by
  obtain ⟨hi, hm⟩ := reach_inv hr
  cases hm with
  | live hsub _ hl =>
    have ⟨_, l1, l2, l3⟩ := hi.live hsub
    exact ⟨_, .inl hl, l1, l2, fun k hk _ _ => timely hi hsub k hk, fun c hc hlt _ => absurd hlt (l3 c hc)⟩
  | half hh hc hl hu _ =>
    refine ⟨_, .inl hl, fun k u hk hu' => Nat.le_trans (Nat.mul_le_mul_right _ hk) (hu u hu'),
      fun k c hk hc' => by cases hc.symm.trans hc'; exact hk, fun k _ _ hk => hk _ hc, fun c hc' hlt _ => ?_⟩
    cases hc.symm.trans hc'
    rw [hi.emit_now (hi.half_emit hh), show max (s.w.n + 1) 1 = s.w.n + 1 by omega] at hlt
    exact absurd hlt (Nat.lt_irrefl _)
  | over _ _ hf => exact ⟨_, hf.shape, hf.before_u, hf.below_c, fun k _ => hf.timely k, fun c hc _ => hf.fin_due c hc⟩

theorem mem_ticks {d m : Nat} {x : Out} : x ∈ ticks d m ↔ ∃ k : Nat, k < m ∧ x = ((k + 1) * d, Ev.next (.int k)) := by
  simp [ticks]; constructor
  · rintro ⟨k, hk, rfl⟩; exact ⟨k, hk, rfl⟩
  · rintro ⟨k, hk, rfl⟩; exact ⟨k, hk, rfl⟩

/-- plain `interval(d)`: tick `k` is delivered at exactly `(k+1)·d`, for every `k` with `(k+1)·d < u` -/
theorem interval_emits (p : Params) (s : State) (hr : Reach (step p) (init p) s) (ht : p.take = none) (k : Nat)
    (hk : (k + 1) * p.d < s.now) (hu : ∀ u : Nat, p.unsubAt = some u → (k + 1) * p.d < u) :
    ((k + 1) * p.d, Ev.next (.int k)) ∈ s.log := by
  obtain ⟨m, h1, _, _, h4, _⟩ := interval_ticks p s hr
  have hm := h4 k hk hu (by simp [ht])
  rcases h1 with h | ⟨c, hc, _⟩
  · rw [h]; exact mem_ticks.2 ⟨k, hm, rfl⟩
  · simp [ht] at hc

/-- plain `interval(d)`: nothing else is ever delivered, and nothing after `u` -/
theorem interval_only (p : Params) (s : State) (hr : Reach (step p) (init p) s) (ht : p.take = none) (x : Out)
    (hx : x ∈ s.log) : ∃ k : Nat, x = ((k + 1) * p.d, Ev.next (.int k)) ∧ ∀ u : Nat, p.unsubAt = some u → (k + 1) * p.d ≤ u := by
  obtain ⟨m, h1, h2, _, _, _⟩ := interval_ticks p s hr
  rcases h1 with h | ⟨c, hc, _⟩
  · rw [h] at hx; obtain ⟨k, hk, rfl⟩ := mem_ticks.1 hx
    exact ⟨k, rfl, fun u hu => h2 k u hk hu⟩
  · simp [ht] at hc

/-- equality `(k+1)·d = u`, worker first: tick 0 of `interval(2)` unsubscribed at `2` is delivered -/
theorem interval_tie_delivered :
    (runFrom (step { d := 2, unsubAt := some 2 }) (init { d := 2, unsubAt := some 2 })
      [.run 0, .tick 2, .run 0, .run 0, .run 1, .run 0, .tick 4, .run 0, .run 0, .run 0, .tick 5]).map (fun s => (s.now, s.log))
      = some (5, [(2, Ev.next (.int 0))]) := by decide

/-- equality `(k+1)·d = u`, unsubscriber first: the same tick is not delivered -/
theorem interval_tie_dropped :
    (runFrom (step { d := 2, unsubAt := some 2 }) (init { d := 2, unsubAt := some 2 })
      [.run 0, .tick 2, .run 1, .run 0, .run 0, .run 0, .tick 5]).map (fun s => (s.now, s.log))
      = some (5, []) := by decide

/-- non-vacuity: `interval(3).take(2)` with an unsubscribe at 100 reaches time 10 with `0@3, 1@6, complete@6` -/
example :
    (runFrom (step { d := 3, unsubAt := some 100, take := some 2 }) (init { d := 3, unsubAt := some 100, take := some 2 })
      [.run 0, .tick 3, .run 0, .run 0, .run 0, .tick 6, .run 0, .run 0, .run 0, .run 0, .tick 9, .run 0, .run 0, .run 0, .tick 10]).map
        (fun s => (s.now, s.log, s.w.pc))
      = some (10, [(3, Ev.next (.int 0)), (6, Ev.next (.int 1)), (6, Ev.complete)], WPc.exited) := by decide

/-- unsubscribe between the two halves of the completing tick of `interval(2).take(1)`: the item is delivered,
    `complete` is not -/
theorem interval_take_unsub_between :
    (runFrom (step { d := 2, unsubAt := some 2, take := some 1 }) (init { d := 2, unsubAt := some 2, take := some 1 })
      [.run 0, .tick 2, .run 0, .run 0, .run 1, .run 0, .run 0, .tick 4, .run 0, .run 0, .run 0, .tick 5]).map
      (fun s => (s.now, s.log, s.w.pc)) = some (5, [(2, Ev.next (.int 0))], WPc.exited) := by decide

end Interval

theorem ended_now {sub : Bool} {ended : Option Nat} (now : Nat) (h : sub = true ↔ ended = none) :
    ∃ e : Nat, (if sub = true then some now else ended) = some e := by
  cases sub with
  | true => exact ⟨now, rfl⟩
  | false =>
    cases ended with
    | none => cases h.2 rfl
    | some e => exact ⟨e, rfl⟩

theorem ended_cases {sub : Bool} {ended : Option Nat} {now : Nat} {P : Nat → Prop} (h1 : sub = true → P now)
    (h2 : ∀ e : Nat, ended = some e → P e) (e : Nat) (he : (if sub = true then some now else ended) = some e) : P e := by
  split at he
  · next hs => cases he; exact h1 hs
  · exact h2 e he

namespace Timer

def evN (p : Params) : Out := (p.d, Ev.next .unit)
def evC (p : Params) : Out := (p.d, Ev.complete)

def stepBound : Pc → Nat
  | .top => 0 | .sleeping => 1 | .next => 2 | .complete => 3 | .abort => 4 | .ret => 5 | .exited => 6

structure Inv (p : Params) (s : State) : Prop where
  top_now : s.pc = .top → s.now = 0
  sl_wake : s.pc = .sleeping → s.wake = p.d ∧ s.now ≤ p.d
  mid_now : (s.pc = .next ∨ s.pc = .complete ∨ s.pc = .abort ∨ s.pc = .ret) → s.now = p.d
  ex : s.pc = .exited → s.exitedAt = some p.d ∧ p.d ≤ s.now
  ex_pc : ∀ x : Nat, s.exitedAt = some x → s.pc = .exited
  u_wait : s.udone = false → ∀ u : Nat, p.unsubAt = some u → s.now ≤ u
  u_none : p.unsubAt = none → s.udone = true
  early : (s.pc = .top ∨ s.pc = .sleeping ∨ s.pc = .next) → s.log = []
  at_c : s.pc = .complete → (s.log = [] ∨ s.log = [evN p]) ∧ (s.sub = true → s.log = [evN p])
  after : (s.pc = .abort ∨ s.pc = .ret ∨ s.pc = .exited) → s.sub = false ∧ (s.log = [] ∨ s.log = [evN p] ∨ s.log = [evN p, evC p])
  sub_false : s.sub = false → s.log = [evN p, evC p] ∨ ∃ u : Nat, p.unsubAt = some u ∧ u ≤ s.now ∧ u ≤ p.d
  sub_iff : s.sub = true ↔ s.endedAt = none
  ended : ∀ e : Nat, s.endedAt = some e → e ≤ s.now ∧ e ≤ p.d
  steps : s.stepsAfterEnd ≤ stepBound s.pc ∧ (s.sub = true → s.stepsAfterEnd = 0)
  udone_sub : s.udone = true → ∀ u : Nat, p.unsubAt = some u → s.sub = false
  early_u : ∀ u : Nat, p.unsubAt = some u → u < p.d → s.log = []
  sleeps : s.sleepsAfterEnd ≤ 1 ∧ (s.sub = true → s.sleepsAfterEnd = 0) ∧ (s.pc = .top → s.sleepsAfterEnd = 0)

theorem wAllowsTick_eq_true {s : State} {t' : Nat} (h : wAllowsTick s t' = true) :
    (s.pc = .sleeping → t' ≤ s.wake) ∧ ∀ q : Pc, q ≠ .sleeping → q ≠ .exited → q ≠ s.pc := by
  unfold wAllowsTick at h
  split at h <;> simp_all

theorem inv_init (p : Params) : Inv p (init p) :=
  { top_now := fun _ => rfl, sl_wake := nofun, mid_now := (·.elim nofun (·.elim nofun (·.elim nofun nofun))), ex := nofun
    ex_pc := nofun, u_wait := fun _ _ _ => Nat.zero_le _, u_none := congrArg Option.isNone, early := fun _ => rfl, at_c := nofun
    after := (·.elim nofun (·.elim nofun nofun)), sub_false := nofun, sub_iff := ⟨fun _ => rfl, fun _ => rfl⟩, ended := nofun
    steps := ⟨Nat.le_refl _, fun _ => rfl⟩, udone_sub := fun h u hu => by simp [init, hu] at h, early_u := fun _ _ _ => rfl
    sleeps := ⟨Nat.zero_le _, fun _ => rfl, fun _ => rfl⟩ }

/-- the scheduler thread lives until `d` and no longer -/
theorem Inv.alive_le {p : Params} {s : State} (h : Inv p s) (hx : s.pc ≠ .exited) : s.now ≤ p.d := by
  cases hp : s.pc with
  | top => exact h.top_now hp ▸ Nat.zero_le _
  | sleeping => exact (h.sl_wake hp).2
  | next => exact Nat.le_of_eq (h.mid_now (.inl hp))
  | complete => exact Nat.le_of_eq (h.mid_now (.inr (.inl hp)))
  | abort => exact Nat.le_of_eq (h.mid_now (.inr (.inr (.inl hp))))
  | ret => exact Nat.le_of_eq (h.mid_now (.inr (.inr (.inr hp))))
  | exited => exact absurd hp hx

theorem Inv.now_le {p : Params} {s : State} (h : Inv p s) (hs : s.sub = true) : s.now ≤ p.d :=
  h.alive_le fun hp => nomatch hs.symm.trans (h.after (.inr (.inr hp))).1

theorem Inv.early_sub {p : Params} {s : State} (h : Inv p s) (hn : s.now = p.d) {u : Nat} (hu : p.unsubAt = some u)
    (hlt : u < p.d) : s.sub = false := by
  cases hd : s.udone with
  | true => exact h.udone_sub hd u hu
  | false => have := h.u_wait hd u hu; omega

theorem step_inv {p : Params} {s s' : State} {l : Label} (h : Inv p s) (hs : step p s l = some s') : Inv p s' := by
  have hx : ∀ {q q' : Pc}, s.pc = q → q ≠ .exited → ∀ x : Nat, s.exitedAt = some x → q' = .exited :=
    fun hp hq x hx => absurd (hp.symm.trans (h.ex_pc x hx)) hq
  have hst : ∀ {q q' : Pc}, s.pc = q → stepBound q + 1 = stepBound q' →
      s.stepsAfterEnd + late s ≤ stepBound q' ∧ (s.sub = true → s.stepsAfterEnd + late s = 0) :=
    fun hp hlt => count_late h.steps (.inr (hp ▸ hlt ▸ Nat.lt_succ_self _))
  have hsl : ∀ {q' : Pc}, q' ≠ .top →
      s.sleepsAfterEnd ≤ 1 ∧ (s.sub = true → s.sleepsAfterEnd = 0) ∧ (q' = .top → s.sleepsAfterEnd = 0) :=
    fun hq => ⟨h.sleeps.1, h.sleeps.2.1, (absurd · hq)⟩
  revert hs
  fun_cases step p s l <;> intro hs <;> cases hs
  next t' hc =>
    have ⟨hw, hpc⟩ := wAllowsTick_eq_true hc.2.1
    have hlt := Nat.le_of_lt hc.1
    exact { h with
      top_now := fun hp => absurd hp.symm (hpc _ nofun nofun)
      sl_wake := fun hp => ⟨(h.sl_wake hp).1, Nat.le_trans (hw hp) (Nat.le_of_eq (h.sl_wake hp).1)⟩
      mid_now := fun hp => by rcases hp with h1 | h1 | h1 | h1 <;> exact absurd h1.symm (hpc _ nofun nofun)
      ex := fun hp => ⟨(h.ex hp).1, Nat.le_trans (h.ex hp).2 hlt⟩
      u_wait := Delay.uAllowsTick_eq_true hc.2.2
      sub_false := fun hs => (h.sub_false hs).imp id fun ⟨u, a, b, c⟩ => ⟨u, a, Nat.le_trans b hlt, c⟩
      ended := fun e he => ⟨Nat.le_trans (h.ended e he).1 hlt, (h.ended e he).2⟩ }
  next hp =>
    exact { h with
      top_now := nofun, mid_now := by simp, ex := nofun, at_c := nofun, after := by simp
      sl_wake := fun _ => by rw [h.top_now hp]; exact ⟨Nat.zero_add _, Nat.zero_le _⟩
      ex_pc := hx hp nofun
      early := fun _ => h.early (.inl hp)
      steps := hst hp rfl
      sleeps :=
        have := count_late (b' := 1) ⟨Nat.le_of_eq (h.sleeps.2.2 hp), h.sleeps.2.1⟩ (.inr Nat.zero_lt_one)
        ⟨this.1, this.2, nofun⟩ }
  next hp hw =>
    exact { h with
      top_now := nofun, sl_wake := nofun, ex := nofun, at_c := nofun, after := by simp
      mid_now := fun _ => Nat.le_antisymm (h.sl_wake hp).2 ((h.sl_wake hp).1 ▸ hw)
      ex_pc := hx hp nofun
      early := fun _ => h.early (.inr (.inl hp))
      steps := hst hp rfl
      sleeps := hsl nofun }
  next hp =>
    have hnow := h.mid_now (.inl hp)
    have hlog := h.early (.inr (.inr hp))
    have hl : s.log ++ (if s.sub = true then [(s.now, Ev.next .unit)] else []) = if s.sub = true then [evN p] else [] := by
      rw [hlog, hnow]; rfl
    exact { h with
      top_now := nofun, sl_wake := nofun, ex := nofun, early := by simp, after := by simp
      mid_now := fun _ => hnow
      ex_pc := hx hp nofun
      at_c := fun _ => by rw [hl]; exact ⟨by split <;> simp, fun hs => if_pos hs⟩
      sub_false := fun hs => .inr ((h.sub_false hs).elim (nomatch hlog.symm.trans ·) id)
      steps := hst hp rfl
      early_u := fun u hu hlt => by rw [hl, if_neg (ne_true_of_eq_false (h.early_sub hnow hu hlt))]
      sleeps := hsl nofun }
  next hp =>
    have hnow := h.mid_now (.inr (.inl hp))
    have ⟨e, hE⟩ := ended_now s.now h.sub_iff
    have hl : s.sub = false → s.log ++ (if s.sub = true then [(s.now, Ev.complete)] else []) = s.log := fun hs => by
      rw [if_neg (ne_true_of_eq_false hs), List.append_nil]
    have hl' : s.sub = true → s.log ++ (if s.sub = true then [(s.now, Ev.complete)] else []) = [evN p, evC p] := fun hs => by
      rw [if_pos hs, (h.at_c hp).2 hs, hnow]; rfl
    exact { h with
      top_now := nofun, sl_wake := nofun, ex := nofun, early := by simp, at_c := nofun
      mid_now := fun _ => hnow
      ex_pc := hx hp nofun
      after := fun _ => ⟨rfl, by
        cases Bool.eq_false_or_eq_true s.sub with
        | inl hs => rw [hl' hs]; exact .inr (.inr rfl)
        | inr hs => rw [hl hs]; exact (h.at_c hp).1.imp id .inl⟩
      sub_false := fun _ => by
        cases Bool.eq_false_or_eq_true s.sub with
        | inl hs => rw [hl' hs]; exact .inl rfl
        | inr hs => rw [hl hs]; exact h.sub_false hs
      sub_iff := ⟨nofun, fun hn => nomatch hE.symm.trans hn⟩
      ended := ended_cases (fun _ => ⟨Nat.le_refl _, Nat.le_of_eq hnow⟩) h.ended
      steps := ⟨(hst hp rfl).1, nofun⟩
      udone_sub := fun _ _ _ => rfl
      early_u := fun u hu hlt => by rw [hl (h.early_sub hnow hu hlt)]; exact h.early_u u hu hlt
      sleeps := ⟨h.sleeps.1, nofun, nofun⟩ }
  next hp =>
    exact { h with
      top_now := nofun, sl_wake := nofun, ex := nofun, early := by simp, at_c := nofun
      mid_now := fun _ => h.mid_now (.inr (.inr (.inl hp)))
      ex_pc := hx hp nofun
      after := fun _ => h.after (.inl hp)
      steps := hst hp rfl
      sleeps := hsl nofun }
  next hp =>
    have hnow := h.mid_now (.inr (.inr (.inr hp)))
    exact { h with
      top_now := nofun, sl_wake := nofun, mid_now := by simp, early := by simp, at_c := nofun
      ex := fun _ => ⟨congrArg some hnow, Nat.le_of_eq hnow.symm⟩
      ex_pc := fun _ _ => rfl
      after := fun _ => h.after (.inr (.inl hp))
      steps := hst hp rfl
      sleeps := hsl nofun }
  next u hu hc =>
    have ⟨e, hE⟩ := ended_now s.now h.sub_iff
    exact { h with
      u_wait := nofun
      u_none := fun hn => nomatch hu.symm.trans hn
      at_c := fun hp => ⟨(h.at_c hp).1, nofun⟩
      after := fun hp => ⟨rfl, (h.after hp).2⟩
      sub_false := fun _ => by
        cases Bool.eq_false_or_eq_true s.sub with
        | inl hs => exact .inr ⟨u, hu, hc.2, Nat.le_trans hc.2 (h.now_le hs)⟩
        | inr hs => exact h.sub_false hs
      sub_iff := ⟨nofun, fun hn => nomatch hE.symm.trans hn⟩
      ended := ended_cases (fun hs => ⟨Nat.le_refl _, h.now_le hs⟩) h.ended
      steps := ⟨h.steps.1, nofun⟩
      udone_sub := fun _ _ _ => rfl
      sleeps := ⟨h.sleeps.1, nofun, h.sleeps.2.2⟩ }

theorem reach_inv {p : Params} {s : State} (hr : Reach (step p) (init p) s) : Inv p s :=
  reach_induct (Inv p) (inv_init p) (fun _ _ _ h hs => step_inv h hs) s hr

/-- **C16 `timer_once`.**  `timer(d)` delivers nothing but `next(())` and then `complete`, both at time exactly `d`;
if it is not unsubscribed up to and including time `d`, both ARE delivered as soon as the clock passed `d`;
if it is unsubscribed before `d`, nothing is ever delivered. -/
theorem timer_once (p : Params) (s : State) (hr : Reach (step p) (init p) s) :
    (s.log = [] ∨ s.log = [(p.d, Ev.next .unit)] ∨ s.log = [(p.d, Ev.next .unit), (p.d, Ev.complete)]) ∧
    (p.d < s.now → (∀ u : Nat, p.unsubAt = some u → p.d < u) → s.log = [(p.d, Ev.next .unit), (p.d, Ev.complete)]) ∧
    (∀ u : Nat, p.unsubAt = some u → u < p.d → s.log = []) := by
  have h := reach_inv hr
  refine ⟨?_, fun hd hu => ?_, h.early_u⟩
  · cases hp : s.pc with
    | top => exact .inl (h.early (.inl hp))
    | sleeping => exact .inl (h.early (.inr (.inl hp)))
    | next => exact .inl (h.early (.inr (.inr hp)))
    | complete => exact (h.at_c hp).1.imp id .inl
    | abort => exact (h.after (.inl hp)).2
    | ret => exact (h.after (.inr (.inl hp))).2
    | exited => exact (h.after (.inr (.inr hp))).2
  · cases hs : s.sub with
    | true => exact absurd (h.now_le hs) (Nat.not_le.2 hd)
    | false => exact (h.sub_false hs).elim id fun ⟨u, a, _, c⟩ => absurd (hu u a) (Nat.not_lt.2 c)

example : (runFrom (step { d := 4 }) (init { d := 4 }) [.run 0, .tick 4, .run 0, .run 0, .run 0, .run 0, .run 0, .tick 9]).map
    (fun s => (s.now, s.log, s.pc)) = some (9, [(4, Ev.next .unit), (4, Ev.complete)], Pc.exited) := by decide

end Timer

theorem Script.induct {motive : Script → Prop} (nil : motive [])
    (next : ∀ (w : Wait) (x : Data) (r : Script), motive r → motive ((w, .next x) :: r))
    (term : ∀ (w : Wait) (ev : Ev) (r : Script), (∀ x, ev ≠ .next x) → motive ((w, ev) :: r)) : ∀ sc, motive sc
  | [] => nil
  | (w, .next x) :: r => next w x r (Script.induct nil next term r)
  | (w, .error _) :: r => term w _ r nofun
  | (w, .complete) :: r => term w _ r nofun

/-- what `E` holds beyond `log` is not due before `now` -/
abbrev Due (E : List Out) (now : Nat) (log : List Out) : Prop := ∃ f : List Out, log ++ f = E ∧ ∀ o ∈ f, now ≤ o.1

theorem prefix_due {log e : List Out} {t : Nat} (h : Due e t log) : log <+: e ∧ ∀ o ∈ e, o.1 < t → o ∈ log := by
  obtain ⟨f, h, hf⟩ := h
  refine ⟨⟨f, h⟩, fun o ho hlt => ?_⟩
  rw [← h, List.mem_append] at ho
  exact ho.elim id fun ho => absurd (hf o ho) (Nat.not_le.2 hlt)

/-- The log of a subscription that a second thread ends at `unsubAt` (if given), against the records `E` the operator
hands on when nobody unsubscribes; `waiting`: that thread has not run yet.  While subscribed the clock has not passed
`unsubAt`; once the subscription is over, by a terminal record or by the unsubscription, the log is a prefix of `E` that
holds every record due before `unsubAt`; no record is later than `unsubAt`. -/
structure Until (E : List Out) (unsubAt : Option Nat) (now : Nat) (waiting : Prop) (sub : Bool) (log : List Out) : Prop where
  sub_u : sub = true → ∀ u : Nat, unsubAt = some u → waiting
  now_le : sub = true → ∀ u : Nat, unsubAt = some u → now ≤ u
  over : sub = false → log <+: E ∧ ∀ o ∈ E, (∀ u : Nat, unsubAt = some u → o.1 < u) → o ∈ log
  safe : ∀ o ∈ log, ∀ u : Nat, unsubAt = some u → o.1 ≤ u

namespace Until

variable {E : List Out} {unsubAt : Option Nat} {now : Nat} {waiting : Prop} {sub : Bool} {log : List Out}

theorem init (hw : ∀ u : Nat, unsubAt = some u → waiting) : Until E unsubAt 0 waiting true [] :=
  ⟨fun _ => hw, fun _ _ _ => Nat.zero_le _, nofun, nofun⟩

theorem tick {t' : Nat} (h : Until E unsubAt now waiting sub log) (ht : waiting → ∀ u : Nat, unsubAt = some u → t' ≤ u) :
    Until E unsubAt t' waiting sub log :=
  { h with now_le := fun hs u hu => ht (h.sub_u hs u hu) u hu }

theorem snoc (h : Until E unsubAt now waiting sub log) (hs : sub = true) (ev : Ev) :
    Until E unsubAt now waiting sub (log ++ [(now, ev)]) :=
  { h with
    over := (nomatch hs.symm.trans ·)
    safe := fun o ho u hu => (List.mem_append.1 ho).elim (h.safe o · u hu) fun ho => by
      cases List.mem_singleton.1 ho; exact h.now_le hs u hu }

/-- the subscription ends with the record that completes `E`, unless it ended before -/
theorem last {w' : Prop} {ev : Ev} (h : Until E unsubAt now waiting sub log) (hE : sub = true → log ++ [(now, ev)] = E) :
    Until E unsubAt now w' false (log ++ if sub = true then [(now, ev)] else []) := by
  cases Bool.eq_false_or_eq_true sub with
  | inr hs => rw [if_neg (ne_true_of_eq_false hs), List.append_nil]; exact ⟨nofun, nofun, fun _ => h.over hs, h.safe⟩
  | inl hs =>
    rw [if_pos hs]
    exact ⟨nofun, nofun, fun _ => hE hs ▸ ⟨List.prefix_refl _, fun _ ho _ => ho⟩, (h.snoc hs ev).safe⟩

theorem times (h : Until E unsubAt now waiting sub log) (hd : sub = true → Due E now log) :
    log <+: E ∧ (∀ o ∈ E, o.1 < now → (∀ u : Nat, unsubAt = some u → o.1 < u) → o ∈ log) ∧
    (∀ o ∈ log, ∀ u : Nat, unsubAt = some u → o.1 ≤ u) :=
  (Bool.eq_false_or_eq_true sub).elim
    (fun hs =>
      have ⟨h1, h2⟩ := prefix_due (hd hs)
      ⟨h1, fun o ho hlt _ => h2 o ho hlt, h.safe⟩)
    fun hs => ⟨(h.over hs).1, fun o ho _ hu => (h.over hs).2 o ho hu, h.safe⟩

/-- `Observer::unsubscribe` at `u ≤ now`: what is due strictly before `u` is due before `now`, hence in the log -/
theorem unsub {w' : Prop} {u : Nat} (h : Until E unsubAt now waiting sub log) (hu : unsubAt = some u) (hle : u ≤ now)
    (hd : sub = true → Due E now log) : Until E unsubAt now w' false log :=
  have t := h.times hd
  ⟨nofun, nofun, fun _ => ⟨t.1, fun o ho hu' => t.2.1 o ho (Nat.lt_of_lt_of_le (hu' u hu) hle) hu'⟩, h.safe⟩

end Until

namespace Delay

theorem expected_next (d t : Nat) (w : Wait) (x : Data) (r : Script) (hs : List Nat) :
    expected d t ((w, .next x) :: r) hs = (w.wake t + d, .next x) :: expected d (w.wake t + d + hs.headD 0) r hs.tail := rfl

theorem expected_term (d t : Nat) (w : Wait) {ev : Ev} (r : Script) (hs : List Nat) (hne : ∀ x, ev ≠ .next x) :
    expected d t ((w, ev) :: r) hs = [(w.wake t, ev)] := by
  cases ev with
  | next x => exact absurd rfl (hne x)
  | _ => rfl

theorem expected_ge {d : Nat} (sc : Script) : ∀ (hs : List Nat) (t : Nat), ∀ o ∈ expected d t sc hs, t ≤ o.1 := by
  induction sc using Script.induct with
  | nil => nofun
  | next w x r ih =>
    intro hs t o h
    have := w.le_wake t
    rcases List.mem_cons.1 h with rfl | h
    · exact Nat.le_trans this (Nat.le_add_right _ _)
    · have := ih _ _ o h; omega
  | term w ev r hne =>
    intro hs t o h
    rw [expected_term _ _ _ _ _ hne] at h
    cases List.mem_singleton.1 h; exact w.le_wake t

/-- every record still to come is no earlier than the moment the head's call is made (plus `d` for an item) -/
theorem expected_head_ge {d : Nat} {w : Wait} {ev : Ev} {r : Script} {hs : List Nat} {t : Nat} {o : Out}
    (h : o ∈ expected d t ((w, ev) :: r) hs) : w.wake t ≤ o.1 ∧ (∀ x, ev = .next x → w.wake t + d ≤ o.1) := by
  cases ev with
  | next x =>
    rcases List.mem_cons.1 h with rfl | h
    · exact ⟨Nat.le_add_right _ _, fun _ _ => Nat.le_refl _⟩
    · have := expected_ge r _ _ o h; exact ⟨by omega, fun _ _ => by omega⟩
  | _ => cases List.mem_singleton.1 h; exact ⟨Nat.le_refl _, nofun⟩

/-- the events of a script up to and including its first terminal event -/
def cut : List Ev → List Ev
  | [] => []
  | .next x :: r => .next x :: cut r
  | e :: _ => [e]

theorem cut_term {ev : Ev} (r : List Ev) (hne : ∀ x, ev ≠ .next x) : cut (ev :: r) = [ev] := by
  cases ev with
  | next x => exact absurd rfl (hne x)
  | _ => rfl

/-- order is preserved, nothing is dropped or duplicated (up to the first terminal event of the source) -/
theorem expected_events (d : Nat) : ∀ (sc : Script) (hs : List Nat) (t : Nat),
    (expected d t sc hs).map Prod.snd = cut (sc.map Prod.snd) := by
  intro sc
  induction sc using Script.induct with
  | nil => exact fun _ _ => rfl
  | next w x r ih => exact fun hs t => congrArg (Ev.next x :: ·) (ih _ _)
  | term w ev r hne => intro hs t; rw [expected_term _ _ _ _ _ hne]; exact (cut_term _ hne).symm

/-- hand-over times are non-decreasing (order kept also in time) -/
theorem expected_sorted (d : Nat) : ∀ (sc : Script) (hs : List Nat) (t : Nat),
    (expected d t sc hs).Pairwise (fun a b => a.1 ≤ b.1) := by
  intro sc
  induction sc using Script.induct with
  | nil => exact fun _ _ => .nil
  | next w x r ih =>
    exact fun hs t => .cons (fun o ho => Nat.le_trans (Nat.le_add_right _ _) (expected_ge r _ _ o ho)) (ih _ _)
  | term w ev r hne => intro hs t; rw [expected_term _ _ _ _ _ hne]; exact List.pairwise_singleton _ _

theorem expected_rel (d t g : Nat) (x : Data) (r : Script) (hs : List Nat) :
    expected d t ((.rel g, .next x) :: r) hs = (t + g + d, .next x) :: expected d (t + g + d + hs.headD 0) r hs.tail := rfl

theorem expected_abs (d t a : Nat) (x : Data) (r : Script) (hs : List Nat) :
    expected d t ((.abs a, .next x) :: r) hs =
      (max a t + d, .next x) :: expected d (max a t + d + hs.headD 0) r hs.tail := by
  have : Wait.wake t (.abs a) = max a t := by simp [Wait.wake]; split <;> omega
  rw [expected_next, this]

theorem srcAllowsTick_eq_true {s : State} {t' : Nat} (h : srcAllowsTick s t' = true) :
    s.src.pc ≠ .call ∧ (s.src.pc ≠ .done → t' ≤ s.src.wake) := by
  unfold srcAllowsTick at h
  split at h <;> simp_all

/-- the log, then what is expected of the rest `sc` of the script when the previous handler returned at `t`, is the
    whole expectation -/
def Todo (p : Params) (log : List Out) (t : Nat) (sc : Script) (hs : List Nat) : Prop :=
  log ++ expected p.d t sc hs = expected p.d 0 p.script p.handling

/-- the source thread of `delay` at each of its program points, while the subscriber is subscribed -/
inductive Live (p : Params) (s : State) : SPc → Prop
  | sleeping : Todo p s.log s.src.base s.src.rest s.hrest → Live p s .sleeping
  | call : Todo p s.log s.src.base s.src.rest s.hrest → Live p s .call
  | done : Todo p s.log s.src.base s.src.rest s.hrest → Live p s .done
  | mid1 {w : Wait} {x : Data} {r : Script} : s.src.rest = (w, .next x) :: r → s.now ≤ s.src.wake →
      s.src.wake = w.wake s.src.base + p.d → Todo p s.log s.src.base s.src.rest s.hrest → Live p s .mid1
  | mid2 : s.now ≤ s.src.wake → Todo p s.log s.src.wake s.src.rest.tail s.hrest.tail → Live p s .mid2

structure Inv (p : Params) (s : State) : Prop where
  sub_src : s.sub = true → s.srcSub = true
  src : Src.Inv s.now s.src
  live : s.sub = true → Live p s s.src.pc
  log : Until (expected p.d 0 p.script p.handling) p.unsubAt s.now (s.udone = false) s.sub s.log

theorem Live.idle {p : Params} {s : State} {q : SPc} (hq : q = .sleeping ∨ q = .done)
    (a : Todo p s.log s.src.base s.src.rest s.hrest) : Live p s q := by
  rcases hq with rfl | rfl
  · exact .sleeping a
  · exact .done a

theorem inv_init (p : Params) : Inv p (init p) :=
  { sub_src := fun _ => rfl, src := .start _ _, live := fun _ => .idle (Src.start_pc _ _) (by simp [Todo, init])
    log := .init fun _ hu => congrArg Option.isNone hu }

/-- nothing still to come is earlier than `now` -/
theorem Live.due {p : Params} {s : State} (h : Inv p s) (hl : Live p s s.src.pc) :
    Due (expected p.d 0 p.script p.handling) s.now s.log := by
  have hidle : Todo p s.log s.src.base s.src.rest s.hrest →
      (∀ (w : Wait) (ev : Ev) (r : Script), s.src.rest = (w, ev) :: r → s.now ≤ w.wake s.src.base) →
      Due (expected p.d 0 p.script p.handling) s.now s.log := fun a hh =>
    ⟨_, a, fun o ho => by
      cases hr : s.src.rest with
      | nil => rw [hr] at ho; cases ho
      | cons e r => rw [hr] at ho; exact Nat.le_trans (hh _ _ _ hr) (expected_head_ge ho).1⟩
  generalize hp : s.src.pc = q at hl
  cases hl with
  | sleeping a | call a | done a => exact hidle a (h.src.idle_le (by simp [hp]))
  | mid1 hr hle hw a => exact ⟨_, a, fun o ho => Nat.le_trans hle (hw ▸ (expected_head_ge (hr ▸ ho)).2 _ rfl)⟩
  | mid2 hle a => exact ⟨_, a, fun o ho => Nat.le_trans hle (expected_ge _ _ _ o ho)⟩

theorem step_inv {p : Params} {s s' : State} {l : Label} (h : Inv p s) (hs : step p s l = some s') : Inv p s' := by
  have hl : ∀ {q : SPc}, s.src.pc = q → s.sub = true → Live p s q := fun hp hsub => hp ▸ h.live hsub
  have hnext : ∀ {lg : List Out}, Todo p lg s.now s.src.rest.tail s.hrest.tail →
      Live p { next s with log := lg } (next s).src.pc := fun a =>
    .idle (Src.start_pc _ _) (by
      rw [show (next s).src.base = s.now from Src.start_base _ _, show (next s).src.rest = _ from Src.start_rest _ _]
      exact a)
  revert hs
  fun_cases step p s l <;> intro hs <;> cases hs
  next t' hc =>
    have ⟨hc', hw⟩ := srcAllowsTick_eq_true hc.2.1
    exact { h with
      log := h.log.tick (uAllowsTick_eq_true hc.2.2)
      src := h.src.tick (fun hp => hw (hp ▸ nofun)) hc'
      live := fun hsub => by
        have hl := h.live hsub
        generalize hp : s.src.pc = q at hl hw
        cases hl with
        | sleeping a => exact .sleeping a
        | call a => exact .call a
        | done a => exact .done a
        | mid1 hr _ e a => exact .mid1 hr (hw nofun) e a
        | mid2 _ a => exact .mid2 (hw nofun) a }
  next hp x hx =>
    obtain ⟨_, hw, rfl⟩ := Src.wakeUp_eq_some hx
    exact { h with src := h.src.wakeUp hp hw, live := fun hsub => match hl hp hsub with | .sleeping a => .call a }
  next hp w x r hr hsrc =>
    exact { h with
      src := h.src.mid (hp ▸ nofun) rfl (.inl rfl)
      live := fun hsub => match hl hp hsub with
        | .call a => .mid1 hr (Nat.le_add_right _ _) (by rw [h.src.call hp w _ r hr]) a }
  next hsrc => exact { h with src := .start _ _, live := fun hs => absurd (h.sub_src hs) hsrc }
  next hp w ev r hne hr =>
    have hb : (s.sub && !s.srcSub) = false ∧ (s.srcSub && s.sub) = s.sub := by
      cases hsub : s.sub
      · simp
      · simp [h.sub_src hsub]
    rw [hb.1, hb.2]
    exact { h with
      sub_src := nofun, src := .start _ _, live := nofun
      log := h.log.last fun hsub => match hl hp hsub with
        | .call a => by rwa [Todo, hr, expected_term _ _ _ _ _ fun x hx => hne x hx, ← h.src.call hp w ev r hr] at a }
  next hp w ev r hr hw hc =>
    match hl hp hc.1 with
    | .mid1 hr' hle e a =>
      cases hr.symm.trans hr'
      have hn : s.now = w.wake s.src.base + p.d := e ▸ Nat.le_antisymm hle hw
      exact { h with
        src := h.src.mid (hp ▸ nofun) rfl (.inr rfl)
        live := fun _ => .mid2 (Nat.le_add_right _ _) (by
          rw [Todo, hr, expected_next, ← hn] at a
          show s.log ++ [_] ++ expected p.d (s.now + hnow s) s.src.rest.tail s.hrest.tail = _
          rw [hr, List.append_assoc]; exact a)
        log := h.log.snoc hc.1 _ }
  next hp w ev r hr hw hc =>
    cases Bool.eq_false_or_eq_true s.sub with
    | inr hsub =>
      rw [if_neg (ne_true_of_eq_false hsub), List.append_nil]
      exact { h with src := .start _ _, live := (nomatch hsub.symm.trans ·) }
    | inl hsub =>
      match hl hp hsub with
      | .mid1 hr' hle e a =>
        cases hr.symm.trans hr'
        have hn : s.now = w.wake s.src.base + p.d := e ▸ Nat.le_antisymm hle hw
        have h0 : hnow s = 0 := Decidable.byContradiction fun h0 => hc ⟨hsub, h0⟩
        rw [if_pos hsub]
        exact { h with
          src := .start _ _
          live := fun _ => hnext (by
            rw [Todo, hr, expected_next, ← hn, show s.hrest.headD 0 = 0 from h0] at a
            rw [Todo, hr, List.append_assoc]; exact a)
          log := h.log.snoc hsub _ }
  next hp hw =>
    exact { h with
      src := .start _ _
      live := fun hsub => match hl hp hsub with | .mid2 hle a => hnext (Nat.le_antisymm hle hw ▸ a) }
  next u hu hc =>
    exact { h with sub_src := nofun, live := nofun, log := h.log.unsub hu hc.2 fun hs => Live.due h (h.live hs) }

theorem reach_inv {p : Params} {s : State} (hr : Reach (step p) (init p) s) : Inv p s :=
  reach_induct (Inv p) (inv_init p) (fun _ _ _ h hs => step_inv h hs) s hr

/-- **C16 `delay_times`.**  For every period, every source script (relative gaps and/or absolute instants), every list of
consumer handling times and every unsubscription time: the log of the subscriber of `source.delay(d)` is always a prefix
of `expected d 0 script handling` — item `i` is handed on at `recv_i + d` where `recv_i = wake_i(done_{i-1})` (for an
absolute instant `a_i` that is `max a_i done_{i-1}`; `done_{i-1}` = hand-over time of the previous item PLUS its handling
time, because the SOURCE thread sleeps inside `next` and then runs the consumer's callback), terminal events pass
undelayed, order is the source order — and every record due before `now` (and before the unsubscription) is present;
nothing is delivered after the unsubscription time. -/
theorem delay_times (p : Params) (s : State) (hr : Reach (step p) (init p) s) :
    s.log <+: expected p.d 0 p.script p.handling ∧
    (∀ o ∈ expected p.d 0 p.script p.handling, o.1 < s.now → (∀ u : Nat, p.unsubAt = some u → o.1 < u) → o ∈ s.log) ∧
    (∀ o ∈ s.log, ∀ u : Nat, p.unsubAt = some u → o.1 ≤ u) := by
  have h := reach_inv hr
  exact h.log.times fun hs => Live.due h (h.live hs)

/-- the delays ACCUMULATE: a source that wants to emit at 1 and 2 through `delay(10)` is seen at 11 and 21
    (ReactiveX `delay` would give 11 and 12) -/
example : expected 10 0 [(.abs 1, .next (.int 1)), (.abs 2, .next (.int 2)), (.abs 3, .complete)] []
    = [(11, .next (.int 1)), (21, .next (.int 2)), (21, .complete)] := by decide

/-- with a consumer that needs 5 per item the second item is received only at 16: 11, 26, complete at 31 -/
example : expected 10 0 [(.abs 1, .next (.int 1)), (.abs 2, .next (.int 2)), (.abs 3, .complete)] [5, 5]
    = [(11, .next (.int 1)), (26, .next (.int 2)), (31, .complete)] := by decide

/-- non-vacuity: a run of that script reaching time 30 with the whole expected log -/
example :
    (runFrom (step { d := 10, script := [(.abs 1, .next (.int 1)), (.abs 2, .next (.int 2)), (.abs 3, .complete)] })
      (init { d := 10, script := [(.abs 1, .next (.int 1)), (.abs 2, .next (.int 2)), (.abs 3, .complete)] })
      [.tick 1, .run 0, .run 0, .tick 11, .run 0, .run 0, .run 0, .tick 21, .run 0, .run 0, .run 0, .tick 30]).map
        (fun s => (s.now, s.log))
      = some (30, [(11, .next (.int 1)), (21, .next (.int 2)), (21, .complete)]) := by decide

/-- non-vacuity with the slow consumer (handling 5): 11, 26, complete at 31 -/
example :
    (replay { d := 10, script := [(.abs 1, .next (.int 1)), (.abs 2, .next (.int 2)), (.abs 3, .complete)], handling := [5, 5] }
      [.tick 1, .run 0, .run 0, .tick 11, .run 0, .tick 16, .run 0, .run 0, .run 0, .tick 26, .run 0, .tick 31, .run 0,
       .run 0, .run 0, .tick 40]).map (fun s => (s.now, s.log))
      = some (40, [(11, .next (.int 1)), (26, .next (.int 2)), (31, .complete)]) := by decide

end Delay

theorem forall_set {α : Type} {l : List α} {i : Nat} {a' : α} {P : Nat → α → Prop}
    (h : ∀ (j : Nat) (a : α), j ≠ i → l[j]? = some a → P j a) (hi : i < l.length → P i a') :
    ∀ (j : Nat) (a : α), (l.set i a')[j]? = some a → P j a := by
  intro j a hj
  rw [List.getElem?_set] at hj
  split at hj
  · next hij =>
    split at hj
    · next hlt => cases hj; exact hij ▸ hi hlt
    · cases hj
  · next hij => exact h j a (fun h' => hij h'.symm) hj

theorem append_new {ts : List IW} {b i : Nat} {w : IW} (hw : (ts ++ [({ born := b } : IW)])[i]? = some w) :
    ts[i]? = some w ∨ (i = ts.length ∧ w = { born := b }) := by
  rw [List.getElem?_append] at hw
  split at hw
  · exact .inl hw
  · next h =>
    cases hi : i - ts.length with
    | zero => rw [hi] at hw; exact .inr ⟨by omega, (Option.some.inj hw).symm⟩
    | succ n => rw [hi] at hw; cases hw

namespace Timeout

/-- what holds of every timer worker of `timeout` -/
def TOK (d now : Nat) (w : IW) : Prop := IW.Inv d now w ∧ IW.TInv d now w

/-- `w'` is what became of timer `w0` in one step at time `now` -/
structure Rel (d now : Nat) (w0 w' : IW) : Prop where
  ok : TOK d now w'
  born : w'.born = w0.born
  sub : w0.sub = false → w'.sub = false
  ended_keep : ∀ e : Nat, w0.endedAt = some e → w'.endedAt = some e
  ended_new : ∀ e : Nat, w'.endedAt = some e → w0.endedAt = some e ∨ (e = now ∧ w0.sub = true)

theorem Rel.refl {d now : Nat} {w : IW} (h : TOK d now w) : Rel d now w w :=
  ⟨h, rfl, id, fun _ h => h, fun _ h => .inl h⟩

theorem Rel.cancel {d now : Nat} {w : IW} (h : TOK d now w) : Rel d now w (w.cancel now) := by
  cases Bool.eq_false_or_eq_true w.sub with
  | inr hs => rw [IW.cancel_of_ended hs]; exact .refl h
  | inl hs =>
    exact ⟨⟨IW.cancel_inv h.1, IW.cancel_tinv h.1 h.2⟩, rfl, fun _ => rfl,
      fun e he => (nomatch (h.1.sub_iff.1 hs).symm.trans he),
      fun e he => .inr ⟨(Option.some.inj ((if_pos hs).symm.trans he)).symm, hs⟩⟩

theorem Rel.emitted {d now : Nat} {w : IW} (h : TOK d now w) (hp : w.pc = .emit) : Rel d now w (w.emitted now true) :=
  have hc := Rel.cancel h
  ⟨⟨IW.emitted_inv true h.1 hp, IW.emitted_tinv h.1 h.2⟩, rfl, fun _ => IW.emitted_true_sub _ _,
    fun e he => (IW.emitted_true_endedAt _ _).trans (hc.ended_keep e he),
    fun e he => hc.ended_new e ((IW.emitted_true_endedAt _ _).symm.trans he)⟩

theorem Rel.localStep {d now : Nat} {w w' : IW} (h : TOK d now w) (hs : w.localStep d now = some w') : Rel d now w w' := by
  obtain ⟨_, f2, f3, fb, _⟩ := IW.localStep_spec hs
  exact ⟨⟨IW.localStep_inv h.1 hs, IW.localStep_tinv h.1 h.2 hs⟩, fb, fun h => f2.trans h, fun e he => f3.trans he,
    fun e he => .inl (f3.symm.trans he)⟩

/-- pointwise description of a step on the timer list -/
def PW (d now : Nat) (ts ts' : List IW) : Prop :=
  ts'.length = ts.length ∧ ∀ (j : Nat) (w' : IW), ts'[j]? = some w' → ∃ w0 : IW, ts[j]? = some w0 ∧ Rel d now w0 w'

theorem PW.refl {d now : Nat} {ts : List IW} (h : ∀ (j : Nat) (w : IW), ts[j]? = some w → TOK d now w) : PW d now ts ts :=
  ⟨rfl, fun j w hw => ⟨w, hw, .refl (h j w hw)⟩⟩

theorem PW.set {d now : Nat} {ts : List IW} {i : Nat} {w w' : IW}
    (h : ∀ (j : Nat) (w : IW), ts[j]? = some w → TOK d now w) (hw : ts[i]? = some w) (hr : Rel d now w w') :
    PW d now ts (ts.set i w') :=
  ⟨List.length_set, forall_set (fun j a _ ha => ⟨a, ha, .refl (h j a ha)⟩) fun _ => ⟨w, hw, hr⟩⟩

theorem PW.cancelIn {d now : Nat} {ts : List IW} (slot : Option Nat)
    (h : ∀ (j : Nat) (w : IW), ts[j]? = some w → TOK d now w) : PW d now ts (cancelIn now slot ts) := by
  unfold Timeout.cancelIn
  split
  · next i =>
    split
    · next w hw => exact .set h hw (.cancel (h i w hw))
    · exact .refl h
  · exact .refl h

/-- after cancelling the slot, no timer is subscribed any more (given that only the slot timer could be) -/
theorem cancelIn_sub {now : Nat} {slot : Option Nat} {ts : List IW}
    (h : ∀ (i : Nat) (w : IW), ts[i]? = some w → slot ≠ some i → w.sub = false) :
    ∀ (i : Nat) (w : IW), (cancelIn now slot ts)[i]? = some w → w.sub = false := by
  intro i w hw
  unfold cancelIn at hw
  split at hw
  · next j =>
    split at hw
    · exact forall_set (P := fun _ a => a.sub = false) (fun i w hne hw => h i w hw fun h' => hne (Option.some.inj h').symm)
        (fun _ => rfl) i w hw
    · next hnone => exact h i w hw fun h' => by cases h'; cases hnone.symm.trans hw
  · exact h i w hw nofun

theorem PW.finTimers {d : Nat} {s : State} {ts : List IW}
    (h : ∀ (j : Nat) (w : IW), ts[j]? = some w → TOK d s.now w) : PW d s.now ts (finTimers s ts) := by
  unfold Timeout.finTimers; split
  · exact .cancelIn _ h
  · exact .refl h

/-- the timers of `timeout`, for every script (C15's invariant; `GInv` below is the log's).  A timer is subscribed after
    the outer subscription ended only in two windows, in neither of which the clock can move: until the unsubscriber has
    run `finalize` (`upc = .fin`: `fin_pending`), and from the store of a new timer to the re-check (`arm_now`,
    `mid_slot`, `pend`) -/
structure Inv (p : Params) (s : State) : Prop where
  timers_ok : ∀ (i : Nat) (w : IW), s.timers[i]? = some w → TOK p.d s.now w
  sub_fin : s.sub = true → s.onFin = true
  src_fin : s.srcSub = true → s.onFin = true
  outer_iff : s.sub = true ↔ s.outerEndedAt = none
  outer_le : ∀ E : Nat, s.outerEndedAt = some E → E ≤ s.now
  outer_born : ∀ E : Nat, s.outerEndedAt = some E → ∀ (i : Nat) (w : IW), s.timers[i]? = some w → w.born ≤ E
  fin_pending : s.sub = false → s.onFin = true → s.upc = .fin ∧ s.outerEndedAt = some s.now
  arm_now : ∀ E : Nat, s.outerEndedAt = some E → s.src.pc = .mid2 → (s.ph = .store ∨ s.ph = .recheck) → s.now = E
  slot_lt : ∀ i : Nat, s.slot = some i → i < s.timers.length
  mid_slot : (s.src.pc = .mid1 ∨ s.src.pc = .mid2) → s.slot = none ∨ (s.src.pc = .mid2 ∧ s.ph = .recheck)
  others : ∀ (i : Nat) (w : IW), s.timers[i]? = some w → s.slot ≠ some i → w.sub = false
  pend : ∀ E : Nat, s.outerEndedAt = some E → ∀ (i : Nat) (w : IW), s.timers[i]? = some w → w.sub = true →
    s.onFin = true ∨ (s.src.pc = .mid2 ∧ s.ph = .recheck)
  ended_le_E : ∀ E : Nat, s.outerEndedAt = some E → ∀ (i : Nat) (w : IW) (e : Nat), s.timers[i]? = some w →
    w.endedAt = some e → e ≤ E
  u_fin : s.upc = .fin → s.sub = false

theorem inv_init (p : Params) : Inv p (init p) :=
  have hw : ∀ {i : Nat} {w : IW}, (init p).timers[i]? = some w → False := fun h => nomatch List.getElem?_nil.symm.trans h
  have hE : ∀ {E : Nat}, (init p).outerEndedAt = some E → False := nofun
  { timers_ok := fun _ _ h => (hw h).elim, sub_fin := fun _ => rfl, src_fin := fun _ => rfl
    outer_iff := ⟨fun _ => rfl, fun _ => rfl⟩, outer_le := fun _ h => (hE h).elim, outer_born := fun _ h => (hE h).elim
    fin_pending := nofun, arm_now := fun _ h => (hE h).elim, slot_lt := nofun, mid_slot := fun _ => .inl rfl
    others := fun _ _ h => (hw h).elim, pend := fun _ h => (hE h).elim, ended_le_E := fun _ h => (hE h).elim
    u_fin := fun h => by simp only [init] at h; split at h <;> cases h }

/-- inside the item handler the `timer` cell stays empty until the new timer is stored -/
theorem Inv.slot_none {p : Params} {s : State} (h : Inv p s) (h1 : s.src.pc = .mid1 ∨ s.ph ≠ .recheck)
    (hp : s.src.pc = .mid1 ∨ s.src.pc = .mid2) : s.slot = none :=
  (h.mid_slot hp).resolve_right fun hq => h1.elim (fun h1 => nomatch h1.symm.trans hq.1) (absurd hq.2)

/-- once the outer subscription ended at `E`, a timer can still be subscribed only at the instant `E` itself -/
theorem sub_now {p : Params} {s : State} (h : Inv p s) {E : Nat} (hE : s.outerEndedAt = some E) {i : Nat} {w : IW}
    (hw : s.timers[i]? = some w) (hs : w.sub = true) : s.now = E := by
  have hsub := not_sub_of_ended h.outer_iff hE
  rcases h.pend E hE i w hw hs with hf | ⟨h1, h2⟩
  · exact Option.some.inj ((h.fin_pending hsub hf).2.symm.trans hE)
  · exact h.arm_now E hE h1 (.inr h2)

theorem Inv.timers {p : Params} {s : State} {ts' : List IW} (h : Inv p s) (hpw : PW p.d s.now s.timers ts') :
    Inv p { s with timers := ts' } :=
  { h with
    timers_ok := fun j w' hw' => let ⟨_, _, r⟩ := hpw.2 j w' hw'; r.ok
    outer_born := fun E hE j w' hw' => let ⟨w0, h0, r⟩ := hpw.2 j w' hw'; r.born ▸ h.outer_born E hE j w0 h0
    slot_lt := fun i hi => hpw.1 ▸ h.slot_lt i hi
    others := fun j w' hw' hne => let ⟨w0, h0, r⟩ := hpw.2 j w' hw'; r.sub (h.others j w0 h0 hne)
    pend := fun E hE j w' hw' hs =>
      let ⟨w0, h0, r⟩ := hpw.2 j w' hw'
      h.pend E hE j w0 h0 (by cases h0s : w0.sub with | true => rfl | false => cases (r.sub h0s).symm.trans hs)
    ended_le_E := fun E hE j w' e hw' he =>
      let ⟨w0, h0, r⟩ := hpw.2 j w' hw'
      (r.ended_new e he).elim (h.ended_le_E E hE j w0 e h0) fun ⟨h1, h2⟩ => h1 ▸ Nat.le_of_eq (sub_now h hE h0 h2) }

/-- `finalize` (with `sub`, `outerEndedAt` as they are), or the outer subscription ends and is finalized at once -/
theorem Inv.finalize {p : Params} {s : State} (h : Inv p s) {b : Bool} {E : Option Nat} (hb : b = false)
    (hE : E = endOuter s) :
    Inv p { s with sub := b, outerEndedAt := E, srcSub := false, timers := finTimers s s.timers, slot := finSlot s,
                   onFin := false } := by
  subst hb hE
  have ht := h.timers (.finTimers h.timers_ok)
  have ⟨e, he⟩ := ended_now s.now h.outer_iff
  have hall : s.onFin = true → ∀ (i : Nat) (w : IW), (finTimers s s.timers)[i]? = some w → w.sub = false := fun hf => by
    unfold finTimers; rw [if_pos hf]; exact cancelIn_sub h.others
  exact { ht with
    sub_fin := nofun, src_fin := nofun
    outer_iff := ⟨nofun, fun hn => nomatch he.symm.trans hn⟩
    outer_le := ended_cases (fun _ => Nat.le_refl _) h.outer_le
    outer_born := ended_cases (fun _ i w hw => (ht.timers_ok i w hw).2.born_le) ht.outer_born
    fin_pending := fun _ => nofun
    arm_now := ended_cases (fun _ _ _ => rfl) h.arm_now
    slot_lt := fun i hi => by
      unfold finSlot at hi; split at hi
      · cases hi
      · exact ht.slot_lt i hi
    mid_slot := fun hp => by
      unfold finSlot; split
      · exact .inl rfl
      · exact h.mid_slot hp
    others := fun i w hw hne => by
      cases hf : s.onFin with
      | true => exact hall hf i w hw
      | false => exact ht.others i w hw (by unfold finSlot at hne; rwa [if_neg (ne_true_of_eq_false hf)] at hne)
    pend := ended_cases
      (fun hs i w hw hws => nomatch (hall (h.sub_fin hs) i w hw).symm.trans hws)
      (fun E hE i w hw hws => by
        cases hf : s.onFin with
        | true => cases (hall hf i w hw).symm.trans hws
        | false => exact .inr ((ht.pend E hE i w hw hws).resolve_left (ne_true_of_eq_false hf)))
    ended_le_E := ended_cases (fun _ i w e hw he => (ht.timers_ok i w hw).1.ended_le e he) ht.ended_le_E
    u_fin := fun _ => rfl }

theorem finSlot_of_none {s : State} (h : s.slot = none) : finSlot s = none := by
  unfold finSlot; split
  · rfl
  · exact h

theorem Inv.disarm {p : Params} {s : State} (h : Inv p s) : Inv p { s with timers := cancelSlot s, slot := none } :=
  have ht := h.timers (.cancelIn s.slot h.timers_ok)
  have hall := cancelIn_sub (now := s.now) h.others
  { ht with
    slot_lt := nofun
    mid_slot := fun _ => .inl rfl
    others := fun i w hw _ => hall i w hw
    pend := fun _ _ i w hw hws => nomatch (hall i w hw).symm.trans hws }

theorem Inv.src {p : Params} {s : State} (h : Inv p s) (x : Src) (q : Ph) (hr : List Nat) (lg : List Out)
    (harm : x.pc = .mid2 → (q = .store ∨ q = .recheck) → s.sub = true ∨ (s.src.pc = .mid2 ∧ (s.ph = .store ∨ s.ph = .recheck)))
    (hmid : (x.pc = .mid1 ∨ x.pc = .mid2) → s.slot = none ∨ (x.pc = .mid2 ∧ q = .recheck))
    (hpend : s.src.pc = .mid2 → s.ph = .recheck → (x.pc = .mid2 ∧ q = .recheck) ∨ s.sub = true ∨
      ∀ (i : Nat) (w : IW), s.timers[i]? = some w → w.sub = false) :
    Inv p { s with src := x, ph := q, hrest := hr, log := lg } :=
  { h with
    arm_now := fun E hE hx hq => (harm hx hq).elim (fun hs => nomatch (h.outer_iff.1 hs).symm.trans hE)
      fun ⟨h1, h2⟩ => h.arm_now E hE h1 h2
    mid_slot := hmid
    pend := fun E hE i w hw hws => (h.pend E hE i w hw hws).imp id fun ⟨h1, h2⟩ =>
      (hpend h1 h2).elim id (·.elim (fun hs => nomatch (h.outer_iff.1 hs).symm.trans hE)
        (fun hall => nomatch (hall i w hw).symm.trans hws)) }

theorem srcAllowsTick_eq_true {s : State} {t' : Nat} (h : srcAllowsTick s t' = true) :
    s.src.pc ≠ .call ∧ s.src.pc ≠ .mid2 ∧ (s.src.pc = .sleeping → t' ≤ s.src.wake) ∧
    (s.src.pc = .mid1 → s.ph = .handling ∧ t' ≤ s.src.wake) := by
  unfold srcAllowsTick at h
  split at h <;> simp_all

theorem step_inv {p : Params} {s s' : State} {l : Label} (h : Inv p s) (hs : step p s l = some s') : Inv p s' := by
  have hm1 : (next s).src.pc ≠ .mid1 := Src.advance_pc_ne _
  have hm2 : (next s).src.pc ≠ .mid2 := Src.advance_pc_ne _
  have hnext : ∀ {s0 : State}, Inv p s0 → s0.src.pc = s.src.pc → s0.ph = s.ph →
      (s.src.pc = .mid2 → s.ph = .recheck → s0.sub = true ∨ ∀ (i : Nat) (w : IW), s0.timers[i]? = some w → w.sub = false) →
      (lg : List Out) → Inv p { s0 with src := (next s).src, ph := .deliver, hrest := s.hrest.tail, log := lg } :=
    fun h0 e1 e2 hp lg => h0.src _ _ _ lg (absurd · hm2) (·.elim (absurd · hm1) (absurd · hm2))
      fun h1 h2 => .inr (hp (e1 ▸ h1) (e2 ▸ h2))
  have hfin : s.sub = false → s.outerEndedAt = endOuter s := fun hs => (if_neg (ne_true_of_eq_false hs)).symm
  revert hs
  fun_cases step p s l <;> intro hs <;> cases hs
  next t' hc =>
    have ⟨_, hn2, _⟩ := srcAllowsTick_eq_true hc.2.1
    have hall := List.all_eq_true.1 hc.2.2.2
    have hlt := Nat.le_of_lt hc.1
    exact { h with
      timers_ok := fun i w hw =>
        have hm := List.mem_iff_getElem?.2 ⟨i, hw⟩
        ⟨IW.tick_inv (h.timers_ok i w hw).1 hc.1 (hall w hm), IW.tick_tinv (h.timers_ok i w hw).2 hc.1 (hall w hm)⟩
      outer_le := fun E hE => Nat.le_trans (h.outer_le E hE) hlt
      fin_pending := fun hs hf => absurd (h.fin_pending hs hf).1 (UPc.allowsTick_ne_fin hc.2.2.1)
      arm_now := fun _ _ hp => absurd hp hn2 }
  next hp x hx =>
    obtain ⟨_, _, rfl⟩ := Src.wakeUp_eq_some hx
    exact h.src _ _ _ _ nofun (by simp) fun hq => nomatch hp.symm.trans hq
  -- an item arrives: the armed timer is cancelled
  next hp _ _ _ _ _ => exact h.disarm.src _ _ _ _ nofun (fun _ => .inl rfl) fun hq => nomatch hp.symm.trans hq
  next hp _ _ _ _ _ => exact hnext h rfl rfl (fun hq => nomatch hp.symm.trans hq) _
  -- a terminal event: deliver, then `finalize`
  next hp _ _ _ _ _ _ => exact hnext (h.finalize rfl rfl) rfl rfl (fun hq => nomatch hp.symm.trans hq) _
  next hp _ _ _ _ _ _ => exact hnext h rfl rfl (fun hq => nomatch hp.symm.trans hq) _
  -- the consumer's callback returns
  next hp _ _ =>
    exact h.src _ _ _ _ (fun _ => by simp) (fun _ => .inl (h.slot_none (.inl hp) (.inl hp))) fun hq => nomatch hp.symm.trans hq
  -- `sink_next`: the record is delivered and the consumer starts working on it
  next hp _ _ _ _ _ _ =>
    refine h.src _ _ _ _ (fun _ hq => ?_) (fun _ => .inl (h.slot_none (.inl hp) (.inl hp))) fun hq => nomatch hp.symm.trans hq
    split at hq <;> simp at hq
  -- `sink_next` on a finished subscription: `finalize`
  next hp _ _ _ _ hsub _ =>
    exact (h.finalize (eq_false_of_ne_true hsub) (hfin (eq_false_of_ne_true hsub))).src _ _ _ _ (fun _ => by simp)
      (fun _ => .inl (finSlot_of_none (h.slot_none (.inl hp) (.inl hp)))) fun hq => nomatch hp.symm.trans hq
  -- the new timer is stored
  next hp hph =>
    have hsl := h.slot_none (.inr (by rw [hph]; nofun)) (.inr hp)
    exact { h with
      timers_ok := fun i w hw => (append_new hw).elim (h.timers_ok i w) fun ⟨_, hw⟩ => by
        subst hw; exact ⟨IW.inv_new _ _ _, IW.tinv_new _ _⟩
      outer_born := fun E hE i w hw => (append_new hw).elim (h.outer_born E hE i w) fun ⟨_, hw⟩ => by
        subst hw; exact Nat.le_of_eq (h.arm_now E hE hp (.inl hph))
      arm_now := fun E hE _ _ => h.arm_now E hE hp (.inl hph)
      slot_lt := fun i hi => by cases hi; simp
      mid_slot := fun _ => .inr ⟨hp, rfl⟩
      others := fun i w hw hne => (append_new hw).elim (h.others i w · (by rw [hsl]; nofun)) fun ⟨hi, _⟩ =>
        absurd (congrArg some hi.symm) hne
      pend := fun _ _ _ _ _ _ => .inr ⟨hp, rfl⟩
      ended_le_E := fun E hE i w e hw he => (append_new hw).elim (h.ended_le_E E hE i w e · he) fun ⟨_, hw⟩ => by
        rw [hw] at he; cases he }
  -- the re-check passes: the handler returns with the timer armed
  next hsub => exact hnext h rfl rfl (fun _ _ => .inl hsub) _
  -- the re-check finds the subscription ended meanwhile and cancels the timer just stored
  next => exact hnext h.disarm rfl rfl (fun _ _ => .inr fun i w hw => h.disarm.others i w hw nofun) _
  next hp hsub h1 h2 =>
    exact h.src _ _ _ _ (fun _ _ => .inl hsub) (fun _ => .inl (h.slot_none (.inr h2) (.inr hp))) fun _ hq => absurd hq h2
  next _ h2 => exact hnext h rfl rfl (fun _ hq => absurd hq h2) _
  -- `Observer::unsubscribe` clears the callbacks
  next =>
    have ⟨e, he⟩ := ended_now s.now h.outer_iff
    exact { h with
      sub_fin := nofun
      outer_iff := ⟨nofun, fun hn => nomatch he.symm.trans hn⟩
      outer_le := ended_cases (fun _ => Nat.le_refl _) h.outer_le
      outer_born := ended_cases (fun _ i w hw => (h.timers_ok i w hw).2.born_le) h.outer_born
      fin_pending := fun _ hf => ⟨rfl, by
        unfold endOuter; split
        · rfl
        · next hs => exact (h.fin_pending (eq_false_of_ne_true hs) hf).2⟩
      arm_now := ended_cases (fun _ _ _ => rfl) h.arm_now
      pend := ended_cases (fun hs _ _ _ _ => .inl (h.sub_fin hs)) h.pend
      ended_le_E := ended_cases (fun _ i w e hw he => (h.timers_ok i w hw).1.ended_le e he) h.ended_le_E
      u_fin := fun _ => rfl }
  -- `on_unsubscribe` = `finalize`
  next hu => exact { h.finalize (h.u_fin hu) (hfin (h.u_fin hu)) with fin_pending := fun _ => nofun, u_fin := nofun }
  -- the timer fires (`{ … with }`: the goal's state also has the log extended, which no field of `Inv` reads)
  next i w hw hp _ => exact { (h.timers (.set h.timers_ok hw (.emitted (h.timers_ok _ _ hw) hp))).finalize rfl rfl with }
  next i w hw hp _ => exact h.timers (.set h.timers_ok hw (.emitted (h.timers_ok _ _ hw) hp))
  next i w hw w' hw' _ => exact h.timers (.set h.timers_ok hw (.localStep (h.timers_ok _ _ hw) hw'))

theorem reach_inv {p : Params} {s : State} (hr : Reach (step p) (init p) s) : Inv p s :=
  reach_induct (Inv p) (inv_init p) (fun _ _ _ h hs => step_inv h hs) s hr

theorem exp_pass_next {d t : Nat} {armed : Bool} {w : Wait} {x : Data} {r : Script} {hs : List Nat}
    (h : ¬(armed = true ∧ t + d < w.wake t)) :
    expected d t armed ((w, .next x) :: r) hs =
      (w.wake t, .next x) :: expected d (w.wake t + hs.headD 0) true r hs.tail := by
  simp only [expected, h, if_false]

theorem exp_pass_term {d t : Nat} {armed : Bool} {w : Wait} {ev : Ev} {r : Script} {hs : List Nat}
    (hne : ∀ x, ev ≠ .next x) (h : ¬(armed = true ∧ t + d < w.wake t)) :
    expected d t armed ((w, ev) :: r) hs = [(w.wake t, ev)] := by
  cases ev with
  | next x => exact absurd rfl (hne x)
  | _ => simp only [expected, h, if_false]

theorem exp_fire {d t : Nat} {w : Wait} {ev : Ev} {r : Script} {hs : List Nat} (h : t + d < w.wake t) :
    expected d t true ((w, ev) :: r) hs = [(t + d, .error timedOut)] := by
  cases ev <;> simp [expected, h]


/-- lower bound for everything `expected` still contains -/
theorem expected_ge {d : Nat} (sc : Script) : ∀ (hs : List Nat) (t : Nat) (armed : Bool) (o : Out) (m : Nat),
    o ∈ expected d t armed sc hs → (armed = true → m ≤ t + d) →
    (∀ (w : Wait) (ev : Ev) (r : Script), sc = (w, ev) :: r → m ≤ w.wake t) → m ≤ o.1 := by
  induction sc using Script.induct with
  | nil =>
    intro hs t armed o m h h1 _
    cases armed with
    | false => cases h
    | true => cases List.mem_singleton.1 h; exact h1 rfl
  | next w x r ih =>
    intro hs t armed o m h h1 h2
    by_cases hc : armed = true ∧ t + d < w.wake t
    · obtain ⟨rfl, hc⟩ := hc
      rw [exp_fire hc] at h; cases List.mem_singleton.1 h; exact h1 rfl
    · rw [exp_pass_next hc] at h
      have hw := h2 w _ r rfl
      rcases List.mem_cons.1 h with rfl | h
      · exact hw
      · exact ih _ _ true o m h (fun _ => by omega) fun w' _ _ _ => by
          have := w'.le_wake (w.wake t + hs.headD 0); omega
  | term w ev r hne =>
    intro hs t armed o m h h1 h2
    by_cases hc : armed = true ∧ t + d < w.wake t
    · obtain ⟨rfl, hc⟩ := hc
      rw [exp_fire hc] at h; cases List.mem_singleton.1 h; exact h1 rfl
    · rw [exp_pass_term hne hc] at h; cases List.mem_singleton.1 h; exact h2 w _ r rfl

theorem notie_cons {d t : Nat} {armed : Bool} {w : Wait} {ev : Ev} {r : Script} {hs : List Nat}
    (h : noTie d t armed ((w, ev) :: r) hs) :
    (armed = true → t + d ≠ w.wake t) ∧ (∀ x, ev = .next x → noTie d (w.wake t + hs.headD 0) true r hs.tail) := by
  cases ev with
  | next x => exact ⟨h.1, fun _ _ => h.2⟩
  | _ => exact ⟨h, nofun⟩

/-- the armed timer comes first: no call of the source is due before `t + d`, and by `noTie` none at `t + d` -/
theorem exp_fire_first {d t : Nat} {sc : Script} {hs : List Nat} (hnt : noTie d t true sc hs)
    (h : ∀ (w : Wait) (ev : Ev) (r : Script), sc = (w, ev) :: r → t + d ≤ w.wake t) :
    expected d t true sc hs = [(t + d, .error timedOut)] := by
  cases sc with
  | nil => rfl
  | cons e r => exact exp_fire (Nat.lt_of_le_of_ne (h _ _ r rfl) ((notie_cons hnt).1 rfl))

/-- pass-through: every event at the instant the source makes the call (the call after an item waits from the instant
    that item's handler returned), up to the first terminal event -/
def pass : Nat → Script → List Nat → List Out
  | _, [], _ => []
  | t, (w, .next x) :: r, hs => (w.wake t, .next x) :: pass (w.wake t + hs.headD 0) r hs.tail
  | t, (w, ev) :: _, _ => [(w.wake t, ev)]

/-- some call of the source — or the end of a script that never terminates — comes more than `d` after the previous
    item's handler returned (`armed` = an item was handled and its handler returned at `t`) -/
def gap (d : Nat) : Nat → Bool → Script → List Nat → Prop
  | _, armed, [], _ => armed = true
  | t, armed, (w, .next _) :: r, hs => (armed = true ∧ t + d < w.wake t) ∨ gap d (w.wake t + hs.headD 0) true r hs.tail
  | t, armed, (w, _) :: _, _ => armed = true ∧ t + d < w.wake t

theorem pass_term {t : Nat} {w : Wait} {ev : Ev} {r : Script} {hs : List Nat} (hne : ∀ x, ev ≠ .next x) :
    pass t ((w, ev) :: r) hs = [(w.wake t, ev)] := by
  cases ev with
  | next x => exact absurd rfl (hne x)
  | _ => rfl

theorem gap_term {d t : Nat} {armed : Bool} {w : Wait} {ev : Ev} {r : Script} {hs : List Nat} (hne : ∀ x, ev ≠ .next x) :
    gap d t armed ((w, ev) :: r) hs ↔ armed = true ∧ t + d < w.wake t := by
  cases ev with
  | next x => exact absurd rfl (hne x)
  | _ => exact .rfl

/-- no gap longer than `d` after any handler return: everything passes through unchanged, at its own time -/
theorem expected_no_gap (d : Nat) : ∀ (sc : Script) (hs : List Nat) (t : Nat) (armed : Bool), ¬ gap d t armed sc hs →
    expected d t armed sc hs = pass t sc hs := by
  intro sc
  induction sc using Script.induct with
  | nil => intro hs t armed h; cases armed with | false => rfl | true => exact absurd rfl h
  | next w x r ih =>
    intro hs t armed h
    rw [exp_pass_next fun hc => h (.inl hc), pass, ih _ _ true fun hg => h (.inr hg)]
  | term w ev r hne => intro hs t armed h; rw [exp_pass_term hne fun hc => h ((gap_term hne).2 hc), pass_term hne]

/-- a gap longer than `d` after a handler return: the items before it pass through, then `TimedOut` exactly `d` after
    that return (`tk`), and nothing else -/
theorem expected_gap (d : Nat) : ∀ (sc : Script) (hs : List Nat) (t : Nat) (armed : Bool), gap d t armed sc hs →
    ∃ (pre : List Out) (tk : Nat), expected d t armed sc hs = pre ++ [(tk + d, .error timedOut)] ∧
      pre <+: pass t sc hs ∧ (∀ o ∈ pre, ∃ x, o.2 = .next x) ∧ (pre = [] → tk = t) ∧
      (∀ o ∈ pre.getLast?, o.1 ≤ tk) := by
  intro sc
  have now : ∀ {sc : Script} {hs : List Nat} {t : Nat}, expected d t true sc hs = [(t + d, .error timedOut)] →
      ∃ (pre : List Out) (tk : Nat), expected d t true sc hs = pre ++ [(tk + d, .error timedOut)] ∧
        pre <+: pass t sc hs ∧ (∀ o ∈ pre, ∃ x, o.2 = .next x) ∧ (pre = [] → tk = t) ∧ (∀ o ∈ pre.getLast?, o.1 ≤ tk) :=
    fun h => ⟨[], _, h, List.nil_prefix, nofun, fun _ => rfl, nofun⟩
  induction sc using Script.induct with
  | nil => intro hs t armed h; cases (h : armed = true); exact now rfl
  | next w x r ih =>
    intro hs t armed h
    by_cases hc : armed = true ∧ t + d < w.wake t
    · obtain ⟨rfl, hc⟩ := hc; exact now (exp_fire hc)
    · obtain ⟨pre, tk, e1, e2, e3, e4, e5⟩ := ih _ _ true (h.resolve_left hc)
      refine ⟨(w.wake t, .next x) :: pre, tk, by rw [exp_pass_next hc, e1]; rfl, (List.prefix_cons_inj _).2 e2, ?_, nofun, ?_⟩
      · exact fun o ho => (List.mem_cons.1 ho).elim (fun h => h ▸ ⟨x, rfl⟩) (e3 o)
      · cases pre with
        | nil => intro o ho; cases ho; have := e4 rfl; show w.wake t ≤ tk; omega
        | cons a l => intro o ho; rw [List.getLast?_cons_cons] at ho; exact e5 o ho
  | term w ev r hne => intro hs t armed h; obtain ⟨rfl, hc⟩ := (gap_term hne).1 h; exact now (exp_fire hc)

/-- the script reaches a terminal event -/
def terminates : Script → Prop
  | [] => False
  | (_, .next _) :: r => terminates r
  | _ :: _ => True

/-- every call of the source is made a RELATIVE gap `g < d` after the previous handler returned -/
def smallGaps (d : Nat) (sc : Script) : Prop := ∀ e ∈ sc, ∃ g : Nat, e.1 = Wait.rel g ∧ g < d

theorem smallGaps_cons {d : Nat} {w : Wait} {ev : Ev} {r : Script} (h : smallGaps d ((w, ev) :: r)) :
    (∀ t : Nat, w.wake t < t + d) ∧ smallGaps d r := by
  obtain ⟨g, hg, hlt⟩ := h (w, ev) (List.mem_cons_self ..)
  cases (hg : w = .rel g)
  exact ⟨fun t => Nat.add_lt_add_left hlt t, fun e he => h e (List.mem_cons_of_mem _ he)⟩

theorem noTie_of_smallGaps {d : Nat} : ∀ (sc : Script) (hs : List Nat) (t : Nat) (armed : Bool), smallGaps d sc →
    noTie d t armed sc hs := by
  intro sc
  induction sc using Script.induct with
  | nil => exact fun _ _ _ _ => trivial
  | next w x r ih =>
    intro hs t armed h
    have ⟨h1, h2⟩ := smallGaps_cons h
    exact ⟨fun _ => Nat.ne_of_gt (h1 t), ih _ _ _ h2⟩
  | term w ev r hne =>
    intro hs t armed h
    have ⟨h1, _⟩ := smallGaps_cons h
    cases ev with
    | next x => exact absurd rfl (hne x)
    | _ => exact fun _ => Nat.ne_of_gt (h1 t)

theorem no_gap_of_smallGaps {d : Nat} : ∀ (sc : Script) (hs : List Nat) (t : Nat) (armed : Bool), smallGaps d sc →
    terminates sc → ¬ gap d t armed sc hs := by
  intro sc
  induction sc using Script.induct with
  | nil => exact fun _ _ _ _ ht => ht.elim
  | next w x r ih =>
    intro hs t armed h ht
    have ⟨h1, h2⟩ := smallGaps_cons h
    exact fun hg => hg.elim (fun hc => Nat.lt_asymm hc.2 (h1 t)) (ih _ _ _ h2 ht)
  | term w ev r hne =>
    intro hs t armed h _ hg
    exact Nat.lt_asymm ((gap_term hne).1 hg).2 ((smallGaps_cons h).1 t)

theorem pass_mem (sc : Script) : ∀ (hs : List Nat) (t : Nat) (o : Out), o ∈ pass t sc hs → ∃ e ∈ sc, o.2 = e.2 := by
  induction sc using Script.induct with
  | nil => nofun
  | next w x r ih =>
    intro hs t o h
    rcases List.mem_cons.1 h with rfl | h
    · exact ⟨_, List.mem_cons_self .., rfl⟩
    · obtain ⟨e, he, h2⟩ := ih _ _ o h; exact ⟨e, List.mem_cons_of_mem _ he, h2⟩
  | term w ev r hne =>
    intro hs t o h
    rw [pass_term hne] at h; cases List.mem_singleton.1 h; exact ⟨_, List.mem_cons_self .., rfl⟩

/-- as `Delay.Todo`, with `a`: a timer is armed since `t`; and the rest of the script has no tie -/
def Todo (p : Params) (log : List Out) (t : Nat) (a : Bool) (sc : Script) (hs : List Nat) : Prop :=
  noTie p.d t a sc hs ∧ log ++ expected p.d t a sc hs = expected p.d 0 false p.script p.handling

/-- the timer in the slot, if there is one, is live and began its period at `t` (it fires at `t + d`) -/
def ArmedAt (s : State) (t : Nat) : Prop :=
  ∀ i : Nat, s.slot = some i → ∃ w : IW, s.timers[i]? = some w ∧ w.sub = true ∧ w.born = t

/-- the source thread of `timeout` at each of its program points, while the outer subscriber is subscribed -/
inductive Live (p : Params) (s : State) : SPc → Prop
  | sleeping : Todo p s.log s.src.base s.slot.isSome s.src.rest s.hrest → ArmedAt s s.src.base → Live p s .sleeping
  | call : Todo p s.log s.src.base s.slot.isSome s.src.rest s.hrest → ArmedAt s s.src.base → Live p s .call
  | done : Todo p s.log s.src.base s.slot.isSome s.src.rest s.hrest → ArmedAt s s.src.base → Live p s .done
  | deliver {w : Wait} {ev : Ev} {r : Script} : s.ph ≠ .handling → s.src.rest = (w, ev) :: r →
      Todo p (s.log ++ [(s.now, ev)]) (s.now + hnow s) true r s.hrest.tail → Live p s .mid1
  | handling : s.ph = .handling → s.now ≤ s.src.wake → Todo p s.log s.src.wake true s.src.rest.tail s.hrest.tail →
      Live p s .mid1
  | mid2 : (s.ph = .recheck → s.slot.isSome = true) → ArmedAt s s.now →
      Todo p s.log s.now true s.src.rest.tail s.hrest.tail → Live p s .mid2

/-- the log of `timeout` under `noTie` (C16's invariant, kept by `gstep` given `Inv`) -/
structure GInv (p : Params) (s : State) : Prop where
  src : Src.Inv s.now s.src
  srcSub : s.sub = true → s.srcSub = true
  live : s.sub = true → Live p s s.src.pc
  log : Until (expected p.d 0 false p.script p.handling) p.unsubAt s.now (s.upc = .waiting) s.sub s.log

theorem Live.idle {p : Params} {s : State} {q : SPc} (hq : q = .sleeping ∨ q = .done)
    (a : Todo p s.log s.src.base s.slot.isSome s.src.rest s.hrest) (b : ArmedAt s s.src.base) : Live p s q := by
  rcases hq with rfl | rfl
  · exact .sleeping a b
  · exact .done a b

theorem ginv_init (p : Params) (hnt : noTie p.d 0 false p.script p.handling) : GInv p (init p) :=
  { src := .start _ _
    srcSub := fun _ => rfl
    live := fun _ => .idle (Src.start_pc _ _) (by simpa [Todo, init] using hnt) nofun
    log := .init fun _ hu => by simp [init, hu] }

theorem slot_of_sub {p : Params} {s : State} (hi : Inv p s) {i : Nat} {w : IW} (hw : s.timers[i]? = some w)
    (hws : w.sub = true) : s.slot = some i :=
  Decidable.byContradiction fun hne => nomatch (hi.others i w hw hne).symm.trans hws

theorem ArmedAt.bound {p : Params} {s : State} {t : Nat} (hi : Inv p s) (ha : ArmedAt s t) (hslot : s.slot.isSome = true) :
    s.now ≤ t + p.d := by
  obtain ⟨i, hslot⟩ := Option.isSome_iff_exists.1 hslot
  obtain ⟨w, hw, hws, hwb⟩ := ha i hslot
  exact hwb ▸ (hi.timers_ok i w hw).2.now_le (hi.timers_ok i w hw).1 hws

theorem Live.tick {p : Params} {s : State} {q : SPc} {t' : Nat} (hl : Live p s q) (hq : q ≠ .mid2)
    (hh : q = .mid1 → s.ph = .handling ∧ t' ≤ s.src.wake) : Live p { s with now := t' } q := by
  cases hl with
  | sleeping a b => exact .sleeping a b
  | call a b => exact .call a b
  | done a b => exact .done a b
  | deliver h => exact absurd (hh rfl).1 h
  | handling h _ a => exact .handling h (hh rfl).2 a
  | mid2 => exact absurd rfl hq

theorem Live.set_timer {p : Params} {s : State} {q : SPc} (hl : Live p s q) {i : Nat} {w w' : IW}
    (hw : s.timers[i]? = some w) (h : w.sub = true → w'.sub = true ∧ w'.born = w.born) :
    Live p { s with timers := s.timers.set i w' } q := by
  have ha : ∀ {t : Nat}, ArmedAt s t → ArmedAt { s with timers := s.timers.set i w' } t := fun ha j hj => by
    obtain ⟨w0, h0, a1, a2⟩ := ha j hj
    by_cases hji : j = i
    · cases hji
      cases Option.some.inj (hw.symm.trans h0)
      exact ⟨w', by simp [(List.getElem?_eq_some_iff.1 hw).1], (h a1).1, (h a1).2.trans a2⟩
    · exact ⟨w0, by rw [List.getElem?_set_ne (Ne.symm hji)]; exact h0, a1, a2⟩
  cases hl with
  | sleeping a b => exact .sleeping a (ha b)
  | call a b => exact .call a (ha b)
  | done a b => exact .done a (ha b)
  | deliver h hr a => exact .deliver h hr a
  | handling h hle a => exact .handling h hle a
  | mid2 h b a => exact .mid2 h (ha b) a

/-- when the armed timer reaches its `s.next(0)` while the outer subscriber is subscribed, `TimedOut` is due now -/
theorem Live.fire {p : Params} {s : State} (hi : Inv p s) (hsrc : Src.Inv s.now s.src) (hl : Live p s s.src.pc)
    {i : Nat} {w : IW} (hw : s.timers[i]? = some w) (hws : w.sub = true) (hpc : w.pc = .emit) :
    s.log ++ [(s.now, .error timedOut)] = expected p.d 0 false p.script p.handling := by
  have hslot := slot_of_sub hi hw hws
  have hsl : s.slot.isSome = true := by rw [hslot]; rfl
  have hem := (hi.timers_ok i w hw).2.em hws hpc
  have hborn : ∀ {t : Nat}, ArmedAt s t → s.now = t + p.d := fun ha => by
    obtain ⟨w', hw', _, hb⟩ := ha i hslot
    cases Option.some.inj (hw.symm.trans hw'); exact hb ▸ hem
  have hmid : s.src.pc ≠ .mid1 := fun hp => nomatch hslot.symm.trans (hi.slot_none (.inl hp) (.inl hp))
  generalize hp : s.src.pc = q at hl
  cases hl with
  | deliver => exact absurd hp hmid
  | handling => exact absurd hp hmid
  | sleeping a b | call a b | done a b =>
    have hn := hborn b
    have := a.2
    rwa [hsl, exp_fire_first (hsl ▸ a.1) fun w ev r hr => hn ▸ hsrc.idle_le (by simp [hp]) w ev r hr,
      ← hn] at this
  | mid2 _ b a =>
    -- the timer stored a moment ago fires before the re-check (only possible when `d = 0`)
    have hn := hborn b
    have := a.2
    rwa [exp_fire_first a.1 fun w _ _ _ => by have := w.le_wake s.now; omega, ← hn] at this

/-- nothing still to come is earlier than `now` -/
theorem Live.due {p : Params} {s : State} (hi : Inv p s) (hsrc : Src.Inv s.now s.src) (hl : Live p s s.src.pc) :
    Due (expected p.d 0 false p.script p.handling) s.now s.log := by
  have hge : ∀ {t : Nat} {sc : Script} {hs : List Nat}, s.now ≤ t → ∀ o ∈ expected p.d t true sc hs, s.now ≤ o.1 :=
    fun ht o h => expected_ge _ _ _ true o s.now h (fun _ => Nat.le_trans ht (Nat.le_add_right _ _))
      fun w _ _ _ => Nat.le_trans ht (w.le_wake _)
  have hidle : Todo p s.log s.src.base s.slot.isSome s.src.rest s.hrest → ArmedAt s s.src.base →
      (∀ (w : Wait) (ev : Ev) (r : Script), s.src.rest = (w, ev) :: r → s.now ≤ w.wake s.src.base) →
      Due (expected p.d 0 false p.script p.handling) s.now s.log :=
    fun a b h => ⟨_, a.2, fun o ho => expected_ge _ _ _ _ o s.now ho (b.bound hi) h⟩
  generalize hp : s.src.pc = q at hl
  cases hl with
  | sleeping a b | call a b | done a b => exact hidle a b (hsrc.idle_le (by simp [hp]))
  | deliver _ _ a =>
    exact ⟨_, (List.append_assoc ..).symm.trans a.2, fun o ho => (List.mem_cons.1 ho).elim (fun h => h ▸ Nat.le_refl _)
      (hge (Nat.le_add_right _ _) o)⟩
  | handling _ hle a => exact ⟨_, a.2, hge hle⟩
  | mid2 _ _ a => exact ⟨_, a.2, hge (Nat.le_refl _)⟩

theorem gstep {p : Params} {s s' : State} {l : Label} (hi : Inv p s) (hf : GInv p s) (hs : step p s l = some s') :
    GInv p s' := by
  have hl : ∀ {q : SPc}, s.src.pc = q → s.sub = true → Live p s q := fun hp hsub => hp ▸ hf.live hsub
  have hto : ∀ {s0 : State} {q : SPc}, s.src.pc = q → Live p s0 q → Live p s0 s.src.pc := fun hp h => hp ▸ h
  have hslot : s.src.pc = .mid1 ∨ s.ph ≠ .recheck → (s.src.pc = .mid1 ∨ s.src.pc = .mid2) → ∀ {t : Nat}, ArmedAt s t :=
    fun h1 hp _ i hi' => nomatch (hi.slot_none h1 hp).symm.trans hi'
  have hpass : ∀ {w : Wait}, ArmedAt s s.src.base → s.now = w.wake s.src.base →
      ¬(s.slot.isSome = true ∧ s.src.base + p.d < w.wake s.src.base) := fun b hn ⟨h1, h2⟩ =>
    absurd (b.bound hi h1) (by omega)
  revert hs
  fun_cases step p s l <;> intro hs <;> cases hs
  next t' hc =>
    have ⟨hc', hn2, hsl, hm⟩ := srcAllowsTick_eq_true hc.2.1
    exact { hf with
      src := hf.src.tick hsl hc', live := fun hsub => (hf.live hsub).tick hn2 hm
      log := hf.log.tick (UPc.allowsTick_waiting hc.2.2.1) }
  next hp x hx =>
    obtain ⟨_, hw, rfl⟩ := Src.wakeUp_eq_some hx
    exact { hf with src := hf.src.wakeUp hp hw, live := fun hsub => match hl hp hsub with | .sleeping a b => .call a b }
  next hp w x r hr hsrc =>
    have hn := hf.src.call hp _ _ _ hr
    exact { hf with
      src := hf.src.mid (hp ▸ nofun) rfl (.inl rfl)
      live := fun hsub => match hl hp hsub with
        | .call ⟨nt, lg⟩ b => .deliver nofun hr ⟨hn ▸ (notie_cons (hr ▸ nt)).2 x rfl, by
            rw [hr, exp_pass_next (hpass b hn), ← hn] at lg; rwa [List.append_assoc]⟩ }
  next hsrc => exact { hf with src := .start _ _, live := fun hsub => absurd (hf.srcSub hsub) hsrc }
  next hp w ev r hne hr hsrc =>
    have hn := hf.src.call hp _ _ _ hr
    exact { hf with
      src := .start _ _, srcSub := nofun, live := nofun
      log := hf.log.last fun hsub => match hl hp hsub with
        | .call ⟨_, lg⟩ b => by rwa [hr, exp_pass_term (fun x hx => hne x hx) (hpass b hn), ← hn] at lg }
  next hsrc => exact { hf with src := .start _ _, live := fun hsub => absurd (hf.srcSub hsub) hsrc }
  next hp hph hw =>
    exact { hf with
      src := hf.src.mid (hp ▸ nofun) rfl (.inr rfl)
      live := fun hsub => match hl hp hsub with
        | .handling _ hle a => .mid2 nofun (hslot (.inl hp) (.inl hp)) (Nat.le_antisymm hle hw ▸ a)
        | .deliver h _ _ => absurd hph h }
  next hp w ev r hr hsub hph =>
    match hl hp hsub with
    | .handling h _ _ => exact absurd h hph
    | .deliver _ hr' a =>
      cases hr.symm.trans hr'
      by_cases h0 : hnow s = 0
      · simp only [h0, if_true]
        exact { hf with
          src := hf.src.mid (hp ▸ nofun) rfl (.inr rfl), log := hf.log.snoc hsub ev
          live := fun _ => .mid2 nofun (hslot (.inl hp) (.inl hp)) (by rw [h0] at a; exact hr ▸ a) }
      · simp only [h0, if_false]
        exact { hf with
          src := hf.src.mid (hp ▸ nofun) rfl (.inl rfl), log := hf.log.snoc hsub ev
          live := fun _ => .handling rfl (Nat.le_add_right _ _) (hr ▸ a) }
  next hp _ _ _ _ hsub _ =>
    exact { hf with src := hf.src.mid (hp ▸ nofun) rfl (.inr rfl), srcSub := (absurd · hsub), live := (absurd · hsub) }
  next hp hph =>
    exact { hf with
      live := fun hsub => hto hp <| match hl hp hsub with
        | .mid2 _ _ a => .mid2 (fun _ => rfl) (fun i hi' => by cases hi'; exact ⟨{ born := s.now }, by simp, rfl, rfl⟩) a }
  next hp hph hsub =>
    exact { hf with
      src := .start _ _
      live := fun _ => match hl hp hsub with
        | .mid2 hs b a => .idle (Src.start_pc _ _)
            (by rw [show (next s).src.base = s.now from Src.start_base _ _, show (next s).src.rest = _ from Src.start_rest _ _]
                exact hs hph ▸ a) (Src.start_base _ _ ▸ b) }
  next hsub => exact { hf with src := .start _ _, live := (absurd · hsub) }
  next hp hsub h1 h2 =>
    exact { hf with live := fun _ => hto hp <| match hl hp hsub with | .mid2 _ b a => .mid2 nofun b a }
  next hsub _ _ => exact { hf with src := .start _ _, live := (absurd · hsub) }
  next hu u hpu hle =>
    exact { hf with
      srcSub := nofun, live := nofun, log := hf.log.unsub hpu hle fun hsub => Live.due hi hf.src (hf.live hsub) }
  next hu =>
    have hsub := ne_true_of_eq_false (hi.u_fin hu)
    exact { hf with srcSub := (absurd · hsub), live := (absurd · hsub), log := { hf.log with sub_u := (absurd · hsub) } }
  next i w hw hp hws =>
    exact { hf with
      srcSub := nofun, live := nofun
      log := hf.log.last fun hsub => Live.fire hi hf.src (hf.live hsub) hw hws hp }
  next i w hw hp hws => exact { hf with live := fun hsub => (hf.live hsub).set_timer hw (absurd · hws) }
  next i w hw w' hw' hp =>
    have ⟨_, f2, _, fb, _⟩ := IW.localStep_spec hw'
    exact { hf with live := fun hsub => (hf.live hsub).set_timer hw fun h => ⟨f2.trans h, fb⟩ }

theorem reach_ginv {p : Params} (hnt : noTie p.d 0 false p.script p.handling) {s : State}
    (hr : Reach (step p) (init p) s) : Inv p s ∧ GInv p s :=
  reach_induct (fun s => Inv p s ∧ GInv p s) ⟨inv_init p, ginv_init p hnt⟩
    (fun _ _ _ h hs => ⟨step_inv h.1 hs, gstep h.1 h.2 hs⟩) s hr

/-- `timeout(d)` with an unsubscription at any instant: every record due before `now` and before the unsubscription
is present, and nothing is delivered after the unsubscription time (a tie between the two needs no hypothesis). -/
theorem timeout_times (p : Params) (hnt : noTie p.d 0 false p.script p.handling) (s : State)
    (hr : Reach (step p) (init p) s) :
    s.log <+: expected p.d 0 false p.script p.handling ∧
    (∀ o ∈ expected p.d 0 false p.script p.handling, o.1 < s.now →
      (∀ u : Nat, p.unsubAt = some u → o.1 < u) → o ∈ s.log) ∧
    (∀ o ∈ s.log, ∀ u : Nat, p.unsubAt = some u → o.1 ≤ u) :=
  have ⟨hi, hf⟩ := reach_ginv hnt hr
  hf.log.times fun hsub => Live.due hi hf.src (hf.live hsub)

/-- **C16 `timeout_exact`.**  For every period, every source script, every list of consumer handling times (the
consumer's callback runs on the source thread inside `sink_next`), provided there is no exact tie (`noTie`: no source
call falls exactly `d` after the previous handler returned), and for every interleaving: the log of the subscriber of
`source.timeout(d)` is always a prefix of `expected d 0 false script handling`, and every record of it due before `now`
is present.  `expected` passes items and the terminal event through at the instants the source makes the calls and ends
with `TimedOut` at `t_return + d` exactly when the next source call (or the end of a script that never terminates)
comes more than `d` after the previous item's handler returned (`expected_no_gap`, `expected_gap`). -/
theorem timeout_exact (p : Params) (hu : p.unsubAt = none) (hnt : noTie p.d 0 false p.script p.handling) (s : State)
    (hr : Reach (step p) (init p) s) :
    s.log <+: expected p.d 0 false p.script p.handling ∧
    (∀ o ∈ expected p.d 0 false p.script p.handling, o.1 < s.now → o ∈ s.log) :=
  have h := timeout_times p hnt s hr
  ⟨h.1, fun o ho hlt => h.2.1 o ho hlt fun _ hu' => nomatch hu.symm.trans hu'⟩

/-- **Slow consumers never cause a `TimedOut`.**  If every call of a terminating source is made less than `d` after the
previous handler returned, then — HOWEVER LARGE the handling times are, in particular when `gap + handling > d` — the
subscriber of `timeout(d)` sees exactly the pass-through log: the previous timer is cancelled BEFORE `sink_next`
(timeout.rs:63-69) and the next one is armed only AFTER it returned (73-94), so no timer is armed while the consumer
works.  (A variant that cancels the old timer only after `sink_next` would deliver `TimedOut` at `t + d` here.) -/
theorem timeout_never_fires_on_slow_consumer (p : Params) (hu : p.unsubAt = none) (hsmall : smallGaps p.d p.script)
    (hterm : terminates p.script) (s : State) (hr : Reach (step p) (init p) s) :
    s.log <+: pass 0 p.script p.handling ∧
    (∀ o ∈ pass 0 p.script p.handling, o.1 < s.now → o ∈ s.log) ∧
    ((∀ e ∈ p.script, e.2 ≠ Ev.error timedOut) → ∀ t : Nat, (t, Ev.error timedOut) ∉ s.log) := by
  have h := timeout_exact p hu (noTie_of_smallGaps _ _ _ _ hsmall) s hr
  rw [expected_no_gap p.d _ _ _ _ (no_gap_of_smallGaps _ _ _ _ hsmall hterm)] at h
  refine ⟨h.1, h.2, fun hne t ht => ?_⟩
  obtain ⟨e, he, h2⟩ := pass_mem _ _ _ _ (h.1.subset ht)
  exact hne e he h2.symm

/-- gap 5 < d = 10 but handling 20: gap + handling = 25 > d, and still everything passes -/
example : expected 10 0 false [(.rel 5, .next (.int 1)), (.rel 5, .next (.int 2)), (.rel 5, .complete)] [20, 20]
    = [(5, .next (.int 1)), (30, .next (.int 2)), (55, .complete)] := by decide

example : smallGaps 10 [(.rel 5, .next (.int 1)), (.rel 5, .next (.int 2)), (.rel 5, .complete)] ∧
    terminates [(.rel 5, .next (.int 1)), (.rel 5, .next (.int 2)), (.rel 5, .complete)] := by
  refine ⟨?_, trivial⟩
  intro e he; simp at he
  rcases he with rfl | rfl | rfl <;> exact ⟨5, rfl, by omega⟩

/-- a run of that script with the slow consumer (item 1 handled from 5 to 25, item 2 from 30 to 50) -/
example :
    (replay { d := 10, script := [(.rel 5, .next (.int 1)), (.rel 5, .next (.int 2)), (.rel 5, .complete)], handling := [20, 20] }
      [.tick 5, .run 0, .run 0, .run 0, .tick 25, .run 0, .run 0, .run 0, .run 0, .run 2, .tick 30, .run 0, .run 0, .run 0,
       .tick 35, .run 2, .run 2, .run 2, .tick 50, .run 0, .run 0, .run 0, .run 0, .run 3, .tick 55, .run 0, .run 0, .tick 60,
       .run 3, .run 3, .run 3, .tick 70]).map (fun s => (s.now, s.log, liveTimers s))
      = some (70, [(5, .next (.int 1)), (30, .next (.int 2)), (55, .complete)], 0) := by decide

/-- non-vacuity / the test of timeout.rs: items at 0,10,20,30 then a 200 gap with `d = 100` -/
example : expected 100 0 false
    [(.rel 0, .next (.int 1)), (.rel 10, .next (.int 2)), (.rel 10, .next (.int 3)), (.rel 10, .next (.int 4)),
     (.rel 200, .next (.int 5))] []
    = [(0, .next (.int 1)), (10, .next (.int 2)), (20, .next (.int 3)), (30, .next (.int 4)), (130, .error timedOut)] := by
  decide

def tieP : Params := { d := 10, script := [(.rel 0, .next (.int 1)), (.rel 10, .next (.int 2))] }

/-- exact tie, timer thread first: `TimedOut` is delivered and item 2 is dropped -/
theorem timeout_tie_fires :
    (runFrom (step tieP) (init tieP)
      [.run 0, .run 0, .run 0, .run 0, .run 0, .run 0, .run 2, .tick 10, .run 2, .run 2, .run 0, .run 0, .run 2, .tick 20]).map
      (fun s => (s.now, s.log))
      = some (20, [(0, .next (.int 1)), (10, .error timedOut)]) := by decide

/-- exact tie, source thread first: the timer is cancelled, item 2 passes -/
theorem timeout_tie_passes :
    (runFrom (step tieP) (init tieP)
      [.run 0, .run 0, .run 0, .run 0, .run 0, .run 0, .run 2, .tick 10, .run 0, .run 0, .run 0, .run 0, .run 0, .run 0,
       .run 2, .run 2, .run 2, .run 3, .tick 15]).map
      (fun s => (s.now, s.log))
      = some (15, [(0, .next (.int 1)), (10, .next (.int 2))]) := by decide

end Timeout

theorem itemsOf_append (a b : List Out) : itemsOf (a ++ b) = itemsOf a ++ itemsOf b := by
  simp [itemsOf, List.filterMap_append]

theorem itemsOf_next (t : Nat) (x : Data) : itemsOf [(t, Ev.next x)] = [x] := rfl

theorem itemsOf_term (t : Nat) (ev : Ev) (h : ∀ x, ev ≠ .next x) : itemsOf [(t, ev)] = [] := by
  cases ev with
  | next x => exact absurd rfl (h x)
  | _ => rfl

theorem emits_next (w : Wait) (x : Data) (r : Script) : emits ((w, Ev.next x) :: r) = x :: emits r := rfl

/-- items delivered, then the one the worker holds, then the one in the cell, then what the source may still emit:
    every step of `debounce` and `sample` moves an item to the left in this list or drops it -/
def chain (log : List Out) (held value : Option Data) (srcSub : Bool) (rest : Script) : List Data :=
  itemsOf log ++ held.toList ++ value.toList ++ (if srcSub then emits rest else [])

theorem chain_put (log : List Out) (held value : Option Data) (srcSub : Bool) (w : Wait) (x : Data) (r : Script) :
    (chain log held (if srcSub then some x else value) srcSub r).Sublist (chain log held value srcSub ((w, .next x) :: r)) := by
  cases srcSub <;> simp [chain, emits_next, List.append_assoc]

theorem chain_term (log : List Out) (held value : Option Data) (srcSub : Bool) (r r' : Script) {t : Nat} {ev : Ev}
    (hne : ∀ x, ev ≠ .next x) (c : Prop) [Decidable c] :
    (chain (log ++ if c then [(t, ev)] else []) held value false r').Sublist (chain log held value srcSub r) := by
  have : itemsOf (log ++ if c then [(t, ev)] else []) = itemsOf log := by
    rw [itemsOf_append]; split
    · rw [itemsOf_term _ _ hne]; exact List.append_nil _
    · exact List.append_nil _
  simp [chain, this]

theorem chain_cut (log : List Out) (held value : Option Data) (srcSub : Bool) (r r' : Script) :
    (chain log held value false r').Sublist (chain log held value srcSub r) := by
  simp [chain]

theorem chain_take (log : List Out) (value : Option Data) (srcSub : Bool) (r : Script) :
    chain log value none srcSub r = chain log none value srcSub r := by
  simp [chain]

theorem chain_emit (log : List Out) (held value : Option Data) (srcSub sub : Bool) (r : Script) (t : Nat) :
    (chain (log ++ (match held with | some v => if sub then [(t, Ev.next v)] else [] | none => [])) none value
      (srcSub && !(held.isSome && !sub)) r).Sublist (chain log held value srcSub r) := by
  cases held with
  | none => cases srcSub <;> simp [chain]
  | some v =>
    cases sub
    · cases srcSub <;> simp [chain]
    · cases srcSub <;> simp [chain, itemsOf_append, itemsOf_next, List.append_assoc]

theorem sublist_chain (log : List Out) (held value : Option Data) (srcSub : Bool) (r : Script) :
    (itemsOf log).Sublist (chain log held value srcSub r) := by
  simp [chain, List.append_assoc]

namespace Debounce

def stepBound : DPc → Nat
  | .body => 0 | .sleeping => 1 | .take => 2 | .emit => 3 | .check => 4 | .waiting => 5 | .exited => 6

structure Inv (p : Params) (s : State) : Prop where
  sub_iff : s.sub = true ↔ s.endedAt = none
  ended_le : ∀ e : Nat, s.endedAt = some e → e ≤ s.now
  no_abort : s.abort = false → ∀ e : Nat, s.endedAt = some e → s.now = e ∧ (s.src.pc = .mid1 ∨ s.upc = .fin)
  sub_abort : s.sub = true → s.abort = false
  body_end : s.wpc = .body → ∀ e : Nat, s.endedAt = some e → s.now = e
  sl_now : s.wpc = .sleeping → s.now ≤ s.wwake ∧ s.wwake ≤ s.now + p.d
  sl_end : s.wpc = .sleeping → ∀ e : Nat, s.endedAt = some e → s.wwake ≤ e + p.d
  run_end : (s.wpc = .check ∨ s.wpc = .take ∨ s.wpc = .emit) → ∀ e : Nat, s.endedAt = some e → s.now ≤ e + p.d
  wait_end : s.wpc = .waiting → ∃ e : Nat, s.endedAt = some e ∧ s.now ≤ e + p.d
  ex_end : s.wpc = .exited → ∃ e x : Nat, s.endedAt = some e ∧ s.exitedAt = some x ∧ x ≤ e + p.d
  ex_pc : ∀ x : Nat, s.exitedAt = some x → s.wpc = .exited
  steps : s.stepsAfterEnd ≤ stepBound s.wpc ∧ (s.sub = true → s.stepsAfterEnd = 0)
  sleeps : s.sleepsAfterEnd ≤ 1 ∧ (s.sub = true → s.sleepsAfterEnd = 0) ∧
           (s.wpc = .body → s.sleepsAfterEnd = 0)
  u_fin : s.upc = .fin → s.sub = false
  src_mid1 : s.src.pc = .mid1 → s.sub = false

theorem wAllowsTick_eq_true {s : State} {t' : Nat} (h : wAllowsTick s t' = true) :
    (s.wpc = .sleeping → t' ≤ s.wwake) ∧ (s.wpc = .waiting → s.abort = false) ∧
    ∀ q : DPc, q ≠ .sleeping → q ≠ .waiting → q ≠ .exited → q ≠ s.wpc := by
  unfold wAllowsTick at h
  split at h <;> simp_all

theorem inv_init (p : Params) : Inv p (init p) :=
  { sub_iff := ⟨fun _ => rfl, fun _ => rfl⟩, ended_le := nofun, no_abort := fun _ => nofun, sub_abort := fun _ => rfl
    body_end := nofun, sl_now := nofun, sl_end := nofun, run_end := fun _ => nofun, wait_end := nofun, ex_end := nofun
    ex_pc := nofun, steps := ⟨Nat.zero_le _, fun _ => rfl⟩, sleeps := ⟨Nat.zero_le _, fun _ => rfl, fun _ => rfl⟩
    u_fin := fun h => by simp only [init] at h; split at h <;> cases h
    src_mid1 := fun h => absurd h (Src.start_pc_ne _) }

theorem Inv.end_now {p : Params} {s : State} (h : Inv p s) {src' : Src} {upc' : UPc} (hd : src'.pc = .mid1 ∨ upc' = .fin)
    (srcSub' : Bool) (log' : List Out) :
    Inv p { s with src := src', upc := upc', sub := false, endedAt := endNow s, srcSub := srcSub', log := log' } := by
  have ⟨e, hE⟩ := ended_now s.now h.sub_iff
  exact { h with
    sub_iff := ⟨nofun, fun hn => nomatch hE.symm.trans hn⟩
    ended_le := ended_cases (fun _ => Nat.le_refl _) h.ended_le
    no_abort := fun ha => ended_cases (fun _ => ⟨rfl, hd⟩) fun e0 he0 => ⟨(h.no_abort ha e0 he0).1, hd⟩
    sub_abort := nofun
    body_end := fun hp => ended_cases (fun _ => rfl) (h.body_end hp)
    sl_end := fun hp => ended_cases (fun _ => (h.sl_now hp).2) (h.sl_end hp)
    run_end := fun hp => ended_cases (fun _ => Nat.le_add_right _ _) (h.run_end hp)
    wait_end := fun hp =>
      let ⟨e0, he0, hle⟩ := h.wait_end hp
      ⟨e, hE, ended_cases (P := fun e' => s.now ≤ e' + p.d) (fun _ => Nat.le_add_right _ _) (fun e1 he1 => Option.some.inj (he0.symm.trans he1) ▸ hle) e hE⟩
    ex_end := fun hp =>
      let ⟨e0, x, he0, hx, hle⟩ := h.ex_end hp
      ⟨e, x, hE, hx, ended_cases (P := fun e' => x ≤ e' + p.d) (fun hs => nomatch (h.sub_iff.1 hs).symm.trans he0)
        (fun e1 he1 => Option.some.inj (he0.symm.trans he1) ▸ hle) e hE⟩
    steps := ⟨h.steps.1, nofun⟩
    sleeps := ⟨h.sleeps.1, nofun, h.sleeps.2.2⟩
    u_fin := fun _ => rfl
    src_mid1 := fun _ => rfl }

theorem Inv.no_abort_src {p : Params} {s : State} {q : Prop} (h : Inv p s) (hp : s.src.pc ≠ .mid1) (ha : s.abort = false)
    (e : Nat) (he : s.endedAt = some e) : s.now = e ∧ (q ∨ s.upc = .fin) :=
  ⟨(h.no_abort ha e he).1, .inr ((h.no_abort ha e he).2.resolve_left hp)⟩

theorem step_inv {p : Params} {s s' : State} {l : Label} (h : Inv p s) (hs : step p s l = some s') : Inv p s' := by
  have hadv : (s.src.advance s.now).pc = .mid1 → s.sub = false := (absurd · (Src.advance_pc_ne _))
  have hx : ∀ {q q' : DPc}, s.wpc = q → q ≠ .exited → ∀ x : Nat, s.exitedAt = some x → q' = .exited :=
    fun hp hq x hx => absurd (hp.symm.trans (h.ex_pc x hx)) hq
  have hst : ∀ {q q' : DPc}, s.wpc = q → stepBound q + 1 = stepBound q' →
      s.stepsAfterEnd + late s ≤ stepBound q' ∧ (s.sub = true → s.stepsAfterEnd + late s = 0) :=
    fun hp hlt => count_late h.steps (.inr (hp ▸ hlt ▸ Nat.lt_succ_self _))
  have hsl : ∀ {q' : DPc}, q' ≠ .body →
      s.sleepsAfterEnd ≤ 1 ∧ (s.sub = true → s.sleepsAfterEnd = 0) ∧ (q' = .body → s.sleepsAfterEnd = 0) :=
    fun hq => ⟨h.sleeps.1, h.sleeps.2.1, (absurd · hq)⟩
  revert hs
  fun_cases step p s l <;> intro hs <;> cases hs
  next t' hc =>
    have ⟨_, hsrc⟩ := Src.allowsTick_eq_true hc.2.1
    have hu := UPc.allowsTick_ne_fin hc.2.2.1
    have ⟨hw, hab, hpc⟩ := wAllowsTick_eq_true hc.2.2.2
    have hlt := Nat.le_of_lt hc.1
    have hna : s.abort = false → ∀ e : Nat, s.endedAt = some e → False := fun ha e he =>
      (h.no_abort ha e he).2.elim (fun hq => hsrc.elim (nomatch ·.symm.trans hq) (nomatch ·.symm.trans hq)) hu
    exact { h with
      ended_le := fun e he => Nat.le_trans (h.ended_le e he) hlt
      no_abort := fun ha e he => (hna ha e he).elim
      body_end := fun hp => absurd hp.symm (hpc _ nofun nofun nofun)
      sl_now := fun hp => ⟨hw hp, Nat.le_trans (h.sl_now hp).2 (Nat.add_le_add_right hlt _)⟩
      run_end := fun hp => by rcases hp with h1 | h1 | h1 <;> exact absurd h1.symm (hpc _ nofun nofun nofun)
      wait_end := fun hp => let ⟨e, he, _⟩ := h.wait_end hp; (hna (hab hp) e he).elim }
  next hp x hx =>
    obtain ⟨_, _, rfl⟩ := Src.wakeUp_eq_some hx
    exact { h with no_abort := h.no_abort_src (hp ▸ nofun), src_mid1 := nofun }
  next hp _ _ _ _ => exact { h with no_abort := h.no_abort_src (hp ▸ nofun), src_mid1 := hadv }
  next => exact h.end_now (.inl rfl) _ _
  next hp _ _ _ _ _ _ => exact { h with no_abort := h.no_abort_src (hp ▸ nofun), src_mid1 := hadv }
  next hp =>
    exact { h with no_abort := nofun, sub_abort := fun hs => absurd hs (ne_true_of_eq_false (h.src_mid1 hp)), src_mid1 := hadv }
  next => exact h.end_now (.inr rfl) _ _
  next hu =>
    exact { h with no_abort := nofun, sub_abort := fun hs => absurd hs (ne_true_of_eq_false (h.u_fin hu)), u_fin := nofun }
  next hp =>
    cases Bool.eq_false_or_eq_true s.sub with
    | inl hs =>
      rw [if_pos hs]
      exact { h with
        sl_now := nofun, sl_end := nofun, run_end := by simp, wait_end := nofun, ex_end := nofun
        body_end := fun _ e he => nomatch (h.sub_iff.1 hs).symm.trans he
        ex_pc := hx hp nofun
        steps := count_late h.steps (.inl hs)
        sleeps := ⟨h.sleeps.1, h.sleeps.2.1, fun _ => h.sleeps.2.1 hs⟩ }
    | inr hs =>
      obtain ⟨e, he⟩ := ended_of_not_sub h.sub_iff hs
      rw [if_neg (ne_true_of_eq_false hs)]
      exact { h with
        body_end := nofun, sl_now := nofun, sl_end := nofun, run_end := by simp, ex_end := nofun
        wait_end := fun _ => ⟨e, he, h.run_end (.inl hp) e he⟩
        ex_pc := hx hp nofun
        steps := hst hp rfl
        sleeps := hsl nofun }
  next hp =>
    exact { h with
      body_end := nofun, run_end := by simp, wait_end := nofun, ex_end := nofun
      sl_now := fun _ => ⟨Nat.le_add_right _ _, Nat.le_refl _⟩
      sl_end := fun _ e he => h.body_end hp e he ▸ Nat.le_refl _
      ex_pc := hx hp nofun
      steps := hst hp rfl
      sleeps :=
        have := count_late (b' := 1) ⟨Nat.le_of_eq (h.sleeps.2.2 hp), h.sleeps.2.1⟩ (.inr Nat.zero_lt_one)
        ⟨this.1, this.2, nofun⟩ }
  next hp hw =>
    exact { h with
      body_end := nofun, sl_now := nofun, sl_end := nofun, wait_end := nofun, ex_end := nofun
      run_end := fun _ e he => Nat.le_trans (h.sl_now hp).1 (h.sl_end hp e he)
      ex_pc := hx hp nofun
      steps := hst hp rfl
      sleeps := hsl nofun }
  next hp =>
    exact { h with
      body_end := nofun, sl_now := nofun, sl_end := nofun, wait_end := nofun, ex_end := nofun
      run_end := fun _ => h.run_end (.inr (.inl hp))
      ex_pc := hx hp nofun
      steps := hst hp rfl
      sleeps := hsl nofun }
  next hp =>
    exact { h with
      no_abort := fun ha => h.no_abort (Bool.or_eq_false_iff.1 ha).1
      sub_abort := fun hs => by rw [h.sub_abort hs, hs]; simp
      body_end := nofun, sl_now := nofun, sl_end := nofun, wait_end := nofun, ex_end := nofun
      run_end := fun _ => h.run_end (.inr (.inr hp))
      ex_pc := hx hp nofun
      steps := hst hp rfl
      sleeps := hsl nofun }
  next hp ha =>
    exact { h with
      body_end := nofun, sl_now := nofun, sl_end := nofun, run_end := by simp, wait_end := nofun
      ex_end := fun _ => let ⟨e, he, hle⟩ := h.wait_end hp; ⟨e, s.now, he, rfl, hle⟩
      ex_pc := fun _ _ => rfl
      steps := hst hp rfl
      sleeps := hsl nofun }

theorem reach_inv {p : Params} {s : State} (hr : Reach (step p) (init p) s) : Inv p s :=
  reach_induct (Inv p) (inv_init p) (fun _ _ _ h hs => step_inv h hs) s hr

/-- the invariant behind `debounce_subsequence` (`Inv` above is C15's) -/
structure SInv (p : Params) (s : State) : Prop where
  held_none : s.wpc ≠ .emit → s.held = none
  mid1_src : s.src.pc = .mid1 → s.srcSub = false
  sub : (chain s.log s.held s.value s.srcSub s.src.rest).Sublist (emits p.script)

theorem sstep {p : Params} {s s' : State} {l : Label} (h : SInv p s) (hs : step p s l = some s') : SInv p s' := by
  have hadv : (s.src.advance s.now).pc = .mid1 → s.srcSub = false := (absurd · (Src.advance_pc_ne _))
  have hw : ∀ {q : DPc}, s.wpc = q → q ≠ .emit → s.held = none := fun hp hq => h.held_none (hp ▸ hq)
  revert hs
  fun_cases step p s l <;> intro hs <;> cases hs
  next => exact { h with }
  next x hx => obtain ⟨_, _, rfl⟩ := Src.wakeUp_eq_some hx; exact { h with mid1_src := nofun }
  next w x r hr =>
    exact { h with mid1_src := hadv, sub := .trans (by rw [Src.advance_rest, hr]; exact chain_put ..) h.sub }
  next hne _ _ =>
    exact { h with mid1_src := fun _ => rfl, sub := .trans (chain_term _ _ _ _ _ _ (fun x hx => hne x hx) _) h.sub }
  next hsrc =>
    exact { h with
      mid1_src := hadv, sub := .trans (by rw [eq_false_of_ne_true hsrc]; exact chain_cut ..) h.sub }
  next hp => exact { h with mid1_src := hadv, sub := .trans (by rw [h.mid1_src hp]; exact chain_cut ..) h.sub }
  next => exact { h with }
  next => exact { h with mid1_src := fun _ => rfl, sub := .trans (chain_cut ..) h.sub }
  next hp => exact { h with held_none := fun _ => hw hp nofun }
  next hp => exact { h with held_none := fun _ => hw hp nofun }
  next hp _ => exact { h with held_none := fun _ => hw hp nofun }
  next hp =>
    have hh := hw hp nofun
    exact { h with held_none := (absurd rfl ·), sub := by rw [chain_take, ← hh]; exact h.sub }
  next =>
    exact { h with
      held_none := fun _ => rfl
      mid1_src := fun hq => by rw [h.mid1_src hq]; rfl
      sub := .trans (chain_emit ..) h.sub }
  next hp _ => exact { h with held_none := fun _ => hw hp nofun }

theorem reach_sinv {p : Params} {s : State} (hr : Reach (step p) (init p) s) : SInv p s :=
  reach_induct (SInv p) ⟨fun _ => rfl, fun h => absurd h (Src.start_pc_ne _), by simp [chain, init, itemsOf]⟩
    (fun _ _ _ h hs => sstep h hs) s hr

/-- **C16 `debounce_subsequence`.**  Whatever the period, the source script, the unsubscription time and the
interleaving: the items delivered by `debounce` are, in order, a subsequence (by position — none twice) of the items
the source emitted. -/
theorem debounce_subsequence (p : Params) (s : State) (hr : Reach (step p) (init p) s) :
    (itemsOf s.log).Sublist (emits p.script) :=
  .trans (sublist_chain ..) (reach_sinv hr).sub

end Debounce

namespace Sample

structure SInv (p : Params) (s : State) : Prop where
  held_none : s.trg.pc ≠ .mid1 → s.held = none
  sub : (chain s.log s.held s.value s.srcSub s.src.rest).Sublist (emits p.script)

theorem adv_pc (now : Nat) (x : Src) : (x.advance now).pc ≠ .mid1 := Src.advance_pc_ne _

theorem sstep {p : Params} {s s' : State} {l : Label} (h : SInv p s) (hs : step p s l = some s') : SInv p s' := by
  have hh : ∀ {q : SPc}, s.trg.pc = q → q ≠ .mid1 → s.held = none := fun hp hq => h.held_none (hp ▸ hq)
  revert hs
  fun_cases step p s l <;> intro hs <;> cases hs
  next => exact { h with }
  next x hx => obtain ⟨_, _, rfl⟩ := Src.wakeUp_eq_some hx; exact { h with }
  next w x r hr => exact { h with sub := .trans (by rw [Src.advance_rest, hr]; exact chain_put ..) h.sub }
  next hne _ => exact { h with sub := .trans (chain_term _ _ _ _ _ _ (fun x hx => hne x hx) _) h.sub }
  next => exact { h with }
  next => exact { h with sub := .trans (chain_cut ..) h.sub }
  next hp x hx => obtain ⟨_, _, rfl⟩ := Src.wakeUp_eq_some hx; exact { h with held_none := fun _ => hh hp nofun }
  next hp _ _ _ _ _ =>
    have hn := hh hp nofun
    exact { held_none := (absurd rfl ·), sub := by rw [chain_take, ← hn]; exact h.sub }
  next hp _ _ _ _ _ => exact { h with held_none := fun _ => hh hp nofun }
  next hp _ _ _ _ => exact { h with held_none := fun _ => hh hp nofun }
  next => exact { held_none := fun _ => rfl, sub := .trans (chain_emit ..) h.sub }

theorem reach_sinv {p : Params} {s : State} (hr : Reach (step p) (init p) s) : SInv p s :=
  reach_induct (SInv p) ⟨fun _ => rfl, by simp [chain, init, itemsOf]⟩ (fun _ _ _ h hs => sstep h hs) s hr

/-- **C16 `sample_subsequence`.**  Whatever the two scripts (source and trigger), the unsubscription time and the
interleaving: the items delivered by `sample` are, in order, a subsequence (by position — none twice) of the items the
source emitted. -/
theorem sample_subsequence (p : Params) (s : State) (hr : Reach (step p) (init p) s) :
    (itemsOf s.log).Sublist (emits p.script) :=
  .trans (sublist_chain ..) (reach_sinv hr).sub

end Sample

namespace Timeout

/-- the test of timeout.rs (136-163) in miniature: items at 0, 1, 2, then a gap of 20 with `d = 10` -/
def demo : Params :=
  { d := 10, script := [(.rel 0, .next (.int 1)), (.rel 1, .next (.int 2)), (.rel 1, .next (.int 3)), (.rel 20, .next (.int 4))] }

example : demo.unsubAt = none ∧ noTie demo.d 0 false demo.script demo.handling := by
  simp [demo, noTie, Wait.wake]

/-- a run of `demo`: three items pass, two timers are cancelled, the third fires `TimedOut` at 2 + 10, item 4 is dropped -/
example :
    (replay demo
      [.run 0, .run 0, .run 0, .run 0, .run 0, .run 0, .run 2, .tick 1, .run 0, .run 0, .run 0, .run 0, .run 0, .run 0, .run 3, .tick 2,
       .run 0, .run 0, .run 0, .run 0, .run 0, .run 0, .run 4, .tick 10, .run 2, .run 2, .run 2, .tick 11, .run 3, .run 3, .run 3,
       .tick 12, .run 4, .run 4, .run 4, .tick 22, .run 0, .run 0, .run 4, .run 4, .run 4, .tick 30]).map
      (fun s => (s.now, s.log, liveTimers s))
      = some (30, [(0, .next (.int 1)), (1, .next (.int 2)), (2, .next (.int 3)), (12, .error timedOut)], 0) := by decide

end Timeout

namespace Debounce

def demo : Params :=
  { d := 10, script := [(.rel 1, .next (.int 1)), (.rel 1, .next (.int 2)), (.rel 12, .next (.int 3)), (.rel 1, .complete)] }

/-- source emits 1@1, 2@2, 3@14, completes @15; `debounce(10)` delivers 2@10 and complete@15 (items 1 and 3 are dropped) -/
example :
    (replay demo
      [.run 2, .run 2, .tick 1, .run 0, .run 0, .tick 2, .run 0, .run 0, .tick 10, .run 2, .run 2, .run 2, .run 2, .run 2,
       .tick 14, .run 0, .run 0, .tick 15, .run 0, .run 0, .run 0, .tick 20, .run 2, .run 2, .run 2, .run 2, .run 2, .tick 30]).map
      (fun s => (s.now, s.log, itemsOf s.log))
      = some (30, [(10, .next (.int 2)), (15, .complete)], [.int 2]) := by decide

end Debounce

namespace Sample

def demo : Params :=
  { script := [(.rel 1, .next (.int 1)), (.rel 1, .next (.int 2)), (.rel 5, .next (.int 3)), (.rel 5, .complete)],
    trigger := [(.rel 3, .next .unit), (.rel 1, .next .unit), (.rel 4, .next .unit)] }

/-- source 1@1, 2@2, 3@7, complete@12; trigger at 3, 4, 8: `sample` delivers 2@3, nothing@4, 3@8, complete@12 -/
example :
    (replay demo
      [.tick 1, .run 0, .run 0, .tick 2, .run 0, .run 0, .tick 3, .run 2, .run 2, .run 2, .tick 4, .run 2, .run 2, .run 2,
       .tick 7, .run 0, .run 0, .tick 8, .run 2, .run 2, .run 2, .tick 12, .run 0, .run 0, .tick 13]).map
      (fun s => (s.now, s.log, itemsOf s.log))
      = some (13, [(3, .next (.int 2)), (8, .next (.int 3)), (12, .complete)], [.int 2, .int 3]) := by decide

end Sample

/-! ## The executable expectations of `Conc/Timed.lean` (`expectedLine`) are what the runs deliver: interval and timer
(`delay_times`, `timeout_times` are stated with the model file's `expected` itself) -/

theorem ticks_eq (d m : Nat) : ticks d m = Interval.expected d m := rfl

theorem ticks_prefix (d : Nat) {m c : Nat} (h : m ≤ c) : ticks d m <+: ticks d c := by
  obtain ⟨j, rfl⟩ := Nat.exists_eq_add_of_le h
  induction j with
  | zero => exact List.prefix_refl _
  | succ j ih =>
    rw [← Nat.add_assoc, ticks_succ]
    exact (ih (Nat.le_add_right _ _)).trans (List.prefix_append _ _)

namespace Interval

/-- plain `interval(d)`, never unsubscribed: the log is always `expected d m` for some `m`, and for every `k` all records
    of `expected d k` that are due before `now` are present -/
theorem interval_expected (p : Params) (ht : p.take = none) (hu : p.unsubAt = none) (s : State)
    (hr : Reach (step p) (init p) s) :
    (∃ m : Nat, s.log = expected p.d m) ∧ (∀ k : Nat, ∀ o ∈ expected p.d k, o.1 < s.now → o ∈ s.log) := by
  obtain ⟨m, h1, _, _, h4, _⟩ := interval_ticks p s hr
  have hlog : s.log = ticks p.d m := by
    rcases h1 with h | ⟨c, hc, _⟩
    · exact h
    · simp [ht] at hc
  refine ⟨⟨m, hlog⟩, ?_⟩
  intro k o ho hnow
  rw [← ticks_eq] at ho
  obtain ⟨i, hi, rfl⟩ := mem_ticks.1 ho
  have := h4 i hnow (by simp [hu]) (by simp [ht])
  rw [hlog]; exact mem_ticks.2 ⟨i, this, rfl⟩

/-- `interval(d).take(c)`, never unsubscribed: prefix of `expectedTake d c`, everything due is present -/
theorem interval_take_expected (p : Params) (c : Nat) (ht : p.take = some c) (hu : p.unsubAt = none) (s : State)
    (hr : Reach (step p) (init p) s) :
    s.log <+: expectedTake p.d c ∧ (∀ o ∈ expectedTake p.d c, o.1 < s.now → o ∈ s.log) := by
  obtain ⟨m, h1, _, h3, h4, h5⟩ := interval_ticks p s hr
  have hfull : ticks p.d c ++ [(max c 1 * p.d, Ev.complete)] = expectedTake p.d c := rfl
  have hmc : m ≤ c := by
    rcases Nat.lt_or_ge c m with h | h
    · have := h3 c c h ht; omega
    · exact h
  constructor
  · rcases h1 with h | ⟨c', hc', _, h⟩
    · rw [h, ← hfull]; exact (ticks_prefix p.d hmc).trans (List.prefix_append _ _)
    · rw [ht] at hc'; injection hc' with hc'; subst hc'; rw [h, hfull]; exact List.prefix_refl _
  · intro o ho hnow
    rw [← hfull, List.mem_append] at ho
    rcases ho with ho | ho
    · obtain ⟨i, hi, rfl⟩ := mem_ticks.1 ho
      have him := h4 i hnow (by simp [hu]) (by intro c' hc'; rw [ht] at hc'; injection hc' with hc'; omega)
      rcases h1 with h | ⟨c', _, hmc', h⟩
      · rw [h]; exact mem_ticks.2 ⟨i, him, rfl⟩
      · rw [h, List.mem_append]; left; exact mem_ticks.2 ⟨i, by omega, rfl⟩
    · simp at ho; subst ho
      rw [h5 c ht hnow (by simp [hu])]; simp

end Interval

namespace Timer

/-- `timer(d)`, never unsubscribed: prefix of `expected d`, everything due is present -/
theorem timer_expected (p : Params) (hu : p.unsubAt = none) (s : State) (hr : Reach (step p) (init p) s) :
    s.log <+: expected p.d ∧ (∀ o ∈ expected p.d, o.1 < s.now → o ∈ s.log) := by
  obtain ⟨h1, h2, _⟩ := timer_once p s hr
  constructor
  · rcases h1 with h | h | h <;> rw [h] <;> simp [expected]
  · intro o ho hnow
    have hd : p.d < s.now := by
      simp [expected] at ho; rcases ho with rfl | rfl <;> exact hnow
    rw [h2 hd (by simp [hu])]; exact ho

end Timer

/-- what `expectedLine "timeout 20 5:1:0 15:2:10 c:1"` prints (`n1@5 n2@20 c@31`): the second item arrives 15 after the
    first was received because its handling took 0; its own handling of 10 delays the `complete` call to 20 + 10 + 1 -/
example : Timeout.expected 20 0 false [(.rel 5, .next (.int 1)), (.rel 15, .next (.int 2)), (.rel 1, .complete)] [0, 10, 0]
    = [(5, .next (.int 1)), (20, .next (.int 2)), (31, .complete)] := by decide

example : Delay.expected 7 0 [(.rel 10, .next (.int 1)), (.rel 10, .next (.int 2)), (.rel 1, .complete)] [0, 0, 0]
    = [(17, .next (.int 1)), (34, .next (.int 2)), (35, .complete)] := by decide

example : Interval.expectedTake 10 3 = [(10, .next (.int 0)), (20, .next (.int 1)), (30, .next (.int 2)), (30, .complete)] := by
  decide

end Rx.Timed

#print axioms Rx.Timed.Interval.interval_ticks
#print axioms Rx.Timed.Interval.interval_emits
#print axioms Rx.Timed.Interval.interval_only
#print axioms Rx.Timed.Interval.interval_tie_delivered
#print axioms Rx.Timed.Interval.interval_tie_dropped
#print axioms Rx.Timed.Timer.timer_once
#print axioms Rx.Timed.Interval.interval_expected
#print axioms Rx.Timed.Interval.interval_take_expected
#print axioms Rx.Timed.Timer.timer_expected
#print axioms Rx.Timed.Delay.delay_times
#print axioms Rx.Timed.Delay.expected_events
#print axioms Rx.Timed.Delay.expected_sorted
#print axioms Rx.Timed.Timeout.timeout_exact
#print axioms Rx.Timed.Timeout.expected_no_gap
#print axioms Rx.Timed.Timeout.expected_gap
#print axioms Rx.Timed.Timeout.timeout_never_fires_on_slow_consumer
#print axioms Rx.Timed.Timeout.timeout_tie_fires
#print axioms Rx.Timed.Timeout.timeout_tie_passes
#print axioms Rx.Timed.Debounce.debounce_subsequence
#print axioms Rx.Timed.Sample.sample_subsequence
