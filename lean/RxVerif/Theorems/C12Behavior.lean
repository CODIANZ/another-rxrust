/-
C12, `BehaviorSubject`: the late-subscriber clause holds along QUIET runs (no `next` call overlaps a `subscribe`
call).
-/
import RxVerif.Theorems.C12BehaviorB

namespace Rx.Conc.Behavior

/-- Along runs in which no `next` call overlaps a `subscribe` call, an observer
`o` whose `subscribe` call has returned and that was not unsubscribed has received: first the value `x` its
subscription read from `last_item` (a value the subject held), then only broadcast deliveries, and from every producer
`t` that is not inside a `next` call right now exactly the items of ALL calls `t` made after that read — calls number
`base .. cnt-1`, each once, in order (`base = (s.obs o).base t` is the ghost count of `t`'s calls at the read).
(The FULL clause — the same for ALL runs — is false: `behavior_late_subscriber_violated`.) -/
theorem late_subscriber_value_then_all_later {progs : List (List Call)} {initial : Data} {s : State}
    (h : ReachableQ progs initial s) (o : Nat)
    (hsub : (s.obs o).subDone = true) (hlive : (s.obs o).fnNext = true) :
    ∃ x later, (s.obs o).hand = some x ∧ x ∈ s.vals ∧ s.received o = (none, 0, x) :: later ∧
      (∀ e ∈ later, e.1.isSome = true) ∧
      ∀ t, (s.threads t).pc.inNext = false →
        (later.filter (·.1 == some t)).map (·.2.2)
          = ((progItems progs t).drop ((s.obs o).base t)).take ((s.threads t).cnt - (s.obs o).base t) ∧
        (later.filter (·.1 == some t)).map (·.2.1)
          = List.range' ((s.obs o).base t) ((s.threads t).cnt - (s.obs o).base t) := by
  have hA := invA_reachable h.reachable
  have hB := invB_reachableQ h
  obtain ⟨x, r, hx, hr, hall⟩ := hA.handFirst o (hA.insLog o (hA.subIns o hsub))
  refine ⟨x, r.reverse, hx, hB.handIn o x hx, by simp [State.received, hr], by simpa using hall, ?_⟩
  intro t ht
  have hf := hB.full o t
  rw [(pos_of_not_inNext ht o).1] at hf
  obtain ⟨ha, hl⟩ := hf hsub (.inr hlive)
  have hp : proj t (s.obs o).rlog = proj t r := by
    rw [hr, proj_append]; simp [proj]
  rw [hp] at ha hl
  have hlen : (proj t r).reverse.length = (s.threads t).cnt - (s.obs o).base t := by
    rw [List.length_reverse]; dsimp only at hl; omega
  have hfil : (r.reverse.filter (·.1 == some t)).map (·.2) = (proj t r).reverse := by
    simp [proj, List.filter_reverse]
  have hv := Asc.vals ha
  have hi := Asc.indices ha
  rw [hlen] at hv hi
  rw [← hfil] at hv hi
  constructor
  · simpa [List.map_map, Function.comp_def] using hv
  · simpa [List.map_map, Function.comp_def] using hi

theorem stepT_threads_ne {s s' : State} {t t' : Nat} (hs : stepT s t = some s') (hne : t' ≠ t) :
    s'.threads t' = s.threads t' := by
  revert hs
  fun_cases stepT s t <;> intro hs <;> cases hs <;> exact setAt_ne _ _ hne

/-- threads without a program never move -/
theorem idle_beyond {progs : List (List Call)} {initial : Data} {s : State} (h : Reachable progs initial s) (t : Nat)
    (ht : progs.length ≤ t) : (s.threads t).pc = .idle ∧ (s.threads t).todo = [] := by
  induction h with
  | init => simp [init, List.getD, List.getElem?_eq_none ht]
  | @step s1 s2 l _ hs ih =>
    have hs := stepT_of_step hs
    by_cases hl : t = l.1
    · subst hl
      simp [stepT, ih.1, ih.2] at hs
    · rw [stepT_threads_ne hs hl]; exact ih

/-- `quiet` restricted to threads `0 .. n-1`, decidable -/
def State.quietB (s : State) (n : Nat) : Bool :=
  Conc.quietB (fun t => (s.threads t).pc.inSub) (fun t => (s.threads t).pc.inNext) n

theorem quiet_of_quietB {progs : List (List Call)} {initial : Data} {s : State} (h : Reachable progs initial s)
    (hq : s.quietB progs.length = true) : s.quiet :=
  quietB_sound (fun t ht => by rw [(idle_beyond h t ht).1]; rfl) (fun t ht => by rw [(idle_beyond h t ht).1]; rfl) hq

def replayQFrom (n : Nat) (s : State) (ls : List Label) : Option State := replayOk step (·.quietB n) s ls

theorem reachableQ_of_replayQFrom {progs : List (List Call)} {initial : Data} {s s' : State} (h : ReachableQ progs initial s)
    {ls : List Label} (hr : replayQFrom progs.length s ls = some s') : ReachableQ progs initial s' :=
  replayOk_ind step _ (fun h hs hq => .step h hs (quiet_of_quietB (.step h.reachable hs) hq)) h hr

def exProgs : List (List Call) :=
  [[.next (.int 1), .next (.int 2)], [.next (.int 10), .next (.int 20)], [.subscribe 0]]

/-- both producers push once, then observer 0 subscribes (handed 10), then both producers push concurrently -/
def exRun : List Label :=
  [(0, .call), (0, .setLast), (1, .call), (1, .setLast), (0, .snap), (1, .snap), (0, .ret), (1, .ret),
   (2, .call), (2, .isSub1), (2, .rdLast), (2, .rdErr), (2, .hfetch), (2, .hdeliver), (2, .isSub2), (2, .setTd),
   (2, .serial), (2, .setTdF), (2, .insert), (2, .setSbsc),
   (0, .call), (1, .call), (0, .setLast), (1, .setLast), (1, .snap), (0, .snap), (1, .fetch), (1, .ofetch),
   (1, .deliver), (0, .fetch), (0, .ofetch), (0, .deliver), (0, .ret), (1, .ret)]

def exFinal : Option State := replayQFrom 3 (init exProgs (.int 0)) exRun

def State.exVerdict (s : State) : Bool × Bool × List Data × List Data :=
  ((s.obs 0).subDone, (s.obs 0).fnNext, s.recvVals 0, s.vals)

theorem exFinal_verdict : exFinal.map State.exVerdict =
    some (true, true, [.int 10, .int 20, .int 2], [.int 0, .int 1, .int 10, .int 2, .int 20]) := by
  decide +kernel

/-- the hypotheses of the partial theorem are satisfiable by a non-trivial run -/
theorem partial_hypotheses_satisfiable : ∃ s, ReachableQ exProgs (.int 0) s ∧ (s.obs 0).subDone = true ∧
    (s.obs 0).fnNext = true ∧ s.recvVals 0 = [.int 10, .int 20, .int 2] := by
  obtain ⟨s, hs, hv⟩ := Option.map_eq_some_iff.mp exFinal_verdict
  simp only [State.exVerdict, Prod.mk.injEq] at hv
  exact ⟨s, reachableQ_of_replayQFrom (progs := exProgs) .init hs, hv.1, hv.2.1, hv.2.2.1⟩

end Rx.Conc.Behavior
