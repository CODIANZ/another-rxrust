import RxVerif.Theorems.C13RefReplayCore
/-
C13-REF, replay: `unsubscribe` and `subscribe` of a test user on the connectable's ReplaySubject, over either source.
`Subscription::unsubscribe` (replay_subject.rs:48-55 → forwarder teardown → subject.rs:74-83 → `on_unsubscribe` hook) is
`RefU.unsubscribe` with the hook call as its continuation; the forwarder teardown (`RefU.reap_spec`) is also how `subscribe`
ends for a subscriber that was ended meanwhile.
`subscribe` (replay_subject.rs:46-100) after `subject.observable().subscribe(..)` has registered the forwarder and the
`on_subscribe` hook has run: the replay of the snapshot, the stored terminal, storing `sbsc`, and
(replay_subject.rs:95-99) taking the forwarder down again if the subscriber was ended.
Over a COLD source, the pure side of the FIRST subscribe (the one whose `on_subscribe(1)` connects): the script reaches
the new subscriber live, through its forwarder, before its (empty) history snapshot is replayed.
-/
namespace Rx.CRef
open Rx.Sim Rx.SubjM Rx.Ref Rx.RefR Rx.RefU

theorem KRL_grow {L L' : LayR} {a c : Nat} (p : (L'.sbs ++ L'.acs).Perm (a :: (L.sbs ++ L.acs))) (h : KRL L' c) :
    KRL L c ∨ c = a := by
  rcases h with h | ⟨h10, hm⟩
  · exact .inl (.inl h)
  · exact (List.mem_cons.1 (p.mem_iff.1 hm)).symm.imp_left fun hm => .inr ⟨h10, hm⟩

section rel
variable {src : ConnM.Src} {L : LayR} {cobs cacs : List Nat} {armed : List Bool} {w : World} {st : ConnM.State}

theorem RelR.ofUsers {L' pend pend' unst unst' Hd w'} {s' : SubjM.State}
    (h : RelR src L cobs cacs armed pend unst Hd w st) (t : Step (JR L) (KRL L) w w')
    (g : Glob (L'.roots ++ L'.fwds) cobs w') (hh : w'.held = w.held) (U : UsersR L' pend' unst' w' s')
    (hp : probesOf w' = probesOf w) (hfree : ∀ c, KRL L' c → KRL L c ∨ c = w.cells.length) :
    RelR src L' cobs cacs armed pend' unst' Hd w' { st with sub := s' } :=
  Inv.ofUsers h t g hh U rfl hp (fun c hc hj => h.glob.disj c hj hc) (fun _ x => x) hfree

/-- `Subject::observable`'s closure has reached `on_subscribe(len)` for the forwarder of a new user -/
theorem RelR.reg (h : RelR src L cobs cacs armed none none [] w st) :
    RelR src (L.reg w) cobs cacs armed (some L.roots.length) (some L.roots.length) []
      (regWorld L w st.sub.observers st.sub.serial)
      { st with sub := { st.sub with serial := st.sub.serial + 1
                                     observers := st.sub.observers ++ [(st.sub.serial + 1, L.roots.length)]
                                     obs := upd st.sub.obs L.roots.length (regRec (st.sub.serial + 1)) } } := by
  have h9 : 9 < w.cells.length := lt_of_getElem?_some (RcPart.cellN h.own)
  refine h.ofUsers
    ⟨rfl, rfl, rfl, by simp [regWorld], fun j hj _ => get_app_lt _ _ _ hj, by simp [regWorld], fun i hi hK => ?_⟩
    (glob_reg h.glob _ _) rfl (UsersR.reg h.glob h.users h9) rfl fun _ => KRL_grow (by simp [LayR.reg])
  show (((w.cells ++ [_]).set 3 _).set 2 _)[i]? = _
  rw [set_get_other _ fun e => hK (.inl ⟨by omega, by omega⟩),
    set_get_other _ fun e => hK (.inl ⟨by omega, by omega⟩), get_app_lt _ _ _ hi]

/-- an edit inside the users' footprint that keeps what the ReplaySubject has stored -/
theorem RelR.edit {pend unst w'} {s' : SubjM.State} (h : RelR src L cobs cacs armed pend unst [] w st)
    (e : Edit ((L.lay unst).J L.roots.length) ((L.lay unst).K Sp L.roots.length) w w')
    (U' : UPs Sp (L.lay unst) False L.roots.length pend w' s') (hm : SubjM.mem s' = SubjM.mem st.sub)
    (hsub : ∀ p ∈ s'.observers, p ∈ st.sub.observers) :
    RelR src L cobs cacs armed pend unst [] w' { st with sub := s' } :=
  have U : UsersR .. := h.users
  have e' := e.mono (fun _ => U.lay.J_sub) fun _ => U.lay.K_sub
  h.ofUsers e'.step (h.glob.of_obs_eq e.status e.obsLen) e.held
    { up := U'
      store := U.store.frame (fun i hi => e.cells i ((rsepR U.lay).free i hi)) hm
      lay := U.lay.touch (Nat.le_of_eq e.cellsLen.symm)
      regBound := fun p hp => U.regBound p (hsub p hp) }
    e.probes fun _ => .inl

theorem RelR.ready {n : Nat} {unst} (h : RelR src L cobs cacs armed (some n) unst [] w st) :
    RelR src L cobs cacs armed none unst [] (w.setUser n fun u => { u with ready := true }) st :=
  h.ofUsers (Step.same rfl rfl rfl rfl rfl) (h.glob.of_obs_eq rfl rfl) rfl (UsersR.ready h.users) rfl fun _ => .inl

theorem stepR_unsubscribe (src : ConnM.Src) (st : ConnM.State) (u : Nat) :
    ConnM.step .replay src st (.unsubscribe u) =
      ConnM.onUnsubscribe { st with sub := (unsubscribeN .replay st.sub u).1 } (unsubscribeN .replay st.sub u).2 := rfl

/-- `Subscription::unsubscribe` of a test user -/
theorem unsubscribeR_spec (h : RelR src L cobs cacs armed none none [] w st) (u : Nat) :
    WP (.userUnsub u .done) w (fun w' => ∃ armed',
      RelR src L cobs cacs armed' none none [] w' (ConnM.step .replay src st (.unsubscribe u))) := by
  have U : UsersR .. := h.users
  rw [stepR_unsubscribe]
  exact RefU.unsubscribe (U.lay.sep h.glob) h.held U.up (k := .replay) rfl u nofun fun _ U' e _ =>
    RcInv.onUnsubCall (h.edit e U' (unsubscribeN_mem ..) (unsub_sublist ..).subset) _

end rel

def liveRecS (s1 : Nat) (items : List Data) : ObsSt :=
  { seen := true, alive := true, hook := true, inAlive := true, inHook := some s1, armed := true, log := items.map .next }

theorem subscribeB_replay_eq (s : SubjM.State) (n s1 : Nat) (l : Option Nat) (H : List Data)
    (hr : s.obs n = regRec s1) :
    subscribeB .replay s n { fresh := true, len := l, history := H } =
      match termOf s.wasError s.wasCompleted with
      | none => ({ s with obs := upd s.obs n (liveRecS s1 H) }, none)
      | some t =>
        ({ s with observers := s.observers.filter (fun p => p.1 != s1), obs := upd s.obs n (deadRec H t) },
         some (s.observers.filter (fun p => p.1 != s1)).length) := by
  simp only [subscribeB, Kind.isReplay, Bool.and_self, ↓reduceIte, subscribeH, hr]
  rw [handOver_eq _ _ _ _ (by rfl)]
  cases termOf s.wasError s.wasCompleted with
  | none => simp [reap, upd_upd, liveRecS, regRec]
  | some t => simp [reap, upd_upd, deadRec, regRec]

/-- the stored-terminal program of replay_subject.rs:77-83, in the form `RSubj.observable` unfolds to -/
def termProgR (we : Option Nat) (wc : Bool) (o : Nat) : Prog :=
  match (Data.optEnc (we.map fun (e : Nat) => Data.int (e : Int))).optDec with
  | some e => Prog.obsError o e.toInt.toNat .done
  | none => if wc = true then Prog.obsComplete o .done else .done

/-- `cellNew a; sbsc = Some(live); if !s.is_subscribed() { live.unsubscribe() }` -/
def storeProgR (root fwd sb : Nat) : Prog :=
  .cellNew (.bool true) fun a =>
    .cellWrite sb false (.pair (.int (fwd : Nat)) (.int (a : Nat))) <|
    .obsIsSub root fun alive =>
      if alive then .done else subUnsub (.pair (.int (fwd : Nat)) (.int (a : Nat)))

theorem probesOf_evs {w w' : World} {evs : List Ev} {n : Nat} (h : w'.trace = w.trace ++ evs.map (Rec.ev n)) :
    probesOf w' = probesOf w := by
  simp [probesOf, h, List.filter_eq_nil_iff, isProbe]

theorem ownObs_isSub (u c : Nat) (r : ObsSt) : (ownObs u c r).isSub = r.alive := by
  cases h : r.alive <;> simp [ownObs, Obs.isSub, h]

/-- the hand-over (replay_subject.rs:70-84): the snapshot and the stored terminal reach the freshly registered
    subscriber `o` (`items`, `we`, `wc`: the snapshot, taken before the `on_subscribe` hook ran) -/
theorem handOver_spec {sj : Subj} {Λ : Layout} {x : Prop} {m : Nat} {pend : Option Nat} {w : World} (S : Sep sj Λ m)
    {st : State} {o s1 : Nat} (h : UPs sj Λ x m pend w st) (ho : o < m) (hd : Λ.dir = false)
    (hr : st.obs o = regRec s1) (items : List Data) (we : Option Nat) (wc : Bool) :
    WP ((forEach items fun v => .obsNext (Λ.root o) v .done) ;; termProgR we wc (Λ.root o)) w fun w' =>
      UPs sj Λ x m pend w' { st with obs := upd st.obs o (handOver (st.obs o) items we wc) } ∧
      Touch (Λ.J m) NoCell w w' := by
  have U := h.users o ho
  rw [hr] at U
  obtain ⟨rd, a, hua, hrest⟩ := U.user
  have hroot : w.obs[Λ.root o]? = some (ownObs o (Λ.sb o) (regRec s1)) := by rw [U.root, rootObs_fwd hd]
  -- the world afterwards: the events are in the trace, a terminal has cleared the root observer
  have fin : ∀ (obs' : List Obs) (tr : List Rec) (al : Bool) (evs : List Ev), tr = w.trace ++ evs.map (Rec.ev o) →
      obs'.length = w.obs.length → (∀ i, i ≠ Λ.root o → obs'[i]? = w.obs[i]?) →
      obs'[Λ.root o]? = some (ownObs o (Λ.sb o) { regRec s1 with alive := al, log := evs }) →
      UPs sj Λ x m pend { w with obs := obs', trace := tr }
        { st with obs := upd st.obs o { regRec s1 with alive := al, log := evs } } ∧
      Touch (Λ.J m) NoCell w { w with obs := obs', trace := tr } := by
    intro obs' tr al evs htr hl hoth hro
    refine ⟨h.patch S ho h.cellO (fun _ _ _ => rfl) rfl (fun _ _ => rfl) (fun i hi _ => hoth i hi)
      (fun u hu => by rw [logOf_append_evs htr, if_neg (Ne.symm hu), List.append_nil]) ?_ h.keys h.regd,
      ⟨rfl, rfl, rfl, rfl, rfl, hl, fun j hj => hoth j fun e => hj ⟨o, ho, .inl e⟩, rfl, fun _ _ => rfl, probesOf_evs htr⟩⟩
    exact
      { U with
        user := ⟨rd, a, hua, hrest⟩
        root := by rw [rootObs_fwd hd]; exact hro
        fwd := fun hreg => (hoth _ (Ne.symm (S.self ho hreg).1)).trans (U.fwd hreg)
        log := by rw [logOf_append_evs htr, U.log, if_pos rfl]; rfl
        dead := fun hh => by cases hh }
  refine WP.seq ((replayLoop_spec items _ o w _ _ hroot rfl rfl rfl hua rfl).conseq ?_)
  rintro _ rfl
  unfold termProgR
  refine (termProg_spec we wc _ o { w with trace := w.trace ++ items.map fun v => Rec.ev o (.next v) } _ _ hroot rfl rfl rfl
    hua rfl).conseq ?_
  rintro _ rfl
  rw [hr, handOver_eq _ _ _ _ rfl]
  cases hterm : termOf we wc with
  | none => exact fin _ _ true (items.map .next) (by simp) rfl (fun _ _ => rfl) hroot
  | some t =>
    simp only [World.deliverTo, termOf_terminal hterm, ↓reduceIte, World.setObs, World.emit]
    refine fin _ _ false (items.map .next ++ [t]) ?_ (List.length_modify ..)
      (fun i hi => modify_get_other _ _ (Ne.symm hi)) ?_
    · simp
    · rw [modify_get_same _ _ hroot]; simp [ownObs, regRec, Obs.cleared]

section rel
variable {src : ConnM.Src} {L : LayR} {cobs cacs : List Nat} {armed : List Bool} {w : World} {st : ConnM.State}

theorem handOverR_spec {n s1 : Nat} (h : RelR src L cobs cacs armed (some n) (some n) [] w st)
    (hr : st.sub.obs n = regRec s1) :
    WP ((forEach st.sub.items fun x => .obsNext (rootAt L.roots n) x .done) ;;
        termProgR st.sub.wasError st.sub.wasCompleted (rootAt L.roots n)) w fun w' =>
      RelR src L cobs cacs armed (some n) (some n) [] w'
        { st with sub := { st.sub with
            obs := upd st.sub.obs n (handOver (st.sub.obs n) st.sub.items st.sub.wasError st.sub.wasCompleted) } } :=
  have U : UsersR .. := h.users
  have hnl : n < L.roots.length := by have := U.lay.unstLast n rfl; omega
  (handOver_spec (U.lay.sep h.glob) U.up hnl rfl hr _ _ _).conseq fun _ ⟨U', t⟩ =>
    h.edit (.ofTouch (t.mono (fun _ a => a) nofun)) U' rfl fun _ hp => hp

/-- `sbsc` is stored; a subscriber that has been ended by now gets its forwarder taken down again
    (replay_subject.rs:94-99) — `reap` -/
theorem storeR_spec {n : Nat} (h : RelR src L cobs cacs armed (some n) (some n) [] w st) :
    WP (storeProgR (rootAt L.roots n) (rootAt L.fwds n) (rootAt L.sbs n)) w fun w4 =>
      WP (.userReady n .done) w4 fun w' => ∃ armed',
        RelR src (L.store w.cells.length) cobs cacs armed' none none [] w'
          (ConnM.onUnsubscribe
            { st with sub :=
              (reap { st.sub with obs := upd st.sub.obs n { st.sub.obs n with armed := true } } n).1 }
            (reap { st.sub with obs := upd st.sub.obs n { st.sub.obs n with armed := true } } n).2) := by
  have U : UsersR .. := h.users
  have X : RcPart .. := h.own
  have Y := U.lay
  have hn := Y.unstLast n rfl
  have hnl : n < L.roots.length := by omega
  have UN := U.up.users n hnl
  have hsbn := Y.cellsGe _ (Y.sb_mem hnl)
  unfold storeProgR
  refine wp_cellNew (wp_cellWrite X.held ?_)
  have h1 : RelR src (L.store w.cells.length) cobs cacs armed (some n) none [] (storeWorld L w n)
      { st with sub := { st.sub with obs := upd st.sub.obs n { st.sub.obs n with armed := true } } } :=
    h.ofUsers
      ⟨rfl, rfl, rfl, Nat.le_refl _, fun _ _ _ => rfl, by simp [storeWorld],
        fun i hi hK => (set_get_other _ fun e : rootAt L.sbs n = i => hK (e ▸ .inr ⟨hsbn.1, Y.sb_mem hnl⟩)).trans
          (get_app_lt _ _ _ hi)⟩
      (h.glob.of_obs_eq rfl rfl) rfl (U.stored h.glob) rfl
      fun _ => KRL_grow (by simpa [LayR.store] using List.perm_append_singleton w.cells.length (L.sbs ++ L.acs))
  have U1 : UsersR .. := h1.users
  refine wp_obsIsSub (show (storeWorld L w n).obs[_]? = some _ from UN.root) ?_
  rw [show (L.lay (some n)).rootObs Sp n (st.sub.obs n) = ownObs n (rootAt L.sbs n) (st.sub.obs n) from rfl,
    ownObs_isSub]
  rcases Bool.eq_false_or_eq_true (st.sub.obs n).alive with ha | ha
  · rw [if_pos ha, reap_idle _ _ (.inl (by simp [ha])), onUnsubscribe_none]
    exact WP.done (wp_userReady (WP.done ⟨armed, h1.ready⟩))
  · rw [if_neg (by simp [ha])]
    have e : hdl (rootAt L.fwds n) w.cells.length =
        hdl (((L.store w.cells.length).lay none).fwd n) (((L.store w.cells.length).lay none).ac n) := by
      show _ = hdl _ (rootAt (L.acs ++ _) n)
      rw [← show L.acs.length = n by have := Y.lenA; simp at this; omega, rootAt_append_last]; rfl
    show WP (subUnsub (hdl (rootAt L.fwds n) w.cells.length)) (storeWorld L w n) _
    rw [e]
    refine reap_spec (U1.lay.sep h1.glob) h1.held U1.up hnl nofun (by simp [ha]) fun w5 U5 t _ => ?_
    exact (RcInv.onUnsubCall (h1.edit (.ofTouch t) U5 rfl (reap_subset _ _)) _).conseq fun _ ⟨a, h6⟩ =>
      wp_userReady (WP.done ⟨a, RelR.ready h6⟩)

theorem subscribeTailR_spec {n s1 : Nat} (l : Option Nat)
    (h : RelR src L cobs cacs armed (some n) (some n) [] w st) (hr : st.sub.obs n = regRec s1) :
    WP ((forEach st.sub.items fun x => .obsNext (rootAt L.roots n) x .done) ;;
        termProgR st.sub.wasError st.sub.wasCompleted (rootAt L.roots n)) w (fun w3 =>
      WP (storeProgR (rootAt L.roots n) (rootAt L.fwds n) (rootAt L.sbs n)) w3 (fun w4 =>
        WP (.userReady n .done) w4 (fun w' => ∃ L' armed', L'.roots = L.roots ∧
          RelR src L' cobs cacs armed' none none [] w'
            (ConnM.onUnsubscribe
              { st with sub := (subscribeB .replay st.sub n { fresh := true, len := l, history := st.sub.items }).1 }
              (subscribeB .replay st.sub n { fresh := true, len := l, history := st.sub.items }).2)))) := by
  refine (handOverR_spec h hr).conseq fun w3 h3 => (storeR_spec h3).conseq fun w4 h4 => h4.conseq ?_
  rintro w' ⟨a, h'⟩
  simp only [upd_upd, upd_same] at h'
  exact ⟨L.store w3.cells.length, a, rfl, h'⟩

end rel

/-- what is known of the ReplaySubject while the script runs: its subscriber `n` is either ended, or alive, the only
    entry of the map (under serial `s1`), and no terminal is stored -/
structure FoldInv (n s1 : Nat) (s : SubjM.State) : Prop where
  live : (s.obs n).alive = true →
    (s.obs n).inAlive = true ∧ s.observers = [(s1, n)] ∧ s.wasError = none ∧ s.wasCompleted = false

theorem deliver_alive (ev : Ev) (n : Nat) : ∀ (l : List (Nat × Nat)) (f : Nat → ObsSt),
    (deliver .replay ev l f n).alive = true → (f n).alive = true
  | [], _, h => h
  | p :: rest, f, h => by
    have := deliver_alive ev n rest _ h
    rw [upd_apply] at this
    split at this
    · subst_vars
      rw [recvK_alive] at this
      split at this
      · exact (Bool.and_eq_true_iff.1 this).1
      · exact this
    · exact this

theorem FoldInv.emit {n s1 : Nat} {s : SubjM.State} (h : FoldInv n s1 s) (ev : Ev) :
    FoldInv n s1 (SubjM.emit .replay s ev) := by
  refine ⟨fun ha => ?_⟩
  obtain ⟨hia, hobs, hwe, hwc⟩ := h.live (deliver_alive ev n _ _ ha)
  -- the only observer is `n`; a terminal would have ended it
  have hd : (SubjM.emit .replay s ev).obs n = recvK .replay ev (s.obs n) := by
    show deliver .replay ev s.observers s.obs n = _; rw [hobs]; simp [deliver, upd]
  rw [hd] at ha ⊢
  cases ev with
  | next v => exact ⟨by simp [recvK, hia, Ev.isTerminal], hobs, hwe, hwc⟩
  | _ => simp [recvK, hia, Ev.isTerminal] at ha

theorem FoldInv.fold {n s1 : Nat} (m : Nat) : ∀ (script : List Ev) (st : ConnM.State), FoldInv n s1 st.sub →
    FoldInv n s1 (script.foldl (fun s ev => ConnM.connRecv .replay s m ev) st).sub :=
  fun script _ h => List.foldlRecOn (motive := fun s => FoldInv n s1 s.sub) script _ h fun s hs ev _ =>
    ConnM.connRecv_sub_pres (k := .replay) (Q := FoldInv n s1) (fun _ ev h => h.emit ev) s m ev hs

theorem FoldInv.onSubscribe {n s1 : Nat} (script : List Ev) {st : ConnM.State} (l : Option Nat)
    (h : FoldInv n s1 st.sub) : FoldInv n s1 (ConnM.onSubscribe .replay (.cold script) st l).sub :=
  ConnM.onSubscribe_sub_pres (k := .replay) (Q := FoldInv n s1) (fun _ ev h => h.emit ev) _ st l h

theorem FoldInv.handOver {n s1 : Nat} {s : SubjM.State} (h : FoldInv n s1 s) :
    handOver (s.obs n) [] s.wasError s.wasCompleted = s.obs n := by
  cases ha : (s.obs n).alive with
  | true => obtain ⟨_, _, hwe, hwc⟩ := h.live ha; rw [hwe, hwc]; rfl
  | false => exact ConnM.handOver_dead _ _ _ _ ha

/-- so `subscribeB` for the first subscriber only stores `sbsc` and, if the script ended the subscriber, takes the
    forwarder down again (replay_subject.rs:95-99) -/
theorem FoldInv.subscribeB {n s1 : Nat} {s : SubjM.State} (h : FoldInv n s1 s) (l : Option Nat) :
    subscribeB .replay s n { fresh := true, len := l, history := [] } =
      reap { s with obs := upd s.obs n { s.obs n with armed := true } } n := by
  simp only [SubjM.subscribeB, subscribeH, Kind.isReplay, Bool.and_self, ↓reduceIte, h.handOver]

theorem subscribeB_fire_alive (s : SubjM.State) (n : Nat) (l : Option Nat) (ha : (s.obs n).alive = true)
    (hwe : s.wasError = none) (hwc : s.wasCompleted = false) :
    subscribeB .replay s n { fresh := true, len := l, history := [] } =
      ({ s with obs := upd s.obs n { s.obs n with armed := true } }, none) := by
  have hh : handOver (s.obs n) [] s.wasError s.wasCompleted = s.obs n := by rw [hwe, hwc]; rfl
  simp only [SubjM.subscribeB, subscribeH, Kind.isReplay, Bool.and_self, ↓reduceIte, hh]
  exact reap_idle _ _ (.inl (by simp [upd, ha]))

theorem subscribeB_fire_dead (s : SubjM.State) (n s1 : Nat) (l : Option Nat) (ha : (s.obs n).alive = false)
    (hin : (s.obs n).inHook = some s1) :
    subscribeB .replay s n { fresh := true, len := l, history := [] } =
      ({ s with observers := s.observers.filter (fun p => p.1 != s1)
                obs := upd s.obs n { s.obs n with armed := false, inAlive := false, inHook := none } },
       some (s.observers.filter (fun p => p.1 != s1)).length) := by
  rw [FoldInv.subscribeB (s1 := s1) ⟨fun h => by simp [ha] at h⟩]
  simp [reap, upd_upd, ha, hin, upd]

end Rx.CRef
