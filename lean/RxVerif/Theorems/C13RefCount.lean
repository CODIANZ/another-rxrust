import RxVerif.Theorems.C13RefPublish
/-
C13-REF, ref_count — model A's `refCountHooks` (Machine/Subjects.lean, ref_count.rs:36-92) refines `ConnM` (kind
`.refCount`), over a hot plain `Subject` and over the harness' cold source.

World of `progRC` / `progRCc`: cells 0,1 = the source Subject H (hot; unused over a cold source), 2,3 = the
connectable's subject S, 4 = `connecting`, 5 = `subscription` (`Option<Subscription>`), 6 = `cancelled`, then one armed
flag per source subscription; slots 0,1 = hooks of H (never set), 2 = S.on_subscribe, 3 = S.on_unsubscribe (the two
closures of ref_count.rs); observable 0 = the source, 1 = `S.observable`.
Over a cold source the script runs inside the FIRST subscriber's `on_subscribe` hook, i.e. while that subscriber's
`subscribe` has not returned (`pend`), under S's slot guard (`Hd`).
-/
namespace Rx.CRef
open Rx.Sim Rx.SubjM Rx.Ref Rx.RefR

def rcC : RefC := ⟨4, 5, 6⟩

theorem rcC_ok : RcOk rcC := ⟨by decide, by decide, by decide, by decide, by decide, by decide⟩

theorem rcC_KS : ∀ i, RcCells rcC i → ¬ KS i := by
  intro i hi hk
  rcases hi with rfl | rfl | rfl <;> rcases hk with hk | hk <;> cases hk

/-- the simulation relation for `ref_count`; `pend` / `Hd` ≠ none / [] only inside a hook -/
def RelC (src : ConnM.Src) (roots cobs cacs : List Nat) (armed : List Bool) (pend : Option Nat)
    (Hd : List (LockId × Bool)) (w : World) (st : ConnM.State) : Prop :=
  RcInv src (plainSide roots pend) rcC rcC_ok Sp Sp.observable cobs cacs armed Hd w st

section
variable {src : ConnM.Src} {roots cobs cacs : List Nat} {armed : List Bool} {w : World} {st : ConnM.State}

theorem stepC_subscribe (st : ConnM.State) (n : Nat) (hu : (st.sub.obs n).seen = false) :
    ConnM.step .refCount src st (.subscribe n) =
      ConnM.onSubscribe .refCount src
        { st with sub := { st.sub with serial := st.sub.serial + 1
                                       observers := st.sub.observers ++ [(st.sub.serial + 1, n)]
                                       obs := upd st.sub.obs n (freshRec st.sub.serial) } }
        (some (st.sub.observers.length + 1)) := by
  simp [ConnM.step, ConnM.Kind.counts, ConnM.Kind.subj, subscribeA, hu, subscribeB, Kind.isReplay, subscribeH,
    ConnM.onUnsubscribe, register, freshRec]

theorem subscribeC_spec (h : RelC src roots cobs cacs armed none [] w st) :
    WP (.userSub 1 noReact .done) w (fun w' => ∃ cobs' cacs' armed',
      RelC src (roots ++ [w.obs.length]) cobs' cacs' armed' none [] w'
        (ConnM.step .refCount src st (.subscribe roots.length))) := by
  have U : UsersP .. := h.users
  have X : RcPart .. := h.own
  rw [stepC_subscribe _ _ (U.up.unseen_seen (Nat.le_refl _))]
  refine userSub_pre X.obsvS h.held U ?_
  -- inside the hook the new user is registered but its `subscribe` has not returned
  refine (RcInv.onSubCall .refCount rfl (Inv.subUser h) _).conseq ?_
  rintro w2 ⟨c, ca, a, h2⟩
  exact wp_userReady (WP.done ⟨c, ca, a, Inv.readyP h2⟩)

theorem unsub_snd_live (s : SubjM.State) (u s0 : Nat) (hs : (s.obs u).seen = true) (hk : (s.obs u).hook = true)
    (hin : (s.obs u).inHook = some s0) :
    (unsubscribeN .plain s u).2 = some (s.observers.filter fun p => p.1 != s0).length := by
  simp [unsubscribeN, hs, hk, hin, Kind.isPlain]

theorem unsub_snd_noop (k : SubjM.Kind) (s : SubjM.State) (u : Nat) (hk : (s.obs u).hook = false) :
    (unsubscribeN k s u).2 = none := by
  unfold unsubscribeN; split <;> simp [hk]

/-- the `on_unsubscribe` hook is `ConnM.onUnsubscribe` -/
theorem unsubscribeC_spec (h : RelC src roots cobs cacs armed none [] w st) (u : Nat) :
    WP (.userUnsub u .done) w (fun w' => ∃ armed',
      RelC src roots cobs cacs armed' none [] w' (ConnM.step .refCount src st (.unsubscribe u))) := by
  simp only [ConnM.step, ConnM.Kind.counts, ConnM.Kind.subj, ↓reduceIte]
  exact Inv.unsubscribeP h u fun _ h' =>
    RcInv.onUnsubCall (st := { st with sub := (unsubscribeN .plain st.sub u).1 }) h' _

end

/-- the calls of a `ref_count` case over a hot subject (`connect` / `disconnect` do not exist for it: no-ops) -/
def callCG (H : Subj) (sid : Nat) : ConnM.Call → Prog
  | .subscribe _ => .userSub sid noReact .done
  | .unsubscribe o => .userUnsub o .done
  | .connect => .done
  | .disconnect => .done
  | .srcNext v => H.next v
  | .srcError e => H.error e
  | .srcComplete => H.complete

/-- the calls of a `ref_count` / `replay` case over a cold source (`connect` / `disconnect` do not exist for them,
    nothing can be pushed into a cold source: no-ops, as in `ConnM.step`) -/
def callCcG (sid : Nat) : ConnM.Call → Prog
  | .subscribe _ => .userSub sid noReact .done
  | .unsubscribe o => .userUnsub o .done
  | _ => .done

/-- `(subject a plain) (conn x ref_count (ref a))` then the calls (Machine/Case.lean `stepProg`) -/
def progRC (cs : List ConnM.Call) : Prog :=
  subjNew fun H => .obsvNew H.observable fun hid => subjNew fun S =>
  .cellNew (.bool false) fun c => .cellNew .lnil fun sb => .cellNew (.bool false) fun cn =>
  .obsvNew S.observable fun sid =>
  refCountHooks ⟨c, sb, cn⟩ (fun o => .obsvSub hid o .done) S.onSub S.onUnsub
    (fun x => S.next x) (fun e => S.error e) S.complete ;;
  forEach cs (callCG H sid)

/-- `(conn x ref_count (cold 0 ev…))` then the calls (the first Subject is never used) -/
def progRCc (script : List Ev) (cs : List ConnM.Call) : Prog :=
  subjNew fun _ => .obsvNew (coldSrc script) fun hid => subjNew fun S =>
  .cellNew (.bool false) fun c => .cellNew .lnil fun sb => .cellNew (.bool false) fun cn =>
  .obsvNew S.observable fun sid =>
  refCountHooks ⟨c, sb, cn⟩ (fun o => .obsvSub hid o .done) S.onSub S.onUnsub
    (fun x => S.next x) (fun e => S.error e) S.complete ;;
  forEach cs (callCcG sid)

/-- `RelC` between two calls, with the layout hidden -/
def SimC (src : ConnM.Src) (n : Nat) (w : World) (st : ConnM.State) : Prop :=
  ∃ roots cobs cacs armed, roots.length = n ∧ RelC src roots cobs cacs armed none [] w st

theorem callC_spec {src} {call : ConnM.Call → Prog} (hcall : ∀ c, call c = callsOf src .done .done c) {n w st}
    (c : ConnM.Call) (h : SimC src n w st) (hc : wfC n [c] = true) :
    WP (call c) w (fun w' => SimC src (n + subsC [c]) w' (ConnM.step .refCount src st c)) := by
  obtain ⟨roots, cobs, cacs, armed, rfl, h⟩ := h
  exact callsOf_spec hcall c hc ⟨_, _, _, _, rfl, h⟩
    ((subscribeC_spec h).conseq fun w' ⟨c', ca', a', h'⟩ => ⟨_, c', ca', a', List.length_append, h'⟩)
    (fun u => (unsubscribeC_spec h u).conseq fun w' ⟨a', h'⟩ => ⟨_, _, _, a', rfl, h'⟩)
    (WP.done ⟨_, _, _, _, rfl, h⟩) (WP.done ⟨_, _, _, _, rfl, h⟩)
    fun e ev => by
      subst e; exact (RcInv.hotEmit .refCount rfl h ev).conseq fun w' h' => ⟨_, _, _, _, rfl, h'⟩

/-- the world after the allocations and the two `slotSet`s of `progRC` / `progRCc` -/
def w0C (src : ConnM.Src) : World :=
  w0 src [.lnil, .int 0, .bool false, .lnil, .bool false]
    [some (onSubHook rcC srcC fnP feP fcP), some (onUnsubHook rcC)] [Sp.observable]

theorem relC_init (src : ConnM.Src) : RelC src [] [] [] [] none [] (w0C src) ConnM.init :=
  Inv.init src _ _ _ rfl (UsersP.init rfl rfl rfl rfl) ⟨rfl, rfl, rfl, rfl, rfl, rfl, rfl, nofun⟩ rcC_KS

theorem progRC_spec (cs : List ConnM.Call) (hwf : wfC 0 cs = true) :
    WP (progRC cs) {} (fun w' => SimC .hot (0 + subsC cs) w' (ConnM.run .refCount .hot cs)) :=
  -- 17 steps: 13 allocations (two `subjNew` of two cells and two slots each, two `obsvNew`, the three cells), then
  -- `;;`, the two `slotSet`s of `refCountHooks` and its `.done`
  wp_steps 17 (forEach cs (callCG Hp 1)) (w0C .hot) (fun _ _ => rfl)
    (calls_sim (callC_spec fun c => by cases c <;> rfl) cs ⟨_, _, _, _, rfl, relC_init .hot⟩ hwf)

theorem progRCc_spec (script : List Ev) (cs : List ConnM.Call) (hwf : wfC 0 cs = true) :
    WP (progRCc script cs) {} (fun w' =>
      SimC (.cold script) (0 + subsC cs) w' (ConnM.run .refCount (.cold script) cs)) :=
  wp_steps 17 (forEach cs (callCcG 1)) (w0C (.cold script)) (fun _ _ => rfl)
    (calls_sim (callC_spec fun c => by cases c <;> rfl) cs ⟨_, _, _, _, rfl, relC_init (.cold script)⟩ hwf)

def FinalC (cs : List ConnM.Call) (w : World) : Prop := ∃ n0, ∀ fuel, n0 ≤ fuel → run fuel [progRC cs] {} = w

def FinalCc (script : List Ev) (cs : List ConnM.Call) (w : World) : Prop :=
  ∃ n0, ∀ fuel, n0 ≤ fuel → run fuel [progRCc script cs] {} = w

theorem FinalC.unique {cs w w'} (h : FinalC cs w) (h' : FinalC cs w') : w = w' := FinalOf.unique h h'

theorem FinalCc.unique {script cs w w'} (h : FinalCc script cs w) (h' : FinalCc script cs w') : w = w' :=
  FinalOf.unique h h'

theorem refCount_refines (cs : List ConnM.Call) (hwf : wfC 0 cs = true) :
    ∃ w, FinalC cs w ∧ AgreesC w (ConnM.run .refCount .hot cs) := by
  obtain ⟨w, hf, _, _, _, _, _, h⟩ := refines_of (progRC_spec cs hwf)
  exact ⟨w, hf, AgreesC.of_parts h.glob (RcPart.held h.own) (.of_up (UsersP.up h.users)) h.conns rfl rfl⟩

theorem refCount_refines_cold (script : List Ev) (cs : List ConnM.Call) (hwf : wfC 0 cs = true) :
    ∃ w, FinalCc script cs w ∧ AgreesCold w (ConnM.run .refCount (.cold script) cs) := by
  obtain ⟨w, hf, _, _, _, _, _, h⟩ := refines_of (progRCc_spec script cs hwf)
  exact ⟨w, hf, AgreesCold.of_parts h.glob (RcPart.held h.own) (.of_up (UsersP.up h.users)) h.conns⟩

#print axioms refCount_refines
#print axioms refCount_refines_cold

end Rx.CRef
