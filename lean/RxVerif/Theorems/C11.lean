import RxVerif.Conc.Sctl
import RxVerif.Conc.TakeAmbZip
import RxVerif.Theorems.ListFacts
/-
C11 — combinators fed from several threads conserve items and terminate exactly once.

Property (verbatim): "When the inputs of merge, flat_map, zip, concat or amb emit from different threads and none fails,
the subscriber receives every item (merge/flat_map/concat: exactly the multiset of all inputs' items, each input's items
in that input's order; zip: exactly the tuples pairing the i-th items) and exactly one complete, after the last item.
Under any interleaving amb lets exactly one input through, take(n) never delivers more than n items, and no subscriber
ever receives complete twice or error twice."

All theorems quantify over ALL scripts, ALL numbers of inputs and ALL interleavings (reachable states of the
lock-granularity LTSs in `RxVerif/Conc/Sctl.lean` and `RxVerif/Conc/TakeAmbZip.lean`); they are proved by inductive
invariants.  For merge, `Step` lists the micro-steps of `Sctl.step` one straight-line branch at a time (`step_inv`);
an invariant is carried over a step by an `upd` lemma ("thread `i` and these shared fields are replaced"; `InvB` and
`AmbP.Inv` also have a `frame` corollary for the steps that leave their fields alone), so that each proof only spells out
the steps that matter.  When no input fails (`InvN`), a step keeps the `Phase` on its own and says how it touched the log and
the own `todo` (`LogStep`); conservation (`Conserv`) follows from that alone.
The two counting arguments (at most one terminal: `Budget`, for merge, take and amb; take's emit permits: `TakeP.Permits`)
are instances of one conservation law over the thread list, `Tokens`.
`decide` is used for concrete non-vacuity examples and witnesses (and for the inequalities on `Bool` in `Budget.weaken`
and `Budget.claim`).

Main theorems (merge / StreamController; the first five hold for ALL scripts, failing inputs and a concurrent
  unsubscriber included):  `never_two_terminals`, `finalize_never_unsubscribes`, `terminal_after_own_nexts`,
  `map_empty_all_done`, `last_one_out`;  with "no input fails, nobody unsubscribes": `last_one_out_unique`,
  `merge_prefix`, `merge_conserves`.
take: `take_at_most_n`, `take_never_two_terminals`;  amb: `amb_one_winner`, `amb_never_two_terminals`;
zip: `zip_tuples_safe`, `zip_tuples`.
Witnesses (true of the code as modelled, all OUTSIDE the literal claims of C11): `two_empty_observers_with_error`,
  `next_after_error_possible`, `unsubscribe_cuts_delivery`, `next_after_unsubscribe_returned_possible`,
  `take_next_after_complete_possible`, `take_may_lose_item`, `zip_out_of_order_possible`.
NOT modelled: flat_map (inputs registered dynamically by `new_observer` inside the outer `next`) and concat (inputs
subscribed one after the other, `sink_complete_force` at the end); they share `sink_next`/`sink_complete` with merge.
The `Zip` LTS has no terminal events: "exactly one complete, after the last item" is proved for merge (`merge_conserves`).
-/
namespace Rx.C11
open Rx Rx.Conc.Sctl

theorem countP_set_eq {α : Type} (p : α → Bool) {l : List α} {i : Nat} {a a' : α} (hi : l[i]? = some a) :
    (l.set i a').countP p + (if p a then 1 else 0) = l.countP p + (if p a' then 1 else 0) := by
  obtain ⟨hlt, rfl⟩ := List.getElem?_eq_some_iff.mp hi
  rw [List.countP_set hlt]
  have : (if p l[i] = true then 1 else 0) ≤ List.countP p l := by
    split
    · rename_i h
      exact List.countP_pos_iff.mpr ⟨l[i], List.getElem_mem hlt, h⟩
    · omega
  omega

def termCount (log : List (Nat × Ev)) : Nat := log.countP fun p => p.2.isTerminal

theorem termCount_logNext (l : List (Nat × Ev)) (i : Nat) (o : List Data) : termCount (logNext l i o) = termCount l := by
  cases o <;> simp [logNext, termCount, List.countP_append, Ev.isTerminal]

theorem mem_logNext {log : List (Nat × Ev)} {i : Nat} {todo : List Data} {p : Nat × Ev}
    (h : p ∈ logNext log i todo) : p ∈ log ∨ ∃ x, p = (i, Ev.next x) := by
  cases todo with
  | nil => exact .inl h
  | cons x r => exact (List.mem_append.mp h).imp_right fun h => ⟨x, List.mem_singleton.mp h⟩

theorem termCount_append_term (l : List (Nat × Ev)) (i : Nat) (t : Term) :
    termCount (l ++ [(i, t.ev)]) = termCount l + 1 := by
  cases t <;> simp [termCount, List.countP_append, Ev.isTerminal, Term.ev]

/-- A conservation law over the thread list: the threads that hold a token (`p`) and the tokens already spent are paid
    for by the tokens issued.  A step of thread `i` leaves the count alone (`move`), makes a test under the lock and takes
    a token only if the test issued one (`take`), or spends the token it holds (`spend`). -/
def Tokens {α : Type} (p : α → Bool) (ths : List α) (spent issued : Nat) : Prop := ths.countP p + spent ≤ issued

section
variable {α : Type} {p : α → Bool} {ths : List α} {m m' B B' i : Nat} {a a' : α}

theorem Tokens.init (h : ∀ a ∈ ths, p a = false) : Tokens p ths 0 B := by
  unfold Tokens
  rw [List.countP_eq_zero.mpr fun a ha => ne_true_of_eq_false (h a ha)]
  exact Nat.zero_le _

theorem Tokens.mono (h : Tokens p ths m B) (hB : B ≤ B') : Tokens p ths m B' := Nat.le_trans h hB

theorem Tokens.spent_le (h : Tokens p ths m B) : m ≤ B := Nat.le_trans (Nat.le_add_left _ _) h

theorem Tokens.move (h : Tokens p ths m B) (hi : ths[i]? = some a) (hp : p a' = true → p a = true) (hm : m' = m) :
    Tokens p (ths.set i a') m' B := by
  have := countP_set_eq p (a' := a') hi
  unfold Tokens at h ⊢
  cases hpa' : p a'
  · simp only [hpa', Bool.false_eq_true, if_false] at this
    omega
  · simp only [hpa', hp hpa', if_true] at this
    omega

theorem Tokens.take (h : Tokens p ths m B) (hi : ths[i]? = some a) (hB : B ≤ B') (hp : p a' = true → B < B') :
    Tokens p (ths.set i a') m B' := by
  have hc := countP_set_eq p (a' := a') hi
  unfold Tokens at h ⊢
  cases hpa' : p a'
  · simp only [hpa', Bool.false_eq_true, if_false] at hc
    split at hc <;> omega
  · have := hp hpa'
    simp only [hpa', if_true] at hc
    split at hc <;> omega

theorem Tokens.spend (h : Tokens p ths m B) (hi : ths[i]? = some a) (hp : p a = true) (hp' : p a' = false)
    (hm : m' ≤ m + 1) : Tokens p (ths.set i a') m' B := by
  have := countP_set_eq p (a' := a') hi
  unfold Tokens at h ⊢
  simp [hp, hp'] at this
  omega

end

/-- At most one terminal: the tokens are held by the threads that have claimed the subscriber's `fn_next` and not yet
    started their terminal callback (`pre`), spent by the terminal callbacks already started, and the only one ever
    issued is the `fn_next` that is gone.  The same count serves merge, take and amb. -/
def Budget {α : Type} (pre : α → Bool) (ths : List α) (log : List (Nat × Ev)) (sN : Bool) : Prop :=
  Tokens pre ths (termCount log) (if sN then 0 else 1)

section
variable {α : Type} {pre : α → Bool} {ths : List α} {log : List (Nat × Ev)} {sN : Bool} {i : Nat} {a a' : α}

theorem Budget.weaken (h : Budget pre ths log sN) : Budget pre ths log false :=
  Tokens.mono h (by cases sN <;> decide)

theorem Budget.mono {sN' : Bool} (h : Budget pre ths log sN) (hN : sN' = true → sN = true) : Budget pre ths log sN' := by
  cases sN' with
  | false => exact h.weaken
  | true => exact hN rfl ▸ h

/-- the claim of `fn_next` (or its being cleared): it is gone afterwards, and only who found it there holds a token -/
theorem Budget.claim (h : Budget pre ths log sN) (hi : ths[i]? = some a) (hp : pre a' = true → sN = true) :
    Budget pre (ths.set i a') log false :=
  Tokens.take h hi (by cases sN <;> decide) fun hp' => by rw [hp hp']; decide

theorem Budget.le_one (h : Budget pre ths log sN) : ths.countP pre + termCount log ≤ 1 := by
  unfold Budget Tokens at h
  split at h <;> omega

theorem Budget.terminals_le_one (h : Budget pre ths log sN) : (log.filter fun p => p.2.isTerminal).length ≤ 1 := by
  rw [← List.countP_eq_length_filter]
  exact Nat.le_trans (Nat.le_add_left _ _) h.le_one

end

/-- One enabled micro-step of thread `l.tid`, by program point and outcome of its test: the thread goes from
    `⟨d, f, u, pc⟩` to the `Thread` at the end, the rest of the state from `s` to the `State` before it (whose `threads`
    are still those of `s`). -/
inductive Step (s : State) (l : Label) (d : List Data) (f : Option Term) (u : Bool) : Pc → State → Thread → Prop
  | call : d ≠ [] → Step s l d f u .idle s ⟨d, f, u, .nFetchI⟩
  | finish {t} : d = [] → f = some t → Step s l d f u .idle s ⟨d, none, u, .tClaimI t⟩
  | unsub : d = [] → f = none → u = true → Step s l d f u .idle s ⟨d, f, false, .uN⟩
  | nFetchI : get s.iN l.tid = true → Step s l d f u .nFetchI s ⟨d, f, u, .nSub⟩
  | nFetchIGone : get s.iN l.tid = false → Step s l d f u .nFetchI s ⟨d.tail, f, u, .idle⟩
  | nSub : s.isSub = true → Step s l d f u .nSub s ⟨d, f, u, .nFetch⟩
  | nSubGone : s.isSub = false → Step s l d f u .nSub s ⟨d.tail, f, u, .fLock⟩
  | nFetch : s.sN = true → Step s l d f u .nFetch s ⟨d, f, u, .nStart⟩
  | nFetchGone : s.sN = false → Step s l d f u .nFetch s ⟨d.tail, f, u, .idle⟩
  | nStart : Step s l d f u .nStart { s with log := logNext s.log l.tid d } ⟨d.tail, f, u, .nCb⟩
  | nCb : Step s l d f u .nCb s ⟨d, f, u, .idle⟩
  | tClaimI {t} : get s.iN l.tid = true →
      Step s l d f u (.tClaimI t) { s with iN := s.iN.set l.tid false } ⟨d, f, u, .tClrI t⟩
  | tClaimIGone {t} : get s.iN l.tid = false →
      Step s l d f u (.tClaimI t) { s with iN := s.iN.set l.tid false } ⟨d, f, u, .idle⟩
  | tClrI {t} : Step s l d f u (.tClrI t)
      { s with iE := if t.isC then s.iE.set l.tid false else s.iE, iC := if t.isC then s.iC else s.iC.set l.tid false }
      ⟨d, f, u, .tTakeI t⟩
  | tTakeI {t} : (if t.isC then get s.iC l.tid else get s.iE l.tid) = true → Step s l d f u (.tTakeI t)
      { s with iC := if t.isC then s.iC.set l.tid false else s.iC, iE := if t.isC then s.iE else s.iE.set l.tid false }
      ⟨d, f, u, .tSub t⟩
  | tTakeIGone {t} : (if t.isC then get s.iC l.tid else get s.iE l.tid) = false → Step s l d f u (.tTakeI t)
      { s with iC := if t.isC then s.iC.set l.tid false else s.iC, iE := if t.isC then s.iE else s.iE.set l.tid false }
      ⟨d, f, u, .idle⟩
  | tSubC : s.isSub = true → Step s l d f u (.tSub .complete) s ⟨d, f, u, .cRemove⟩
  | tSubE {e} : s.isSub = true → Step s l d f u (.tSub (.error e)) s ⟨d, f, u, .tClaim (.error e)⟩
  | tSubGone {t} : s.isSub = false → Step s l d f u (.tSub t) s ⟨d, f, u, .fLock⟩
  | cRemoveLast : s.readers = 0 → allFalse (s.live.set l.tid false) = true → Step s l d f u .cRemove
      { s with live := s.live.set l.tid false, emptyObs := s.emptyObs ++ [l.tid] } ⟨d, f, u, .tClaim .complete⟩
  | cRemove : s.readers = 0 → allFalse (s.live.set l.tid false) = false → Step s l d f u .cRemove
      { s with live := s.live.set l.tid false } ⟨d, f, u, .idle⟩
  | tClaim {t} : s.sN = true →
      Step s l d f u (.tClaim t) { s with sN := false, claim := some t } ⟨d, f, u, .tClr t⟩
  | tClaimLost {t} : s.sN = false → Step s l d f u (.tClaim t) { s with sN := false } ⟨d, f, u, .fLock⟩
  | tClr {t} : Step s l d f u (.tClr t)
      { s with sE := if t.isC then false else s.sE, sC := if t.isC then s.sC else false } ⟨d, f, u, .tTake t⟩
  | tTake {t} : (if t.isC then s.sC else s.sE) = true → Step s l d f u (.tTake t)
      { s with sC := if t.isC then false else s.sC, sE := if t.isC then s.sE else false } ⟨d, f, u, .tStart t⟩
  | tTakeLost {t} : (if t.isC then s.sC else s.sE) = false → Step s l d f u (.tTake t)
      { s with sC := if t.isC then false else s.sC, sE := if t.isC then s.sE else false } ⟨d, f, u, .fLock⟩
  | tStart {t} : Step s l d f u (.tStart t) { s with log := s.log ++ [(l.tid, t.ev)] } ⟨d, f, u, .tCb t⟩
  | tCb {t} : Step s l d f u (.tCb t) s ⟨d, f, u, .fLock⟩
  | fLock : Step s l d f u .fLock { s with readers := s.readers + 1 } ⟨d, f, u, .fPick (keysOf s.live)⟩
  | fUnlock : Step s l d f u (.fPick []) { s with readers := s.readers - 1 } ⟨d, f, u, .fClear⟩
  | fPick {pend} : l.pick ∈ pend → Step s l d f u (.fPick pend) s ⟨d, f, u, .fU1 (pend.erase l.pick) l.pick⟩
  | fU1 {pend j} : Step s l d f u (.fU1 pend j) { s with iN := s.iN.set j false } ⟨d, f, u, .fU2 pend j⟩
  | fU2 {pend j} : Step s l d f u (.fU2 pend j) { s with iE := s.iE.set j false } ⟨d, f, u, .fU3 pend j⟩
  | fU3 {pend j} : Step s l d f u (.fU3 pend j) { s with iC := s.iC.set j false } ⟨d, f, u, .fPick pend⟩
  | fClear : s.readers = 0 →
      Step s l d f u .fClear { s with live := List.replicate s.live.length false } ⟨d, f, u, .fSub⟩
  | fSub : s.isSub = false → Step s l d f u .fSub s ⟨d, f, u, .fOnFin⟩
  | fSubDead : s.isSub = true → Step s l d f u .fSub s ⟨d, f, u, .uDead⟩
  | fOnFin : Step s l d f u .fOnFin s ⟨d, f, u, .idle⟩
  | uN : Step s l d f u .uN { s with sN := false } ⟨d, f, u, .uE⟩
  | uE : Step s l d f u .uE { s with sE := false } ⟨d, f, u, .uC⟩
  | uC : Step s l d f u .uC { s with sC := false } ⟨d, f, u, .fLock⟩

theorem step_inv {s s' : State} {l : Label} (h : step s l = some s') :
    ∃ d f u pc g th', s.threads[l.tid]? = some ⟨d, f, u, pc⟩ ∧ Step s l d f u pc g th' ∧ s' = g.upd l.tid th' := by
  unfold step at h
  cases hi : s.threads[l.tid]? with
  | none => simp [hi] at h
  | some th =>
    obtain ⟨d, f, u, pc⟩ := th
    simp only [hi] at h
    refine ⟨d, f, u, pc, ?_⟩
    cases pc <;> simp only at h
    case idle =>
      split at h
      · cases h; exact ⟨_, _, rfl, .call nofun, rfl⟩
      · cases h; exact ⟨_, _, rfl, .finish rfl rfl, rfl⟩
      · split at h
        · cases h; exact ⟨_, _, rfl, .unsub rfl rfl ‹_›, rfl⟩
        · cases h
    case tSub t =>
      split at h
      · cases t <;> cases h
        · exact ⟨_, _, rfl, .tSubC ‹_›, rfl⟩
        · exact ⟨_, _, rfl, .tSubE ‹_›, rfl⟩
      · cases h; exact ⟨_, _, rfl, .tSubGone ((Bool.not_eq_true _).mp ‹_›), rfl⟩
    case cRemove =>
      split at h
      · split at h <;> cases h
        · exact ⟨_, _, rfl, .cRemoveLast ‹_› ‹_›, rfl⟩
        · exact ⟨_, _, rfl, .cRemove ‹_› ((Bool.not_eq_true _).mp ‹_›), rfl⟩
      · cases h
    case fPick pend =>
      split at h
      · cases h; rename_i hp; cases hp; exact ⟨_, _, rfl, .fUnlock, rfl⟩
      · split at h
        · cases h; exact ⟨_, _, rfl, .fPick ‹_›, rfl⟩
        · cases h
    case fClear =>
      split at h
      · cases h; exact ⟨_, _, rfl, .fClear ‹_›, rfl⟩
      · cases h
    case uDead => cases h
    case tTakeI t =>
      rcases Bool.eq_false_or_eq_true (if t.isC then get s.iC l.tid else get s.iE l.tid) with hc | hc <;>
        simp only [hc, if_true, Bool.false_eq_true, if_false] at h <;> cases h
      · exact ⟨_, _, rfl, .tTakeI hc, rfl⟩
      · exact ⟨_, _, rfl, .tTakeIGone hc, rfl⟩
    case tTake t =>
      rcases Bool.eq_false_or_eq_true (if t.isC then s.sC else s.sE) with hc | hc <;>
        simp only [hc, if_true, Bool.false_eq_true, if_false] at h <;> cases h
      · exact ⟨_, _, rfl, .tTake hc, rfl⟩
      · exact ⟨_, _, rfl, .tTakeLost hc, rfl⟩
    case nFetchI | nSub | nFetch | tClaimI | tClaim | fSub =>
      split at h <;> cases h
      · exact ⟨_, _, rfl, by constructor; assumption, rfl⟩
      · exact ⟨_, _, rfl, by constructor; exact (Bool.not_eq_true _).mp ‹_›, rfl⟩
    all_goals (cases h; exact ⟨_, _, rfl, by constructor, rfl⟩)

/-- the terminal whose claim of the subscriber's `fn_next` succeeded, while its callback has not started yet -/
def Pc.won : Pc → Option Term
  | .tClr t | .tTake t | .tStart t => some t
  | _ => none

/-- program points that are only reached after the subscriber's `fn_next` was taken -/
def Pc.fz : Pc → Bool
  | .tClr _ | .tTake _ | .tStart _ | .tCb _ | .fLock | .fPick _ | .fU1 _ _ | .fU2 _ _ | .fU3 _ _ | .fClear | .fSub
  | .fOnFin | .uE | .uC => true
  | _ => false

theorem Pc.fz_of_won {pc : Pc} {t : Term} (h : Pc.won pc = some t) : Pc.fz pc = true := by
  cases pc <;> first | rfl | cases h

/-- at most one terminal (`cnt`), and `finalize` never unsubscribes (`dead`): a thread beyond the claim has found the
    subscriber's `fn_next` gone (`fz`) -/
structure InvA (s : State) : Prop where
  fz : ∀ (j : Nat) (th : Thread), s.threads[j]? = some th → Pc.fz th.pc = true → s.sN = false
  dead : ∀ (j : Nat) (th : Thread), s.threads[j]? = some th → th.pc ≠ .uDead
  slots : s.sN = true → s.sE = true ∧ s.sC = true
  cnt : Budget (fun th => (Pc.won th.pc).isSome) s.threads s.log s.sN

theorem InvA.upd {s : State} (h : InvA s) {i : Nat} (s' : State) (th' : Thread)
    (hth : s'.threads = s.threads.set i th') (hN : s'.sN = true → s.sN = true)
    (hfz : Pc.fz th'.pc = true → s'.sN = false) (hdead : th'.pc ≠ .uDead)
    (hslots : s'.sN = true → s'.sE = true ∧ s'.sC = true)
    (hcnt : Budget (fun th => (Pc.won th.pc).isSome) (s.threads.set i th') s'.log s'.sN) : InvA s' := by
  refine ⟨fun j tj hj hf => ?_, fun j tj hj => ?_, hslots, hth ▸ hcnt⟩
  · rcases getElem?_set_cases (hth ▸ hj) with ⟨_, rfl⟩ | ⟨_, hj⟩
    · exact hfz hf
    · exact Bool.eq_false_iff.mpr fun hn => nomatch (h.fz j tj hj hf).symm.trans (hN hn)
  · rcases getElem?_set_cases (hth ▸ hj) with ⟨_, rfl⟩ | ⟨_, hj⟩
    · exact hdead
    · exact h.dead j tj hj

theorem InvA.sN_of_not_isSub {s : State} (h : InvA s) (hs : s.isSub = false) : s.sN = false :=
  Bool.eq_false_iff.mpr fun hn => by simp [State.isSub, hn, h.slots hn] at hs

/-- The steps that matter: a thread leaves for `finalize` because `is_subscribed()` failed (then `fn_next` is gone, the
    other two slots being cleared only after it), the claim, the moves between claim and callback, the two log writes,
    `unsubscribe()`.  In every other step the thread stays on its side of `fz` and the fields of `InvA` are untouched,
    which the last line checks by unfolding. -/
theorem invA_step {s s' : State} {l : Label} (h : InvA s) (hs : step s l = some s') : InvA s' := by
  obtain ⟨d, f, u, pc, g, th', hi, hst, rfl⟩ := step_inv hs
  have hfz := h.fz _ _ hi
  have hc := h.cnt
  cases hst
  case nSubGone hg | tSubGone hg =>
    exact h.upd _ _ rfl id (fun _ => h.sN_of_not_isSub hg) nofun h.slots (hc.move hi nofun rfl)
  case fSubDead hg => simp [State.isSub, hfz rfl] at hg
  case tClaim hn => exact h.upd _ _ rfl nofun (fun _ => rfl) nofun nofun (hc.claim hi fun _ => hn)
  case tClaimLost | uN => exact h.upd _ _ rfl nofun (fun _ => rfl) nofun nofun (hc.claim hi nofun)
  case tClr | tTake =>
    have h0 := hfz rfl
    exact h.upd _ _ rfl id (fun _ => h0) nofun (fun hn => nomatch h0.symm.trans hn) (hc.move hi (fun _ => rfl) rfl)
  case tTakeLost | uE | uC =>
    have h0 := hfz rfl
    exact h.upd _ _ rfl id (fun _ => h0) nofun (fun hn => nomatch h0.symm.trans hn) (hc.move hi nofun rfl)
  case tStart =>
    exact h.upd _ _ rfl id (fun _ => hfz rfl) nofun h.slots
      (hc.spend hi rfl rfl (Nat.le_of_eq (termCount_append_term ..)))
  case nStart => exact h.upd _ _ rfl id nofun nofun h.slots (hc.move hi nofun (termCount_logNext ..))
  case fOnFin => exact h.upd _ _ rfl id nofun nofun h.slots (hc.move hi nofun rfl)
  all_goals exact h.upd _ _ rfl id hfz nofun h.slots (hc.move hi nofun rfl)

/-- inside the terminal call of the script, up to the terminal callback (program order: all `next` calls of this input
    have returned) -/
def Pc.termPhase : Pc → Bool
  | .tClaimI _ | .tClrI _ | .tTakeI _ | .tSub _ | .cRemove | .tClaim _ | .tClr _ | .tTake _ | .tStart _ | .tCb _ => true
  | .idle | .nFetchI | .nSub | .nFetch | .nStart | .nCb | .fLock | .fPick _ | .fU1 _ _ | .fU2 _ _ | .fU3 _ _ | .fClear | .fSub
  | .fOnFin | .uDead | .uN | .uE | .uC => false

/-- not inside a `next` call and not, in the terminal call, before the own `remove(serial)`: between calls, from the
    claim on, in `finalize` (also when entered because the subscriber was gone), in `unsubscribe` -/
def Pc.post : Pc → Bool
  | .idle | .tClaim _ | .tClr _ | .tTake _ | .tStart _ | .tCb _ | .fLock | .fPick _ | .fU1 _ _ | .fU2 _ _ | .fU3 _ _
  | .fClear | .fSub | .fOnFin | .uDead | .uN | .uE | .uC => true
  | .nFetchI | .nSub | .nFetch | .nStart | .nCb | .tClaimI _ | .tClrI _ | .tTakeI _ | .tSub _ | .cRemove => false

/-- the input has made all its `next` calls (they all returned), and in its terminal call it has removed its key or
    found the subscriber gone -/
def Thread.past (th : Thread) : Prop := th.todo = [] ∧ th.fin = none ∧ Pc.post th.pc = true

theorem allFalse_set_false {l : List Bool} (i : Nat) (h : allFalse l = true) : allFalse (l.set i false) = true := by
  apply allFalse_of_get
  intro j _
  rw [get_set]
  split
  · rfl
  · exact allFalse_get h j

theorem allFalse_replicate (n : Nat) : allFalse (List.replicate n false) = true := by
  simp [allFalse]

theorem get_set_ne (l : List Bool) {i j : Nat} (b : Bool) (h : j ≠ i) : get (l.set i b) j = get l j := by
  rw [get_set]; simp [Ne.symm h]

theorem Term.ev_eq_complete {t : Term} (h : Ev.complete = t.ev) : t = .complete := by
  cases t
  · rfl
  · simp [Term.ev] at h

section
variable {s g : State} {l : Label} {d : List Data} {f : Option Term} {u : Bool} {pc : Pc} {th' : Thread}

/-- What the invariants need to know of a step beyond its shared fields, read off the rules: `g` still has the thread
    table of `s`; program order and `past` are kept; a thread between claim and callback was there before or has just
    claimed. -/
theorem Step.local (h : Step s l d f u pc g th') :
    g.threads = s.threads ∧
    ((Pc.termPhase pc = true → d = [] ∧ f = none) → Pc.termPhase th'.pc = true → th'.todo = [] ∧ th'.fin = none) ∧
    (Thread.past ⟨d, f, u, pc⟩ → Thread.past th') ∧
    ∀ t, Pc.won th'.pc = some t → Pc.won pc = some t ∨ pc = .tClaim t := by
  cases h <;> simp_all [Pc.termPhase, Thread.past, Pc.post, Pc.won]

end

/-- program order (`tp`), the empty map, the last one out.  While `fn_next` is there, a key missing from the map belongs
    to a thread that is `past` (`liveOut`); `complete` claims only with the map empty (`emp`), so once it has claimed every
    thread is `past` (`claimC`); and a `complete` in the log is the last entry and means that `complete` claimed (`logC`). -/
structure InvB (s : State) : Prop where
  tp : ∀ (j : Nat) (th : Thread), s.threads[j]? = some th → Pc.termPhase th.pc = true → th.todo = [] ∧ th.fin = none
  emp : ∀ (j : Nat) (th : Thread), s.threads[j]? = some th → th.pc = .tClaim .complete → allFalse s.live = true
  cl : ∀ (j : Nat) (th : Thread) (t : Term), s.threads[j]? = some th → Pc.won th.pc = some t → s.claim = some t
  liveOut : s.sN = true → ∀ (j : Nat) (th : Thread), s.threads[j]? = some th → get s.live j = false → Thread.past th
  noClaim : s.sN = true → s.claim = none
  claimC : s.claim = some .complete → ∀ (j : Nat) (th : Thread), s.threads[j]? = some th → Thread.past th
  logC : ∀ (j : Nat), (j, Ev.complete) ∈ s.log → s.claim = some .complete ∧ s.log.getLast? = some (j, Ev.complete)

/-- thread `i` becomes `th'`, the shared fields those of `s'`: `hN`, `hlive`, `hclaim` say which way the shared fields move,
    the others are the clauses of `InvB` for the new thread -/
theorem InvB.upd {s : State} (hA : InvA s) (h : InvB s) {i : Nat} {th : Thread} (hi : s.threads[i]? = some th)
    (s' : State) (th' : Thread) (hth : s'.threads = s.threads.set i th')
    (hN : s'.sN = true → s.sN = true)
    (hlive : allFalse s.live = true → allFalse s'.live = true)
    (hclaim : s.sN = false → s'.claim = s.claim)
    (htp : Pc.termPhase th'.pc = true → th'.todo = [] ∧ th'.fin = none)
    (hemp : th'.pc = .tClaim .complete → allFalse s'.live = true)
    (hcl : ∀ t, Pc.won th'.pc = some t → s'.claim = some t)
    (hliveOut : s'.sN = true → (∀ j, j ≠ i → get s'.live j = get s.live j) ∧ (get s'.live i = false → Thread.past th'))
    (hnoClaim : s'.sN = true → s'.claim = none)
    (hpast : Thread.past th → Thread.past th')
    (hclaimC : s'.claim = some .complete →
       s.claim = some .complete ∨ (s.sN = true ∧ allFalse s.live = true ∧ Thread.past th'))
    (hlogC : ∀ (j : Nat), (j, Ev.complete) ∈ s'.log →
       s'.claim = some .complete ∧ s'.log.getLast? = some (j, Ev.complete)) :
    InvB s' := by
  refine ⟨fun j tj hj => ?_, fun j tj hj => ?_, fun j tj t hj => ?_, fun hn j tj hj => ?_, hnoClaim, fun hc j tj hj => ?_,
    hlogC⟩ <;> rcases getElem?_set_cases (hth ▸ hj) with ⟨rfl, rfl⟩ | ⟨hne, hj⟩
  · exact htp
  · exact h.tp j tj hj
  · exact hemp
  · exact fun he => hlive (h.emp j tj hj he)
  · exact hcl t
  · -- another thread between claim and callback: `fn_next` is gone, so the claim cell is not written
    intro hw
    rw [hclaim (hA.fz j tj hj (Pc.fz_of_won hw))]
    exact h.cl j tj t hj hw
  · exact (hliveOut hn).2
  · exact fun hg => h.liveOut (hN hn) j tj hj ((hliveOut hn).1 j hne ▸ hg)
  · rcases hclaimC hc with hold | ⟨_, _, hp⟩
    · exact hpast (h.claimC hold _ th hi)
    · exact hp
  · -- `complete` has just won the claim: the map was empty while `fn_next` was still there
    rcases hclaimC hc with hold | ⟨hn, hall, _⟩
    · exact h.claimC hold j tj hj
    · exact h.liveOut hn j tj hj (allFalse_get hall j)

theorem InvB.frame {s : State} (hA : InvA s) (h : InvB s) {i : Nat} {th : Thread} (hi : s.threads[i]? = some th)
    (s' : State) (th' : Thread) (hth : s'.threads = s.threads.set i th')
    (hN : s'.sN = true → s.sN = true) (hlive : s'.live = s.live) (hclaim : s'.claim = s.claim) (hlog : s'.log = s.log)
    (htp : Pc.termPhase th'.pc = true → th'.todo = [] ∧ th'.fin = none) (hemp : th'.pc ≠ .tClaim .complete)
    (hwon : ∀ t, Pc.won th'.pc = some t → Pc.won th.pc = some t) (hpast : Thread.past th → Thread.past th') :
    InvB s' :=
  h.upd hA hi s' th' hth hN (hlive ▸ id) (fun _ => hclaim) htp (fun he => absurd he hemp)
    (fun t ht => hclaim ▸ h.cl i th t hi (hwon t ht))
    (fun hn => ⟨fun _ _ => hlive ▸ rfl, fun hg => hpast (h.liveOut (hN hn) i th hi (hlive ▸ hg))⟩)
    (fun hn => hclaim ▸ h.noClaim (hN hn)) hpast (fun hc => .inl (hclaim ▸ hc)) (hlog ▸ hclaim ▸ h.logC)

theorem invB_step {s s' : State} {l : Label} (hA : InvA s) (h : InvB s) (hs : step s l = some s') : InvB s' := by
  obtain ⟨d, f, u, pc, g, th', hi, hst, rfl⟩ := step_inv hs
  obtain ⟨-, htp, hpast, hwon⟩ := hst.local
  replace htp := htp (h.tp _ _ hi)
  cases hst
  case tClaim t hn =>
    -- the claim succeeds: nothing was claimed or logged before; if it is `complete`'s, the map is empty
    exact h.upd hA hi _ _ rfl nofun id (fun h0 => nomatch h0.symm.trans hn) htp nofun (fun _ ht => ht) nofun nofun hpast
      (fun hc => .inr ⟨hn, h.emp _ _ hi (Option.some.inj hc ▸ rfl), (h.tp _ _ hi rfl).1, (h.tp _ _ hi rfl).2, rfl⟩)
      (fun j hj => nomatch (h.noClaim hn).symm.trans (h.logC j hj).1)
  case tClaimLost | uN => exact h.frame hA hi _ _ rfl nofun rfl rfl rfl htp nofun nofun hpast
  case cRemoveLast hall =>
    exact h.upd hA hi _ _ rfl id (allFalse_set_false _) (fun _ => rfl) htp (fun _ => hall) nofun
      (fun _ => ⟨fun _ hj => get_set_ne _ _ hj, fun _ => ⟨(h.tp _ _ hi rfl).1, (h.tp _ _ hi rfl).2, rfl⟩⟩) h.noClaim
      hpast .inl h.logC
  case cRemove =>
    exact h.upd hA hi _ _ rfl id (allFalse_set_false _) (fun _ => rfl) htp nofun nofun
      (fun _ => ⟨fun _ hj => get_set_ne _ _ hj, fun _ => ⟨(h.tp _ _ hi rfl).1, (h.tp _ _ hi rfl).2, rfl⟩⟩) h.noClaim
      hpast .inl h.logC
  case fClear =>
    exact h.upd hA hi _ _ rfl id (fun _ => allFalse_replicate _) (fun _ => rfl) htp nofun nofun
      (fun hn => nomatch (hA.fz _ _ hi rfl).symm.trans hn) h.noClaim hpast .inl h.logC
  case nStart =>
    -- a `next` callback cannot start after `complete`: all threads would be past their `next` calls
    exact h.upd hA hi _ _ rfl id id (fun _ => rfl) htp nofun nofun
      (fun hn => ⟨fun _ _ => rfl, fun hg => hpast (h.liveOut hn _ _ hi hg)⟩) h.noClaim hpast .inl
      (fun j hj => nomatch (h.claimC (h.logC j ((mem_logNext hj).resolve_right nofun)).1 _ _ hi).2.2)
  case tStart t =>
    have hcl := h.cl _ _ t hi rfl
    refine h.upd hA hi _ _ rfl id id (fun _ => rfl) htp nofun nofun
      (fun hn => ⟨fun _ _ => rfl, fun hg => hpast (h.liveOut hn _ _ hi hg)⟩) h.noClaim hpast .inl fun j hj => ?_
    rcases List.mem_append.mp hj with hj | hj
    · -- an earlier `complete` and this thread's claim would be two against the budget
      have h1 : 1 ≤ termCount s.log := List.countP_pos_iff.mpr ⟨_, hj, rfl⟩
      have h2 : 1 ≤ s.threads.countP fun th => (Pc.won th.pc).isSome :=
        List.countP_pos_iff.mpr ⟨_, List.mem_of_getElem? hi, rfl⟩
      have h3 := hA.cnt.le_one
      omega
    · obtain ⟨rfl, ht⟩ : j = l.tid ∧ Ev.complete = t.ev := by simpa using hj
      cases Term.ev_eq_complete ht
      exact ⟨hcl, List.getLast?_concat⟩
  all_goals exact h.frame hA hi _ _ rfl id rfl rfl rfl htp nofun (fun t ht => (hwon t ht).resolve_right nofun) hpast

theorem init_thread {scripts : List Script} {j : Nat} {th : Thread} (h : (init scripts).threads[j]? = some th) :
    ∃ sc, scripts[j]? = some sc ∧ th = sc.thread := by
  simp only [init, List.getElem?_map] at h
  cases hsc : scripts[j]? with
  | none => simp [hsc] at h
  | some sc => simp [hsc] at h; exact ⟨sc, rfl, h.symm⟩

theorem init_live {scripts : List Script} {j : Nat} {sc : Script} (h : scripts[j]? = some sc) :
    Conc.Sctl.get (init scripts).live j = !sc.unsub ∧ Conc.Sctl.get (init scripts).iN j = !sc.unsub ∧
    Conc.Sctl.get (init scripts).iC j = !sc.unsub := by
  simp [init, Conc.Sctl.get, List.getElem?_map, h]

theorem invA_init (scripts : List Script) : InvA (init scripts) := by
  refine ⟨fun j th hj => ?_, fun j th hj => ?_, fun _ => ⟨rfl, rfl⟩, ?_⟩
  · obtain ⟨sc, _, rfl⟩ := init_thread hj
    nofun
  · obtain ⟨sc, _, rfl⟩ := init_thread hj
    nofun
  · refine Tokens.init fun th hth => ?_
    obtain ⟨j, hj⟩ := List.getElem?_of_mem hth
    obtain ⟨sc, _, rfl⟩ := init_thread hj
    rfl

theorem invB_init (scripts : List Script) : InvB (init scripts) := by
  refine ⟨fun j th hj => ?_, fun j th hj => ?_, fun j th t hj => ?_, fun _ j th hj hg => ?_, fun _ => rfl, nofun, nofun⟩ <;>
    obtain ⟨sc, hsc, rfl⟩ := init_thread hj
  · nofun
  · nofun
  · nofun
  · rw [(init_live hsc).1] at hg
    have hu : sc.unsub = true := by simpa using hg
    simp [Thread.past, Script.thread, hu, Pc.post]

theorem inv_reachable {scripts : List Script} {s : State} (h : Reachable scripts s) : InvA s ∧ InvB s := by
  induction h with
  | init => exact ⟨invA_init scripts, invB_init scripts⟩
  | step _ hs ih => exact ⟨invA_step ih.1 hs, invB_step ih.1 ih.2 hs⟩

/-! ## Main theorems about the merge / StreamController LTS that hold for ALL scripts (errors included) -/

/-- **never_two_terminals** (merge instance).  Whatever the scripts (any number of inputs, with or without errors) and
    whatever the interleaving, at most ONE terminal callback (complete or error) ever starts at the subscriber:
    never complete twice, never error twice, never both. -/
theorem never_two_terminals {scripts : List Script} {s : State} (h : Reachable scripts s) :
    (s.log.filter fun p => p.2.isTerminal).length ≤ 1 :=
  (inv_reachable h).1.cnt.terminals_le_one

/-- the branch `if self.subscriber.is_subscribed() { self.subscriber.unsubscribe() }` inside `finalize`
    (stream_controller.rs:151-153) is never taken by an input thread of merge. -/
theorem finalize_never_unsubscribes {scripts : List Script} {s : State} (h : Reachable scripts s) :
    ∀ th ∈ s.threads, th.pc ≠ .uDead := by
  intro th hth
  obtain ⟨j, hj⟩ := List.getElem?_of_mem hth
  exact (inv_reachable h).1.dead j th hj

/-- program order: a thread that is inside its terminal call (from the first step of `sink_complete`/`sink_error` to
    the subscriber's terminal callback, `Pc.termPhase`) has made all its `next` calls, and they have returned. -/
theorem terminal_after_own_nexts {scripts : List Script} {s : State} (h : Reachable scripts s) :
    ∀ th ∈ s.threads, Pc.termPhase th.pc = true → th.todo = [] ∧ th.fin = none := by
  intro th hth
  obtain ⟨j, hj⟩ := List.getElem?_of_mem hth
  exact (inv_reachable h).2.tp j th hj

/-- **last_one_out, part 1** ("when the map becomes empty all inputs have finished their nexts").
    As long as nobody has claimed the subscriber's `fn_next` (so no `finalize` has run `clear()`), a serial is missing
    from `unscribers` only if its input has passed its own `remove`, which comes after all its `next` calls returned.
    In particular, when the map is empty every input is past all of its `next` callbacks. -/
theorem map_empty_all_done {scripts : List Script} {s : State} (h : Reachable scripts s) (hN : s.sN = true) :
    (∀ (j : Nat) (th : Thread), s.threads[j]? = some th → Conc.Sctl.get s.live j = false → Thread.past th) ∧
    (allFalse s.live = true → ∀ th ∈ s.threads, Thread.past th) := by
  have hB := (inv_reachable h).2
  refine ⟨hB.liveOut hN, fun hall th hth => ?_⟩
  obtain ⟨j, hj⟩ := List.getElem?_of_mem hth
  exact hB.liveOut hN j th hj (allFalse_get hall j)

/-- **last_one_out, part 2.**  If the `complete` callback has started (delivered by thread `j`), then — for all scripts
    and interleavings — every input thread has finished all of its `next` calls (each returned) and is past its
    `remove`; the `complete` is the LAST event of the log, and everything before it is a `next`
    (no terminal precedes it, none follows, no `next` callback starts after it). -/
theorem last_one_out {scripts : List Script} {s : State} (h : Reachable scripts s) (j : Nat)
    (hc : (j, Ev.complete) ∈ s.log) :
    (∀ th ∈ s.threads, Thread.past th) ∧
    ∃ pre, s.log = pre ++ [(j, Ev.complete)] ∧ ∀ p ∈ pre, p.2.isTerminal = false := by
  obtain ⟨hA, hB⟩ := inv_reachable h
  obtain ⟨hcl, hlast⟩ := hB.logC j hc
  refine ⟨fun th hth => ?_, ?_⟩
  · obtain ⟨i, hi⟩ := List.getElem?_of_mem hth
    exact hB.claimC hcl i th hi
  · obtain ⟨pre, hp⟩ := List.getLast?_eq_some_iff.mp hlast
    refine ⟨pre, hp, fun p hpm => ?_⟩
    have hcnt := hA.cnt.le_one
    rw [hp, show termCount (pre ++ [(j, Ev.complete)]) = _ from termCount_append_term pre j .complete] at hcnt
    have h0 : termCount pre = 0 := by omega
    cases hpt : p.2.isTerminal with
    | false => rfl
    | true =>
      have : 0 < termCount pre := List.countP_pos_iff.mpr ⟨p, hpm, hpt⟩
      omega

/-- a `complete` in the log implies that `complete` won the claim of `fn_next` (the winner is recorded in the ghost
    cell `claim`), and `fn_next` is gone. -/
theorem complete_implies_claim {scripts : List Script} {s : State} (h : Reachable scripts s) (j : Nat)
    (hc : (j, Ev.complete) ∈ s.log) : s.claim = some .complete ∧ s.sN = false := by
  obtain ⟨_, hB⟩ := inv_reachable h
  have h1 := (hB.logC j hc).1
  refine ⟨h1, ?_⟩
  cases hn : s.sN with
  | false => rfl
  | true => rw [hB.noClaim hn] at h1; cases h1

/-! ## No input fails: conservation (`merge_conserves`) -/

theorem proj_append_next (log : List (Nat × Ev)) (i j : Nat) (x : Data) :
    proj j (log ++ [(i, Ev.next x)]) = if i = j then proj j log ++ [x] else proj j log := by
  unfold proj
  rw [List.filterMap_append]
  by_cases h : i = j <;> simp [h]

theorem proj_append_term (log : List (Nat × Ev)) (i j : Nat) (t : Term) :
    proj j (log ++ [(i, t.ev)]) = proj j log := by
  unfold proj
  rw [List.filterMap_append]
  cases t <;> by_cases h : i = j <;> simp [h, Term.ev]

theorem items_append_next (log : List (Nat × Ev)) (i : Nat) (x : Data) :
    items (log ++ [(i, Ev.next x)]) = items log ++ [x] := by
  unfold items
  rw [List.filterMap_append]
  simp

theorem items_append_term (log : List (Nat × Ev)) (i : Nat) (t : Term) :
    items (log ++ [(i, t.ev)]) = items log := by
  unfold items
  rw [List.filterMap_append]
  cases t <;> simp [Term.ev]

theorem flatMap_todo_set {ths : List Thread} {i : Nat} {th th' : Thread} {new : List Data} (hi : ths[i]? = some th)
    (h : new ++ th'.todo = th.todo) : (ths.flatMap (·.todo)).Perm (new ++ (ths.set i th').flatMap (·.todo)) := by
  have hp := flatMap_set_perm (f := (·.todo)) (b := th') hi
  rw [← h, ← List.append_assoc] at hp
  exact ((List.perm_append_right_iff _).1 hp).symm.trans List.perm_append_comm

structure Conserv (scripts : List Script) (s : State) : Prop where
  len : s.threads.length = scripts.length
  perm : (items s.log ++ s.threads.flatMap (·.todo)).Perm (scripts.flatMap (·.items))
  each : ∀ (i : Nat) (th : Thread) (sc : Script), s.threads[i]? = some th → scripts[i]? = some sc →
    proj i s.log ++ th.todo = sc.items

/-- how one step may touch log and own todo -/
inductive LogStep (s s' : State) (i : Nat) (th th' : Thread) : Prop
  | same : s'.log = s.log → th'.todo = th.todo → LogStep s s' i th th'
  | next (x : Data) (r : List Data) : th.todo = x :: r → th'.todo = r → s'.log = s.log ++ [(i, Ev.next x)] →
      LogStep s s' i th th'
  | term (t : Term) : s'.log = s.log ++ [(i, t.ev)] → th'.todo = th.todo → LogStep s s' i th th'

theorem LogStep.spec {s s' : State} {i : Nat} {th th' : Thread} (hl : LogStep s s' i th th') :
    ∃ new, new ++ th'.todo = th.todo ∧ items s'.log = items s.log ++ new ∧
      ∀ j, proj j s'.log = proj j s.log ++ if i = j then new else [] := by
  cases hl with
  | same hlog htodo => exact ⟨[], htodo, by simp [hlog], fun j => by simp [hlog]⟩
  | next x r htodo htodo' hlog =>
    exact ⟨[x], by simp [htodo, htodo'], hlog ▸ items_append_next .., fun j => by rw [hlog, proj_append_next]; split <;> simp⟩
  | term t hlog htodo =>
    exact ⟨[], htodo, by simp [hlog, items_append_term], fun j => by simp [hlog, proj_append_term]⟩

theorem conserv_update {scripts : List Script} {s : State} (h : Conserv scripts s) {i : Nat} {th : Thread}
    (hi : s.threads[i]? = some th) (s' : State) (th' : Thread) (hth : s'.threads = s.threads.set i th')
    (hl : LogStep s s' i th th') : Conserv scripts s' := by
  obtain ⟨new, htodo, hitems, hproj⟩ := hl.spec
  refine ⟨by rw [hth, List.length_set]; exact h.len, ?_, fun j tj sc hj hsc => ?_⟩
  · rw [hitems, hth, List.append_assoc]
    exact ((flatMap_todo_set hi htodo).symm.append_left _).trans h.perm
  · rw [hproj j]
    rcases getElem?_set_cases (hth ▸ hj) with ⟨rfl, rfl⟩ | ⟨hne, hj⟩
    · rw [if_pos rfl, List.append_assoc, htodo]; exact h.each _ th sc hi hsc
    · rw [if_neg (Ne.symm hne), List.append_nil]; exact h.each j tj sc hj hsc

theorem flatMap_thread_todo (scripts : List Script) (hnu : ∀ sc ∈ scripts, sc.unsub = false) :
    List.flatMap (fun sc => (Script.thread sc).todo) scripts = scripts.flatMap (·.items) := by
  induction scripts with
  | nil => rfl
  | cons a t ih =>
    simp only [List.flatMap_cons]
    rw [ih fun sc hsc => hnu sc (List.mem_cons_of_mem _ hsc)]
    simp [Script.thread, hnu a (List.mem_cons_self)]

theorem conserv_init {scripts : List Script} (hnu : ∀ sc ∈ scripts, sc.unsub = false) :
    Conserv scripts (init scripts) := by
  refine ⟨by simp [init], ?_, ?_⟩
  · have : (init scripts).threads.flatMap (·.todo) = scripts.flatMap (·.items) := by
      simp only [init, List.flatMap_map]
      exact flatMap_thread_todo scripts hnu
    rw [this]; simp [init, items]
  · intro i th sc hi hsc
    obtain ⟨sc', hsc', rfl⟩ := init_thread hi
    rw [hsc] at hsc'; cases hsc'
    simp [init, proj, Script.thread, hnu sc (List.mem_of_getElem? hsc)]

/-! ### phase A: nobody has seen the map empty yet -/

def Pc.inA : Pc → Bool
  | .idle | .nFetchI | .nSub | .nFetch | .nStart | .nCb | .tClaimI _ | .tClrI _ | .tTakeI _ | .tSub _ | .cRemove => true
  | _ => false

def Pc.nPhase : Pc → Bool
  | .nFetchI | .nSub | .nFetch | .nStart | .nCb => true
  | _ => false

def Pc.nHead : Pc → Bool
  | .nFetchI | .nSub | .nFetch | .nStart => true
  | _ => false

def Pc.needN : Pc → Bool
  | .tClaimI _ => true
  | _ => false

def Pc.needC : Pc → Bool
  | .tClaimI _ | .tClrI _ | .tTakeI _ => true
  | _ => false

def Pc.needL : Pc → Bool
  | .tClaimI _ | .tClrI _ | .tTakeI _ | .tSub _ | .cRemove => true
  | _ => false

/-- every terminal mentioned by the program counter is `complete` -/
def Pc.termOk : Pc → Bool
  | .tClaimI t | .tClrI t | .tTakeI t | .tSub t | .tClaim t | .tClr t | .tTake t | .tStart t | .tCb t => t.isC
  | .nFetchI | .nSub | .nFetch | .nStart | .nCb | .idle | .cRemove
  | .fLock | .fPick _ | .fU1 _ _ | .fU2 _ _ | .fU3 _ _ | .fClear | .fSub | .fOnFin | .uDead | .uN | .uE | .uC => true

/-- An input while nobody has seen the map empty and nobody fails, given whether its inner `fn_next` (`bN`), its inner
    `fn_complete` (`bC`) and its key in the map (`bL`) are still there: it is before its own `remove`, every terminal in
    sight is `complete`, and the slots it will still test — for a terminal call yet to come (`fin`) or under way
    (`need*`) — are there, so every test it makes succeeds. -/
structure LocalNA (bN bC bL : Bool) (th : Thread) : Prop where
  inA : Pc.inA th.pc = true
  termOk : Pc.termOk th.pc = true
  finOk : ∀ t, th.fin = some t → t.isC = true
  nN : (th.fin ≠ none ∨ Pc.needN th.pc = true) → bN = true
  nC : (th.fin ≠ none ∨ Pc.needC th.pc = true) → bC = true
  nL : bL = true ↔ (th.fin ≠ none ∨ Pc.needL th.pc = true)
  head : Pc.nHead th.pc = true → th.todo ≠ []
  nfin : Pc.nPhase th.pc = true → th.fin ≠ none
  tp : Pc.termPhase th.pc = true → th.todo = [] ∧ th.fin = none
  finNone : th.fin = none → th.todo = []
  noUnsub : th.unsub = false

structure PhaseA (scripts : List Script) (s : State) : Prop where
  lenT : s.threads.length = scripts.length
  lenL : s.live.length = scripts.length
  sub : s.sN = true ∧ s.sE = true ∧ s.sC = true
  noTerm : termCount s.log = 0
  nonEmpty : scripts ≠ [] → allFalse s.live = false
  loc : ∀ (i : Nat) (th : Thread), s.threads[i]? = some th →
    LocalNA (Conc.Sctl.get s.iN i) (Conc.Sctl.get s.iC i) (Conc.Sctl.get s.live i) th

/-! ### phase B: thread `a` has seen the map empty; it is the only thread that can still move -/

/-- 1: about to claim; 2,3: claimed, own slot not taken yet; 5: slot taken, callback not started; 4: callback started or
    later; 0: not a phase-B point.  (Tags for the cases of `LocalNB`; nothing compares them.) -/
def Pc.stageB : Pc → Nat
  | .tClaim _ => 1
  | .tClr _ => 2
  | .tTake _ => 3
  | .tStart _ => 5
  | .tCb _ | .fLock | .fPick _ | .fU1 _ _ | .fU2 _ _ | .fU3 _ _ | .fClear | .fSub | .fOnFin | .idle => 4
  | .nFetchI | .nSub | .nFetch | .nStart | .nCb | .tClaimI _ | .tClrI _ | .tTakeI _ | .tSub _ | .cRemove | .uDead | .uN
  | .uE | .uC => 0

structure LocalNB (s : State) (a : Nat) (th : Thread) : Prop where
  inB : Pc.stageB th.pc ≠ 0
  termOk : Pc.termOk th.pc = true
  todo : th.todo = []
  fin : th.fin = none
  noUnsub : th.unsub = false
  st1 : Pc.stageB th.pc = 1 → s.sN = true ∧ s.sE = true ∧ s.sC = true ∧ termCount s.log = 0
  st23 : (Pc.stageB th.pc = 2 ∨ Pc.stageB th.pc = 3) → s.sN = false ∧ s.sC = true ∧ termCount s.log = 0
  st5 : Pc.stageB th.pc = 5 → s.sN = false ∧ termCount s.log = 0
  st4 : Pc.stageB th.pc = 4 → s.sN = false ∧ s.log.getLast? = some (a, Ev.complete)

structure PhaseB (s : State) (a : Nat) : Prop where
  own : ∃ th, s.threads[a]? = some th ∧ LocalNB s a th
  others : ∀ (j : Nat) (th : Thread), j ≠ a → s.threads[j]? = some th → th = { todo := [], fin := none, unsub := false, pc := .idle }

def Phase (scripts : List Script) (s : State) : Prop :=
  match s.emptyObs with
  | [] => PhaseA scripts s
  | [a] => PhaseB s a
  | _ => False

/-- `N`: no input fails and nobody unsubscribes -/
structure InvN (scripts : List Script) (s : State) : Prop where
  conserv : Conserv scripts s
  phase : Phase scripts s

theorem phase_of_A {scripts : List Script} {s : State} (he : s.emptyObs = []) (h : PhaseA scripts s) :
    Phase scripts s := by
  unfold Phase; rw [he]; exact h

theorem phase_of_B {scripts : List Script} {s : State} {a : Nat} (he : s.emptyObs = [a]) (h : PhaseB s a) :
    Phase scripts s := by
  unfold Phase; rw [he]; exact h

theorem Phase.cases {scripts : List Script} {s : State} (h : Phase scripts s) :
    (s.emptyObs = [] ∧ PhaseA scripts s) ∨ ∃ a, s.emptyObs = [a] ∧ PhaseB s a := by
  unfold Phase at h
  split at h
  · exact .inl ⟨‹_›, h⟩
  · exact .inr ⟨_, ‹_›, h⟩
  · exact h.elim

theorem get_set_self (l : List Bool) {i : Nat} (b : Bool) (h : i < l.length) : Conc.Sctl.get (l.set i b) i = b := by
  rw [get_set]; simp [h]

theorem phaseA_update {scripts : List Script} {s : State} (h : PhaseA scripts s) {i : Nat}
    (s' : State) (th' : Thread) (hth : s'.threads = s.threads.set i th')
    (hsub : s'.sN = true ∧ s'.sE = true ∧ s'.sC = true)
    (hterm : termCount s'.log = 0)
    (hlen : s'.live.length = s.live.length)
    (hframe : ∀ j, j ≠ i → Conc.Sctl.get s'.iN j = Conc.Sctl.get s.iN j ∧
      Conc.Sctl.get s'.iC j = Conc.Sctl.get s.iC j ∧ Conc.Sctl.get s'.live j = Conc.Sctl.get s.live j)
    (hne : scripts ≠ [] → allFalse s'.live = false)
    (hloc : LocalNA (Conc.Sctl.get s'.iN i) (Conc.Sctl.get s'.iC i) (Conc.Sctl.get s'.live i) th') :
    PhaseA scripts s' := by
  refine ⟨by rw [hth, List.length_set]; exact h.lenT, hlen ▸ h.lenL, hsub, hterm, hne, fun j tj hj => ?_⟩
  rcases getElem?_set_cases (hth ▸ hj) with ⟨rfl, rfl⟩ | ⟨hne, hj⟩
  · exact hloc
  · obtain ⟨f1, f2, f3⟩ := hframe j hne
    rw [f1, f2, f3]
    exact h.loc j tj hj

theorem PhaseA.local {scripts : List Script} {s : State} (h : PhaseA scripts s) {i : Nat} (th' : Thread)
    (hloc : LocalNA (Conc.Sctl.get s.iN i) (Conc.Sctl.get s.iC i) (Conc.Sctl.get s.live i) th') :
    PhaseA scripts (s.upd i th') :=
  phaseA_update h _ _ rfl h.sub h.noTerm rfl (fun _ _ => ⟨rfl, rfl, rfl⟩) h.nonEmpty hloc

theorem phaseB_update {s : State} {a : Nat} (h : PhaseB s a) {th : Thread}
    (hi : s.threads[a]? = some th) (s' : State) (th' : Thread) (hth : s'.threads = s.threads.set a th')
    (hloc : LocalNB s' a th') : PhaseB s' a := by
  have hlt : a < s.threads.length := lt_of_getElem? hi
  refine ⟨⟨th', hth ▸ List.getElem?_set_self hlt, hloc⟩, fun j tj hja hj => ?_⟩
  rcases getElem?_set_cases (hth ▸ hj) with ⟨rfl, _⟩ | ⟨_, hj⟩
  · exact absurd rfl hja
  · exact h.others j tj hja hj

theorem LocalNB.frame4 {s g : State} {a : Nat} {th th' : Thread} (hl : LocalNB s a th) (h4 : Pc.stageB th.pc = 4)
    (h4' : Pc.stageB th'.pc = 4) (hok : Pc.termOk th'.pc = true) (ht : th'.todo = th.todo) (hf : th'.fin = th.fin)
    (hu : th'.unsub = th.unsub) (hN : g.sN = s.sN) (hlog : g.log = s.log) : LocalNB g a th' :=
  ⟨by rw [h4']; nofun, hok, ht ▸ hl.todo, hf ▸ hl.fin, hu ▸ hl.noUnsub, by rw [h4']; nofun, by rw [h4']; nofun,
    by rw [h4']; nofun, fun _ => hN ▸ hlog ▸ hl.st4 h4⟩

/-- the side goals of `tailA` / `tailB` -/
macro "grindN" : tactic => `(tactic|
  simp_all [State.upd, State.isSub, Term.isC, Pc.inA, Pc.termOk, Pc.needN, Pc.needC, Pc.needL, Pc.nHead, Pc.nPhase,
    Pc.termPhase, Pc.stageB, get_set_self, get_set_ne, termCount_logNext, termCount_append_term])

theorem localNA_dead {bN bC : Bool} {tj : Thread} (hl : LocalNA bN bC false tj) :
    tj = { todo := [], fin := none, unsub := false, pc := .idle } := by
  obtain ⟨d, f, u, pc⟩ := tj
  obtain ⟨l1, -, -, -, -, l6, -, l8, -, l10, l11⟩ := hl
  have hf : f = none := Classical.byContradiction fun h => nomatch l6.mpr (.inl h)
  have hL : Pc.needL pc = false := Bool.eq_false_iff.mpr fun h => nomatch l6.mpr (.inr h)
  clear l6
  cases pc <;> simp_all [Pc.inA, Pc.needL, Pc.nPhase]

/-- a phase-A case that leaves the log and the own `todo` alone, the eleven clauses of `LocalNA` left to `grindN`
    (`tailB`: the same for phase B).  `invN_stepA` / `invN_stepB` write these cases out; no proof calls the two macros. -/
macro "tailA" hs:ident he:ident hC:ident hP:ident hi:ident : tactic => `(tactic| (
  simp only [Option.some.injEq] at $hs:ident; subst $hs:ident
  refine ⟨conserv_update $hC $hi _ _ rfl (.same rfl rfl), phase_of_A $he ?_⟩
  refine phaseA_update $hP $hi _ _ rfl ?_ ?_ ?_ ?_ ?_ ⟨?_, ?_, ?_, ?_, ?_, ?_, ?_, ?_, ?_, ?_, ?_⟩ <;> grindN))

section
variable {scripts : List Script} {s g s' : State} {l : Label} {d : List Data} {f : Option Term} {u : Bool} {pc : Pc}
  {th' : Thread}

/-- Phase A.  Every test the thread makes succeeds (its slots are there, the subscriber is subscribed), so of the steps
    from a phase-A program point only the successful branches remain; all but the start of a `next` callback leave the log
    and the own `todo` alone; the `remove` that empties the map opens phase B. -/
theorem invN_stepA (he : s.emptyObs = []) (hP : PhaseA scripts s)
    (hi : s.threads[l.tid]? = some ⟨d, f, u, pc⟩) (hst : Step s l d f u pc g th') :
    LogStep s (g.upd l.tid th') l.tid ⟨d, f, u, pc⟩ th' ∧ Phase scripts (g.upd l.tid th') := by
  have hlt : l.tid < s.threads.length := lt_of_getElem? hi
  have hltL : l.tid < s.live.length := by rw [hP.lenL, ← hP.lenT]; exact hlt
  obtain ⟨hsN, hsE, hsC⟩ := hP.sub
  have hsub : s.isSub = true := by simp [State.isSub, hsN, hsE, hsC]
  have hnt := hP.noTerm
  have hnE := hP.nonEmpty
  obtain ⟨l1, l2, l3, l4, l5, l6, l7, l8, l9, l10, l11⟩ := hP.loc _ _ hi
  cases hst
  case unsub hu => exact nomatch hu.symm.trans l11
  case nFetchIGone hg => exact nomatch hg.symm.trans (l4 (.inl (l8 rfl)))
  case tClaimIGone hg => exact nomatch hg.symm.trans (l4 (.inr rfl))
  case tTakeIGone t hg =>
    simp only [show t.isC = true from l2, if_true] at hg
    exact nomatch hg.symm.trans (l5 (.inr rfl))
  case nSubGone hg | tSubGone hg => exact nomatch hg.symm.trans hsub
  case nFetchGone hg => exact nomatch hg.symm.trans hsN
  case tSubE => cases l2
  case nStart =>
    obtain ⟨x, r, rfl⟩ : ∃ x r, d = x :: r := by
      cases d with
      | nil => exact absurd rfl (l7 rfl)
      | cons x r => exact ⟨x, r, rfl⟩
    exact ⟨.next x r rfl rfl rfl, phase_of_A he <|
      phaseA_update hP _ _ rfl ⟨hsN, hsE, hsC⟩ ((termCount_logNext s.log l.tid (x :: r)).trans hnt) rfl
        (fun _ _ => ⟨rfl, rfl, rfl⟩) hnE
        ⟨rfl, rfl, l3, l4, l5, l6, nofun, l8, nofun, fun hf => absurd hf (l8 rfl), l11⟩⟩
  case cRemoveLast _ hall =>
    refine ⟨.same rfl rfl, phase_of_B (a := l.tid) (congrArg (· ++ [l.tid]) he) ?_⟩
    refine ⟨⟨⟨d, f, u, .tClaim .complete⟩, List.getElem?_set_self hlt, nofun, rfl, (l9 rfl).1, (l9 rfl).2, l11,
      fun _ => ⟨hsN, hsE, hsC, hnt⟩, nofun, nofun, nofun⟩, fun j tj hja hj => ?_⟩
    simp only [State.upd, List.getElem?_set_ne (Ne.symm hja)] at hj
    have hg : Conc.Sctl.get s.live j = false := get_set_ne _ _ hja ▸ allFalse_get hall j
    exact localNA_dead (hg ▸ hP.loc j tj hj)
  case tClaimI t _ =>
    -- the own inner `fn_next` goes; it is not needed any more (`fin = none`)
    have hf : f = none := (l9 rfl).2
    exact ⟨.same rfl rfl, phase_of_A he <|
      phaseA_update hP _ _ rfl ⟨hsN, hsE, hsC⟩ hnt rfl
        (fun _ hj => ⟨get_set_ne _ _ hj, rfl, rfl⟩) hnE
        ⟨rfl, l2, l3, fun h => h.elim (absurd hf) nofun, fun _ => l5 (.inr rfl),
          ⟨fun _ => .inr rfl, fun _ => l6.mpr (.inr rfl)⟩, nofun, nofun, fun _ => l9 rfl, l10, l11⟩⟩
  case cRemove _ hall =>
    -- the own key goes and another one is left: back between calls, with nothing left to do
    obtain ⟨hd, hf⟩ := l9 rfl
    exact ⟨.same rfl rfl, phase_of_A he <|
      phaseA_update hP _ _ rfl ⟨hsN, hsE, hsC⟩ hnt (List.length_set ..)
        (fun _ hj => ⟨rfl, rfl, get_set_ne _ _ hj⟩) (fun _ => hall)
        ⟨rfl, rfl, l3, fun h => h.elim (absurd hf) nofun, fun h => h.elim (absurd hf) nofun,
          ⟨fun h => (nomatch (get_set_self _ _ hltL).symm.trans h), fun h => h.elim (absurd hf) nofun⟩, nofun, nofun, nofun,
          fun _ => hd, l11⟩⟩
  case tClrI t =>
    cases t
    case error => cases l2
    exact ⟨.same rfl rfl, phase_of_A he <|
      phaseA_update hP _ _ rfl ⟨hsN, hsE, hsC⟩ hnt rfl (fun _ _ => ⟨rfl, rfl, rfl⟩) hnE
        ⟨l1, l2, l3, l4, l5, l6, l7, l8, l9, l10, l11⟩⟩
  case tTakeI t _ =>
    cases t
    case error => cases l2
    exact ⟨.same rfl rfl, phase_of_A he <|
      phaseA_update hP _ _ rfl ⟨hsN, hsE, hsC⟩ hnt rfl
        (fun _ hj => ⟨rfl, get_set_ne _ _ hj, rfl⟩) hnE
        ⟨rfl, rfl, l3, l4, fun h => h.elim (fun hf => absurd (l9 rfl).2 hf) nofun, l6, l7, l8, l9, l10, l11⟩⟩
  -- the remaining steps touch only the thread: what `LocalNA` needs at the new program point was known at the old one
  case call hne =>
    exact ⟨.same rfl rfl, phase_of_A he <| hP.local _
      ⟨rfl, rfl, l3, l4, l5, l6, fun _ => hne, fun _ hf => hne (l10 hf), nofun, l10, l11⟩⟩
  case finish t hd hf =>
    subst hd hf
    exact ⟨.same rfl rfl, phase_of_A he <| hP.local _
      ⟨rfl, l3 t rfl, nofun, fun _ => l4 (.inl nofun), fun _ => l5 (.inl nofun),
        ⟨fun _ => .inr rfl, fun _ => l6.mpr (.inl nofun)⟩, nofun, nofun, fun _ => ⟨rfl, rfl⟩, fun _ => rfl, l11⟩⟩
  case nCb =>
    exact ⟨.same rfl rfl, phase_of_A he <| hP.local _
      ⟨rfl, rfl, l3, l4, l5, l6, nofun, nofun, nofun, l10, l11⟩⟩
  case nFetchI | nSub | nFetch | tSubC =>
    exact ⟨.same rfl rfl, phase_of_A he <| hP.local _
      ⟨rfl, rfl, l3, l4, l5, l6, l7, l8, l9, l10, l11⟩⟩
  all_goals cases l1

macro "tailB" hs:ident he:ident hC:ident hP:ident hi:ident : tactic => `(tactic| (
  simp only [Option.some.injEq] at $hs:ident; subst $hs:ident
  refine ⟨conserv_update $hC $hi _ _ rfl (.same rfl rfl), phase_of_B (by simpa [State.upd] using $he) ?_⟩
  refine phaseB_update $hP $hi _ _ rfl ⟨?_, ?_, ?_, ?_, ?_, ?_, ?_, ?_, ?_⟩ <;> grindN))

/-- Phase B.  Thread `l.tid` saw the map empty: it alone still moves, straight through claim, callback and `finalize`. -/
theorem invN_stepB (he : s.emptyObs = [l.tid]) (hP : PhaseB s l.tid)
    (hi : s.threads[l.tid]? = some ⟨d, f, u, pc⟩) (hl : LocalNB s l.tid ⟨d, f, u, pc⟩)
    (hst : Step s l d f u pc g th') :
    LogStep s (g.upd l.tid th') l.tid ⟨d, f, u, pc⟩ th' ∧ Phase scripts (g.upd l.tid th') := by
  obtain ⟨b1, b2, b3, b4, b9, b5, b6, b8, b7⟩ := hl
  cases hst
  case call hne => exact absurd b3 hne
  case finish hf => exact nomatch b4.symm.trans hf
  case unsub hu => exact nomatch hu.symm.trans b9
  case tClaimLost hg => exact nomatch hg.symm.trans (b5 rfl).1
  case tTakeLost t hg =>
    simp only [show t.isC = true from b2, if_true] at hg
    exact nomatch hg.symm.trans (b6 (.inr rfl)).2.1
  case fSubDead hg => simp [State.isSub, (b7 rfl).1] at hg
  case tStart t =>
    cases t
    case error => cases b2
    exact ⟨.term .complete rfl rfl, phase_of_B he <| phaseB_update hP hi _ _ rfl
      ⟨nofun, rfl, b3, b4, b9, nofun, nofun, nofun, fun _ => ⟨(b8 rfl).1, List.getLast?_concat⟩⟩⟩
  case tClaim t _ =>
    exact ⟨.same rfl rfl, phase_of_B he <| phaseB_update hP hi _ _ rfl
      ⟨nofun, b2, b3, b4, b9, nofun, fun _ => ⟨rfl, (b5 rfl).2.2.1, (b5 rfl).2.2.2⟩, nofun, nofun⟩⟩
  case tClr t =>
    cases t
    case error => cases b2
    exact ⟨.same rfl rfl, phase_of_B he <| phaseB_update hP hi _ _ rfl
      ⟨nofun, rfl, b3, b4, b9, nofun, fun _ => b6 (.inl rfl), nofun, nofun⟩⟩
  case tTake t _ =>
    cases t
    case error => cases b2
    exact ⟨.same rfl rfl, phase_of_B he <| phaseB_update hP hi _ _ rfl
      ⟨nofun, rfl, b3, b4, b9, nofun, nofun, fun _ => ⟨(b6 (.inr rfl)).1, (b6 (.inr rfl)).2.2⟩, nofun⟩⟩
  case tCb | fLock | fUnlock | fPick | fU1 | fU2 | fU3 | fClear | fSub | fOnFin =>
    exact ⟨.same rfl rfl, phase_of_B he <| phaseB_update hP hi _ _ rfl <|
      LocalNB.frame4 ⟨b1, b2, b3, b4, b9, b5, b6, b8, b7⟩ rfl rfl rfl rfl rfl rfl rfl rfl⟩
  all_goals exact absurd rfl b1

theorem invN_step (h : InvN scripts s) (hs : step s l = some s') : InvN scripts s' := by
  obtain ⟨d, f, u, pc, g, th', hi, hst, rfl⟩ := step_inv hs
  suffices LogStep s (g.upd l.tid th') l.tid ⟨d, f, u, pc⟩ th' ∧ Phase scripts (g.upd l.tid th') from
    ⟨conserv_update h.conserv hi _ _ (congrArg (List.set · l.tid th') hst.local.1) this.1, this.2⟩
  rcases h.phase.cases with ⟨he, hp⟩ | ⟨a, he, hp⟩
  · exact invN_stepA he hp hi hst
  · by_cases hla : l.tid = a
    · subst hla
      obtain ⟨th0, hi0, hl⟩ := hp.own
      cases hi.symm.trans hi0
      exact invN_stepB he hp hi hl hst
    · -- every other thread has finished
      cases hp.others l.tid _ hla hi
      cases hst
      case call hne => exact absurd rfl hne
      case finish hf => cases hf
      case unsub hu => cases hu

end

theorem get_replicate_true_lt {n i : Nat} (h : i < n) : Conc.Sctl.get (List.replicate n true) i = true := by
  unfold Conc.Sctl.get
  rw [List.getElem?_replicate]
  simp [h]

theorem invN_init {scripts : List Script} (hne : ∀ sc ∈ scripts, sc.err = none)
    (hnu : ∀ sc ∈ scripts, sc.unsub = false) : InvN scripts (init scripts) := by
  refine ⟨conserv_init hnu, phase_of_A rfl ?_⟩
  refine ⟨by simp [init], by simp [init], ⟨rfl, rfl, rfl⟩, by simp [init, termCount],
    ?_, ?_⟩
  · intro hs
    cases scripts with
    | nil => exact absurd rfl hs
    | cons a t => simp [init, allFalse, hnu a (List.mem_cons_self)]
  · intro i th hi
    obtain ⟨sc, hsc, rfl⟩ := init_thread hi
    have hu : sc.unsub = false := hnu sc (List.mem_of_getElem? hsc)
    have hterm : sc.term.isC = true := by
      have := hne sc (List.mem_of_getElem? hsc)
      simp [Script.term, this, Term.isC]
    obtain ⟨hl1, hl2, hl3⟩ := init_live hsc
    simp only [hu, Bool.not_false] at hl1 hl2 hl3
    exact ⟨rfl, rfl, fun t ht => by simp [Script.thread, hu] at ht; exact ht ▸ hterm, fun _ => hl2, fun _ => hl3,
      by simp [hl1, Script.thread, hu], nofun, nofun, nofun, by simp [Script.thread, hu], by simp [Script.thread, hu]⟩

theorem invN_reachable {scripts : List Script} (hne : ∀ sc ∈ scripts, sc.err = none)
    (hnu : ∀ sc ∈ scripts, sc.unsub = false) {s : State}
    (h : Reachable scripts s) : InvN scripts s := by
  induction h with
  | init => exact invN_init hne hnu
  | step _ hs ih => exact invN_step ih hs

/-- **last_one_out, uniqueness.**  If no input fails (and nobody unsubscribes), at most one input thread ever observes `len()==0` in
    `sink_complete` (under the single write lock of `unscribers`), whatever the interleaving. -/
theorem last_one_out_unique {scripts : List Script} (hne : ∀ sc ∈ scripts, sc.err = none)
    (hnu : ∀ sc ∈ scripts, sc.unsub = false) {s : State}
    (h : Reachable scripts s) : s.emptyObs.length ≤ 1 := by
  rcases (invN_reachable hne hnu h).phase.cases with ⟨he, _⟩ | ⟨a, he, _⟩
  · simp [he]
  · simp [he]

/-- **merge, safety at every moment.**  If no input fails then in EVERY reachable state (not only at the end) the items
    delivered on behalf of input `i`, in delivery order, followed by the items input `i` has not handed over yet, are
    exactly input `i`'s items: nothing lost, nothing duplicated, nothing reordered within an input; and the multiset of
    delivered plus pending items is the multiset of all inputs' items. -/
theorem merge_prefix {scripts : List Script} (hne : ∀ sc ∈ scripts, sc.err = none)
    (hnu : ∀ sc ∈ scripts, sc.unsub = false) {s : State} (h : Reachable scripts s) :
    (∀ (i : Nat) (th : Thread) (sc : Script), s.threads[i]? = some th → scripts[i]? = some sc →
      proj i s.log ++ th.todo = sc.items) ∧
    (items s.log ++ s.threads.flatMap (·.todo)).Perm (scripts.flatMap (·.items)) :=
  ⟨(invN_reachable hne hnu h).conserv.each, (invN_reachable hne hnu h).conserv.perm⟩

theorem finished_eq {th : Thread} (h : th.finished = true) :
    th = { todo := [], fin := none, unsub := false, pc := .idle } := by
  cases th with
  | mk todo fin unsub pc =>
    simp [Thread.finished] at h
    obtain ⟨⟨⟨h1, h2⟩, h3⟩, h4⟩ := h
    cases fin with
    | none => simp [h1, h2, h4]
    | some t => simp at h3

/-- **merge_conserves.**  For ALL scripts without error (and without a concurrent unsubscribe), ALL numbers of inputs and ALL interleavings: once every input
    thread has finished,
    * the items delivered on behalf of input `i` are exactly input `i`'s items, in that input's order;
    * the delivered items are a permutation of (multiset-equal to) all inputs' items;
    * (at least one input) the log is `nexts ++ [complete]`: exactly one `complete`, it is the last event, no error. -/
theorem merge_conserves {scripts : List Script} (hne : ∀ sc ∈ scripts, sc.err = none)
    (hnu : ∀ sc ∈ scripts, sc.unsub = false) {s : State} (h : Reachable scripts s) (hd : s.allDone = true) :
    (∀ (i : Nat) (sc : Script), scripts[i]? = some sc → proj i s.log = sc.items) ∧
    (items s.log).Perm (scripts.flatMap (·.items)) ∧
    (scripts ≠ [] → ∃ a pre, s.log = pre ++ [(a, Ev.complete)] ∧ ∀ p ∈ pre, p.2.isTerminal = false) := by
  have hN := invN_reachable hne hnu h
  have hfin : ∀ th ∈ s.threads, th = { todo := [], fin := none, unsub := false, pc := .idle } := by
    intro th hth
    exact finished_eq (List.all_eq_true.mp hd th hth)
  have hperm : (items s.log).Perm (scripts.flatMap (·.items)) := by
    have := hN.conserv.perm
    rwa [List.flatMap_eq_nil_iff.mpr fun th hth => by rw [hfin th hth], List.append_nil] at this
  rcases hN.phase.cases with ⟨he, hp⟩ | ⟨a, he, hp⟩
  · -- phase A: only possible without inputs
    have hall : allFalse s.live = true := allFalse_of_get fun j hj => by
      have hjt : j < s.threads.length := by rw [hp.lenT, ← hp.lenL]; exact hj
      have hl := hp.loc j _ (List.getElem?_eq_getElem hjt)
      rw [hfin _ (List.getElem_mem hjt)] at hl
      exact Bool.eq_false_iff.mpr fun hg => by simpa [Pc.needL] using hl.nL.mp hg
    obtain rfl : scripts = [] := Classical.byContradiction fun hs => by simp [hp.nonEmpty hs] at hall
    exact ⟨fun i sc hsc => by simp at hsc, hperm, fun hs => absurd rfl hs⟩
  · refine ⟨?_, hperm, fun _ => ?_⟩
    · intro i sc hsc
      have hlen : s.threads.length = scripts.length := hN.conserv.len
      have hlt : i < s.threads.length := by rw [hlen]; exact lt_of_getElem? hsc
      have hth : s.threads[i]? = some s.threads[i] := List.getElem?_eq_getElem hlt
      have := hN.conserv.each i _ sc hth hsc
      rw [hfin _ (List.getElem_mem hlt)] at this
      simpa using this
    · obtain ⟨tha, hia, hl⟩ := hp.own
      have hf := hfin tha (List.mem_of_getElem? hia)
      have h4 := hl.st4 (by rw [hf]; rfl)
      have hmem : (a, Ev.complete) ∈ s.log := List.mem_of_getLast? h4.2
      obtain ⟨_, pre, hpre, hnt⟩ := last_one_out h a hmem
      exact ⟨a, pre, hpre, hnt⟩

open Rx Rx.Conc Rx.Conc.Sctl

theorem items_length_logNext (log : List (Nat × Ev)) (i : Nat) (todo : List Data) :
    (items (logNext log i todo)).length ≤ (items log).length + 1 := by
  cases todo with
  | nil => simp [logNext]
  | cons x r => simp [logNext, items_append_next]

-- `TakeP`, `AmbP`, `ZipP`: the proofs about the LTSs `Take`, `Amb`, `Zip` of `Conc/TakeAmbZip.lean`
namespace TakeP
open Rx.Conc.Take

/-- claimed the subscriber's fn_next, complete callback not started -/
def pre : Take.Pc → Bool
  | .tClr _ | .tTake _ | .tStart _ => true
  | _ => false

/-- holds an emit permit (`emit == true` decided under the counter lock) that has not been used yet -/
def permit : Take.Pc → Bool
  | .sub _ | .fetch _ | .start _ => true
  | _ => false

/-- the permits held and the items delivered are paid for by the calls that found the counter below `count` -/
def Permits (ths : List Take.Thread) (log : List (Nat × Ev)) (ctr count : Nat) : Prop :=
  Tokens (fun th => permit th.pc) ths (items log).length (min ctr count)

/-- the counter step: a permit is granted only to a call that finds the counter below `count` -/
theorem Permits.grant {ths : List Take.Thread} {log : List (Nat × Ev)} {ctr count i : Nat} {a a' : Take.Thread}
    (h : Permits ths log ctr count) (hi : ths[i]? = some a) (hp : permit a'.pc = true → ctr < count) :
    Permits (ths.set i a') log (ctr + 1) count :=
  Tokens.take h hi (by omega) fun hp' => by have := hp hp'; omega

structure Inv (count : Nat) (s : Take.State) : Prop where
  cst : s.count = count
  cnt : Budget (fun th => pre th.pc) s.threads s.log s.sN
  emit : Permits s.threads s.log s.ctr s.count

/-- Only the counter lock, the two log writes, the claim and `finalize` are looked at one by one; in every other step the
    thread neither gains a permit nor enters the stretch between claim and callback, which `simp` reads off the program
    points. -/
theorem inv_step {count : Nat} {s s' : Take.State} {i : Nat} (h : Inv count s) (hs : Take.step s i = some s') :
    Inv count s' := by
  unfold Take.step at hs
  cases hi : s.threads[i]? with
  | none => simp [hi] at hs
  | some th =>
    obtain ⟨d, f, pc⟩ := th
    simp only [hi] at hs
    obtain ⟨h0, hc, he⟩ := h
    cases pc <;> simp only at hs
    case idle => split at hs <;> cases hs <;> exact ⟨h0, hc.move hi nofun rfl, he.move hi nofun rfl⟩
    case count =>
      cases hs
      refine ⟨h0, hc.move hi (by simp [↓apply_ite pre, pre]) rfl, he.grant hi ?_⟩
      split
      · exact fun _ => ‹_›
      · simp [↓apply_ite permit, permit]
    case start =>
      cases hs
      exact ⟨h0, hc.move hi nofun (termCount_logNext ..), he.spend hi rfl rfl (items_length_logNext ..)⟩
    case tClaim =>
      cases hs
      exact ⟨h0, hc.claim hi (by cases s.sN <;> simp [pre]), he.move hi (by simp [↓apply_ite permit, permit]) rfl⟩
    case tStart =>
      cases hs
      exact ⟨h0, hc.spend hi rfl rfl (Nat.le_of_eq (termCount_append_term _ _ .complete)),
        he.move hi nofun (congrArg _ (items_append_term _ _ .complete))⟩
    case fin1 | fin2 =>
      cases hs
      exact ⟨h0, (hc.mono fun hn => (Bool.and_eq_true_iff.mp hn).1).move hi (by simp [↓apply_ite pre, pre]) rfl,
        he.move hi (by simp [↓apply_ite permit, permit]) rfl⟩
    all_goals
      cases hs
      exact ⟨h0, hc.move hi (by simp [↓apply_ite pre, pre]) rfl, he.move hi (by simp [↓apply_ite permit, permit]) rfl⟩

theorem inv_init (count : Nat) (scripts : List (List Data × Bool)) : Inv count (Take.init count scripts) := by
  have h0 : ∀ p : Take.Pc → Bool, p .idle = false → ∀ th ∈ (Take.init count scripts).threads, p th.pc = false :=
    fun p hp th hth => by obtain ⟨_, _, rfl⟩ := List.mem_map.mp hth; exact hp
  exact ⟨rfl, Tokens.init (h0 pre rfl), Tokens.init (h0 permit rfl)⟩

theorem inv_reachable {count : Nat} {scripts : List (List Data × Bool)} {s : Take.State}
    (h : Take.Reachable count scripts s) : Inv count s := by
  induction h with
  | init => exact inv_init count scripts
  | step _ hs ih => exact inv_step ih hs

end TakeP

/-- **take_at_most_n.**  For every `count`, any number of upstream threads offering any items (with or without an
    upstream `complete`), under every interleaving: the number of `next` callbacks started at the subscriber never
    exceeds `count`. (The decision `nn < count` is taken under the counter's write lock; the emission happens outside.) -/
theorem take_at_most_n {count : Nat} {scripts : List (List Data × Bool)} {s : Take.State}
    (h : Take.Reachable count scripts s) : (items s.log).length ≤ count := by
  have hI := TakeP.inv_reachable h
  exact hI.cst ▸ Nat.le_trans hI.emit.spent_le (Nat.min_le_right _ _)

/-- take: at most one terminal callback ever starts (count-triggered completes and an upstream complete may race) -/
theorem take_never_two_terminals {count : Nat} {scripts : List (List Data × Bool)} {s : Take.State}
    (h : Take.Reachable count scripts s) : (s.log.filter fun p => p.2.isTerminal).length ≤ 1 :=
  (TakeP.inv_reachable h).cnt.terminals_le_one

def takeEx : List (List Data × Bool) := [([.int 1, .int 2], false), ([.int 3, .int 4], true)]

/-- a run of take(2) fed by two threads that delivers exactly 2 items and one complete -/
example : ∃ s, Take.Reachable 2 takeEx s ∧ s.log = [(0, .next (.int 1)), (1, .next (.int 3)), (1, .complete)] :=
  ⟨_, Take.reachable_of_run .init (Take.rep 7 0 ++ Take.rep 18 1) _ rfl, by decide +kernel⟩

/-- WITNESS (outside the literal text of C11, but noteworthy): with an upstream that emits from two threads, take(2)
    can start a `next` callback AFTER the `complete` callback started: thread 0 got `nn = 0` and fetched `fn_next`,
    thread 1 got `nn = 1`, emitted and completed, then thread 0's callback starts. -/
theorem take_next_after_complete_possible :
    ∃ s, Take.Reachable 2 takeEx s ∧ s.log = [(1, .next (.int 3)), (1, .complete), (0, .next (.int 1))] :=
  ⟨_, Take.reachable_of_run .init (Take.rep 5 0 ++ Take.rep 18 1 ++ Take.rep 2 0) _ rfl, by decide +kernel⟩

/-- WITNESS: take(2) may deliver FEWER than 2 items although 4 are offered: the item that obtained `nn = 0` is dropped
    because the thread that obtained `nn = 1` completed (and unsubscribed) first. All threads are finished. -/
theorem take_may_lose_item :
    ∃ s, Take.Reachable 2 takeEx s ∧ s.log = [(1, .next (.int 3)), (1, .complete)] ∧
      s.threads.all (fun th => th.pc = .idle && th.todo.isEmpty) = true :=
  ⟨_, Take.reachable_of_run .init (Take.rep 3 0 ++ Take.rep 20 1 ++ Take.rep 4 0) _ rfl, by decide +kernel⟩

namespace AmbP
open Rx.Conc.Amb

/-- `is_win` returned true for the call in progress and the delivery has not started yet -/
def won : Amb.Pc → Bool
  | .sub | .fetch | .start | .fSub | .tClaim | .tClr | .tTake | .tStart => true
  | _ => false

/-- claimed the subscriber's fn_next, complete callback not started -/
def pre : Amb.Pc → Bool
  | .tClr | .tTake | .tStart => true
  | _ => false

structure Inv (s : Amb.State) : Prop where
  cnt : Budget (fun th => pre th.pc) s.threads s.log s.sN
  loc : ∀ (j : Nat) (th : Amb.Thread), s.threads[j]? = some th → won th.pc = true → s.winner = some j
  log : ∀ p ∈ s.log, s.winner = some p.1

theorem Inv.upd {s : Amb.State} (h : Inv s) {i : Nat} (s' : Amb.State) (th' : Amb.Thread)
    (hth : s'.threads = s.threads.set i th')
    (hw : ∀ w, s.winner = some w → s'.winner = some w)
    (hloc : won th'.pc = true → s'.winner = some i)
    (hlog : ∀ p ∈ s'.log, p ∈ s.log ∨ (p.1 = i ∧ s'.winner = some i))
    (hcnt : Budget (fun th => pre th.pc) (s.threads.set i th') s'.log s'.sN) : Inv s' := by
  refine ⟨hth ▸ hcnt, fun j tj hj hwon => ?_, fun p hp => ?_⟩
  · rcases getElem?_set_cases (hth ▸ hj) with ⟨rfl, rfl⟩ | ⟨_, hj⟩
    · exact hloc hwon
    · exact hw j (h.loc j tj hj hwon)
  · rcases hlog p hp with h1 | ⟨h1, h2⟩
    · exact hw _ (h.log p h1)
    · exact h1 ▸ h2

/-- the winner cell is written once -/
theorem winner_mono (s : Amb.State) (i : Nat) {w : Nat} (h : s.winner = some w) :
    (if s.winner.isNone then some i else s.winner) = some w := by
  simp [h]

theorem winner_of_wins {s : Amb.State} {i : Nat} (h : Amb.wins s i = true) :
    (if s.winner.isNone then some i else s.winner) = some i := by
  unfold Amb.wins at h
  cases hw : s.winner <;> simp_all

theorem Inv.frame {s : Amb.State} (h : Inv s) {i : Nat} {th : Amb.Thread} (hi : s.threads[i]? = some th)
    (s' : Amb.State) (th' : Amb.Thread) (hth : s'.threads = s.threads.set i th') (hw : s'.winner = s.winner)
    (hlog : s'.log = s.log) (hN : s'.sN = s.sN) (hwon : won th'.pc = true → won th.pc = true)
    (hp : pre th'.pc = true → pre th.pc = true) : Inv s' :=
  h.upd s' th' hth (fun _ => hw ▸ id) (fun hw' => hw ▸ h.loc i th hi (hwon hw')) (fun _ hp' => .inl (hlog ▸ hp'))
    (hlog ▸ hN ▸ h.cnt.move hi hp rfl)

theorem inv_step {s s' : Amb.State} {l : Amb.Label} (h : Inv s) (hs : Amb.step s l = some s') : Inv s' := by
  unfold Amb.step at hs
  simp only at hs
  cases hi : s.threads[l.tid]? with
  | none => simp [hi] at hs
  | some th =>
    obtain ⟨d, f, pc⟩ := th
    simp only [hi] at hs
    have hl := h.loc _ _ hi
    have hc := h.cnt
    cases pc <;> simp only at hs
    case win | winC =>
      cases hs
      refine h.upd _ _ rfl (fun _ => winner_mono s _) ?_ (fun _ => .inl) (hc.move hi (by simp [↓apply_ite pre, pre]) rfl)
      split
      · exact fun _ => winner_of_wins ‹_›
      · nofun
    case start =>
      cases hs
      exact h.upd _ _ rfl (fun _ => id) nofun (fun p hp => (mem_logNext hp).imp_right fun ⟨_, e⟩ => ⟨congrArg Prod.fst e, hl rfl⟩)
        (hc.move hi nofun (termCount_logNext ..))
    case tStart =>
      cases hs
      refine h.upd _ _ rfl (fun _ => id) (fun _ => hl rfl) (fun p hp => ?_)
        (hc.spend hi rfl rfl (Nat.le_of_eq (termCount_append_term _ _ .complete)))
      rcases List.mem_append.mp hp with hp | hp
      · exact .inl hp
      · exact .inr ⟨by rw [List.mem_singleton.mp hp], hl rfl⟩
    case tClaim =>
      cases hs
      exact h.upd _ _ rfl (fun _ => id) (fun _ => hl rfl) (fun _ => .inl) (hc.claim hi (by cases s.sN <;> simp [pre]))
    case fEnd =>
      cases hs
      exact h.upd _ _ rfl (fun _ => id) nofun (fun _ => .inl)
        ((hc.mono fun hn => (Bool.and_eq_true_iff.mp hn).1).move hi nofun rfl)
    case idle | abort1 | fClear =>
      split at hs <;> cases hs <;>
        exact h.frame hi _ _ rfl rfl rfl rfl (by simp [↓apply_ite won, won]) (by simp [↓apply_ite pre, pre])
    case fPick =>
      split at hs
      · cases hs; exact h.frame hi _ _ rfl rfl rfl rfl nofun nofun
      · split at hs <;> cases hs <;> exact h.frame hi _ _ rfl rfl rfl rfl nofun nofun
    all_goals
      cases hs; exact h.frame hi _ _ rfl rfl rfl rfl (by simp [↓apply_ite won, won]) (by simp [↓apply_ite pre, pre])

theorem inv_init (scripts : List (List Data × Bool)) : Inv (Amb.init scripts) := by
  refine ⟨?_, ?_, ?_⟩
  · refine Tokens.init fun th hth => ?_
    obtain ⟨_, _, rfl⟩ := List.mem_map.mp hth
    rfl
  · intro j th hj hw
    obtain ⟨_, _, rfl⟩ := List.mem_map.mp (List.mem_of_getElem? hj)
    cases hw
  · intro p hp; simp [Amb.init] at hp

theorem inv_reachable {scripts : List (List Data × Bool)} {s : Amb.State} (h : Amb.Reachable scripts s) : Inv s := by
  induction h with
  | init => exact inv_init scripts
  | step _ hs ih => exact inv_step ih hs

end AmbP

/-- **amb_one_winner.**  For any number of inputs, any items and any interleaving: every event the subscriber receives
    (items and the complete) was delivered on behalf of ONE input — the one recorded in the winner cell — so at most one
    input is let through. (`is_win` decides under `winner.write()`; the emission happens outside the lock.) -/
theorem amb_one_winner {scripts : List (List Data × Bool)} {s : Amb.State} (h : Amb.Reachable scripts s) :
    (∀ p ∈ s.log, s.winner = some p.1) ∧ (∀ p ∈ s.log, ∀ q ∈ s.log, p.1 = q.1) := by
  have hI := AmbP.inv_reachable h
  exact ⟨hI.log, fun p hp q hq => Option.some.inj ((hI.log p hp).symm.trans (hI.log q hq))⟩

/-- amb: at most one terminal callback ever starts -/
theorem amb_never_two_terminals {scripts : List (List Data × Bool)} {s : Amb.State} (h : Amb.Reachable scripts s) :
    (s.log.filter fun p => p.2.isTerminal).length ≤ 1 :=
  (AmbP.inv_reachable h).cnt.terminals_le_one

def ambEx : List (List Data × Bool) := [([.int 1, .int 2], true), ([.int 3], true)]

/-- non-vacuity: input 1 claims the winner cell first although input 0 started first; input 0's items are all dropped,
    input 1's item and complete are delivered -/
example : ∃ s, Amb.Reachable ambEx s ∧ s.winner = some 1 ∧ s.log = [(1, .next (.int 3)), (1, .complete)] ∧
    s.threads.all (fun th => th.pc = .idle && th.todo.isEmpty && !th.fin) = true :=
  ⟨_, Amb.reachable_of_run .init (Amb.rep 2 0 ++ Amb.rep 19 1 ++ Amb.pk 1 1 ++ Amb.rep 4 1 ++ Amb.rep 6 0) _ rfl,
    by decide +kernel⟩

namespace ZipP
open Rx.Conc.Zip

def helds (ths : List Zip.Thread) : List (List Data) := ths.filterMap fun th => th.pc.held

theorem count_helds_set {ths : List Zip.Thread} {i : Nat} {th th' : Zip.Thread} (hi : ths[i]? = some th)
    (a : List Data) :
    (helds (ths.set i th')).count a + th.pc.held.toList.count a
      = (helds ths).count a + th'.pc.held.toList.count a := by
  have hc : ∀ o : Option (List Data), o.toList.count a = if o == some a then 1 else 0 := fun o => by
    cases o <;> simp [List.count_singleton]
  unfold helds
  rw [List.count_filterMap, List.count_filterMap, hc, hc]
  exact countP_set_eq (fun th => th.pc.held == some a) hi

structure Inv (scripts : List (List Data)) (s : Zip.State) : Prop where
  lenQ : s.queues.length = scripts.length
  lenT : s.threads.length = scripts.length
  pref : ∀ (i : Nat) (q : List Data) (th : Zip.Thread) (sc : List Data), s.queues[i]? = some q →
    s.threads[i]? = some th → scripts[i]? = some sc → ∃ pre, pre.length = s.popped.length ∧ pre ++ q ++ th.todo = sc
  pop : s.popped = (List.range s.popped.length).map (Zip.tuple scripts)
  cnt : ∀ a, (s.log.map (·.2)).count a + (helds s.threads).count a + s.dropped.count a = s.popped.count a
  nodrop : s.sub = true → s.dropped = []
  live : scripts ≠ [] → s.sub = true → Zip.allFilled s.queues = true →
    ∃ (j : Nat) (th : Zip.Thread), s.threads[j]? = some th ∧ th.finished = false

theorem Inv.row {scripts : List (List Data)} {s : Zip.State} (h : Inv scripts s) {i : Nat} (hi : i < scripts.length) :
    ∃ q th pre, s.queues[i]? = some q ∧ s.threads[i]? = some th ∧ pre.length = s.popped.length ∧
      pre ++ q ++ th.todo = scripts[i] :=
  have hq := List.getElem?_eq_getElem (h.lenQ ▸ hi)
  have ht := List.getElem?_eq_getElem (h.lenT ▸ hi)
  let ⟨pre, hp⟩ := h.pref i _ _ _ hq ht (List.getElem?_eq_getElem hi)
  ⟨_, _, pre, hq, ht, hp⟩

/-- Thread `i` becomes `th'`.  `hcnt` is the balance of the step: what the log, the thread's hand and `dropped` gain
    is what `popped` gains.  The stepping thread witnesses `live` unless it has gone idle. -/
theorem inv_update {scripts : List (List Data)} {s : Zip.State} (h : Inv scripts s) {i : Nat}
    {th : Zip.Thread} (hi : s.threads[i]? = some th) (s' : Zip.State) (th' : Zip.Thread)
    (hth : s'.threads = s.threads.set i th') (hlenQ : s'.queues.length = s.queues.length)
    (hpref : ∀ (j : Nat) (q : List Data) (tj : Zip.Thread) (sc : List Data), s'.queues[j]? = some q →
      s'.threads[j]? = some tj → scripts[j]? = some sc → ∃ pre, pre.length = s'.popped.length ∧ pre ++ q ++ tj.todo = sc)
    (hpop : s'.popped = (List.range s'.popped.length).map (Zip.tuple scripts))
    (hcnt : ∀ a, (s'.log.map (·.2)).count a + th'.pc.held.toList.count a + s'.dropped.count a + s.popped.count a
      = (s.log.map (·.2)).count a + th.pc.held.toList.count a + s.dropped.count a + s'.popped.count a)
    (hnodrop : s'.sub = true → s'.dropped = [])
    (hlive : th'.pc = .idle → s'.sub = true → Zip.allFilled s'.queues = true → False) : Inv scripts s' := by
  refine ⟨hlenQ ▸ h.lenQ, by rw [hth, List.length_set]; exact h.lenT, hpref, hpop, fun a => ?_, hnodrop, fun _ hs hf =>
    ⟨i, th', hth ▸ List.getElem?_set_self (lt_of_getElem? hi),
      Bool.and_eq_false_imp.mpr fun hp => (hlive (of_decide_eq_true hp) hs hf).elim⟩⟩
  have h1 := count_helds_set (th' := th') hi a
  have h2 := h.cnt a
  have h3 := hcnt a
  rw [hth]
  omega

/-- steps that touch neither the queues nor the own `todo` -/
theorem inv_update_light {scripts : List (List Data)} {s : Zip.State} (h : Inv scripts s) {i : Nat}
    {th : Zip.Thread} (hi : s.threads[i]? = some th) (s' : Zip.State) (th' : Zip.Thread)
    (hth : s'.threads = s.threads.set i th')
    (hq : s'.queues = s.queues) (hpop : s'.popped = s.popped) (htodo : th'.todo = th.todo)
    (hcnt : ∀ a, (s'.log.map (·.2)).count a + th'.pc.held.toList.count a + s'.dropped.count a
      = (s.log.map (·.2)).count a + th.pc.held.toList.count a + s.dropped.count a)
    (hnodrop : s'.sub = true → s'.dropped = [])
    (hlive : th'.pc = .idle → s'.sub = true → Zip.allFilled s'.queues = true → False) : Inv scripts s' := by
  refine inv_update h hi s' th' hth (hq ▸ rfl) (fun j q tj sc hqj htj hsc => ?_) (hpop ▸ h.pop)
    (fun a => hpop ▸ congrArg (· + _) (hcnt a)) hnodrop hlive
  rw [hpop]
  rcases getElem?_set_cases (hth ▸ htj) with ⟨rfl, rfl⟩ | ⟨_, htj⟩
  · exact htodo ▸ h.pref _ q th sc (hq ▸ hqj) hi hsc
  · exact h.pref j q tj sc (hq ▸ hqj) htj hsc

section
variable {scripts : List (List Data)} {s : Zip.State} {i : Nat} {th : Zip.Thread} {pc' : Zip.Pc} {v : List Data}

/-- the thread moves on, and the tuple it holds (if any) with it -/
theorem Inv.pass (h : Inv scripts s) (hi : s.threads[i]? = some th) (hv : pc'.held = th.pc.held) (hpc : pc' ≠ .idle) :
    Inv scripts (s.upd i { th with pc := pc' }) :=
  inv_update_light h hi _ _ rfl rfl rfl rfl (fun _ => by rw [hv]; rfl) h.nodrop (absurd · hpc)

/-- the subscriber is gone: the tuple held is discarded -/
theorem Inv.drop (h : Inv scripts s) (hi : s.threads[i]? = some th) (hv : th.pc.held = some v) (hv' : pc'.held = none)
    (hsub : s.sub = false) : Inv scripts ({ s with dropped := s.dropped ++ [v] }.upd i { th with pc := pc' }) :=
  inv_update_light h hi _ _ rfl rfl rfl rfl
    (fun a => by simp only [Zip.State.upd, hv, hv', Option.toList, List.count_append, List.count_nil]; omega)
    (fun hs => nomatch hsub.symm.trans hs) (fun _ hs => nomatch hsub.symm.trans hs)

/-- the tuple held is handed to the subscriber -/
theorem Inv.deliver (h : Inv scripts s) (hi : s.threads[i]? = some th) (hv : th.pc.held = some v) (hv' : pc'.held = none)
    (hpc : pc' ≠ .idle) : Inv scripts ({ s with log := s.log ++ [(i, v)] }.upd i { th with pc := pc' }) :=
  inv_update_light h hi _ _ rfl rfl rfl rfl
    (fun a => by simp only [Zip.State.upd, hv, hv', Option.toList, List.map_append, List.map_cons, List.map_nil,
      List.count_append, List.count_nil]; omega)
    h.nodrop (absurd · hpc)

end

theorem headD_mem_of_prefix {pre q todo sc : List Data} (h : pre ++ q ++ todo = sc) (hq : q.isEmpty = false) :
    sc.getD pre.length Data.unit = q.headD Data.unit ∧ (pre ++ [q.headD Data.unit]) ++ q.tail ++ todo = sc := by
  cases q with
  | nil => simp at hq
  | cons a r =>
    subst h
    refine ⟨?_, by simp⟩
    simp [List.getD_eq_getElem?_getD]

theorem allFilled_get {qs : List (List Data)} (h : Zip.allFilled qs = true) {i : Nat} {q : List Data}
    (hq : qs[i]? = some q) : q.isEmpty = false := by
  have := List.all_eq_true.mp h q (List.mem_of_getElem? hq)
  simpa using this

/-- what is popped next is the next tuple: every queue holds its input from position `popped.length` on -/
theorem Inv.heads_eq {scripts : List (List Data)} {s : Zip.State} (h : Inv scripts s)
    (hf : Zip.allFilled s.queues = true) : Zip.heads s.queues = Zip.tuple scripts s.popped.length := by
  apply List.ext_getElem?
  intro j
  simp only [Zip.heads, Zip.tuple, List.getElem?_map]
  cases hq : s.queues[j]? with
  | none =>
    have : scripts[j]? = none := by
      rw [List.getElem?_eq_none_iff] at hq ⊢; rw [← h.lenQ]; exact hq
    simp [this]
  | some q =>
    have hjs : j < scripts.length := h.lenQ ▸ lt_of_getElem? hq
    obtain ⟨q', _, pre, hq', _, hp1, hp2⟩ := h.row hjs
    cases hq.symm.trans hq'
    have := (headD_mem_of_prefix hp2 (allFilled_get hf hq)).1
    rw [hp1] at this
    simp only [List.getElem?_eq_getElem hjs, Option.map_some, Option.some.injEq]
    exact this.symm

theorem inv_step {scripts : List (List Data)} {s s' : Zip.State} {l : Zip.Label} (h : Inv scripts s)
    (hs : Zip.step s l = some s') : Inv scripts s' := by
  cases l with
  | unsub =>
    simp only [Zip.step, Option.some.injEq] at hs; subst hs
    exact ⟨h.lenQ, h.lenT, h.pref, h.pop, h.cnt, by simp, by simp⟩
  | th i =>
    simp only [Zip.step] at hs
    cases hi : s.threads[i]? with
    | none => simp [hi] at hs
    | some th =>
      simp only [hi] at hs
      have hnd := h.nodrop
      cases hpc : th.pc <;> simp only [hpc] at hs
      case idle =>
        split at hs
        · cases hs; exact h.pass hi (hpc ▸ rfl) nofun
        · cases hs
      case push =>
        simp only [Option.some.injEq] at hs; subst hs
        refine inv_update h hi _ _ rfl (by simp [Zip.State.upd]) (fun j q tj sc hqj htj hsc => ?_) h.pop
          (fun a => by rw [hpc]; rfl) hnd nofun
        simp only [Zip.State.upd] at hqj htj ⊢
        rcases getElem?_set_cases htj with ⟨rfl, rfl⟩ | ⟨hne, htj⟩
        · rw [List.getElem?_modify_eq] at hqj
          obtain ⟨q0, hq0, rfl⟩ := Option.map_eq_some_iff.mp hqj
          obtain ⟨pre, hp1, hp2⟩ := h.pref j q0 th sc hq0 hi hsc
          exact ⟨pre, hp1, by rw [← hp2]; cases th.todo <;> simp⟩
        · rw [List.getElem?_modify_ne _ _ (Ne.symm hne)] at hqj
          exact h.pref j q tj sc hqj htj hsc
      case get =>
        by_cases hf : Zip.allFilled s.queues = true
        · simp only [hf, if_true, Option.some.injEq] at hs; subst hs
          refine inv_update h hi _ _ rfl (by simp [Zip.State.upd]) ?_ ?_ (fun a => ?_) hnd nofun
          · intro j q tj sc hqj htj hsc
            simp only [Zip.State.upd, List.getElem?_map] at hqj htj ⊢
            cases hq0 : s.queues[j]? with
            | none => simp [hq0] at hqj
            | some q0 =>
              simp [hq0] at hqj; subst hqj
              obtain ⟨tj0, htj0, hto⟩ : ∃ tj0, s.threads[j]? = some tj0 ∧ tj0.todo = tj.todo := by
                rcases getElem?_set_cases htj with ⟨rfl, rfl⟩ | ⟨_, htj⟩
                · exact ⟨th, hi, rfl⟩
                · exact ⟨tj, htj, rfl⟩
              obtain ⟨pre, hp1, hp2⟩ := h.pref j q0 tj0 sc hq0 htj0 hsc
              refine ⟨pre ++ [q0.headD Data.unit], by simp [hp1], ?_⟩
              rw [← hto]
              exact (headD_mem_of_prefix hp2 (allFilled_get hf hq0)).2
          · simp only [Zip.State.upd, List.length_append, List.length_singleton, List.range_succ, List.map_append,
              List.map_singleton]
            rw [← h.pop, h.heads_eq hf]
          · simp only [Zip.State.upd, hpc, Zip.Pc.held, Option.toList, List.count_append, List.count_nil]
            omega
        · simp only [hf, Option.some.injEq] at hs
          simp only [Bool.false_eq_true, if_false] at hs
          subst hs
          refine inv_update_light h hi _ _ rfl rfl rfl rfl ?_ hnd ?_
          · intro a; simp [Zip.State.upd, hpc, Zip.Pc.held]
          · intro _ _ hf'; exact hf hf'
      case chk | sub | fetch =>
        cases Bool.eq_false_or_eq_true s.sub with
        | inl hsub => simp only [if_pos hsub] at hs; cases hs; exact h.pass hi (hpc ▸ rfl) nofun
        | inr hsub =>
          simp only [if_neg (ne_true_of_eq_false hsub)] at hs; cases hs; exact h.drop hi (hpc ▸ rfl) rfl hsub
      case start => cases hs; exact h.deliver hi (hpc ▸ rfl) rfl nofun
      case cb => cases hs; exact h.pass hi (hpc ▸ rfl) nofun

theorem helds_init (scripts : List (List Data)) :
    helds (scripts.map fun sc => ({ todo := sc, pc := .idle } : Zip.Thread)) = [] := by
  induction scripts with
  | nil => rfl
  | cons a t ih => simp [helds, Zip.Pc.held]

theorem inv_init (scripts : List (List Data)) : Inv scripts (Zip.init scripts) := by
  refine ⟨by simp [Zip.init], by simp [Zip.init], ?_, by simp [Zip.init], ?_, by simp [Zip.init], ?_⟩
  · intro i q th sc hq hth hsc
    simp only [Zip.init, List.getElem?_map, hsc, Option.map_some, Option.some.injEq] at hq hth
    subst hq; subst hth
    exact ⟨[], rfl, by simp⟩
  · intro a
    simp [Zip.init, helds_init]
  · intro hne _ hf
    exfalso
    cases scripts with
    | nil => exact hne rfl
    | cons a t => simp [Zip.init, Zip.allFilled] at hf

theorem inv_reachable {scripts : List (List Data)} {s : Zip.State} (h : Zip.Reachable scripts s) : Inv scripts s := by
  induction h with
  | init => exact inv_init scripts
  | step _ hs ih => exact inv_step ih hs

theorem minLen_le_of_mem {scripts : List (List Data)} {sc : List Data} (h : sc ∈ scripts) :
    Zip.minLen scripts ≤ sc.length := by
  induction scripts with
  | nil => simp at h
  | cons a t ih =>
    cases t with
    | nil => simp at h; subst h; simp [Zip.minLen]
    | cons b r =>
      simp only [Zip.minLen]
      rcases List.mem_cons.mp h with h | h
      · subst h; exact Nat.min_le_left _ _
      · exact Nat.le_trans (Nat.min_le_right _ _) (ih h)

theorem le_minLen {scripts : List (List Data)} {p : Nat} (hne : scripts ≠ [])
    (h : ∀ sc ∈ scripts, p ≤ sc.length) : p ≤ Zip.minLen scripts := by
  induction scripts with
  | nil => exact absurd rfl hne
  | cons a t ih =>
    cases t with
    | nil => simpa [Zip.minLen] using h a (by simp)
    | cons b r =>
      simp only [Zip.minLen]
      exact Nat.le_min.mpr ⟨h a (by simp), ih (by simp) fun sc hsc => h sc (List.mem_cons_of_mem _ hsc)⟩

theorem popped_le {scripts : List (List Data)} {s : Zip.State} (h : Inv scripts s) :
    ∀ sc ∈ scripts, s.popped.length ≤ sc.length := by
  intro sc hsc
  obtain ⟨i, hlt, rfl⟩ := List.getElem_of_mem hsc
  obtain ⟨q, th, pre, _, _, hp1, hp2⟩ := h.row hlt
  rw [← hp1, ← hp2]
  simp only [List.length_append]
  omega

end ZipP

/-- **zip, safety at every moment.**  For any number of inputs, any items, any interleaving (and even if the subscriber
    unsubscribes in the middle): the tuples delivered so far, together with the tuples popped under the lock but still
    on their way to the subscriber and the tuples discarded because the subscriber had gone, are — as a multiset —
    exactly the tuples `(i-th item of every input)` for `i < p`, each ONCE, where `p ≤` the length of the shortest input.
    So every delivered tuple pairs the i-th items for some `i < min length`, and no index is delivered twice. -/
theorem zip_tuples_safe {scripts : List (List Data)} {s : Zip.State} (h : Zip.Reachable scripts s) :
    (s.log.map (·.2) ++ ZipP.helds s.threads ++ s.dropped).Perm
      ((List.range s.popped.length).map (Zip.tuple scripts)) ∧
    (scripts ≠ [] → s.popped.length ≤ Zip.minLen scripts) := by
  have hI := ZipP.inv_reachable h
  refine ⟨?_, fun hne => ZipP.le_minLen hne (ZipP.popped_le hI)⟩
  rw [← hI.pop]
  apply List.perm_iff_count.mpr
  intro a
  simp only [List.count_append]
  exact hI.cnt a

/-- **zip_tuples.**  For any number (≥ 1) of inputs, any items, any interleaving: when every input thread has finished
    and the subscriber is still subscribed, the multiset of delivered tuples is EXACTLY
    `{ (i-th item of every input) | i < min length }`, each once.
    The delivery ORDER may differ from the index order (see `zip_out_of_order_possible`). -/
theorem zip_tuples {scripts : List (List Data)} {s : Zip.State} (h : Zip.Reachable scripts s) (hne : scripts ≠ [])
    (hd : s.allDone = true) (hsub : s.sub = true) :
    (s.log.map (·.2)).Perm ((List.range (Zip.minLen scripts)).map (Zip.tuple scripts)) := by
  have hI := ZipP.inv_reachable h
  have hfin : ∀ th ∈ s.threads, th.pc = .idle ∧ th.todo = [] := by
    intro th hth
    have := List.all_eq_true.mp hd th hth
    simpa [Zip.Thread.finished] using this
  have hheld : ZipP.helds s.threads = [] := by
    unfold ZipP.helds
    rw [List.filterMap_eq_nil_iff]
    intro th hth
    rw [(hfin th hth).1]; rfl
  have hlen : s.popped.length = Zip.minLen scripts := by
    apply Nat.le_antisymm (ZipP.le_minLen hne (ZipP.popped_le hI))
    have hnf : Zip.allFilled s.queues = false := by
      cases hf : Zip.allFilled s.queues with
      | false => rfl
      | true =>
        obtain ⟨j, th, hj, hb⟩ := hI.live hne hsub hf
        have := hfin th (List.mem_of_getElem? hj)
        simp [Zip.Thread.finished, this.1, this.2] at hb
    have : ∃ q ∈ s.queues, q.isEmpty = true := by
      unfold Zip.allFilled at hnf
      simpa using hnf
    obtain ⟨q, hq, hqe⟩ := this
    obtain ⟨i, hi⟩ := List.getElem?_of_mem hq
    have hlts : i < scripts.length := hI.lenQ ▸ lt_of_getElem? hi
    obtain ⟨q', th, pre, hq', ht, hp1, hp2⟩ := hI.row hlts
    cases hi.symm.trans hq'
    have hq0 : q = [] := by simpa using hqe
    rw [(hfin _ (List.mem_of_getElem? ht)).2, hq0] at hp2
    simp at hp2
    have := ZipP.minLen_le_of_mem (List.getElem_mem hlts)
    rw [← hp2, hp1] at this
    exact this
  have := (zip_tuples_safe h).1
  rw [hheld, hI.nodrop hsub, hlen] at this
  simpa using this

def zipEx : List (List Data) := [[.int 1, .int 2], [.int 3, .int 4]]

/-- non-vacuity of `zip_tuples`: a complete run, both tuples delivered -/
example : ∃ s, Zip.Reachable zipEx s ∧ s.allDone = true ∧ s.sub = true ∧
    s.log = [(1, [.int 1, .int 3]), (1, [.int 2, .int 4])] :=
  ⟨_, Zip.reachable_of_run .init (Zip.rep 6 0 ++ Zip.rep 18 1) _ rfl, by decide +kernel⟩

/-- WITNESS: zip may deliver tuple 1 BEFORE tuple 0 (each thread pops one tuple under the lock and emits outside):
    T0 pushes 1; T1 pushes 3 (not yet at `get`); T0 pushes 2 and pops (1,3); T1's `get` fails, T1 pushes 4, pops (2,4)
    and delivers it; only then T0 delivers (1,3). -/
theorem zip_out_of_order_possible : ∃ s, Zip.Reachable zipEx s ∧ s.allDone = true ∧
    s.log = [(1, [.int 2, .int 4]), (0, [.int 1, .int 3])] :=
  ⟨_, Zip.reachable_of_run .init (Zip.rep 3 0 ++ Zip.rep 2 1 ++ Zip.rep 3 0 ++ Zip.rep 10 1 ++ Zip.rep 6 0) _ rfl,
    by decide +kernel⟩

/-! ## non-vacuity examples and witnesses for the merge / StreamController LTS -/

def mergeEx : List Script := [{ items := [.int 1, .int 2] }, { items := [.int 3] }]

/-- non-vacuity of `merge_conserves`, `last_one_out`, `never_two_terminals`: a fully interleaved (round-robin) run of two
    inputs reaches a state where all threads are finished; input 1's item overtakes input 0's, one complete, last. -/
example : ∃ s, Reachable mergeEx s ∧ s.allDone = true ∧ (∀ sc ∈ mergeEx, sc.err = none) ∧
    (∀ sc ∈ mergeEx, sc.unsub = false) ∧
    s.log = [(1, .next (.int 3)), (0, .next (.int 1)), (0, .next (.int 2)), (0, .complete)] ∧
    s.emptyObs = [0] :=
  ⟨roundRobin 200 (init mergeEx) 2, reachable_roundRobin 200 2 _ .init, by decide +kernel⟩

/-- non-vacuity of the hypothesis of `map_empty_all_done`: the map is empty and nobody has claimed yet -/
example : ∃ s, Reachable mergeEx s ∧ s.sN = true ∧ allFalse s.live = true :=
  ⟨runThread 12 (runThread 100 (init mergeEx) 0) 1, reachable_runThread 12 _ 1 (reachable_runThread 100 _ 0 .init),
    by decide +kernel⟩

def errEx : List Script := [{ items := [], err := some 7 }, { items := [] }, { items := [] }]

/-- WITNESS (why `last_one_out_unique` needs "no input fails"): if one input fails, `finalize` clears `unscribers`, and
    then TWO other inputs can each observe `len()==0` in `sink_complete`.  It is harmless: both lose the claim of
    `fn_next`, so still exactly one terminal (the error) is delivered — cf. `never_two_terminals`. -/
theorem two_empty_observers_with_error : ∃ s, Reachable errEx s ∧ s.emptyObs = [1, 2] ∧ s.log = [(0, .error 7)] ∧
    s.allDone = true :=
  ⟨runThread 100 (runThread 100 (runThread 100 (runThread 5 (runThread 5 (init errEx) 1) 2) 0) 1) 2,
    reachable_runThread _ _ _ (reachable_runThread _ _ _ (reachable_runThread _ _ _
      (reachable_runThread _ _ _ (reachable_runThread _ _ _ .init)))), by decide +kernel⟩

def errEx2 : List Script := [{ items := [], err := some 7 }, { items := [.int 3] }]

/-- WITNESS (outside C11, whose hypothesis is "none fails"): when an input FAILS, a `next` callback of another input can
    start after the `error` callback started — input 1 has fetched `fn_next` (a clone of the function) before input 0
    claims it, and calls it afterwards. -/
theorem next_after_error_possible : ∃ s, Reachable errEx2 s ∧ s.log = [(0, .error 7), (1, .next (.int 3))] :=
  ⟨runThread 1 (runThread 100 (runThread 4 (init errEx2) 1) 0) 1,
    reachable_runThread _ _ _ (reachable_runThread _ _ _ (reachable_runThread _ _ _ .init)), by decide +kernel⟩

def unsubEx : List Script := [{ items := [.int 1, .int 2] }, { items := [.int 3] }, { items := [], unsub := true }]

/-- WITNESS (why `merge_conserves` needs "no unsubscribe"): a concurrent `unsubscribe()` cuts the delivery short — all
    threads are finished, one item was delivered, no complete.  (`never_two_terminals`, `last_one_out` still hold.) -/
theorem unsubscribe_cuts_delivery : ∃ s, Reachable unsubEx s ∧ s.allDone = true ∧ s.log = [(0, .next (.int 1))] :=
  ⟨runThread 100 (runThread 100 (runThread 100 (runThread 6 (init unsubEx) 0) 2) 0) 1,
    reachable_runThread _ _ _ (reachable_runThread _ _ _ (reachable_runThread _ _ _ (reachable_runThread _ _ _ .init))),
    by decide +kernel⟩

/-- WITNESS (outside C11; it is the cross-thread clause of C05): a `next` callback can START after a concurrent
    `unsubscribe()` has completely returned, because the input thread fetched (cloned) `fn_next` before it was cleared. -/
theorem next_after_unsubscribe_returned_possible : ∃ s1 s2, Reachable unsubEx s1 ∧
    (s1.threads[2]?.map Thread.finished) = some true ∧ s1.log = [] ∧
    step s1 { tid := 0 } = some s2 ∧ s2.log = [(0, .next (.int 1))] :=
  ⟨runThread 100 (runThread 4 (init unsubEx) 0) 2, _,
    reachable_runThread _ _ _ (reachable_runThread _ _ _ .init), by decide +kernel, by decide +kernel, rfl,
    by decide +kernel⟩

end Rx.C11

#print axioms Rx.C11.never_two_terminals
#print axioms Rx.C11.finalize_never_unsubscribes
#print axioms Rx.C11.terminal_after_own_nexts
#print axioms Rx.C11.map_empty_all_done
#print axioms Rx.C11.last_one_out
#print axioms Rx.C11.last_one_out_unique
#print axioms Rx.C11.merge_prefix
#print axioms Rx.C11.merge_conserves
#print axioms Rx.C11.take_at_most_n
#print axioms Rx.C11.take_never_two_terminals
#print axioms Rx.C11.amb_one_winner
#print axioms Rx.C11.amb_never_two_terminals
#print axioms Rx.C11.zip_tuples_safe
#print axioms Rx.C11.zip_tuples
#print axioms Rx.C11.two_empty_observers_with_error
#print axioms Rx.C11.next_after_error_possible
#print axioms Rx.C11.unsubscribe_cuts_delivery
#print axioms Rx.C11.next_after_unsubscribe_returned_possible
#print axioms Rx.C11.take_next_after_complete_possible
#print axioms Rx.C11.take_may_lose_item
#print axioms Rx.C11.zip_out_of_order_possible
