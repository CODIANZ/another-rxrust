import RxVerif.Theorems.C16
/-
C15 — worker exit (model: `RxVerif/Conc/Timed.lean`, invariants: `RxVerif/Theorems/C16.lean`).

"Every scheduler thread started on behalf of a subscription (by interval, timer, observe_on, subscribe_on, debounce,
timeout, or any operator nesting them) terminates within a bounded number of its own steps - at most one timer period -
after that subscription ended by terminal event, unsubscribe or early completion downstream; a program that creates and
finishes subscriptions repeatedly does not accumulate threads."

This file holds the timer-driven part (timeout, interval, timer, debounce, and the driver `Rounds` that subscribes
repeatedly).  The scheduler thread of observe_on / subscribe_on is the queue worker of `C08.lean`, which leaves once
`abort()` was called (`worker_exits_no_take`, `worker_exit_run` there).

Main theorems: `Timeout.timeout_timer_exits` (ONE period, for every timer the subscription armed), `Rounds.no_accumulation`,
`Interval.interval_exits_within_one_period`, `Timer.timer_exits`, `Debounce.debounce_exits`,
`Interval.interval_exits_eventually` (every continuation is bounded in length).
`Timeout` is the model of operators/timeout.rs (on_finalize cancels the armed timer; a new timer is armed only if still
subscribed, and cancelled by a re-check after the store if the subscription ended meanwhile):
`Timeout.timeout_timer_cancelled_on_complete` and `Timeout.timeout_timer_recheck_cancels` replay the two runs in which,
without these two cancellations, a timer thread outlives the subscription by two periods.
-/
namespace Rx.Timed

namespace Timeout

def lateP : Params := { d := 10, script := [(.rel 5, .next (.int 1)), (.rel 1, .complete)] }

/-- `on_finalize` (timeout.rs:49-54): the subscription ends at 6 (`complete`), `finalize` cancels the timer armed at 5;
its thread wakes at 15, sees the cancellation and exits at 15 ≤ 6 + 10 (not cancelled, it would fire silently at 15 and
live until 25) -/
theorem timeout_timer_cancelled_on_complete :
    (replay lateP
      [.tick 5, .run 0, .run 0, .run 0, .run 0, .run 0, .run 0, .run 2, .tick 6, .run 0, .run 0, .tick 15, .run 2, .run 2,
       .run 2, .tick 16]).map
      (fun s => (s.now, s.outerEndedAt, s.timers.map (fun w => (w.endedAt, w.exitedAt)), liveTimers s))
      = some (16, some 6, [(some 6, some 15)], 0) := by decide

def raceP : Params := { d := 10, script := [(.rel 5, .next (.int 1))], unsubAt := some 5 }

/-- the re-check (timeout.rs:95-102): another thread unsubscribes (and finalizes, finding the `timer` cell empty)
between the `is_subscribed` test and the store of the new timer, at time 5; the re-check after the store sees the
ended subscription and cancels the timer just stored, whose thread exits at 15 = 5 + 10 (without the re-check it would fire
silently at 15 and live until 25) -/
theorem timeout_timer_recheck_cancels :
    (replay raceP
      [.tick 5, .run 0, .run 0, .run 0, .run 0, .run 1, .run 1, .run 0, .run 0, .run 2, .tick 15, .run 2, .run 2, .run 2,
       .tick 16]).map
      (fun s => (s.now, s.outerEndedAt, s.timers.map (fun w => (w.endedAt, w.exitedAt)), liveTimers s))
      = some (16, some 5, [(some 5, some 15)], 0) := by decide

/-- **C15 `timeout_timer_exits`.**  In every reachable state of `timeout(d)` (any script, any consumer
handling times, any unsubscription instant, any interleaving — including an unsubscribe by another thread between the
`is_subscribed` test, the store of the new timer and the re-check):
 (1) a timer thread whose own subscription ended at `e` (cancelled by the next item, by `finalize` or by the re-check,
     or completed by firing) has exited once the clock passed `e + d`, after at most one more sleep and at most 5 more
     micro-steps;
 (2) once the OUTER subscription ended at `E` (terminal event, `TimedOut`, unsubscribe), no timer's subscription ends
     later than `E`, every timer's subscription HAS ended as soon as the clock passed `E`, and every timer thread has
     exited when the clock passed `E + d` — ONE period. -/
theorem timeout_timer_exits (p : Params) (s : State) (hr : Reach (step p) (init p) s) :
    (∀ (i : Nat) (w : IW), s.timers[i]? = some w → ∀ e : Nat, w.endedAt = some e → e + p.d < s.now → w.pc = .exited) ∧
    (∀ (i : Nat) (w : IW), s.timers[i]? = some w → w.sleepsAfterEnd ≤ 1 ∧ w.stepsAfterEnd ≤ 5) ∧
    (∀ E : Nat, s.outerEndedAt = some E →
      ∀ (i : Nat) (w : IW) (e : Nat), s.timers[i]? = some w → w.endedAt = some e → e ≤ E) ∧
    (∀ E : Nat, s.outerEndedAt = some E → E < s.now →
      ∀ (i : Nat) (w : IW), s.timers[i]? = some w → ∃ e : Nat, w.endedAt = some e ∧ e ≤ E) ∧
    (∀ E : Nat, s.outerEndedAt = some E → E + p.d < s.now →
      ∀ (i : Nat) (w : IW), s.timers[i]? = some w → w.pc = .exited) := by
  have h := reach_inv hr
  have hended : ∀ E : Nat, s.outerEndedAt = some E → E < s.now →
      ∀ (i : Nat) (w : IW), s.timers[i]? = some w → ∃ e : Nat, w.endedAt = some e ∧ e ≤ E := fun E hE hlt i w hw => by
    cases he : w.endedAt with
    | some e => exact ⟨e, rfl, h.ended_le_E E hE i w e hw he⟩
    | none => exact absurd (sub_now h hE hw ((h.timers_ok i w hw).1.sub_iff.2 he)) (Nat.ne_of_gt hlt)
  exact ⟨fun i w hw e he hn => IW.exited_after (h.timers_ok i w hw).1 he hn,
    fun i w hw => ⟨(h.timers_ok i w hw).1.sleeps.1, Nat.le_trans (h.timers_ok i w hw).1.steps.1 (IW.stepBound_le _)⟩,
    h.ended_le_E, hended, fun E hE hn i w hw =>
      have ⟨e, he, hle⟩ := hended E hE (Nat.lt_of_le_of_lt (Nat.le_add_right _ _) hn) i w hw
      IW.exited_after (h.timers_ok i w hw).1 he (Nat.lt_of_le_of_lt (Nat.add_le_add_right hle _) hn)⟩

end Timeout

namespace Rounds

structure Inv (p : Params) (s : State) : Prop where
  workers_ok : ∀ (i : Nat) (w : IW), s.workers[i]? = some w → IW.Inv p.d s.now w
  only_last : ∀ (i : Nat) (w : IW), s.workers[i]? = some w → i + 1 < s.workers.length → w.sub = false
  idle : (s.pc = .pausing ∨ s.pc = .subscribe ∨ s.pc = .done) → ∀ (i : Nat) (w : IW), s.workers[i]? = some w → w.sub = false
  fin_pc : ∀ E : Nat, s.finishedAt = some E → s.pc = .done ∧ E ≤ s.now
  fin_ended : ∀ E : Nat, s.finishedAt = some E → ∀ (i : Nat) (w : IW), s.workers[i]? = some w →
                ∃ e : Nat, w.endedAt = some e ∧ e ≤ E

theorem inv_init (p : Params) : Inv p (init p) :=
  have hw : ∀ {i : Nat} {w : IW}, (init p).workers[i]? = some w → False := fun h => nomatch List.getElem?_nil.symm.trans h
  ⟨fun _ _ h => (hw h).elim, fun _ _ h => (hw h).elim, fun _ _ _ h => (hw h).elim,
   fun E hE => (by
     unfold init at hE ⊢
     dsimp only at hE ⊢
     split at hE
     · cases hE; exact ⟨if_pos ‹_›, Nat.le_refl _⟩
     · cases hE),
   fun _ _ _ _ h => (hw h).elim⟩

theorem step_inv {p : Params} {s s' : State} {l : Label} (h : Inv p s) (hs : step p s l = some s') : Inv p s' := by
  have hfin : ∀ {q : RPc}, s.pc = q → q ≠ .done → ∀ E : Nat, s.finishedAt = some E → False :=
    fun hp hq E hE => hq (hp.symm.trans (h.fin_pc E hE).1)
  have key : ∀ {i : Nat} {w w' : IW}, s.workers[i]? = some w → IW.Inv p.d s.now w' → w'.sub = w.sub →
      w'.endedAt = w.endedAt → Inv p { s with workers := s.workers.set i w' } := fun {i w w'} hw hw' hsub hend =>
    { h with
      workers_ok := forall_set (fun j a _ => h.workers_ok j a) fun _ => hw'
      only_last := fun j a ha hlt => forall_set (P := fun j a => j + 1 < s.workers.length → a.sub = false)
        (fun j a _ => h.only_last j a) (fun _ hlt => hsub.trans (h.only_last i w hw hlt)) j a ha (List.length_set ▸ hlt)
      idle := fun hp => forall_set (fun j a _ => h.idle hp j a) fun _ => hsub.trans (h.idle hp i w hw)
      fin_ended := fun E hE => forall_set (fun j a _ => h.fin_ended E hE j a) fun _ => hend ▸ h.fin_ended E hE i w hw }
  revert hs
  fun_cases step p s l <;> intro hs <;> cases hs
  next t' hc =>
    have hall := List.all_eq_true.1 hc.2.2
    exact { h with
      workers_ok := fun i w hw => IW.tick_inv (h.workers_ok i w hw) hc.1 (hall w (List.mem_iff_getElem?.2 ⟨i, hw⟩))
      fin_pc := fun E hE => ⟨(h.fin_pc E hE).1, Nat.le_trans (h.fin_pc E hE).2 (Nat.le_of_lt hc.1)⟩ }
  -- a new subscription on a new scheduler thread
  next hp =>
    exact { h with
      workers_ok := fun i w hw => (append_new hw).elim (h.workers_ok i w) fun ⟨_, hw⟩ => by
        subst hw; exact IW.inv_new _ _ _
      only_last := fun i w hw hlt => (append_new hw).elim (h.idle (.inr (.inl hp)) i w) fun ⟨hi, _⟩ => by
        rw [hi, List.length_append] at hlt; exact absurd hlt (Nat.lt_irrefl _)
      idle := by simp
      fin_pc := fun E hE => (hfin hp nofun E hE).elim
      fin_ended := fun E hE => (hfin hp nofun E hE).elim }
  -- `sb.unsubscribe()`
  next hp _ =>
    have hall : ∀ (i : Nat) (w : IW), (cancelLast s)[i]? = some w →
        w.sub = false ∧ IW.Inv p.d s.now w := fun i w hw => by
      unfold cancelLast at hw
      split at hw
      · next w0 hw0 =>
        exact forall_set (P := fun _ a => a.sub = false ∧ IW.Inv p.d s.now a)
          (fun j a hne ha => ⟨h.only_last j a ha (by have := (List.getElem?_eq_some_iff.1 ha).1; omega), h.workers_ok j a ha⟩)
          (fun _ => ⟨rfl, IW.cancel_inv (h.workers_ok _ _ hw0)⟩) i w hw
      · next hn =>
        exact absurd (List.getElem?_eq_none_iff.1 hn) (by have := (List.getElem?_eq_some_iff.1 hw).1; omega)
    exact { h with
      workers_ok := fun i w hw => (hall i w hw).2
      only_last := fun i w hw _ => (hall i w hw).1
      idle := fun _ i w hw => (hall i w hw).1
      fin_pc := fun E hE => (hfin hp nofun E hE).elim
      fin_ended := fun E hE => (hfin hp nofun E hE).elim }
  -- the pause is over; after the last round the driver is finished
  next hp hw =>
    have hall := h.idle (.inl hp)
    exact { h with
      idle := fun _ => hall
      fin_pc := fun E hE => by split at hE <;> cases hE; exact ⟨if_pos ‹_›, Nat.le_refl _⟩
      fin_ended := fun E hE i w hw => by
        split at hE <;> cases hE
        have iw := h.workers_ok i w hw
        have ⟨e, he⟩ := ended_of_not_sub iw.sub_iff (hall i w hw)
        exact ⟨e, he, iw.ended_le e he⟩ }
  next i w hw hp => exact key hw (IW.emitted_inv false (h.workers_ok i w hw) hp) (by simp [IW.emitted]) (by simp [IW.emitted])
  next i w hw w' hw' _ =>
    have ⟨_, f2, f3, _⟩ := IW.localStep_spec hw'
    exact key hw (IW.localStep_inv (h.workers_ok i w hw) hw') f2 f3

theorem reach_inv {p : Params} {s : State} (hr : Reach (step p) (init p) s) : Inv p s :=
  reach_induct (Inv p) (inv_init p) (fun _ _ _ h hs => step_inv h hs) s hr

/-- **C15 `no_accumulation`.**  A program that creates and finishes `interval(d)` subscriptions repeatedly (any number
of rounds, any hold and pause durations): every scheduler thread whose subscription ended at `e` has exited once the
clock passed `e + d`, at most ONE worker is subscribed at any time, and when the program finished its last round at
`E`, one period later no scheduler thread is alive. -/
theorem no_accumulation (p : Params) (s : State) (hr : Reach (step p) (init p) s) :
    (∀ (i : Nat) (w : IW), s.workers[i]? = some w → ∀ e : Nat, w.endedAt = some e → e + p.d < s.now → w.live = false) ∧
    (∀ (i : Nat) (w : IW), s.workers[i]? = some w → i + 1 < s.workers.length → w.sub = false) ∧
    (∀ E : Nat, s.finishedAt = some E → E + p.d < s.now → live s = 0) := by
  have h := reach_inv hr
  have hex : ∀ (i : Nat) (w : IW), s.workers[i]? = some w → ∀ e : Nat, w.endedAt = some e → e + p.d < s.now → w.live = false :=
    fun i w hw e he hn => by simp [IW.live, IW.exited_after (h.workers_ok i w hw) he hn]
  refine ⟨hex, h.only_last, fun E hE hn => ?_⟩
  simp only [live, List.length_eq_zero_iff, List.filter_eq_nil_iff]
  intro w hw
  obtain ⟨i, hi⟩ := List.mem_iff_getElem?.1 hw
  obtain ⟨e, he, hle⟩ := h.fin_ended E hE i w hi
  simp [hex i w hi e he (by omega)]

/-- non-vacuity: three rounds of `interval(2)` (hold 5, pause 1); at time 21 all three threads are gone -/
example :
    (runFrom (step { d := 2, rounds := [(5, 1), (5, 1), (5, 1)] }) (init { d := 2, rounds := [(5, 1), (5, 1), (5, 1)] })
      [.run 0, .run 1, .tick 2, .run 1, .run 1, .run 1, .tick 4, .run 1, .run 1, .run 1, .tick 5, .run 0, .tick 6,
       .run 1, .run 1, .run 1, .run 0,
       .run 0, .run 2, .tick 8, .run 2, .run 2, .run 2, .tick 10, .run 2, .run 2, .run 2, .tick 11, .run 0, .tick 12,
       .run 2, .run 2, .run 2, .run 0,
       .run 0, .run 3, .tick 14, .run 3, .run 3, .run 3, .tick 16, .run 3, .run 3, .run 3, .tick 17, .run 0, .tick 18,
       .run 3, .run 3, .run 3, .run 0, .tick 21]).map
      (fun s => (s.now, s.finishedAt, s.workers.length, live s))
      = some (21, some 18, 3, 0) := by decide

end Rounds

/-- **C15 `interval_exits_within_one_period`.**  In every reachable state of `interval(d)[.take(c)]` with an optional
unsubscribing thread: `endedAt` records the instant the worker's observer stopped being subscribed (by `unsubscribe`
or by the downstream `take` completing); after that instant the worker begins at most ONE more `thread::sleep`, does
at most 5 more micro-steps, has left its scheduler thread (`abort`, loop exit) as soon as the clock passed
`endedAt + d`, and the exit instant itself is `≤ endedAt + d`. -/
theorem Interval.interval_exits_within_one_period (p : Interval.Params) (s : Interval.State)
    (hr : Reach (Interval.step p) (Interval.init p) s) :
    (s.w.sub = true ↔ s.w.endedAt = none) ∧ s.w.sleepsAfterEnd ≤ 1 ∧ s.w.stepsAfterEnd ≤ 5 ∧
    (∀ e : Nat, s.w.endedAt = some e → e + p.d < s.now → s.w.pc = .exited) ∧
    (∀ e x : Nat, s.w.endedAt = some e → s.w.exitedAt = some x → x ≤ e + p.d) := by
  have iw := (Interval.reach_inv hr).1.iw
  refine ⟨iw.sub_iff, iw.sleeps.1, Nat.le_trans iw.steps.1 (IW.stepBound_le _), fun e he hn => IW.exited_after iw he hn,
    fun e x he hx => ?_⟩
  obtain ⟨e', x', h1, h2, h3, _⟩ := iw.ex_end (iw.exitedAt_pc x hx)
  cases he.symm.trans h1; cases hx.symm.trans h2; exact h3

/-- non-vacuity: `interval(3)` unsubscribed at 4 — the worker sleeps on until 6, then aborts and exits at 6 ≤ 4 + 3 -/
example :
    (runFrom (Interval.step { d := 3, unsubAt := some 4 }) (Interval.init { d := 3, unsubAt := some 4 })
      [.run 0, .tick 3, .run 0, .run 0, .run 0, .tick 4, .run 1, .tick 6, .run 0, .run 0, .run 0, .tick 8]).map
      (fun s => (s.now, s.w.endedAt, s.w.exitedAt, s.w.sleepsAfterEnd, s.w.stepsAfterEnd))
      = some (8, some 4, some 6, 0, 3) := by decide

/-- **C15 `timer_exits`.**  The scheduler thread of `timer(d)` exits at exactly `d` — whatever happened to the
subscription (there is no `is_subscribed` test in timer.rs:16-21, so an early unsubscribe does not shorten the sleep);
every end of the subscription is `≤ d`, so the thread is gone within one period of it. -/
theorem Timer.timer_exits (p : Timer.Params) (s : Timer.State) (hr : Reach (Timer.step p) (Timer.init p) s) :
    (∀ x : Nat, s.exitedAt = some x → x = p.d) ∧ (p.d < s.now → s.pc = .exited) ∧
    (∀ e : Nat, s.endedAt = some e → e ≤ p.d) ∧ s.sleepsAfterEnd ≤ 1 ∧ s.stepsAfterEnd ≤ 6 := by
  have h := Timer.reach_inv hr
  exact ⟨fun x hx => (Option.some.inj (hx.symm.trans (h.ex (h.ex_pc x hx)).1)),
    fun hn => Decidable.byContradiction fun hp => Nat.not_le.2 hn (h.alive_le hp), fun e he => (h.ended e he).2,
    h.sleeps.1, Nat.le_trans h.steps.1 (by cases s.pc <;> decide)⟩

/-- non-vacuity: `timer(5)` unsubscribed at 1 still keeps its thread until 5 -/
example :
    (runFrom (Timer.step { d := 5, unsubAt := some 1 }) (Timer.init { d := 5, unsubAt := some 1 })
      [.run 0, .tick 1, .run 1, .tick 5, .run 0, .run 0, .run 0, .run 0, .run 0, .tick 7]).map
      (fun s => (s.now, s.log, s.endedAt, s.exitedAt))
      = some (7, [], some 1, some 5) := by decide

/-- **C15 `debounce_exits`.**  `endedAt` = instant the downstream subscriber of `debounce` stopped being subscribed
(terminal event of the source, or unsubscribe).  `finalize` then runs `on_finalize = scheduler.abort()`; the worker's
`while sctl.is_subscribed()` fails at its next test, so it begins at most ONE more sleep, does at most 6 more
micro-steps, and has left the scheduler thread as soon as the clock passed `endedAt + d`. -/
theorem Debounce.debounce_exits (p : Debounce.Params) (s : Debounce.State)
    (hr : Reach (Debounce.step p) (Debounce.init p) s) :
    (s.sub = true ↔ s.endedAt = none) ∧ s.sleepsAfterEnd ≤ 1 ∧ s.stepsAfterEnd ≤ 6 ∧
    (∀ e : Nat, s.endedAt = some e → e + p.d < s.now → s.wpc = .exited) ∧
    (∀ e x : Nat, s.endedAt = some e → s.exitedAt = some x → x ≤ e + p.d) := by
  have h := Debounce.reach_inv hr
  refine ⟨h.sub_iff, h.sleeps.1, Nat.le_trans h.steps.1 (by cases s.wpc <;> decide), fun e he hn => ?_, fun e x he hx => ?_⟩
  · cases hp : s.wpc with
    | check => have := h.run_end (.inl hp) e he; omega
    | body => have := h.body_end hp e he; have := h.ended_le e he; omega
    | sleeping => have := (h.sl_now hp).1; have := h.sl_end hp e he; omega
    | take => have := h.run_end (.inr (.inl hp)) e he; omega
    | emit => have := h.run_end (.inr (.inr hp)) e he; omega
    | waiting => obtain ⟨e', h1, h2⟩ := h.wait_end hp; cases he.symm.trans h1; omega
    | exited => rfl
  · obtain ⟨e', x', h1, h2, h3⟩ := h.ex_end (h.ex_pc x hx)
    cases he.symm.trans h1; cases hx.symm.trans h2; exact h3

/-- non-vacuity: source emits 1@1, 2@2, 3@14, completes @15; debounce(10) delivers 2@10, complete@15 (item 3 is lost),
    the worker exits at 20 ≤ 15 + 10 -/
example :
    (Debounce.replay Debounce.demo
      [.run 2, .run 2, .tick 1, .run 0, .run 0, .tick 2, .run 0, .run 0, .tick 10, .run 2, .run 2, .run 2, .run 2, .run 2,
       .tick 14, .run 0, .run 0, .tick 15, .run 0, .run 0, .run 0, .tick 20, .run 2, .run 2, .run 2, .run 2, .run 2, .tick 30]).map
      (fun s => (s.now, s.log, s.endedAt, s.exitedAt))
      = some (30, [(10, .next (.int 2)), (15, .complete)], some 15, some 20) := by decide

namespace Interval

def pcRank : WPc → Nat
  | .emit => 5 | .top => 4 | .sleeping => 3 | .abort => 2 | .ret => 1 | .exited => 0

/-- a bound on the number of labels (clock ticks included) any continuation can take before the worker is gone -/
def fuel (p : Params) (s : State) (e : Nat) : Nat :=
  (e + p.d - s.now) + pcRank s.w.pc + (if s.udone then 0 else 1)

theorem fuel_decreases {p : Params} {s s' : State} {l : Label} {e : Nat} (h : Inv p s) (he : s.w.endedAt = some e)
    (hs : step p s l = some s') :
    s'.w.endedAt = some e ∧ (s.w.pc = .exited → s'.w.pc = .exited) ∧ (s.w.pc ≠ .exited → fuel p s' e < fuel p s e) := by
  have hsub := not_sub_of_ended h.iw.sub_iff he
  cases Step.of_step hs with
  | tick c1 c2 c3 =>
    refine ⟨he, id, fun hne => ?_⟩
    have ⟨hw, _⟩ := IW.allowsTick_eq_true c2
    have hp : s.w.pc = .sleeping := by
      cases hp : s.w.pc <;> simp [IW.allowsTick, hp] at c2 <;> first | rfl | exact absurd hp hne
    have := h.iw.sl_end hp e he; have := hw hp
    simp only [fuel]; omega
  | half2 hp => exact ⟨by simp [IW.emitted, hsub, he], by simp [hp], fun _ => by simp [fuel, IW.emitted, hp, pcRank]⟩
  | half1 _ _ hs' => cases hsub.symm.trans hs'
  | deliver _ _ hs' => cases hsub.symm.trans hs'
  | past _ _ hs' => cases hsub.symm.trans hs'
  | skip hp => exact ⟨by simp [IW.emitted, hsub, he], by simp [hp], fun _ => by simp [fuel, IW.emitted, hp, pcRank]⟩
  | loc _ hw =>
    have ⟨_, f2, f3, _, _, _, _, f7, _⟩ := IW.localStep_spec hw
    refine ⟨f3.trans he, fun hp => (f7 hp).elim, fun _ => ?_⟩
    revert hw
    fun_cases IW.localStep p.d s.now s.w <;> intro hw <;> cases hw <;> simp [fuel, pcRank, *]
  | unsub hu hd hle => exact ⟨by simp [IW.cancel, hsub, he], id, fun _ => by simp [fuel, IW.cancel, hd]⟩

theorem exits_of_fuel {p : Params} {e : Nat} : ∀ (ls : List Label) (s s' : State), Inv p s →
    (s.w.pc = .exited ∨ (s.w.endedAt = some e ∧ fuel p s e < ls.length)) →
    runFrom (step p) s ls = some s' → s'.w.pc = .exited
  | [], s, s', _, h, hr => by
      cases hr
      exact h.elim id fun h => absurd h.2 (Nat.not_lt_zero _)
  | l :: ls, s, s', hi, h, hr => by
      simp only [runFrom] at hr
      split at hr
      · next s1 hs1 =>
        refine exits_of_fuel (e := e) ls s1 s' (step_inv hi hs1) ?_ hr
        rcases h with hx | ⟨he, hf⟩
        · obtain ⟨e', _, he', _⟩ := hi.iw.ex_end hx
          exact .inl ((fuel_decreases hi he' hs1).2.1 hx)
        · have ⟨he1, hst, hd⟩ := fuel_decreases hi he hs1
          by_cases hx : s.w.pc = .exited
          · exact .inl (hst hx)
          · exact .inr ⟨he1, by have := hd hx; simp at hf; omega⟩
      · cases hr

/-- **C15, bounded continuations.**  From any reachable state whose subscription ended at `e`, EVERY continuation (any
interleaving, clock ticks counted as steps) of more than `(e + d - now) + 6` labels ends with the worker's scheduler
thread gone: no schedule keeps the worker alive for longer.  (A bound on the runs there are; that a label is enabled is
not claimed.) -/
theorem interval_exits_eventually (p : Params) (s s' : State) (e : Nat) (ls : List Label)
    (hr : Reach (step p) (init p) s) (he : s.w.endedAt = some e) (hrun : runFrom (step p) s ls = some s')
    (hlen : (e + p.d - s.now) + 6 < ls.length) : s'.w.pc = .exited := by
  refine exits_of_fuel ls s s' (reach_inv hr).1 (.inr ⟨he, ?_⟩) hrun
  have : pcRank s.w.pc ≤ 5 := by cases s.w.pc <;> decide
  simp only [fuel]; split <;> omega

end Interval

end Rx.Timed

#print axioms Rx.Timed.Interval.interval_exits_within_one_period
#print axioms Rx.Timed.Interval.interval_exits_eventually
#print axioms Rx.Timed.Timer.timer_exits
#print axioms Rx.Timed.Debounce.debounce_exits
#print axioms Rx.Timed.Timeout.timeout_timer_exits
#print axioms Rx.Timed.Timeout.timeout_timer_cancelled_on_complete
#print axioms Rx.Timed.Timeout.timeout_timer_recheck_cancels
#print axioms Rx.Timed.Rounds.no_accumulation
