import RxVerif.Kernel.Run
import RxVerif.Spec.Single
/-
C02: every single-source operator kernel of `Kernel/Basic.lean`, run by the semantics of `Kernel/Run.lean`
against a cold polite source, is EQUAL to its ReactiveX list function of `Spec/Single.lean`, for all streams
and all parameters.  This file: what `C02a`, `C02c`, `C02d`, `C04k` and `Sim` build on (`live`, `stopped`, the `feed_*` equations,
`Accum`), and the operators scan, reduce, sum, min, max, count, sum_and_count, contains, default_if_empty,
buffer_with_count, materialize, dematerialize; `demat_mat`: dematerialize inverts materialize (C04).
`C02a.lean`: the forwarding and the stopping operators.

Most kernels never end their downstream from `onNext`: their three closures are described by three functions
(`Accum`), which determine the run (`Accum.run`) and leave a statement about lists per operator.  The operators
that stop early (here contains and dematerialize; take, take_while in `C02a`) each have a lemma about `Kernel.feed`
from an arbitrary intermediate state, by induction on the item list.
-/
namespace Rx.C02b
open Rx

/-! ### generic facts on `Kernel.feed` / `Kernel.run` -/

/-- a run record whose downstream is still subscribed and whose upstream has not been cancelled (`g`: `registered`) -/
abbrev live (g : Bool) (out : List Ev) : KRun := ⟨true, false, g, out⟩

/-- the record after the operator itself terminated the stream from inside `onNext` -/
abbrev stopped (out : List Ev) : KRun := ⟨false, true, false, out⟩

theorem runFull_eq {σ} (K : Kernel σ) (s : Stream) :
    K.runFull s = K.finish (K.feed K.init (live true []) s.1).1 (K.feed K.init (live true []) s.1).2 s.2 := rfl

theorem run_eq_finish {σ} (K : Kernel σ) (s : Stream) :
    K.run s = (K.finish (K.feed K.init (live true []) s.1).1 (K.feed K.init (live true []) s.1).2 s.2).out := rfl

theorem feed_nil {σ} (K : Kernel σ) (st : σ) (r : KRun) : K.feed st r [] = (st, r) := rfl

theorem feed_cons {σ} (K : Kernel σ) (st : σ) (r : KRun) (x : Data) (xs : List Data) :
    K.feed st r (x :: xs) =
      if r.cancelled then (st, r) else K.feed (K.onNext st x).1 (r.acts (K.onNext st x).2) xs := rfl

theorem feed_cons_live {σ} (K : Kernel σ) (st : σ) (g : Bool) (out : List Ev) (x : Data) (xs : List Data) :
    K.feed st (live g out) (x :: xs) = K.feed (K.onNext st x).1 ((live g out).acts (K.onNext st x).2) xs := rfl

theorem feed_cancelled {σ} (K : Kernel σ) (st : σ) (r : KRun) (xs : List Data)
    (h : r.cancelled = true) : K.feed st r xs = (st, r) := by
  cases xs with
  | nil => rfl
  | cons x xs => rw [feed_cons, if_pos h]

theorem finish_cancelled {σ} (K : Kernel σ) (st : σ) (r : KRun) (e : Ending) (h : r.cancelled = true) :
    K.finish st r e = r := by
  cases e <;> simp [Kernel.finish, h]

@[simp] theorem acts_nil (r : KRun) : r.acts [] = r := rfl
@[simp] theorem acts_cons (r : KRun) (a : Act) (as : List Act) : r.acts (a :: as) = (r.act a).acts as := rfl

theorem acts_append (r : KRun) (as bs : List Act) : r.acts (as ++ bs) = (r.acts as).acts bs := by
  simp [KRun.acts, List.foldl_append]

/-- on a live record an emission just appends -/
@[simp] theorem act_emit_live (c g : Bool) (out : List Ev) (d : Data) :
    KRun.act ⟨true, c, g, out⟩ (.emit d) = ⟨true, c, g, out ++ [.next d]⟩ := rfl

@[simp] theorem act_emitAll_live (c g : Bool) (out : List Ev) (ds : List Data) :
    KRun.act ⟨true, c, g, out⟩ (.emitAll ds) = ⟨true, c, g, out ++ ds.map .next⟩ := rfl

@[simp] theorem act_complete_live (c g : Bool) (out : List Ev) :
    KRun.act ⟨true, c, g, out⟩ .complete = ⟨false, c, false, out ++ [.complete]⟩ := rfl

@[simp] theorem act_fail_live (c g : Bool) (out : List Ev) (e : Nat) :
    KRun.act ⟨true, c, g, out⟩ (.fail e) = ⟨false, c || g, false, out ++ [.error e]⟩ := rfl

@[simp] theorem act_abortSelf (a c g : Bool) (out : List Ev) :
    KRun.act ⟨a, c, g, out⟩ .abortSelf = ⟨a, true, false, out⟩ := rfl

@[simp] theorem act_finalize (a c g : Bool) (out : List Ev) :
    KRun.act ⟨a, c, g, out⟩ .finalize = ⟨false, c || g, false, out⟩ := rfl

theorem acts_emits (c g : Bool) (ds : List Data) : ∀ out : List Ev,
    KRun.acts ⟨true, c, g, out⟩ (ds.map .emit) = ⟨true, c, g, out ++ ds.map .next⟩ := by
  induction ds with
  | nil => intro out; simp
  | cons d ds ih => intro out; simp [ih]

/-- the default `on_error` / `on_complete` closures on a live record -/
theorem finish_default {σ} (K : Kernel σ) (st : σ) (g : Bool) (out : List Ev) (t : Ending)
    (hC : (K.onComplete st).2 = [.complete]) (hE : ∀ e, (K.onError st e).2 = [.fail e]) :
    (K.finish st (live g out) t).out = out ++ t.toEvs := by
  cases t <;> simp [Kernel.finish, hE, hC, Ending.toEvs]

theorem toEvs_mk (xs : List Data) (t : Ending) : Stream.toEvs (xs, t) = xs.map .next ++ t.toEvs := rfl

/-! ### kernels whose `onNext` only emits -/

/-- what is emitted on the way through `xs` from state `st`, the state moving by `step` -/
def outs {σ β} (step : σ → Data → σ) (em : σ → Data → List β) : σ → List Data → List β
  | _, [] => []
  | st, x :: xs => em st x ++ outs step em (step st x) xs

theorem outs_silent {σ β} (step : σ → Data → σ) (xs : List Data) : ∀ st : σ,
    outs step (fun _ _ => ([] : List β)) st xs = [] := by
  induction xs with
  | nil => intro st; rfl
  | cons x xs ih => intro st; exact ih _

theorem outs_pure {σ β} (step : σ → Data → σ) (f : Data → β) (xs : List Data) : ∀ st : σ,
    outs step (fun _ x => [f x]) st xs = xs.map f := by
  induction xs with
  | nil => intro st; rfl
  | cons x xs ih => intro st; exact congrArg (f x :: ·) (ih _)

theorem outs_map {σ β γ} (step : σ → Data → σ) (em : σ → Data → List β) (f : β → γ) (xs : List Data) :
    ∀ st : σ, outs step (fun st x => (em st x).map f) st xs = (outs step em st xs).map f := by
  induction xs with
  | nil => intro st; rfl
  | cons x xs ih => intro st; simp [outs, ih]

theorem feed_emits {σ} {K : Kernel σ} {step : σ → Data → σ} {em : σ → Data → List Data}
    (h : ∀ st x, K.onNext st x = (step st x, (em st x).map .emit)) (xs : List Data) :
    ∀ (st : σ) (g : Bool) (out : List Ev),
      K.feed st (live g out) xs = (xs.foldl step st, live g (out ++ (outs step em st xs).map .next)) := by
  induction xs with
  | nil => intro st g out; simp [feed_nil, outs]
  | cons x xs ih => intro st g out; rw [feed_cons_live, h, acts_emits, ih]; simp [outs]

/-- the three closures of an operator that never ends its downstream on its own -/
structure Accum {σ} (K : Kernel σ) (step : σ → Data → σ) (em : σ → Data → List Data) (fl : σ → List Data) :
    Prop where
  next : ∀ st x, K.onNext st x = (step st x, (em st x).map .emit)
  complete : ∀ st, (K.onComplete st).2 = (fl st).map .emit ++ [.complete]
  error : ∀ st e, (K.onError st e).2 = [.fail e]

theorem Accum.run {σ} {K : Kernel σ} {step em fl} (h : Accum K step em fl) (s : Stream) :
    K.run s = Stream.toEvs
      (outs step em K.init s.1 ++ (if s.2 = .complete then fl (s.1.foldl step K.init) else []), s.2) := by
  obtain ⟨xs, e⟩ := s
  rw [run_eq_finish, feed_emits h.next]
  cases e <;> simp [Kernel.finish, h.complete, h.error, acts_append, acts_emits, toEvs_mk, Ending.toEvs]

theorem Accum.run_fwd {σ} {K : Kernel σ} {step em} (h : Accum K step em fun _ => []) (s : Stream) :
    K.run s = Stream.toEvs (outs step em K.init s.1, s.2) := by
  rw [h.run]; simp

/-- C06 for these operators: the feed phase leaves the run live -/
theorem feed_emits_cancels {σ} {K : Kernel σ} {step : σ → Data → σ} {em : σ → Data → List Data}
    (h : ∀ st x, K.onNext st x = (step st x, (em st x).map .emit))
    (xs : List Data) : (K.feed K.init {} xs).2.alive = false → (K.feed K.init {} xs).2.cancelled = true := by
  intro ha
  rw [show ({} : KRun) = live true [] from rfl, feed_emits h] at ha
  cases ha

theorem runFull_cancels_of_feed {σ} (K : Kernel σ)
    (h : ∀ xs, (K.feed K.init {} xs).2.alive = false → (K.feed K.init {} xs).2.cancelled = true) (s : Stream) :
    (K.runFull s).alive = false → (K.runFull s).cancelled = true ∨ s.2 ≠ .silent := by
  obtain ⟨xs, e⟩ := s
  cases e with
  | silent => exact fun ha => .inl (h xs ha)
  | _ => exact fun _ => .inr (by simp)

theorem aggregate_eq (r : Option Data) (s : Stream) :
    Spec.aggregate r s = (if s.2 = .complete then r.toList else [], s.2) := by
  obtain ⟨xs, e⟩ := s
  cases e <;> rfl

def stepO (g : Data → Data → Data) (acc : Option Data) (x : Data) : Data :=
  match acc with | some a => g a x | none => x

theorem kScan_accum (f : Fn2) :
    Accum (kScan f) (fun acc x => some (stepO f.app acc x)) (fun acc x => [stepO f.app acc x]) fun _ => [] :=
  ⟨fun _ _ => rfl, fun _ => rfl, fun _ _ => rfl⟩

theorem scan_outs (g : Data → Data → Data) (xs : List Data) : ∀ a : Data,
    outs (fun acc x => some (stepO g acc x)) (fun acc x => [stepO g acc x]) (some a) xs
      = Spec.scanl1.go g a xs := by
  induction xs with
  | nil => intro a; rfl
  | cons x xs ih => intro a; exact congrArg (g a x :: ·) (ih (g a x))

theorem kFold_onError (g : Data → Data → Data) (acc : Option Data) (e : Nat) :
    ((kFold g).onError acc e).2 = [.fail e] := rfl

theorem kFold_accum (g : Data → Data → Data) :
    Accum (kFold g) (fun acc x => some (stepO g acc x)) (fun _ _ => []) Option.toList :=
  ⟨fun _ _ => rfl, fun acc => by cases acc <;> rfl, kFold_onError g⟩

theorem foldl_stepO (g : Data → Data → Data) (xs : List Data) : ∀ a : Data,
    xs.foldl (fun acc x => some (stepO g acc x)) (some a) = some (xs.foldl g a) := by
  induction xs with
  | nil => intro a; rfl
  | cons x xs ih => intro a; exact ih (g a x)

theorem foldl1_eq (g : Data → Data → Data) (xs : List Data) :
    xs.foldl (fun acc x => some (stepO g acc x)) none = Spec.foldl1 g xs := by
  cases xs with
  | nil => rfl
  | cons x xs => exact foldl_stepO g xs x

/-- the one lemma behind reduce / sum / min / max -/
theorem fold_spec (g : Data → Data → Data) (s : Stream) :
    (kFold g).run s = (Spec.aggregate (Spec.foldl1 g s.1) s).toEvs := by
  rw [(kFold_accum g).run, outs_silent, aggregate_eq, ← foldl1_eq]; rfl

theorem kCount_accum : Accum kCount (fun n _ => n + 1) (fun _ _ => []) fun n => [.int n] :=
  ⟨fun _ _ => rfl, fun _ => rfl, fun _ _ => rfl⟩

theorem kSumAndCount_onError (st : Option Data × Nat) (e : Nat) :
    (kSumAndCount.onError st e).2 = [.fail e] := rfl

theorem kSumAndCount_accum :
    Accum kSumAndCount (fun st x => (some (stepO (fun a b => .int (a.toInt + b.toInt)) st.1 x), st.2 + 1))
      (fun _ _ => [])
      fun st => (st.1.map fun a => .pair a (.int st.2)).toList :=
  ⟨fun _ _ => rfl, fun st => by obtain ⟨acc, n⟩ := st; cases acc <;> rfl, kSumAndCount_onError⟩

theorem foldl_sumAndCount (g : Data → Data → Data) (xs : List Data) : ∀ (acc : Option Data) (n : Nat),
    xs.foldl (fun (st : Option Data × Nat) x => (some (stepO g st.1 x), st.2 + 1)) (acc, n)
      = (xs.foldl (fun acc x => some (stepO g acc x)) acc, n + xs.length) := by
  induction xs with
  | nil => intro acc n; rfl
  | cons x xs ih => intro acc n; rw [List.foldl_cons, ih, List.length_cons, List.foldl_cons]; congr 1; omega

theorem kContains_onNext (t : Data) (x : Data) :
    (kContains t).onNext () x =
      ((), if x == t then [.abortSelf, .emit (.bool true), .complete] else []) := rfl

theorem contains_feed (t : Data) (xs : List Data) : ∀ (out : List Ev),
    ((kContains t).feed () (live true out) xs).2
      = if xs.any (· == t) then stopped (out ++ [.next (.bool true), .complete])
        else live true out := by
  induction xs with
  | nil => intro out; rfl
  | cons x xs ih =>
    intro out
    rw [feed_cons, kContains_onNext]
    by_cases hx : (x == t) = true
    · simp [hx, feed_cancelled]
    · simp [hx, ih]

theorem kDefaultIfEmpty_accum (d : Data) :
    Accum (kDefaultIfEmpty d) (fun _ _ => true) (fun _ x => [x]) fun b => if b then [] else [d] :=
  ⟨fun _ _ => rfl, fun b => by cases b <;> rfl, fun _ _ => rfl⟩

theorem foldl_true (xs : List Data) : xs.foldl (fun _ _ => true) true = true := by
  induction xs with
  | nil => rfl
  | cons x xs ih => exact ih

def stepB (n : Nat) (buf : List Data) (x : Data) : List Data :=
  if (buf ++ [x]).length == n then [] else buf ++ [x]

def emB (n : Nat) (buf : List Data) (x : Data) : List (List Data) :=
  if (buf ++ [x]).length == n then [buf ++ [x]] else []

theorem kBuffer_onError (n : Nat) (buf : List Data) (e : Nat) :
    ((kBuffer n).onError buf e).2 = [.fail e] := rfl

theorem kBuffer_accum (n : Nat) :
    Accum (kBuffer n) (stepB n) (fun buf x => (emB n buf x).map Data.ofList)
      fun buf => if buf.length > 0 then [Data.ofList buf] else [] :=
  ⟨fun buf x => by simp only [kBuffer, stepB, emB]; split <;> rfl,
   fun buf => by simp only [kBuffer]; split <;> rfl, kBuffer_onError n⟩

theorem chunks_succ (n fuel : Nat) (xs : List Data) (h : xs ≠ []) :
    Spec.chunks n (fuel + 1) xs
      = if xs.length < n then [xs] else xs.take n :: Spec.chunks n fuel (xs.drop n) := by
  cases xs with
  | nil => exact absurd rfl h
  | cons y ys => simp only [Spec.chunks]

/-- `Spec.chunks` (with enough fuel) of "what is buffered ++ what is still to come" is what the kernel
emits on the way, followed by the non-empty remainder -/
theorem chunks_buf (n : Nat) (hn : 0 < n) (xs : List Data) : ∀ (buf : List Data) (fuel : Nat),
    buf.length < n → buf.length + xs.length + 1 ≤ fuel →
    Spec.chunks n fuel (buf ++ xs)
        = outs (stepB n) (emB n) buf xs ++ (if xs.foldl (stepB n) buf = [] then [] else [xs.foldl (stepB n) buf])
      ∧ (xs.foldl (stepB n) buf).length < n
      ∧ ∀ c ∈ outs (stepB n) (emB n) buf xs, c.length = n := by
  induction xs with
  | nil =>
    intro buf fuel hb hf
    refine ⟨?_, hb, by simp [outs]⟩
    obtain ⟨fuel, rfl⟩ : ∃ k, fuel = k + 1 := ⟨fuel - 1, by omega⟩
    cases buf with
    | nil => simp [Spec.chunks, outs]
    | cons b bs => simp [Spec.chunks, outs, show bs.length + 1 < n by simpa using hb]
  | cons x xs ih =>
    intro buf fuel hb hf
    obtain ⟨fuel, rfl⟩ : ∃ k, fuel = k + 1 := ⟨fuel - 1, by omega⟩
    have e : buf ++ x :: xs = (buf ++ [x]) ++ xs := by simp
    simp only [outs, List.foldl_cons, stepB, emB]
    by_cases h : (buf ++ [x]).length = n
    · -- the buffer fills: one chunk goes out, restart from the empty buffer
      obtain ⟨ih1, ih2, ih3⟩ := ih [] fuel hn (by simp at hf ⊢; omega)
      have hc : Spec.chunks n (fuel + 1) (buf ++ x :: xs) = (buf ++ [x]) :: Spec.chunks n fuel xs := by
        rw [chunks_succ n fuel _ (by simp), if_neg (by simp at h ⊢; omega), e, List.take_left' h, List.drop_left' h]
      simp only [h, beq_self_eq_true, if_true, hc]
      rw [List.nil_append] at ih1
      exact ⟨by rw [ih1]; rfl, ih2, by simpa [h] using ih3⟩
    · -- still filling
      have hlt : (buf ++ [x]).length < n := by simp at h hb ⊢; omega
      simp only [beq_iff_eq, h, if_false, List.nil_append]
      rw [e]
      exact ih (buf ++ [x]) (fuel + 1) hlt (by simp at hf ⊢; omega)

theorem kMaterialize_onNext (st : Unit) (x : Data) :
    kMaterialize.onNext st x = ((), [Data.mNext x].map .emit) := rfl

/-- the run record after dematerialising items whose list reading (`Spec.dematItems`) is the argument -/
def dematR (out : List Ev) : List Data × Option Ending → KRun
  | (ys, none) => live true (out ++ ys.map .next)
  | (ys, some t) => stopped (out ++ ys.map .next ++ t.toEvs)

theorem dematR_cons (out : List Ev) (d : Data) (p : List Data × Option Ending) :
    dematR (out ++ [.next d]) p = dematR out (d :: p.1, p.2) := by
  obtain ⟨ys, t⟩ := p
  cases t <;> simp [dematR]

theorem dematR_stop (out : List Ev) (t : Ending) : dematR out ([], some t) = stopped (out ++ t.toEvs) := by
  simp [dematR]

theorem kDematerialize_onNext (x : Data) :
    kDematerialize.onNext () x =
      ((), match x with
        | .mNext d => [.emit d]
        | .mErr e => [.fail e]
        | .mComplete => [.abortSelf, .complete]
        | _ => [.emit .unit]) := rfl

theorem dematerialize_feed (xs : List Data) : ∀ (out : List Ev),
    (kDematerialize.feed () (live true out) xs).2 = dematR out (Spec.dematItems xs) := by
  induction xs with
  | nil => intro out; simp [feed_nil, Spec.dematItems, dematR]
  | cons x xs ih =>
    intro out
    rw [feed_cons, kDematerialize_onNext]
    -- the seven ill-typed shapes of `x` go the way of `mNext`
    cases x <;> simp [ih, dematR_cons, dematR_stop, feed_cancelled, Spec.dematItems, Ending.toEvs]

theorem dematItems_map_mNext (xs : List Data) (rest : List Data) :
    Spec.dematItems (xs.map .mNext ++ rest) = (xs ++ (Spec.dematItems rest).1, (Spec.dematItems rest).2) := by
  induction xs with
  | nil => simp
  | cons x xs ih => simp [Spec.dematItems, ih]

end Rx.C02b

namespace Rx.C02
open Rx Rx.C02b

/-- `scan` (src/operators/scan.rs): every item yields the running accumulator -/
theorem scan_spec (f : Fn2) (s : Stream) : (kScan f).run s = (Spec.scan f s).toEvs := by
  rw [(kScan_accum f).run_fwd, Spec.scan]
  cases s.1 with
  | nil => rfl
  | cons x xs => exact congrArg (fun l => Stream.toEvs (x :: l, s.2)) (scan_outs f.app xs x)

/-- `reduce` (src/operators/reduce.rs) -/
theorem reduce_spec (f : Fn2) (s : Stream) : (kReduce f).run s = (Spec.reduce f s).toEvs :=
  fold_spec f.app s

/-- `sum` (src/operators/sum.rs) -/
theorem sum_spec (s : Stream) : kSum.run s = (Spec.sum s).toEvs := fold_spec _ s

/-- `min` (src/operators/min.rs) -/
theorem min_spec (s : Stream) : kMin.run s = (Spec.min s).toEvs := fold_spec _ s

/-- `max` (src/operators/max.rs) -/
theorem max_spec (s : Stream) : kMax.run s = (Spec.max s).toEvs := fold_spec _ s

/-- `count` (src/operators/count.rs) -/
theorem count_spec (s : Stream) : kCount.run s = (Spec.count s).toEvs := by
  rw [kCount_accum.run, outs_silent, List.foldl_add_const, Spec.count, aggregate_eq]
  simp [show kCount.init = 0 from rfl]

/-- `sum_and_count` (src/operators/sum_and_count.rs) -/
theorem sumAndCount_spec (s : Stream) : kSumAndCount.run s = (Spec.sumAndCount s).toEvs := by
  rw [kSumAndCount_accum.run, outs_silent, Spec.sumAndCount, aggregate_eq, ← foldl1_eq]
  simp [show kSumAndCount.init = (none, 0) from rfl, foldl_sumAndCount]

/-- `contains` (src/operators/contains.rs): `true` and completion at the first hit -/
theorem contains_spec (t : Data) (s : Stream) : (kContains t).run s = (Spec.contains t s).toEvs := by
  obtain ⟨xs, e⟩ := s
  rw [run_eq_finish, contains_feed, Spec.contains]
  split
  · rw [finish_cancelled _ _ _ _ rfl]; rfl
  · cases e <;> simp [Kernel.finish, kContains, Spec.aggregate, toEvs_mk, Ending.toEvs]

/-- `default_if_empty` (src/operators/default_if_empty.rs) -/
theorem defaultIfEmpty_spec (d : Data) (s : Stream) :
    (kDefaultIfEmpty d).run s = (Spec.defaultIfEmpty d s).toEvs := by
  rw [(kDefaultIfEmpty_accum d).run, outs_pure, Spec.defaultIfEmpty]
  obtain ⟨xs, e⟩ := s
  cases xs with
  | nil => by_cases he : e = .complete <;> simp [he, show (kDefaultIfEmpty d).init = false from rfl]
  | cons x xs => simp [foldl_true]

/-- `buffer_with_count` (src/operators/buffer_with_count.rs), `count ≥ 1` -/
theorem buffer_spec (n : Nat) (hn : 0 < n) (s : Stream) :
    (kBuffer n).run s = (Spec.bufferWithCount n s).toEvs := by
  obtain ⟨xs, t⟩ := s
  obtain ⟨h1, h2, h3⟩ := chunks_buf n hn xs [] (xs.length + 1) hn (by simp)
  rw [(kBuffer_accum n).run, outs_map, show (kBuffer n).init = [] from rfl]
  rw [List.nil_append] at h1
  generalize outs (stepB n) (emB n) [] xs = E at *
  generalize xs.foldl (stepB n) [] = R at *
  -- only the remainder is shorter than `n`
  have hfull : (E ++ if R = [] then [] else [R]).filter (·.length == n) = E := by
    rw [List.filter_append, List.filter_eq_self.2 fun c hc => by simp [h3 c hc]]
    by_cases hr : R = [] <;> simp [hr, Nat.ne_of_lt h2]
  cases t with
  | complete => by_cases hr : R = [] <;> simp [Spec.bufferWithCount, h1, hr, List.length_pos_iff]
  | _ => simp [Spec.bufferWithCount, h1, hfull]

/-- `materialize` (src/operators/materialize.rs): terminals become items, then completion -/
theorem materialize_spec (s : Stream) : kMaterialize.run s = (Spec.materialize s).toEvs := by
  obtain ⟨xs, t⟩ := s
  rw [run_eq_finish, feed_emits kMaterialize_onNext, outs_pure]
  cases t <;> simp [Kernel.finish, kMaterialize, Spec.materialize, toEvs_mk, Ending.toEvs]

/-- `dematerialize` (src/operators/dematerialize.rs): stops at the first terminal material -/
theorem dematerialize_spec (s : Stream) : kDematerialize.run s = (Spec.dematerialize s).toEvs := by
  obtain ⟨xs, t⟩ := s
  rw [run_eq_finish, dematerialize_feed, Spec.dematerialize]
  rcases Spec.dematItems xs with ⟨ys, _ | t'⟩
  · exact finish_default _ _ _ _ _ rfl fun _ => rfl
  · rw [finish_cancelled _ _ _ _ rfl]; simp [dematR, toEvs_mk]

/-- dematerialize inverts materialize (C04) -/
theorem demat_mat (s : Stream) : Spec.dematerialize (Spec.materialize s) = s := by
  obtain ⟨xs, t⟩ := s
  cases t with
  | complete =>
    simp [Spec.materialize, Spec.dematerialize, dematItems_map_mNext, Spec.dematItems]
  | error e =>
    simp [Spec.materialize, Spec.dematerialize, dematItems_map_mNext, Spec.dematItems]
  | silent =>
    have := dematItems_map_mNext xs []
    simp only [List.append_nil] at this
    simp [Spec.materialize, Spec.dematerialize, this, Spec.dematItems]

/-- and `kDematerialize`, run on the materialized stream, reproduces the source stream -/
theorem demat_mat_run (s : Stream) :
    kDematerialize.run (Spec.materialize s) = s.toEvs := by
  rw [dematerialize_spec, demat_mat]

/-! ### non-vacuity: concrete streams on which both sides are non-trivial -/

example : (kScan .add).run ([.int 1, .int 2, .int 3], .complete)
    = [.next (.int 1), .next (.int 3), .next (.int 6), .complete] := by decide
example : (kReduce .add).run ([.int 1, .int 2, .int 3], .complete) = [.next (.int 6), .complete] := by decide
example : kSum.run ([.int 1, .int 2], .error 7) = [.error 7] := by decide
example : kMin.run ([.int 3, .int 1, .int 2], .complete) = [.next (.int 1), .complete] := by decide
example : kMax.run ([.int 3, .int 1, .int 2], .complete) = [.next (.int 3), .complete] := by decide
example : kCount.run ([.unit, .unit], .complete) = [.next (.int 2), .complete] := by decide
example : kSumAndCount.run ([.int 4, .int 5], .complete)
    = [.next (.pair (.int 9) (.int 2)), .complete] := by decide
example : (kContains (.int 2)).run ([.int 1, .int 2, .int 3], .error 1)
    = [.next (.bool true), .complete] := by decide
example : (kDefaultIfEmpty (.int 9)).run ([], .complete) = [.next (.int 9), .complete] := by decide
example : (kBuffer 2).run ([.int 1, .int 2, .int 3], .complete)
    = [.next (Data.ofList [.int 1, .int 2]), .next (Data.ofList [.int 3]), .complete] := by decide
example : (kBuffer 2).run ([.int 1, .int 2, .int 3], .error 4)
    = [.next (Data.ofList [.int 1, .int 2]), .error 4] := by decide
example : kMaterialize.run ([.int 1], .error 3) = [.next (.mNext (.int 1)), .next (.mErr 3), .complete] := by
  decide
example : kDematerialize.run ([.mNext (.int 1), .mErr 3, .mNext (.int 2)], .complete)
    = [.next (.int 1), .error 3] := by decide
example : Spec.dematerialize (Spec.materialize ([.int 1], .error 3)) = ([.int 1], .error 3) := by decide

/-- `hn` of `buffer_spec` is needed: with `count = 0` the kernel never emits a chunk on the way and
flushes everything on completion, whereas `Spec.chunks 0` produces empty chunks. -/
example : (kBuffer 0).run ([.int 1], .complete) ≠ (Spec.bufferWithCount 0 ([.int 1], .complete)).toEvs := by
  decide

end Rx.C02

#print axioms Rx.C02.scan_spec
#print axioms Rx.C02.reduce_spec
#print axioms Rx.C02.sum_spec
#print axioms Rx.C02.min_spec
#print axioms Rx.C02.max_spec
#print axioms Rx.C02.count_spec
#print axioms Rx.C02.sumAndCount_spec
#print axioms Rx.C02.contains_spec
#print axioms Rx.C02.defaultIfEmpty_spec
#print axioms Rx.C02.buffer_spec
#print axioms Rx.C02.materialize_spec
#print axioms Rx.C02.dematerialize_spec
#print axioms Rx.C02.demat_mat
#print axioms Rx.C02.demat_mat_run
