import RxVerif.Theorems.C10RefReplay
import RxVerif.Kernel.ConnM
import RxVerif.Theorems.C13
/-
C13-REF: what the six refinement theorems (publish / ref_count / replay over a hot / cold source) share.
A simulation relation `R n w st` ("`n` users have subscribed so far", the layout of the world quantified inside)
that every call of a `wfC` sequence preserves holds after the whole sequence (`calls_sim`), a call being one of the
case runner's five (`callsOf_spec`);
C13's statements about `ConnM` runs carry over to any world that agrees with the run on what they mention.
-/
namespace Rx.CRef
open Rx.Sim Rx.SubjM Rx.Ref Rx.RefR

theorem wp_lockRel {w : World} {Q : World → Prop} {l : LockId} {k : Prog} (hk : WP k (w.release l) Q) :
    WP (.lockRel l k) w Q :=
  Ref.wp_lockRel hk

/-- RESTRICTION (as `Ref.wfFrom`): the `subscribe` calls name the ids `n, n+1, …` in call order -/
def wfC (n : Nat) : List ConnM.Call → Bool
  | [] => true
  | .subscribe o :: cs => o == n && wfC (n + 1) cs
  | _ :: cs => wfC n cs

def isSubC : ConnM.Call → Bool
  | .subscribe _ => true
  | _ => false

def subsC (cs : List ConnM.Call) : Nat := (cs.filter isSubC).length

theorem wfC_cons (n : Nat) (c : ConnM.Call) (cs : List ConnM.Call) :
    wfC n (c :: cs) = (wfC n [c] && wfC (n + subsC [c]) cs) := by
  cases c <;> simp [wfC, subsC, isSubC, List.filter]

theorem subsC_cons (c : ConnM.Call) (cs : List ConnM.Call) : subsC (c :: cs) = subsC [c] + subsC cs := by
  cases c <;> simp [subsC, isSubC, List.filter] <;> omega

theorem wfC_append (a b : List ConnM.Call) : ∀ n, wfC n (a ++ b) = (wfC n a && wfC (n + subsC a) b) := by
  induction a with
  | nil => intro n; simp [wfC, subsC]
  | cons c a ih =>
    intro n
    rw [List.cons_append, wfC_cons, ih, wfC_cons n c a, subsC_cons c a, Bool.and_assoc, Nat.add_assoc]

theorem wfC_subscribe {n o : Nat} (h : wfC n [.subscribe o] = true) : o = n := by simpa [wfC] using h

theorem calls_sim {k : ConnM.Kind} {src : ConnM.Src} {call : ConnM.Call → Prog}
    {R : Nat → World → ConnM.State → Prop}
    (h1 : ∀ {n w st} (c : ConnM.Call), R n w st → wfC n [c] = true →
      WP (call c) w (fun w' => R (n + subsC [c]) w' (ConnM.step k src st c))) :
    ∀ (cs : List ConnM.Call) {n w st}, R n w st → wfC n cs = true →
      WP (forEach cs call) w (fun w' => R (n + subsC cs) w' (ConnM.runFrom k src st cs)) :=
  calls_ind wfC_cons subsC_cons rfl h1

/-- the hot source: a plain `Subject` in cells 0, 1 (its hooks: slots 0, 1) -/
def Hp : Subj := ⟨0, 1, 0, 1⟩

def srcEv : Ev → ConnM.Call
  | .next v => .srcNext v
  | .error e => .srcError e
  | .complete => .srcComplete

/-- a source call of the case runner: `H.next / error / complete` on the hot source; nothing can be pushed into a cold
    source from outside -/
def srcCall : ConnM.Src → Ev → Prog
  | .hot, ev => evCall Hp ev
  | .cold _, _ => .done

/-- the calls of a case over `src` whose `(connect x)` / `(disconnect x)` are `conn` / `disc`: what `callPG`, `callPcG`,
    `callCG`, `callCcG` are on the layout of `progP` … `progRpc` -/
def callsOf (src : ConnM.Src) (conn disc : Prog) : ConnM.Call → Prog
  | .subscribe _ => .userSub 1 noReact .done
  | .unsubscribe o => .userUnsub o .done
  | .connect => conn
  | .disconnect => disc
  | .srcNext v => srcCall src (.next v)
  | .srcError e => srcCall src (.error e)
  | .srcComplete => srcCall src .complete

theorem callsOf_spec {k : ConnM.Kind} {src : ConnM.Src} {conn disc : Prog} {call : ConnM.Call → Prog}
    {R : Nat → World → ConnM.State → Prop} {n : Nat} {w : World} {st : ConnM.State}
    (hcall : ∀ c, call c = callsOf src conn disc c) (c : ConnM.Call) (hc : wfC n [c] = true) (h : R n w st)
    (hs : WP (.userSub 1 noReact .done) w fun w' => R (n + 1) w' (ConnM.step k src st (.subscribe n)))
    (hu : ∀ u, WP (.userUnsub u .done) w fun w' => R n w' (ConnM.step k src st (.unsubscribe u)))
    (hcn : WP conn w fun w' => R n w' (ConnM.step k src st .connect))
    (hd : WP disc w fun w' => R n w' (ConnM.step k src st .disconnect))
    (hot : src = .hot → ∀ ev, WP (evCall Hp ev) w fun w' => R n w' (ConnM.hotEmit k st ev)) :
    WP (call c) w fun w' => R (n + subsC [c]) w' (ConnM.step k src st c) := by
  have he : ∀ ev, WP (srcCall src ev) w fun w' => R n w' (ConnM.step k src st (srcEv ev)) := fun ev => by
    cases src with
    | hot => exact (hot rfl ev).conseq fun _ h' => by cases ev <;> exact h'
    | cold _ => exact WP.done (by cases ev <;> exact h)
  rw [hcall]
  cases c with
  | subscribe o => obtain rfl := wfC_subscribe hc; exact hs
  | unsubscribe o => exact hu o
  | connect => exact hcn
  | disconnect => exact hd
  | srcNext v => exact he (.next v)
  | srcError e => exact he (.error e)
  | srcComplete => exact he .complete

/-- `Subject.serial` of the hot source = number of `source.subscribe` calls ever made -/
def srcSubsOf (w : World) : Nat := (w.cells[1]?.getD Data.unit).toInt.toNat
/-- the hot source's observer map is non-empty -/
def srcLiveOf (w : World) : Bool := amapLen (w.cells[0]?.getD .lnil) != 0
/-- size of the connectable's subject map (the harness' `reg=`) -/
def regCountOf (w : World) : Nat := amapLen (w.cells[2]?.getD .lnil)

/-- what the differential test (`Driver` mode `connm`, `CombEval.connLine`) compares, and more -/
structure AgreesC (w : World) (st : ConnM.State) : Prop where
  status : w.status = .ok
  held : w.held = []
  logs : ∀ u, logOf w u = ConnM.logOf st u
  srcSubs : srcSubsOf w = ConnM.sourceSubscriptions st
  srcLive : srcLiveOf w = ConnM.sourceLive st
  reg : regCountOf w = (registered st.sub).length
  alive : ∀ u, w.isSubOf u = aliveOf st.sub u

/-- the part of `AgreesC` / `AgreesCold` that the users' side of a relation provides -/
structure UsersAgree (w : World) (s : SubjM.State) : Prop where
  logs : ∀ u, logOf w u = SubjM.logOf s u
  reg : regCountOf w = (registered s).length
  alive : ∀ u, w.isSubOf u = aliveOf s u

theorem first_last_of_agrees {k : ConnM.Kind} (hk : k.counts = true) (src : ConnM.Src) (cs : List ConnM.Call)
    {w : World} {subs : Nat} {live : Bool}
    (hs : subs = ConnM.sourceSubscriptions (ConnM.run k src cs))
    (hl : live = ConnM.sourceLive (ConnM.run k src cs))
    (ha : ∀ u, w.isSubOf u = aliveOf (ConnM.run k src cs).sub u) :
    subs = (if cs.any ConnM.isSubscribe then 1 else 0) ∧ subs ≤ 1 ∧ (live = true → ∃ o, w.isSubOf o = true) := by
  have r := ConnM.ref_count_first_last hk src cs
  subst hs hl
  refine ⟨r.1, ConnM.at_most_one_source_subscription hk src cs, fun h => ?_⟩
  obtain ⟨o, _, ho⟩ := r.2 h
  exact ⟨o, (ha o).trans ho⟩

theorem complete_history_of_agrees (src : ConnM.Src) (cs : List ConnM.Call) {w : World}
    (hl : ∀ u, logOf w u = ConnM.logOf (ConnM.run .replay src cs) u)
    (ha : ∀ u, w.isSubOf u = aliveOf (ConnM.run .replay src cs).sub u) :
    (∀ o, w.isSubOf o = true → logOf w o = (ConnM.run .replay src cs).emitted.map .next) ∧
    (∀ o, SubjM.nonTerminal (logOf w o) = false →
      ConnM.itemsOf (logOf w o) = (ConnM.run .replay src cs).emitted) ∧
    (∀ o, ConnM.itemsOf (logOf w o) <+: (ConnM.run .replay src cs).emitted) := by
  have r := ConnM.replay_complete_history src cs
  refine ⟨fun o ho => ?_, fun o ho => ?_, fun o => ?_⟩
  · rw [hl]; exact r.2.1 o (by rw [← ha]; exact ho)
  · rw [hl] at ho ⊢; exact r.2.2.1 o ho
  · rw [hl]; exact r.2.2.2 o

end Rx.CRef
