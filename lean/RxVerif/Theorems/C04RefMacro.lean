import RxVerif.Theorems.C04RefBase
/-
C04-REF: the StreamController macros of `Machine/Core.lean` (`finalize`, `newObserver`, `sinkNext`,
`sinkError`, `sinkComplete`, `abortObserve`) executed symbolically on a world described by `Rep`, and their
agreement with the pure controller `Ctl` of `Kernel/Retry.lean` (relation `Rel`).
-/
namespace Rx.RetryRef
open Rx.Sim Rx.Ref

section macros
variable {g : G} {al : Bool} {lv : Nat → Bool} {n : Nat} {reg : List Nat} {H : List (LockId × Bool)}
  {cv : Option Data} {out : List Ev} {w : World}

/-- the `for (_, unsub) in unscribers { unsub() }` loop of `finalize` -/
theorem unsubAll_spec : ∀ (l : List Nat) (lv : Nat → Bool) (w : World), (∀ i ∈ l, i < n) →
    Rep g al lv n reg H cv out w →
    WP (forEach (l.map fun i => Data.int (g.up i)) fun o => .obsUnsub o.toInt.toNat .done) w
      (Rep g al (fun j => lv j && !l.contains j) n reg H cv out)
  | [], lv, w, _, h => WP.done (by simpa using h)
  | i :: l, lv, w, hl, h => by
    simp only [List.map_cons, forEach, toNat_int]
    apply WP.seq
    apply rep_unsubU h (hl i (by simp))
    intro w1 h1
    apply WP.done
    apply (unsubAll_spec l _ w1 (fun j hj => hl j (by simp [hj])) h1).conseq
    intro w2 h2
    have e : (fun j => (j != i && lv j) && !l.contains j) = (fun j => lv j && !(i :: l).contains j) := by
      funext j
      simp only [List.contains_cons, bne]
      cases lv j <;> cases (j == i) <;> cases l.contains j <;> rfl
    rw [← e]; exact h2

/-- the tail of `finalize`: `on_finalize` is never set by the recovery operators -/
theorem finTail_spec (h : Rep g al lv n reg [] cv out w) :
    WP (.lockAcq (.slot g.fin) true <| .slotCall g.fin .unit true <| .lockRel (.slot g.fin) .done) w
      (Rep g al lv n reg [] cv out) := by
  apply rep_lockAcq h
  intro w1 h1
  apply rep_slotCall h1
  apply rep_lockRel h1
  intro w2 h2
  exact WP.done h2

theorem mapD_nil (g : G) : mapD g [] = .lnil := rfl

/-- `finalize` up to its test of the downstream observer -/
theorem finalize_head (ok : g.Ok) (hl : ∀ i ∈ reg, i < n) (h : Rep g al lv n reg [] cv out w) {Q : World → Prop}
    (hk : ∀ w', Rep g al (fun j => lv j && !reg.contains j) n [] [] cv out w' →
      WP (if al then Prog.obsUnsub g.R .done else .done) w' fun w1 =>
        WP (.lockAcq (.slot g.fin) true <| .slotCall g.fin .unit true <| .lockRel (.slot g.fin) .done) w1 Q) :
    WP g.sc.finalize w Q := by
  simp only [Sctl.finalize, sc_sub, sc_map, sc_fin]
  apply rep_lockAcq h
  intro w1 h1
  apply rep_readMap h1 (Or.inl rfl)
  rw [amapVals_mapD]
  apply WP.seq
  apply (unsubAll_spec reg lv w1 hl h1).conseq
  intro w2 h2
  apply rep_lockRel h2
  intro w3 h3
  rw [← mapD_nil g]
  apply rep_writeMap ok h3 (Or.inr rfl)
  intro w4 h4
  apply rep_isSubR h4
  exact WP.seq (hk w4 h4)

/-- `finalize` once the downstream observer is no longer subscribed -/
theorem finalize_dead (ok : g.Ok) (hl : ∀ i ∈ reg, i < n) (h : Rep g false lv n reg [] cv out w) :
    WP g.sc.finalize w (Rep g false (fun j => lv j && !reg.contains j) n [] [] cv out) :=
  finalize_head ok hl h fun _ h4 => WP.done (finTail_spec h4)

/-- `finalize` in general: a live downstream is unsubscribed, which runs `finalize` once more -/
theorem finalize_rep (ok : g.Ok) (hl : ∀ i ∈ reg, i < n) (h : Rep g al lv n reg [] cv out w) :
    WP g.sc.finalize w (Rep g false (fun j => lv j && !reg.contains j) n [] [] cv out) := by
  cases al with
  | false => exact finalize_dead ok hl h
  | true =>
    refine finalize_head ok hl h fun w4 h4 => rep_unsubR h4 (fun w5 h5 => ?_) fun w5 h5 => WP.done (finTail_spec h5)
    refine (finalize_dead ok (by simp) h5).conseq fun w6 h6 => WP.done (finTail_spec ?_)
    simpa using h6

/-- the world represents controller state `c`; `lv` says which upstream observers are still subscribed;
    `reverse`: `c.registered` is newest first, `Rep`'s list in insertion order -/
structure Rel (g : G) (c : Ctl) (lv : Nat → Bool) (w : World) : Prop where
  rep : Rep g c.alive lv c.serial c.registered.reverse [] (g.cvf c.subs) c.out w
  dead : ∀ i ∈ c.cancelled, lv i = false
  regLt : ∀ i ∈ c.registered, i < c.serial
  canLt : ∀ i ∈ c.cancelled, i < c.serial

variable {c : Ctl}

theorem finalize_spec (ok : g.Ok) (h : Rel g c lv w) :
    WP g.sc.finalize w (Rel g c.finalize fun j => lv j && !c.registered.reverse.contains j) := by
  apply (finalize_rep ok (fun i hi => h.regLt i (by simpa using hi)) h.rep).conseq
  intro w1 h1
  refine ⟨h1, ?_, ?_, ?_⟩
  · intro i hi
    simp only [Ctl.finalize, List.mem_append] at hi
    rcases hi with hi | hi
    · simp [h.dead i hi]
    · simp [hi]
  · intro i hi; simp [Ctl.finalize] at hi
  · intro i hi
    simp only [Ctl.finalize, List.mem_append] at hi
    rcases hi with hi | hi
    · exact h.canLt i hi
    · exact h.regLt i hi

theorem sinkNext_spec (h : Rel g c lv w) (ha : c.alive = true) (d : Data) :
    WP (g.sc.sinkNext d) w (Rel g (c.sinkNext d) lv) := by
  have hr := h.rep
  rw [ha] at hr
  simp only [Sctl.sinkNext, sc_sub]
  apply rep_isSubR hr
  simp only [↓reduceIte]
  apply rep_evR_alive (ev := .next d) hr
  intro w1 h1
  apply WP.done
  simp only [Ctl.sinkNext, ha, ↓reduceIte]
  exact ⟨by simpa [ha, Ev.isTerminal] using h1, h.dead, h.regLt, h.canLt⟩

theorem sinkError_spec (ok : g.Ok) (h : Rel g c lv w) (ha : c.alive = true) (e : Nat) :
    WP (g.sc.sinkError e) w (Rel g (c.sinkError e) fun j => lv j && !c.registered.reverse.contains j) := by
  have hr := h.rep
  rw [ha] at hr
  simp only [Sctl.sinkError, sc_sub]
  apply rep_isSubR hr
  simp only [↓reduceIte]
  apply rep_evR_alive (ev := .error e) hr
  intro w1 h1
  simp only [Ctl.sinkError, ha, ↓reduceIte]
  exact finalize_spec (c := { c with out := c.out ++ [Ev.error e], alive := false }) ok
    ⟨h1, h.dead, h.regLt, h.canLt⟩

theorem sinkComplete_spec (ok : g.Ok) (h : Rel g c lv w) (ha : c.alive = true) (s : Nat) :
    WP (g.sc.sinkComplete s) w fun w' => ∃ lv', Rel g (c.sinkComplete s) lv' w' ∧ ∀ j, lv j = false → lv' j = false := by
  have hr := h.rep
  rw [ha] at hr
  simp only [Sctl.sinkComplete, sc_sub, sc_map]
  apply rep_isSubR hr
  simp only [↓reduceIte]
  apply rep_readMap hr (Or.inr rfl)
  simp only [amapRemove_mapD, amapLen_mapD]
  apply rep_writeMap ok hr (Or.inr rfl)
  intro w1 h1
  have hrel1 : Rel g { c with registered := c.registered.filter (· != s) } lv w1 :=
    ⟨by rw [List.filter_reverse] at h1; simpa [ha] using h1, h.dead,
      fun i hi => h.regLt i (List.mem_filter.1 hi).1, h.canLt⟩
  simp only [Ctl.sinkComplete, ha, ↓reduceIte]
  by_cases he : (c.registered.filter (· != s)).isEmpty = true
  · have hlen : ((List.filter (· != s) c.registered.reverse).length == 0) = true := by
      rw [List.filter_reverse]
      simpa using he
    simp only [hlen, he, ↓reduceIte]
    apply rep_evR_alive (ev := .complete) (by simpa [ha] using hrel1.rep)
    intro w2 h2
    apply (finalize_spec (c := ({ ({ c with registered := c.registered.filter (· != s) } : Ctl) with
        out := c.out ++ [Ev.complete], alive := false } : Ctl)) ok
      ⟨h2, hrel1.dead, hrel1.regLt, hrel1.canLt⟩).conseq
    intro w3 h3
    exact ⟨_, h3, fun j hj => by simp [hj]⟩
  · have hlen : ((List.filter (· != s) c.registered.reverse).length == 0) = false := by
      rw [List.filter_reverse]
      simpa using he
    simp only [hlen, he, Bool.false_eq_true, ↓reduceIte]
    exact WP.done ⟨lv, by simpa [ha] using hrel1, fun j hj => hj⟩

theorem abortObserve_spec (ok : g.Ok) (h : Rel g c lv w) (s : Nat) (hm : s ∈ c.registered) :
    WP (g.sc.abortObserve s) w (Rel g (c.abortObserve s) fun j => j != s && lv j) := by
  have hr := h.rep
  have hs : s < c.serial := h.regLt s hm
  simp only [Sctl.abortObserve, sc_map]
  apply rep_lockAcq hr
  intro w1 h1
  apply rep_readMap h1 (Or.inl rfl)
  rw [amapRemove_mapD, amapGet_mapD, if_pos (by simpa using hm)]
  apply rep_writeMap ok h1 (Or.inl rfl)
  intro w2 h2
  simp only [toNat_int]
  apply WP.seq
  apply rep_unsubU h2 hs
  intro w3 h3
  apply WP.done
  apply rep_lockRel h3
  intro w4 h4
  apply WP.done
  simp only [Ctl.abortObserve, hm, ↓reduceIte]
  refine ⟨by rw [List.filter_reverse] at h4; exact h4, ?_, ?_, ?_⟩
  · intro i hi
    simp only [List.mem_append, List.mem_singleton] at hi
    rcases hi with hi | rfl
    · simp [h.dead i hi]
    · simp
  · intro i hi; exact h.regLt i (List.mem_filter.1 hi).1
  · intro i hi
    simp only [List.mem_append, List.mem_singleton] at hi
    rcases hi with hi | rfl
    · exact h.canLt i hi
    · exact hs

/-- `new_observer` up to its re-check of the subscriber -/
theorem newObserver_head (ok : g.Ok) (hl : ∀ i ∈ reg, i < n) (h : Rep g al lv n reg [] cv out w)
    {nf : Nat → Data → Prog} {ef : Nat → Nat → Prog} {cf : Nat → Prog} {k : Nat → Prog} {Q : World → Prop}
    (hnf : nf n = g.hn n) (hef : ef n = g.he n) (hcf : cf n = g.hc n)
    (hk : ∀ w', Rep g al (fun j => j == n || lv j) (n + 1) (reg ++ [n]) [] cv out w' →
      WP (if al then k (g.up n) else
        .cellRead g.cm false fun m' =>
          .cellWrite g.cm false (amapRemove m' (n : Int)) (.obsUnsub (g.up n) (k (g.up n)))) w' Q) :
    WP (g.sc.newObserver nf ef cf k) w Q := by
  simp only [Sctl.newObserver, sc_serial, sc_map, sc_sub]
  refine wp_cellRead h.held ?_
  rw [h.serial]
  simp only [Option.getD_some, toNat_int, hnf, hef, hcf]
  refine wp_cellWrite h.held ?_
  apply wp_obsNew
  refine wp_cellRead h.held ?_
  have e1 : ((w.cells.set g.cs (Data.int ((n : Int) + 1)))[g.cm]?).getD .unit = mapD g reg := by
    rw [set_get_other _ ok.sm, h.map]; rfl
  simp only [e1]
  have e2 : w.obs.length = g.up n := h.obsLen
  rw [e2, amapInsert_mapD g _ _ (fun i hi => by have := hl i hi; omega)]
  refine wp_cellWrite h.held ?_
  have h1 := h.newObs ok
  simp only [xU] at h1
  exact rep_isSubR h1 (hk _ h1)

/-- `new_observer` while the subscriber is still subscribed (the only way the recovery operators call it: at
    subscription time and inside the error closure of a live upstream): the re-check at the end of
    `new_observer` sees a live subscriber and keeps the registration. -/
theorem newObserver_spec (ok : g.Ok) (h : Rel g c lv w) (ha : c.alive = true) {nf : Nat → Data → Prog} {ef : Nat → Nat → Prog}
    {cf : Nat → Prog} {k : Nat → Prog} {Q : World → Prop}
    (hnf : nf c.serial = g.hn c.serial) (hef : ef c.serial = g.he c.serial) (hcf : cf c.serial = g.hc c.serial)
    (hk : ∀ w', Rel g c.newObserver.2 (fun j => j == c.serial || lv j) w' → WP (k (g.up c.serial)) w' Q) :
    WP (g.sc.newObserver nf ef cf k) w Q := by
  refine newObserver_head ok (fun i hi => h.regLt i (by simpa using hi)) h.rep hnf hef hcf fun w' h' => ?_
  simp only [ha, ↓reduceIte]
  refine hk w' ⟨by simpa [Ctl.newObserver] using h', ?_, ?_, ?_⟩
  · intro i hi
    have hlt : i < c.serial := h.canLt i hi
    have : (i == c.serial) = false := by simp; omega
    simp [this, h.dead i hi]
  · intro i hi
    simp only [Ctl.newObserver, List.mem_cons] at hi
    show i < c.serial + 1
    rcases hi with rfl | hi
    · omega
    · have := h.regLt i hi; omega
  · intro i hi
    show i < c.serial + 1
    have := h.canLt i hi; omega

/-- `new_observer` called when the subscriber has ALREADY ended (no recovery operator over a passive subscriber
    ever does that — every use of `newObserver_spec` carries `c.alive = true` — so the pure mirror `Ctl.newObserver`
    has no such case): the re-check at the end of `new_observer` takes the registration back and unsubscribes the new
    observer, so that `Obsv.sub` will not start the source on it.  Serial consumed, map unchanged. -/
theorem newObserver_dead_rep (ok : g.Ok) (hl : ∀ i ∈ reg, i < n) (h : Rep g false lv n reg [] cv out w)
    {nf : Nat → Data → Prog} {ef : Nat → Nat → Prog} {cf : Nat → Prog} {k : Nat → Prog} {Q : World → Prop}
    (hnf : nf n = g.hn n) (hef : ef n = g.he n) (hcf : cf n = g.hc n)
    (hk : ∀ w', Rep g false (fun j => j != n && (j == n || lv j)) (n + 1) reg [] cv out w' →
      WP (k (g.up n)) w' Q) :
    WP (g.sc.newObserver nf ef cf k) w Q := by
  refine newObserver_head ok hl h hnf hef hcf fun w1 h1 => ?_
  simp only [Bool.false_eq_true, ↓reduceIte]
  refine rep_readMap h1 (Or.inr rfl) ?_
  have e3 : (reg ++ [n]).filter (· != n) = reg := by
    rw [List.filter_append, List.filter_eq_self.2 (fun i hi => by have := hl i hi; simp; omega)]
    simp
  rw [amapRemove_mapD, e3]
  exact rep_writeMap ok h1 (Or.inr rfl) fun w2 h2 => rep_unsubU h2 (Nat.lt_succ_self n) hk

end macros
end Rx.RetryRef

#print axioms Rx.RetryRef.finalize_spec
#print axioms Rx.RetryRef.sinkComplete_spec
#print axioms Rx.RetryRef.abortObserve_spec
#print axioms Rx.RetryRef.newObserver_spec
#print axioms Rx.RetryRef.newObserver_dead_rep
