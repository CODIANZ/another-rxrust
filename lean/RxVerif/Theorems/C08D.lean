import RxVerif.Machine.Lib
import RxVerif.Machine.Case
/-
C08 (last clause) / C09 over the DEFAULT scheduler — model A side.

`DefaultScheduler::post(f)` is `f()`, `abort()` does nothing.  Model A transliterates interval.rs, timer.rs,
observe_on.rs and subscribe_on.rs closure by closure with `dPost` / `dAbort` in the places where the Rust code calls
`scheduler.post` / `scheduler.abort` (Machine/Lib.lean).  The statements below say what that transliteration amounts to;
they hold by unfolding (the scheduler adds no step of its own), which is the content of "runs the task synchronously in
post" on the machine: no program that posts to the default scheduler can tell `post(task)` from `task`.
The tie to the code is the per-run differential check (`(dpost n)` steps and the `*_d` operators of the case language).
-/
namespace Rx.C08D
open Rx

theorem post_is_run (task : Prog) : dPost task = task := rfl

/-- a task posted from inside a posted task still runs inside the outer `post` (re-entrant post, any depth) -/
theorem post_nested (outer : Prog → Prog) (inner : Prog) : dPost (outer (dPost inner)) = outer inner := rfl

/-- timer over the default scheduler is `just(())`: the item and the completion are delivered inside `subscribe` -/
theorem timerD_eq_just : oTimerD = oJust .unit := rfl

/-- over the default scheduler `subscribe_on` and `observe_on` are the SAME program: the controller is created, the
    (no-op) abort is registered as finalizer, the source is subscribed with forwarding closures -/
theorem subscribeOnD_eq_observeOnD (src : Obsv) : oSubscribeOnD src = oObserveOnD src := rfl

/-- the interval loop polls `is_subscribed` before EVERY emission, the first included (C06: an ended subscription stops
    the producer at its next poll), and emits the counter in order -/
theorem intervalLoop_step (s n f : Nat) :
    intervalLoop s n (f + 1) = .obsIsSub s fun b => if b then .obsNext s (.int n) (intervalLoop s (n + 1) f) else .done := rfl

/-- like the loop of `repeat`, the loop of `interval` starts with the poll of its subscriber `s` -/
theorem intervalLoop_shape (s n f : Nat) :
    (match intervalLoop s n (f + 1), repeatLoop s (.int n) (f + 1) with
     | .obsIsSub a _, .obsIsSub b _ => a = b
     | _, _ => False) := rfl

end Rx.C08D

-- two tasks posted to the default scheduler: the machine's trace
open Rx in
example : (run 100 [forEach (List.range 2) fun i =>
    dPost (.probe ((100 + i) * 4 + 3) (.int 1) .done) ;; .probe ((100 + i) * 4 + 3) (.int 2) .done] {}).trace
    = [.probe 403 (.int 1), .probe 403 (.int 2), .probe 407 (.int 1), .probe 407 (.int 2)] := by decide

#print axioms Rx.C08D.post_is_run
#print axioms Rx.C08D.post_nested
#print axioms Rx.C08D.timerD_eq_just
#print axioms Rx.C08D.subscribeOnD_eq_observeOnD
#print axioms Rx.C08D.intervalLoop_step
#print axioms Rx.C08D.intervalLoop_shape
