import RxVerif.Theorems.SimChainMacro
/-
SIM for chains (machine side): `sink_next` / `sink_error` / `sink_complete` / `upstream_abort_observe` of stage
`i`, the action lists of its kernel, and its three closures — against `actC` / `deliver`; `deliver_spec` puts them
together by induction on the stage index (deliveries recurse towards the subscriber), `loop_spec` runs the source's script.
-/
namespace Rx.Chain
open Rx.Sim

/-- deliveries into observer `i` behave as `dn` says -/
structure DeliverSpec (ly : Lay) (m i : Nat) (dn : Ev → CSt → CSt) : Prop where
  next : ∀ (x : CSt) (H : List (LockId × Bool)) (w : World) (k : Prog) (Q : World → Prop) (d : Data),
    Dn ly i H → CRep ly m x H w → (∀ w', CRep ly m (dn (.next d) x) H w' → WP k w' Q) →
    WP (.obsNext (ly.L + i) d k) w Q
  error : ∀ (x : CSt) (H : List (LockId × Bool)) (w : World) (k : Prog) (Q : World → Prop) (e : Nat),
    Dn ly i H → CRep ly m x H w → (∀ w', CRep ly m (dn (.error e) x) H w' → WP k w' Q) →
    WP (.obsError (ly.L + i) e k) w Q
  complete : ∀ (x : CSt) (H : List (LockId × Bool)) (w : World) (k : Prog) (Q : World → Prop),
    Dn ly i H → CRep ly m x H w → (∀ w', CRep ly m (dn .complete x) H w' → WP k w' Q) →
    WP (.obsComplete (ly.L + i) k) w Q

theorem DeliverSpec.of_ev {ly : Lay} {m i : Nat} {dn : Ev → CSt → CSt}
    (h : ∀ (ev : Ev) (x : CSt) (H : List (LockId × Bool)) (w : World) (k : Prog) (Q : World → Prop),
      Dn ly i H → CRep ly m x H w → (∀ w', CRep ly m (dn ev x) H w' → WP k w' Q) →
      WP (Ref.evProg ev (ly.L + i) k) w Q) : DeliverSpec ly m i dn :=
  ⟨fun x H w k Q d => h (.next d) x H w k Q, fun x H w k Q e => h (.error e) x H w k Q,
   fun x H w k Q => h .complete x H w k Q⟩

theorem DeliverSpec.emitEv {ly : Lay} {m i : Nat} {dn : Ev → CSt → CSt} {x : CSt} {H : List (LockId × Bool)}
    {w : World} (hd : DeliverSpec ly m i dn) (hH : Dn ly i H) (ev : Ev) (h : CRep ly m x H w) :
    WP (emitEv (ly.L + i) ev) w (CRep ly m (dn ev x) H) := by
  cases ev with
  | next d => exact hd.next x H w _ _ d hH h fun _ => WP.done
  | error e => exact hd.error x H w _ _ e hH h fun _ => WP.done
  | complete => exact hd.complete x H w _ _ hH h fun _ => WP.done

theorem amapRemove_mapD (ly : Lay) (j : Nat) (rg : Bool) :
    amapRemove (ly.mapD j rg) (0 : Nat) = ly.mapD j false := by
  cases rg <;> simp [amapRemove, Lay.mapD, Data.ofList, Data.toList]

theorem amapGet_mapD_true (ly : Lay) (j : Nat) :
    amapGet (ly.mapD j true) (0 : Nat) = some (.int ((ly.L + (j + 1) : Nat) : Int)) := by
  simp [amapGet, Lay.mapD, Data.ofList, Data.toList]

theorem amapGet_mapD_false (ly : Lay) (j : Nat) : amapGet (ly.mapD j false) (0 : Nat) = none := by
  simp [amapGet, Lay.mapD, Data.toList]

theorem amapLen_mapD_false (ly : Lay) (j : Nat) : amapLen (ly.mapD j false) = 0 := rfl

section sinks
variable {ly : Lay} {m i : Nat} {x : CSt} {H : List (LockId × Bool)} {w : World} {dn : Ev → CSt → CSt}
  (hi : i < m) (hd : DeliverSpec ly m i dn) (hH : Dn ly i H)
include hi hH

theorem abortObserve_spec (h : CRep ly m x H w) :
    WP ((ly.sc i).abortObserve 0) w (CRep ly m (actC m dn i .abortSelf x) H) := by
  simp only [Sctl.abortObserve, sc_map, actC]
  apply c_lockAcq h ((hH.up i).map (Nat.le_refl _) true)
  intro w1 h1
  apply c_cellRead h1 (h1.map i hi) (Or.inl rfl)
  rw [amapRemove_mapD]
  apply c_clearMap h1 (Or.inl rfl)
  intro w2 h2
  apply WP.seq
  cases hrg : x.rg i with
  | true =>
    rw [amapGet_mapD_true]
    simp only [Ref.toNat_int, ↓reduceIte]
    apply upO_spec ly m i hi _ _ w2 _ _ ((hH.up i).consMap true) h2
    intro w3 h3
    apply WP.done
    apply c_lockRel h3
    intro w4 h4
    exact WP.done h4
  | false =>
    rw [amapGet_mapD_false]
    simp only [Bool.false_eq_true, ↓reduceIte]
    apply WP.done
    apply c_lockRel h2
    intro w4 h4
    exact WP.done h4

include hd

theorem sinkNext_spec {d : Data} (h : CRep ly m x H w) :
    WP ((ly.sc i).sinkNext d) w (CRep ly m (sinkNextC m dn i d x) H) := by
  simp only [Sctl.sinkNext, sc_sub, sinkNextC]
  apply c_isSub h (Nat.le_of_lt hi)
  cases hs : x.sub i with
  | true =>
    simp only [↓reduceIte]
    apply hd.next x H w _ _ d hH h
    intro w1 h1
    exact WP.done h1
  | false =>
    simp only [Bool.false_eq_true, ↓reduceIte]
    exact finC_spec hi (hH.up i) h

theorem sinkError_spec {e : Nat} (h : CRep ly m x H w) :
    WP ((ly.sc i).sinkError e) w (CRep ly m (actC m dn i (.fail e) x) H) := by
  simp only [Sctl.sinkError, sc_sub, actC]
  apply c_isSub h (Nat.le_of_lt hi)
  cases hs : x.sub i with
  | true =>
    simp only [↓reduceIte]
    apply hd.error x H w _ _ e hH h
    intro w1 h1
    exact finC_spec hi (hH.up i) h1
  | false =>
    simp only [Bool.false_eq_true, ↓reduceIte]
    exact finC_spec hi (hH.up i) h

theorem sinkComplete_spec (h : CRep ly m x H w) :
    WP ((ly.sc i).sinkComplete 0) w (CRep ly m (actC m dn i .complete x) H) := by
  simp only [Sctl.sinkComplete, sc_sub, sc_map, actC]
  apply c_isSub h (Nat.le_of_lt hi)
  cases hs : x.sub i with
  | true =>
    simp only [↓reduceIte]
    apply c_cellRead h (h.map i hi) (Or.inr ((hH.up i).map (Nat.le_refl _) false))
    rw [amapRemove_mapD]
    apply c_clearMap h (Or.inr ((hH.up i).map (Nat.le_refl _) true))
    intro w1 h1
    simp only [amapLen_mapD_false, BEq.rfl, ↓reduceIte]
    apply hd.complete _ H w1 _ _ hH h1
    intro w2 h2
    exact finC_spec hi (hH.up i) h2
  | false =>
    simp only [Bool.false_eq_true, ↓reduceIte]
    exact finC_spec hi (hH.up i) h

end sinks

section acts
variable {ly : Lay} {m i : Nat} {H : List (LockId × Bool)} {dn : Ev → CSt → CSt}
  (hi : i < m) (hd : DeliverSpec ly m i dn)
include hi hd

theorem emitAll_spec (hH : Dn ly i H) (ds : List Data) :
    ∀ (x : CSt) (w : World), CRep ly m x H w →
      WP (emitAllP (ly.sc i) ds) w (CRep ly m (emitAllC m dn i ds x) H) := by
  induction ds with
  | nil => intro x w h; exact WP.done h
  | cons d ds ih =>
    intro x w h
    simp only [emitAllP, Sctl.isSub, sc_sub, emitAllC]
    apply c_isSub h (Nat.le_of_lt hi)
    cases hs : x.sub i with
    | false => simp only [Bool.false_eq_true, ↓reduceIte]; exact WP.done h
    | true =>
      simp only [↓reduceIte]
      apply WP.seq
      apply (sinkNext_spec hi hd hH (d := d) h).conseq
      intro w1 h1
      exact ih _ _ h1

theorem act_spec (hH : Dn ly i H) (a : Act) (x : CSt) (w : World) (h : CRep ly m x H w) : WP (actP (ly.sc i) 0 a) w (CRep ly m (actC m dn i a x) H) := by
  cases a with
  | emit d => exact sinkNext_spec hi hd hH h
  | emitAll ds => exact emitAll_spec hi hd hH ds x w h
  | fail e => exact sinkError_spec hi hd hH h
  | complete => exact sinkComplete_spec hi hd hH h
  | abortSelf => exact abortObserve_spec hi hH h
  | finalize => exact finC_spec hi (hH.up i) h

theorem acts_spec (hH : Dn ly i H) (as : List Act) :
    ∀ (x : CSt) (w : World), CRep ly m x H w →
      WP (actsP (ly.sc i) 0 as) w (CRep ly m (actsC m dn i as x) H) := by
  induction as with
  | nil => intro x w h; exact WP.done h
  | cons a as ih =>
    intro x w h
    simp only [actsP, forEach, actsC, List.foldl_cons]
    apply WP.seq
    apply (act_spec hi hd hH a x w h).conseq
    intro w1 h1
    exact ih _ _ h1

/-- the actions of one closure, under the guard the Rust closure keeps alive on its state cell -/
theorem held_body (hH : Dn ly (i + 1) H) (hold : Hold)
    (as : List Act) (x : CSt) (w : World) (h : CRep ly m x H w) :
    WP (holdAcq hold (ly.c0 + 3 * i + 2) ;; actsP (ly.sc i) 0 as ;; holdRel hold (ly.c0 + 3 * i + 2)) w
      (CRep ly m (actsC m dn i as x) H) := by
  have locked : ∀ b : Bool, WP (Prog.lockAcq (.cell (ly.c0 + 3 * i + 2)) b .done ;; actsP (ly.sc i) 0 as ;;
      .lockRel (.cell (ly.c0 + 3 * i + 2)) .done) w (CRep ly m (actsC m dn i as x) H) := by
    intro b
    apply WP.seq
    apply c_lockAcq h (hH.st b)
    intro w1 h1
    apply WP.done
    apply WP.seq
    apply (acts_spec hi hd (hH.consSt b) as x w1 h1).conseq
    intro w2 h2
    apply c_lockRel h2
    intro w3 h3
    exact WP.done h3
  cases hold with
  | none =>
    apply WP.seq
    apply WP.done
    apply WP.seq
    apply (acts_spec hi hd hH.mono as x w h).conseq
    intro w1 h1
    exact WP.done h1
  | read => exact locked false
  | write => exact locked true

theorem hdl_spec (hH : Dn ly (i + 1) H) (ev : Ev) (x : CSt)
    (w : World) (h : CRep ly m x H w) :
    WP (Ref.codeBody ev (ly.hn i) (ly.he i) (ly.hc i)) w (CRep ly m (actsC m dn i ((ly.ks i).handle (x.st i) ev).2
      { x with st := upd x.st i ((ly.ks i).handle (x.st i) ev).1 }) H) := by
  cases ev <;>
    (show WP (.cellRead (ly.c0 + 3 * i + 2) false _) w _
     apply c_cellRead h (h.cst i hi) (Or.inr (hH.st false))
     apply c_writeSt h (hH.st true)
     intro w1 h1)
  · exact held_body hi hd hH _ _ _ w1 h1
  · exact acts_spec hi hd hH.mono _ _ w1 h1
  · exact held_body hi hd hH _ _ _ w1 h1

end acts

theorem deliver_spec (ly : Lay) (m : Nat) : ∀ i, i ≤ m → DeliverSpec ly m i (deliver m ly.ks i) := by
  intro i
  induction i with
  | zero =>
    intro _
    refine .of_ev fun ev x H w k Q _ h hk => ?_
    cases hs : x.sub 0 <;> simp only [deliver_zero, hs, Bool.false_eq_true, ↓reduceIte] at hk
    · exact c_ev_dead h (Nat.zero_le _) hs (hk _ h)
    · exact c_ev0 h hs hk
  | succ j ih =>
    intro hj
    refine .of_ev fun ev x H w k Q hH h hk => ?_
    cases hs : x.sub (j + 1) <;> simp only [deliver_succ, hs, Bool.false_eq_true, ↓reduceIte] at hk
    · exact c_ev_dead h hj hs (hk _ h)
    · exact c_evS h hj hs fun w0 h0 => (hdl_spec (by omega) (ih (by omega)) hH ev _ w0 h0).conseq hk

/-- the polite script: `is_subscribed` probe, then delivery into observer `m` -/
theorem loop_spec (ly : Lay) (m : Nat) (tag : Nat) (evs : List Ev) : ∀ (x : CSt) (w : World),
    CRep ly m x [] w →
      WP (scriptLoop tag true (ly.L + m) evs) w (CRep ly m (scriptC m ly.ks evs x) []) := by
  induction evs with
  | nil => intro x w h; exact WP.done h
  | cons ev evs ih =>
    intro x w h
    simp only [scriptLoop, scriptC]
    apply c_isSub h (Nat.le_refl _)
    apply c_probe h
    intro w1 h1
    cases hs : x.sub m with
    | false =>
      simp only [Bool.not_false, Bool.and_self, ↓reduceIte, Bool.false_eq_true]
      exact WP.done h1
    | true =>
      simp only [Bool.not_true, Bool.and_false, Bool.false_eq_true, ↓reduceIte]
      apply WP.seq
      apply ((deliver_spec ly m m (Nat.le_refl _)).emitEv Dn.nil ev h1).conseq
      intro w2 h2
      exact ih _ _ h2

end Rx.Chain
