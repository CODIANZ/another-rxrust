import RxVerif.Theorems.C02a
/-
C04 at kernel level: ERROR PASSTHROUGH.  For the operator kernels `K` of `Kernel/Basic.lean` that are not error
handlers (all except `kMaterialize`; `kTimeInterval` is in `C02c.lean`, `timeInterval_passes`; `kSome` has no theorem
of its own), all item lists `xs` and all error payloads `e`:

 (a) `K.run (xs, .error e)` contains at most one terminal event, and it is the last event
     (`TerminalLast`; proved for EVERY kernel and EVERY stream, from the run semantics alone);
 (b) every `Ev.error e'` in `K.run (xs, .error e)` has `e' = e`  (for `kDematerialize`: or `mErr e' ∈ xs`);
 (c) for the kernels that never complete early, `K.run (xs, .error e) = K.run (xs, .silent) ++ [.error e]`.

(b) is proved once, generically, from the predicate `PassesErrors K` (the operator's `on_error`
closure is exactly `sctl.sink_error(e)`, and neither `on_next` nor `on_complete` ever call `sink_error`);
(c) from `PassesErrors K` and `OnlyEmits K` (`on_next` only ever calls `sink_next`).
Kernels described by `Accum` (C02b.lean) satisfy both; take, take_while, take_last and contains pass errors by
unfolding their definitions.
(a) and (b) together (`ErrorPassthrough`) say where a terminal and which error can be in the run, not that the error
arrives: that is `error_or_stopped` for all these kernels, and (c) for those that never complete early.
-/
namespace Rx.C04
open Rx Rx.C02 Rx.C02b

def TerminalLast (l : List Ev) : Prop := ∀ ev ∈ l.dropLast, ev.isTerminal = false

/-- the same, spelled out: a terminal-free prefix, followed by nothing or by exactly one terminal -/
theorem terminalLast_iff (l : List Ev) :
    TerminalLast l ↔
      ∃ pre, (∀ ev ∈ pre, ev.isTerminal = false) ∧ (l = pre ∨ ∃ t, t.isTerminal = true ∧ l = pre ++ [t]) := by
  constructor
  · intro h
    by_cases hl : l = []
    · exact ⟨[], by simp, Or.inl hl⟩
    · by_cases ht : (l.getLast hl).isTerminal = true
      · exact ⟨l.dropLast, h, Or.inr ⟨l.getLast hl, ht, (List.dropLast_concat_getLast hl).symm⟩⟩
      · refine ⟨l, ?_, Or.inl rfl⟩
        intro ev hev
        rw [← List.dropLast_concat_getLast hl] at hev
        rcases List.mem_append.mp hev with h1 | h1
        · exact h ev h1
        · have : ev = l.getLast hl := by simpa using h1
          rw [this]; exact Bool.eq_false_iff.2 ht
  · rintro ⟨pre, hpre, rfl | ⟨t, _, rfl⟩⟩
    · intro ev hev; exact hpre ev (List.dropLast_subset _ hev)
    · intro ev hev; rw [List.dropLast_concat] at hev; exact hpre ev hev

/-! ### what holds of every act of the three closures holds of the run -/

theorem acts_inv {P : KRun → Prop} {A : Act → Prop} (hact : ∀ r a, A a → P r → P (r.act a)) :
    ∀ (as : List Act) (r : KRun), (∀ a ∈ as, A a) → P r → P (r.acts as)
  | [], _, _, h => h
  | a :: as, r, ha, h =>
    acts_inv hact as _ (fun b hb => ha b (List.mem_cons_of_mem _ hb)) (hact r a (ha a (List.mem_cons_self ..)) h)

theorem feed_inv {σ} (K : Kernel σ) {P : KRun → Prop} {A : Act → Prop} (hact : ∀ r a, A a → P r → P (r.act a)) :
    ∀ (xs : List Data) (st : σ) (r : KRun), (∀ st, ∀ x ∈ xs, ∀ a ∈ (K.onNext st x).2, A a) → P r →
      P (K.feed st r xs).2
  | [], _, _, _, h => h
  | x :: xs, st, r, hN, h => by
    rw [feed_cons]
    split
    · exact h
    · exact feed_inv K hact xs _ _ (fun st y hy => hN st y (List.mem_cons_of_mem _ hy))
        (acts_inv hact _ _ (hN st x (List.mem_cons_self ..)) h)

theorem runFull_inv {σ} (K : Kernel σ) (s : Stream) {P : KRun → Prop} {A : Act → Prop} (h0 : P {})
    (hact : ∀ r a, A a → P r → P (r.act a))
    (hN : ∀ st, ∀ x ∈ s.1, ∀ a ∈ (K.onNext st x).2, A a)
    (hC : s.2 = .complete → ∀ st, ∀ a ∈ (K.onComplete st).2, A a)
    (hE : ∀ e, s.2 = .error e → ∀ st, ∀ a ∈ (K.onError st e).2, A a) : P (K.runFull s) := by
  have hf := feed_inv K hact s.1 K.init {} hN h0
  rw [runFull_eq]
  cases hs : s.2 with
  | silent => exact hf
  | complete => simp only [Kernel.finish]; split; exact hf; exact acts_inv hact _ _ (hC hs _) hf
  | error e => simp only [Kernel.finish]; split; exact hf; exact acts_inv hact _ _ (hE e hs _) hf

/-- invariant of the run record: terminals only in last position, none at all while still alive -/
structure TInv (r : KRun) : Prop where
  init : ∀ ev ∈ r.out.dropLast, ev.isTerminal = false
  live : r.alive = true → ∀ ev ∈ r.out, ev.isTerminal = false

theorem act_tinv (r : KRun) (a : Act) (h : TInv r) : TInv (r.act a) := by
  obtain ⟨al, c, g, out⟩ := r
  cases al with
  | false =>
    -- not alive: `out` never changes
    cases a <;> exact ⟨h.init, by simp [KRun.act]⟩
  | true =>
    have h2 := h.live rfl
    have more : ∀ (l : List Ev) (c g : Bool), (∀ ev ∈ l, ev.isTerminal = false) → TInv ⟨true, c, g, out ++ l⟩ :=
      fun l c g hl =>
        have : ∀ ev ∈ out ++ l, ev.isTerminal = false := fun ev hev => (List.mem_append.mp hev).elim (h2 ev) (hl ev)
        ⟨fun ev hev => this ev (List.dropLast_subset _ hev), fun _ => this⟩
    have last : ∀ (t : Ev) (c g : Bool), TInv ⟨false, c, g, out ++ [t]⟩ :=
      fun t c g => ⟨by simpa [List.dropLast_concat] using h2, nofun⟩
    cases a with
    | emit d => exact more [.next d] c g (by simp [Ev.isTerminal])
    | emitAll ds => exact more (ds.map .next) c g (by simp [Ev.isTerminal])
    | fail e => exact last _ _ _
    | complete => exact last _ _ _
    | abortSelf => exact ⟨h.init, fun _ => h2⟩
    | finalize => exact ⟨h.init, nofun⟩

/-- (a) for every kernel and every stream (in particular every `(xs, .error e)`) -/
theorem run_terminalLast {σ} (K : Kernel σ) (s : Stream) : TerminalLast (K.run s) :=
  (runFull_inv K s (A := fun _ => True) ⟨nofun, fun _ => nofun⟩ (fun r a _ => act_tinv r a)
    (fun _ _ _ _ _ => trivial) (fun _ _ _ _ => trivial) (fun _ _ _ _ _ => trivial)).init

theorem act_error_mem (r : KRun) (a : Act) (e' : Nat) (ha : a ≠ .fail e') (h : Ev.error e' ∉ r.out) :
    Ev.error e' ∉ (r.act a).out := by
  obtain ⟨al, c, g, out⟩ := r
  cases al <;> cases a <;> simp_all [KRun.act, eq_comm]

/-- every error event delivered downstream was produced by a `sink_error` of one of the three closures -/
theorem run_error_mem {σ} (K : Kernel σ) (xs : List Data) (t : Ending) (e' : Nat)
    (h : Ev.error e' ∈ K.run (xs, t)) :
    (∃ st x, x ∈ xs ∧ Act.fail e' ∈ (K.onNext st x).2)
    ∨ (∃ st e, t = .error e ∧ Act.fail e' ∈ (K.onError st e).2)
    ∨ (∃ st, t = .complete ∧ Act.fail e' ∈ (K.onComplete st).2) := by
  apply Classical.byContradiction
  intro hn
  simp only [not_or, not_exists, not_and] at hn
  exact runFull_inv K (xs, t) (P := fun r => Ev.error e' ∉ r.out) (A := fun a => a ≠ .fail e') nofun
    (fun r a => act_error_mem r a e')
    (fun st x hx a ha e => hn.1 st x hx (e ▸ ha))
    (fun ht st a ha e => hn.2.2 st ht (e ▸ ha))
    (fun e ht st a ha e'' => hn.2.1 st e ht (e'' ▸ ha)) h

/-- the operator is not an error handler: `on_error` is `sink_error(e)` and nothing else raises errors -/
structure PassesErrors {σ} (K : Kernel σ) : Prop where
  onError : ∀ (st : σ) (e : Nat), (K.onError st e).2 = [.fail e]
  onNext : ∀ (st : σ) (x : Data) (e : Nat), Act.fail e ∉ (K.onNext st x).2
  onComplete : ∀ (st : σ) (e : Nat), Act.fail e ∉ (K.onComplete st).2

/-- (a) + (b).  Neither field says that the error is delivered (`error_or_stopped`, `DeliversThenError` do). -/
structure ErrorPassthrough {σ} (K : Kernel σ) : Prop where
  terminal_last : ∀ (xs : List Data) (e : Nat), TerminalLast (K.run (xs, .error e))
  same_error : ∀ (xs : List Data) (e e' : Nat), Ev.error e' ∈ K.run (xs, .error e) → e' = e

theorem errorPassthrough_of {σ} {K : Kernel σ} (h : PassesErrors K) : ErrorPassthrough K := by
  refine ⟨fun xs e => run_terminalLast K _, ?_⟩
  intro xs e e' hmem
  rcases run_error_mem K xs _ e' hmem with ⟨st, x, _, hf⟩ | ⟨st, e₁, he, hf⟩ | ⟨st, he, _⟩
  · exact absurd hf (h.onNext st x e')
  · cases he
    rw [h.onError] at hf
    simpa using hf
  · cases he

/-- the error also never appears when the source does not fail -/
theorem no_error_without_error {σ} {K : Kernel σ} (h : PassesErrors K) (xs : List Data) (t : Ending)
    (ht : ∀ e, t ≠ .error e) (e' : Nat) : Ev.error e' ∉ K.run (xs, t) := by
  intro hmem
  rcases run_error_mem K xs _ e' hmem with ⟨st, x, _, hf⟩ | ⟨st, e₁, he, hf⟩ | ⟨st, he, hf⟩
  · exact h.onNext st x e' hf
  · exact ht _ he
  · exact h.onComplete st e' hf

/-- with the error the subscriber sees what it sees from the unterminated source, plus (unless the
operator had already stopped or terminated) the error -/
theorem error_or_stopped {σ} {K : Kernel σ} (h : PassesErrors K) (xs : List Data) (e : Nat) :
    K.run (xs, .error e) = K.run (xs, .silent) ++ [.error e] ∨ K.run (xs, .error e) = K.run (xs, .silent) := by
  rw [run_eq_finish, run_eq_finish]
  simp only [Kernel.finish, h.onError]
  generalize (K.feed K.init (live true []) xs).2 = r
  obtain ⟨al, c, g, out⟩ := r
  cases c <;> cases al <;> simp [KRun.act]

/-- `on_next` only ever calls `sink_next` -/
def OnlyEmits {σ} (K : Kernel σ) : Prop :=
  ∀ (st : σ) (x : Data) (a : Act), a ∈ (K.onNext st x).2 → ∃ d, a = .emit d

/-- (c): all items that precede the error are still delivered, and the error is the terminal -/
def DeliversThenError {σ} (K : Kernel σ) : Prop :=
  ∀ (xs : List Data) (e : Nat), K.run (xs, .error e) = K.run (xs, .silent) ++ [.error e]

theorem feed_live {σ} {K : Kernel σ} (h : OnlyEmits K) (xs : List Data) : ∀ (st : σ) (out : List Ev),
    ∃ out', (K.feed st (live true out) xs).2 = live true out' := fun st out =>
  feed_inv K (P := fun r => ∃ out', r = live true out') (A := fun a => ∃ d, a = .emit d)
    (by rintro _ _ ⟨d, rfl⟩ ⟨out', rfl⟩; exact ⟨_, rfl⟩) xs st _ (fun st x _ => h st x) ⟨out, rfl⟩

theorem deliversThenError_of {σ} {K : Kernel σ} (hp : PassesErrors K) (ho : OnlyEmits K) :
    DeliversThenError K := by
  intro xs e
  rw [run_eq_finish, run_eq_finish]
  obtain ⟨out', h'⟩ := feed_live ho xs K.init []
  rw [h']
  simp [Kernel.finish, hp.onError]

theorem accum_onlyEmits {σ} {K : Kernel σ} {step em fl} (h : Accum K step em fl) : OnlyEmits K := by
  intro st x a ha
  rw [h.next] at ha
  obtain ⟨d, _, rfl⟩ := List.mem_map.1 ha
  exact ⟨d, rfl⟩

theorem map_onlyEmits (f : Fn) : OnlyEmits (kMap f) := accum_onlyEmits (kMap_accum f)

theorem filter_onlyEmits (p : Pred) : OnlyEmits (kFilter p) := accum_onlyEmits (kFilter_accum p)

theorem skip_onlyEmits (n : Nat) : OnlyEmits (kSkip n) := accum_onlyEmits (kSkip_accum n)

theorem skipWhile_onlyEmits (p : Pred) : OnlyEmits (kSkipWhile p) := accum_onlyEmits (kSkipWhile_accum p)

theorem skipLast_onlyEmits (n : Nat) : OnlyEmits (kSkipLast n) := accum_onlyEmits (kSkipLast_accum n)

theorem distinct_onlyEmits : OnlyEmits kDistinct := accum_onlyEmits kDistinct_accum

theorem accum_passes {σ} {K : Kernel σ} {step em fl} (h : Accum K step em fl) : PassesErrors K :=
  ⟨h.error, fun st x e => by rw [h.next]; simp, fun st e => by rw [h.complete]; simp⟩

theorem accum_passthrough {σ} {K : Kernel σ} {step em fl} (h : Accum K step em fl) : ErrorPassthrough K :=
  errorPassthrough_of (accum_passes h)

theorem accum_delivers {σ} {K : Kernel σ} {step em fl} (h : Accum K step em fl) : DeliversThenError K :=
  deliversThenError_of (accum_passes h) (accum_onlyEmits h)

theorem take_passes (n : Nat) : PassesErrors (kTake n) :=
  ⟨fun _ _ => rfl, fun st x e => by rw [take_onNext]; split <;> split <;> simp, fun st e => by simp [kTake]⟩

theorem takeWhile_passes (p : Pred) : PassesErrors (kTakeWhile p) :=
  ⟨fun _ _ => rfl, fun st x e => by simp only [kTakeWhile]; split <;> simp, fun st e => by simp [kTakeWhile]⟩

theorem takeLast_passes (n : Nat) : PassesErrors (kTakeLast n) :=
  ⟨fun _ _ => rfl, fun st x e => by simp [kTakeLast], fun st e => by simp [kTakeLast]⟩

theorem contains_passes (t : Data) : PassesErrors (kContains t) :=
  ⟨fun _ _ => rfl, fun st x e => by rw [kContains_onNext]; split <;> simp, fun st e => by simp [kContains]⟩

theorem map_passthrough (f : Fn) : ErrorPassthrough (kMap f) := accum_passthrough (kMap_accum f)
theorem filter_passthrough (p : Pred) : ErrorPassthrough (kFilter p) := accum_passthrough (kFilter_accum p)
theorem take_passthrough (n : Nat) : ErrorPassthrough (kTake n) := errorPassthrough_of (take_passes n)
theorem skip_passthrough (n : Nat) : ErrorPassthrough (kSkip n) := accum_passthrough (kSkip_accum n)
theorem takeWhile_passthrough (p : Pred) : ErrorPassthrough (kTakeWhile p) :=
  errorPassthrough_of (takeWhile_passes p)
theorem skipWhile_passthrough (p : Pred) : ErrorPassthrough (kSkipWhile p) :=
  accum_passthrough (kSkipWhile_accum p)
theorem takeLast_passthrough (n : Nat) : ErrorPassthrough (kTakeLast n) := errorPassthrough_of (takeLast_passes n)
theorem skipLast_passthrough (n : Nat) : ErrorPassthrough (kSkipLast n) := accum_passthrough (kSkipLast_accum n)
theorem distinct_passthrough : ErrorPassthrough kDistinct := accum_passthrough kDistinct_accum
theorem scan_passthrough (f : Fn2) : ErrorPassthrough (kScan f) := accum_passthrough (kScan_accum f)
theorem fold_passthrough (g : Data → Data → Data) : ErrorPassthrough (kFold g) :=
  accum_passthrough (kFold_accum g)
theorem reduce_passthrough (f : Fn2) : ErrorPassthrough (kReduce f) := fold_passthrough _
theorem sum_passthrough : ErrorPassthrough kSum := fold_passthrough _
theorem min_passthrough : ErrorPassthrough kMin := fold_passthrough _
theorem max_passthrough : ErrorPassthrough kMax := fold_passthrough _
theorem count_passthrough : ErrorPassthrough kCount := accum_passthrough kCount_accum
theorem sumAndCount_passthrough : ErrorPassthrough kSumAndCount := accum_passthrough kSumAndCount_accum
theorem contains_passthrough (t : Data) : ErrorPassthrough (kContains t) :=
  errorPassthrough_of (contains_passes t)
theorem defaultIfEmpty_passthrough (d : Data) : ErrorPassthrough (kDefaultIfEmpty d) :=
  accum_passthrough (kDefaultIfEmpty_accum d)
theorem ignoreElements_passthrough : ErrorPassthrough kIgnoreElements :=
  accum_passthrough kIgnoreElements_accum
theorem buffer_passthrough (n : Nat) : ErrorPassthrough (kBuffer n) := accum_passthrough (kBuffer_accum n)
theorem id_passthrough : ErrorPassthrough kId := accum_passthrough kId_accum

theorem dematerialize_terminal_last (xs : List Data) (e : Nat) :
    TerminalLast (kDematerialize.run (xs, .error e)) := run_terminalLast _ _

/-- `dematerialize` (b): an error event is the source's error, or an `Error` material among the items -/
theorem dematerialize_same_error (xs : List Data) (e e' : Nat)
    (h : Ev.error e' ∈ kDematerialize.run (xs, .error e)) : e' = e ∨ Data.mErr e' ∈ xs := by
  rcases run_error_mem kDematerialize xs _ e' h with ⟨st, x, hx, hf⟩ | ⟨st, e₁, he, hf⟩ | ⟨st, he, _⟩
  · right
    have : x = Data.mErr e' := by
      cases x <;> simp [kDematerialize] at hf
      exact hf.symm ▸ rfl
    exact this ▸ hx
  · left
    cases he
    have : (kDematerialize.onError st e).2 = [.fail e] := rfl
    rw [this] at hf
    simpa using hf
  · cases he

/-- the extra disjunct of `dematerialize_same_error` is needed -/
example : Ev.error 3 ∈ kDematerialize.run ([.mErr 3], .error 5) := by decide

theorem materialize_terminal_last (s : Stream) : TerminalLast (kMaterialize.run s) := run_terminalLast _ _

/-- `materialize` is the error handler: the error becomes an item -/
theorem materialize_not_passes : ¬ PassesErrors kMaterialize := by
  intro h
  have := h.onError () 0
  simp [kMaterialize] at this

theorem map_delivers (f : Fn) : DeliversThenError (kMap f) := accum_delivers (kMap_accum f)
theorem filter_delivers (p : Pred) : DeliversThenError (kFilter p) := accum_delivers (kFilter_accum p)
theorem skip_delivers (n : Nat) : DeliversThenError (kSkip n) := accum_delivers (kSkip_accum n)
theorem skipWhile_delivers (p : Pred) : DeliversThenError (kSkipWhile p) := accum_delivers (kSkipWhile_accum p)
theorem skipLast_delivers (n : Nat) : DeliversThenError (kSkipLast n) := accum_delivers (kSkipLast_accum n)
theorem distinct_delivers : DeliversThenError kDistinct := accum_delivers kDistinct_accum
theorem scan_delivers (f : Fn2) : DeliversThenError (kScan f) := accum_delivers (kScan_accum f)
theorem defaultIfEmpty_delivers (d : Data) : DeliversThenError (kDefaultIfEmpty d) :=
  accum_delivers (kDefaultIfEmpty_accum d)
theorem ignoreElements_delivers : DeliversThenError kIgnoreElements := accum_delivers kIgnoreElements_accum
theorem id_delivers : DeliversThenError kId := accum_delivers kId_accum
theorem buffer_delivers (n : Nat) : DeliversThenError (kBuffer n) := accum_delivers (kBuffer_accum n)

-- the conclusions are about non-trivial runs: items before the error are delivered, the error is last
example : (kMap .inc).run ([.int 1, .int 2], .error 5) = [.next (.int 2), .next (.int 3), .error 5] := by decide
example : (kBuffer 2).run ([.int 1, .int 2, .int 3], .error 5)
    = [.next (Data.ofList [.int 1, .int 2]), .error 5] := by decide
example : (kSkipLast 1).run ([.int 1, .int 2], .error 5) = [.next (.int 1), .error 5] := by decide
-- operators that complete early swallow a later error: (c) does not hold for them, (a) and (b) do
example : (kTake 1).run ([.int 1, .int 2], .error 5) = [.next (.int 1), .complete] := by decide
example : ¬ DeliversThenError (kTake 1) := by
  intro h; exact absurd (h [.int 1, .int 2] 5) (by decide)
example : ¬ DeliversThenError (kContains (.int 1)) := by
  intro h; exact absurd (h [.int 1] 5) (by decide)
-- aggregates drop their accumulator and forward the error
example : kSumAndCount.run ([.int 1, .int 2], .error 5) = [.error 5] := by decide
-- `TerminalLast` is a real constraint
example : ¬ TerminalLast [.complete, .next .unit] := by
  intro h; exact absurd (h .complete (by simp)) (by decide)
example : TerminalLast ((kDematerialize).run ([.mNext (.int 1), .mErr 3, .mNext (.int 2)], .error 5)) :=
  run_terminalLast _ _
example : kDematerialize.run ([.mNext (.int 1), .mErr 3, .mNext (.int 2)], .error 5)
    = [.next (.int 1), .error 3] := by decide

end Rx.C04

#print axioms Rx.C04.run_terminalLast
#print axioms Rx.C04.terminalLast_iff
#print axioms Rx.C04.run_error_mem
#print axioms Rx.C04.errorPassthrough_of
#print axioms Rx.C04.no_error_without_error
#print axioms Rx.C04.error_or_stopped
#print axioms Rx.C04.deliversThenError_of
#print axioms Rx.C04.take_passthrough
#print axioms Rx.C04.skipLast_passthrough
#print axioms Rx.C04.sumAndCount_passthrough
#print axioms Rx.C04.buffer_passthrough
#print axioms Rx.C04.dematerialize_same_error
#print axioms Rx.C04.materialize_not_passes
#print axioms Rx.C04.buffer_delivers
#print axioms Rx.C04.skipLast_delivers
#print axioms Rx.C04.distinct_delivers
