import RxVerif.Theorems.SimChainPrim
/-
SIM for chains (machine side): `unsubscribe` and `finalize` of stage `j` of a chain, executed symbolically on
`CRep`, agree with the flat chain machine (`finF`, `unsubO`); they cascade towards the source (induction on the
number of stages above).  First, which guards may be held meanwhile (`Up`, `Dn`).
-/
namespace Rx.Chain
open Rx.Sim

/-- guards that may be alive while controller code of stage `j` (or above) runs: kernel state cells,
    and unscriber maps of stages strictly below `j` -/
def Up (ly : Lay) (j : Nat) (H : List (LockId × Bool)) : Prop :=
  ∀ p ∈ H, (∃ k, p.1 = .cell (ly.c0 + 3 * k + 2)) ∨ (∃ k, k < j ∧ p.1 = .cell (ly.c0 + 3 * k + 1))

/-- guards that may be alive when an event is delivered into observer `j`: state cells of stages `≥ j` -/
def Dn (ly : Lay) (j : Nat) (H : List (LockId × Bool)) : Prop :=
  ∀ p ∈ H, ∃ k, j ≤ k ∧ p.1 = .cell (ly.c0 + 3 * k + 2)

section locks
variable {ly : Lay} {j : Nat} {H : List (LockId × Bool)}

theorem noConf_of (l : LockId) (wr : Bool) (h : ∀ p ∈ H, p.1 ≠ l) : NoConf H l wr :=
  CRef.noconf_ne (w := { held := H }) wr h

theorem Up.map (h : Up ly j H) {i : Nat} (hi : j ≤ i) (wr : Bool) :
    NoConf H (.cell (ly.c0 + 3 * i + 1)) wr := by
  apply noConf_of
  intro p hp e
  rcases h p hp with ⟨k, hk⟩ | ⟨k, hkj, hk⟩
  · rw [hk] at e; have := LockId.cell.inj e; omega
  · rw [hk] at e; have := LockId.cell.inj e; omega

theorem Up.slot (h : Up ly j H) (s : Nat) (wr : Bool) : NoConf H (.slot s) wr := by
  apply noConf_of
  intro p hp e
  rcases h p hp with ⟨k, hk⟩ | ⟨k, _, hk⟩ <;> (rw [hk] at e; cases e)

theorem Up.consMap (h : Up ly j H) (b : Bool) : Up ly (j + 1) ((.cell (ly.c0 + 3 * j + 1), b) :: H) := by
  intro p hp
  rcases List.mem_cons.mp hp with rfl | hp
  · exact Or.inr ⟨j, Nat.lt_succ_self _, rfl⟩
  · rcases h p hp with h1 | ⟨k, hk, h2⟩
    · exact Or.inl h1
    · exact Or.inr ⟨k, by omega, h2⟩

theorem Up.consSt (h : Up ly j H) (i : Nat) (b : Bool) : Up ly j ((.cell (ly.c0 + 3 * i + 2), b) :: H) := by
  intro p hp
  rcases List.mem_cons.mp hp with rfl | hp
  · exact Or.inl ⟨i, rfl⟩
  · exact h p hp

theorem Up.mono (h : Up ly j H) {i : Nat} (hi : j ≤ i) : Up ly i H := by
  intro p hp
  rcases h p hp with h1 | ⟨k, hk, h2⟩
  · exact Or.inl h1
  · exact Or.inr ⟨k, by omega, h2⟩

theorem Dn.up (h : Dn ly j H) (i : Nat) : Up ly i H := by
  intro p hp
  obtain ⟨k, _, hk⟩ := h p hp
  exact Or.inl ⟨k, hk⟩

theorem Dn.st (h : Dn ly (j + 1) H) (wr : Bool) : NoConf H (.cell (ly.c0 + 3 * j + 2)) wr := by
  apply noConf_of
  intro p hp e
  obtain ⟨k, hk, hk'⟩ := h p hp
  rw [hk'] at e; have := LockId.cell.inj e; omega

theorem Dn.nil : Dn ly j [] := by intro p hp; cases hp

theorem Dn.consSt (h : Dn ly (j + 1) H) (b : Bool) : Dn ly j ((.cell (ly.c0 + 3 * j + 2), b) :: H) := by
  intro p hp
  rcases List.mem_cons.mp hp with rfl | hp
  · exact ⟨j, Nat.le_refl _, rfl⟩
  · obtain ⟨k, hk, hk'⟩ := h p hp
    exact ⟨k, by omega, hk'⟩

theorem Dn.mono (h : Dn ly (j + 1) H) : Dn ly j H := by
  intro p hp
  obtain ⟨k, hk, hk'⟩ := h p hp
  exact ⟨k, by omega, hk'⟩

end locks

@[simp] theorem sc_sub (ly : Lay) (j : Nat) : (ly.sc j).sub = ly.L + j := rfl
@[simp] theorem sc_map (ly : Lay) (j : Nat) : (ly.sc j).map = ly.c0 + 3 * j + 1 := rfl
@[simp] theorem sc_fin (ly : Lay) (j : Nat) : (ly.sc j).fin = ly.s0 + j := rfl

/-- `unsubscribe` of observer `i` behaves as `up` says -/
def UnsubSpec (ly : Lay) (m i : Nat) (up : CSt → CSt) : Prop :=
  ∀ (x : CSt) (H : List (LockId × Bool)) (w : World) (k : Prog) (Q : World → Prop),
    Up ly i H → CRep ly m x H w → (∀ w', CRep ly m (up x) H w' → WP k w' Q) →
    WP (.obsUnsub (ly.L + i) k) w Q

theorem amapVals_mapD_true (ly : Lay) (j : Nat) :
    amapVals (ly.mapD j true) = [.int ((ly.L + (j + 1) : Nat) : Int)] := rfl
theorem amapVals_mapD_false (ly : Lay) (j : Nat) : amapVals (ly.mapD j false) = [] := rfl

section fin
variable {ly : Lay} {m j : Nat} {x : CSt} {H : List (LockId × Bool)} {w : World} (hj : j < m) (hH : Up ly j H)
include hj hH

/-- the `on_finalize` call-and-clear that ends `finalize`, not the pure `finTail` -/
theorem finTail_spec (h : CRep ly m x H w) :
    WP (.lockAcq (.slot (ly.s0 + j)) true <| .slotCall (ly.s0 + j) .unit true <|
        .lockRel (.slot (ly.s0 + j)) .done) w (CRep ly m x H) :=
  Ref.wp_lockedSlotCall_none' (h.conflicts (hH.slot _ true)) (h.slot j hj) (WP.done h)

/-- `finalize` of stage `j`.  The unsubscription of the upstream observer (`hup`) is needed only while the
    serial is registered, the re-entrant `finalize` run as observer `j`'s teardown (`hre`) only if observer
    `j` is still alive after the loop. -/
theorem finalize_gen {up : CSt → CSt}
    (hup : x.rg j = true → UnsubSpec ly m (j + 1) up)
    (hre : (if x.rg j then up x else x).sub j = true → ∀ (y : CSt) w', y.rg j = false → y.sub j = false →
      CRep ly m y H w' → WP (ly.sc j).finalize w' (CRep ly m y H))
    (h : CRep ly m x H w) : WP (ly.sc j).finalize w (CRep ly m (finF up j x) H) := by
  simp only [Sctl.finalize, sc_sub, sc_map, sc_fin, finF_tail]
  apply c_lockAcq h (hH.map (Nat.le_refl _) false)
  intro w1 h1
  apply c_cellRead h1 (h1.map j hj) (Or.inl rfl)
  apply WP.seq
  have hloop : WP (forEach (amapVals (ly.mapD j (x.rg j))) fun o => .obsUnsub o.toInt.toNat .done) w1
      (CRep ly m (if x.rg j then up x else x) ((.cell (ly.c0 + 3 * j + 1), false) :: H)) := by
    cases hrg : x.rg j with
    | false =>
      rw [amapVals_mapD_false]
      exact WP.done (by simpa using h1)
    | true =>
      rw [amapVals_mapD_true]
      simp only [forEach, Ref.toNat_int, ↓reduceIte]
      apply WP.seq
      apply hup hrg x _ w1 _ _ (hH.consMap false) h1
      intro w2 h2
      apply WP.done
      exact WP.done h2
  apply hloop.conseq
  intro w2 h2
  generalize (if x.rg j then up x else x) = y at h2 hre ⊢
  apply c_lockRel h2
  intro w3 h3
  apply c_clearMap h3 (Or.inr (hH.map (Nat.le_refl _) true))
  intro w4 h4
  apply c_isSub h4 (Nat.le_of_lt hj)
  unfold finTail
  cases hs : y.sub j with
  | false =>
    simp only [unreg_sub, hs, Bool.false_eq_true, ↓reduceIte]
    apply WP.seq
    apply WP.done
    exact finTail_spec hj hH h4
  | true =>
    simp only [unreg_sub, hs, ↓reduceIte]
    apply WP.seq
    apply c_unsub h4 (Nat.le_of_lt hj)
    intro w5 h5
    cases har : (y.unreg j).ar j with
    | false =>
      simp only [Bool.false_eq_true, ↓reduceIte]
      exact WP.done (finTail_spec hj hH h5)
    | true =>
      simp only [↓reduceIte]
      apply (hre hs _ w5 (by simp) (by simp) h5).conseq
      intro w6 h6
      exact WP.done (finTail_spec hj hH h6)

/-- `finalize` once the map is empty and the subscriber gone: no effect -/
theorem finalize_dead (hrg : x.rg j = false) (hs : x.sub j = false)
    (h : CRep ly m x H w) : WP (ly.sc j).finalize w (CRep ly m x H) := by
  have := finalize_gen hj hH (up := id) (fun e => by rw [hrg] at e; cases e)
    (fun e => by simp only [hrg, Bool.false_eq_true, ↓reduceIte, hs] at e) h
  rwa [finF_dead id hrg hs] at this

theorem finalize_spec {up : CSt → CSt} (hup : UnsubSpec ly m (j + 1) up)
    (h : CRep ly m x H w) : WP (ly.sc j).finalize w (CRep ly m (finF up j x) H) :=
  finalize_gen hj hH (fun _ => hup) (fun _ _ _ hr hs hy => finalize_dead hj hH hr hs hy) h

end fin

theorem unsubO_spec (ly : Lay) (m : Nat) : ∀ fuel i, i + fuel = m → UnsubSpec ly m i (unsubO fuel i) := by
  intro fuel
  induction fuel with
  | zero =>
    intro i hi x H w k Q hH h hk
    have : i = m := by omega
    subst this
    apply c_unsub h (Nat.le_refl _)
    intro w' h'
    simp only [h.arTop, Bool.false_eq_true, ↓reduceIte]
    exact hk _ h'
  | succ f ih =>
    intro i hi x H w k Q hH h hk
    have hlt : i < m := by omega
    apply c_unsub h (Nat.le_of_lt hlt)
    intro w' h'
    cases har : x.ar i with
    | false =>
      simp only [Bool.false_eq_true, ↓reduceIte]
      apply hk
      simpa [unsubO, har] using h'
    | true =>
      simp only [↓reduceIte]
      apply (finalize_spec hlt hH (ih (i + 1) (by omega)) h').conseq
      intro w1 h1
      apply hk
      simpa [unsubO, har] using h1

theorem upO_spec (ly : Lay) (m i : Nat) (hi : i < m) : UnsubSpec ly m (i + 1) (upO m i) :=
  unsubO_spec ly m _ _ (by omega)

theorem finC_spec {ly : Lay} {m i : Nat} {x : CSt} {H : List (LockId × Bool)} {w : World}
    (hi : i < m) (hH : Up ly i H) (h : CRep ly m x H w) :
    WP (ly.sc i).finalize w (CRep ly m (finC m i x) H) :=
  finalize_spec hi hH (upO_spec ly m i hi) h

end Rx.Chain
