import RxVerif.Spec.Nested
import RxVerif.Theorems.C02b
/-
C02, operators whose items are observables: the pure machines of `window_with_count` and `group_by`
(Kernel/Nested.lean: the decision logic of the operators' closures, with the announced observables observed by
fresh subscribers) equal the ReactiveX characterisation of Spec/Nested.lean (window: the whole trace and each
subscriber's part; group_by: each subscriber's part) — for ALL item lists, endings, window sizes ≥ 1 and key functions.
-/
namespace Rx.C02
open Rx Rx.Nested Rx.Spec Rx.C02b

theorem proj_map {α} (s w : Nat) (f : α → Ev) (l : List α) :
    proj s (l.map fun a => (w, f a)) = if w = s then l.map f else [] := by
  induction l with
  | nil => simp
  | cons a l ih => by_cases h : w = s <;> simp_all [proj_cons]

theorem proj_endFor (s w : Nat) (e : Ending) : proj s (endFor w e) = if w = s then e.toEvs else [] := by
  simpa [endFor] using proj_map s w id e.toEvs

theorem proj_winTail (s w count : Nat) (c : List Data) (e : Ending) :
    proj s (if c.length = count then [(w, Ev.complete)] else endFor w e)
      = if w = s then (if c.length = count then [Ev.complete] else e.toEvs) else [] := by
  split <;> by_cases h : w = s <;> simp [proj_cons, proj_endFor, h]

theorem chunks_ind (n : Nat) (hn : 0 < n) {P : List Data → List (List Data) → Prop} (nil : P [] [])
    (short : ∀ c, c ≠ [] → c.length < n → P c [c])
    (full : ∀ c rest cs, c.length = n → P rest cs → P (c ++ rest) (c :: cs)) :
    ∀ (fuel : Nat) (xs : List Data), xs.length + 1 ≤ fuel → P xs (Spec.chunks n fuel xs) := by
  intro fuel
  induction fuel with
  | zero => intro xs h; omega
  | succ fuel ih =>
    intro xs hf
    by_cases hx : xs = []
    · subst hx; exact nil
    · rw [chunks_succ n fuel xs hx]
      split
      · exact short xs hx ‹_›
      · have := full (xs.take n) (xs.drop n) _ (by simp; omega) (ih (xs.drop n) (by simp; omega))
        rwa [List.take_append_drop] at this

theorem chunks_flatten (count : Nat) (hn : 0 < count) : ∀ (fuel : Nat) (xs : List Data), xs.length + 1 ≤ fuel →
    (Spec.chunks count fuel xs).flatten = xs :=
  chunks_ind count hn (P := fun xs cs => cs.flatten = xs) rfl (fun c _ _ => by simp) fun c rest cs _ ih => by simp [ih]

theorem winRunFrom_cons (count : Nat) (st : WinSt) (x : Data) (xs : List Data) (e : Ending) :
    winRunFrom count st (x :: xs) e = (winNext count st x).2 ++ winRunFrom count (winNext count st x).1 xs e := rfl

theorem win_feed (count : Nat) (e : Ending) (rest : List Data) (w : Nat) :
    ∀ (c : List Data) (k : Nat), 0 < k → k < count → k + c.length ≤ count →
      winRunFrom count ⟨k, w⟩ (c ++ rest) e
        = c.map (fun x => (w, Ev.next x)) ++
            if k + c.length = count then (w, Ev.complete) :: winRunFrom count ⟨0, w⟩ rest e
            else winRunFrom count ⟨k + c.length, w⟩ rest e := by
  intro c
  induction c with
  | nil => intro k _ hk _; simp [Nat.ne_of_lt hk]
  | cons x c ih =>
    intro k hk hlt hle
    have h0 : (k == 0) = false := by simp; omega
    rw [List.cons_append, winRunFrom_cons]
    by_cases hc : k + 1 = count
    · obtain rfl : c = [] := List.eq_nil_of_length_eq_zero (by simp at hle; omega)
      simp [winNext, h0, hc]
    · have hc' : (k + 1 == count) = false := by simpa using hc
      simp only [winNext, h0, hc', Bool.false_eq_true, if_false, List.nil_append, List.append_nil, List.map_cons,
        List.cons_append, List.length_cons, ih (k + 1) (by omega) (by omega) (by simp at hle; omega)]
      simp [Nat.add_assoc, Nat.add_comm 1]

theorem win_chunk (count : Nat) (e : Ending) (rest : List Data) (w : Nat) (c : List Data) (hne : c ≠ [])
    (hc : c.length ≤ count) :
    winRunFrom count ⟨0, w⟩ (c ++ rest) e
      = (0, Ev.next (.obs (w + 1))) :: c.map (fun x => (w + 1, Ev.next x)) ++
          if c.length = count then (w + 1, Ev.complete) :: winRunFrom count ⟨0, w + 1⟩ rest e
          else winRunFrom count ⟨c.length, w + 1⟩ rest e := by
  cases c with
  | nil => exact absurd rfl hne
  | cons x c =>
    rw [List.cons_append, winRunFrom_cons]
    by_cases h1 : count = 1
    · subst h1
      obtain rfl : c = [] := by simpa using hc
      simp [winNext]
    · have hcl : (0 + 1 == count) = false := by simp; omega
      simp only [winNext, hcl, beq_self_eq_true, if_true, Bool.false_eq_true, if_false, List.append_nil,
        win_feed count e rest (w + 1) c 1 (by omega) (by simp at hc; omega) (by simp at hc; omega)]
      simp [Nat.add_comm 1]

/-- **window_trace.**  For every window size ≥ 1, every item list and ending: the machine's global trace is the
    chunk-by-chunk trace over the chunks `buffer_with_count` emits. -/
theorem window_trace (count : Nat) (hn : 0 < count) (s : Stream) :
    winRun count s = windowTrace count 0 (windowChunks count s) s.2 := by
  refine chunks_ind count hn (P := fun xs cs => ∀ w, winRunFrom count ⟨0, w⟩ xs s.2 = windowTrace count w cs s.2)
    (fun w => by simp [winRunFrom, winEnd, windowTrace]) (fun c hne hlt w => ?_) (fun c rest cs hc ih w => ?_)
    _ s.1 (Nat.le_refl _) 0
  · -- the window stays open and gets the source's terminal
    have := win_chunk count s.2 [] w c hne (Nat.le_of_lt hlt)
    rw [List.append_nil] at this
    simp [this, Nat.ne_of_lt hlt, windowTrace, winRunFrom, winEnd, List.length_eq_zero_iff, hne]
  · rw [win_chunk count s.2 rest w c (by intro h; simp [h] at hc; omega) (Nat.le_of_eq hc)]
    simp [hc, windowTrace, ih]

/-- windows announced later never talk to an earlier subscriber -/
theorem proj_windowTrace_earlier (count : Nat) (e : Ending) :
    ∀ (cs : List (List Data)) (w s : Nat), 0 < s → s ≤ w → proj s (windowTrace count w cs e) = [] := by
  intro cs
  induction cs with
  | nil => intro w s h0 _; simp [windowTrace, proj_endFor, Nat.ne_of_lt h0]
  | cons c cs ih =>
    intro w s h0 hle
    have h1 : w + 1 ≠ s := by omega
    simp [windowTrace, proj_cons, proj_map, proj_winTail, ih (w + 1) s h0 (by omega), h1, Nat.ne_of_lt h0]

theorem proj_windowTrace_root (count : Nat) (e : Ending) :
    ∀ (cs : List (List Data)) (w : Nat),
      proj 0 (windowTrace count w cs e)
        = (List.range' (w + 1) cs.length).map (fun j => Ev.next (.obs j)) ++ e.toEvs := by
  intro cs
  induction cs with
  | nil => intro w; simp [windowTrace, proj_endFor]
  | cons c cs ih =>
    intro w
    simp [windowTrace, proj_cons, proj_map, proj_winTail, ih (w + 1), List.range'_succ]

theorem proj_windowTrace_inner (count : Nat) (e : Ending) :
    ∀ (cs : List (List Data)) (w j : Nat),
      proj (w + j + 1) (windowTrace count w cs e)
        = match cs[j]? with
          | none => []
          | some c => c.map Ev.next ++ (if c.length == count then [Ev.complete] else e.toEvs) := by
  intro cs
  induction cs with
  | nil => intro w j; simp [windowTrace, proj_endFor]
  | cons c cs ih =>
    intro w j
    cases j with
    | zero =>
      simp [windowTrace, proj_cons, proj_map, proj_winTail,
        proj_windowTrace_earlier count e cs (w + 1) (w + 1) (by omega) (Nat.le_refl _)]
    | succ j =>
      have := ih (w + 1) j
      rw [show w + 1 + j + 1 = w + (j + 1) + 1 by omega] at this
      simp [windowTrace, proj_cons, proj_map, proj_winTail, this]

/-- **window_root.**  The root subscriber receives one observable per chunk, then the source's terminal. -/
theorem window_root (count : Nat) (hn : 0 < count) (s : Stream) :
    proj 0 (winRun count s) = windowRoot count s := by
  rw [window_trace count hn s, proj_windowTrace_root, List.range'_eq_map_range]
  simp [windowRoot, Nat.add_comm 1]

/-- **window_inner.**  The subscriber of the j-th announced window receives exactly the j-th chunk of the source's items
    (the chunks of `buffer_with_count`), then `complete` when the chunk is full and the source's own terminal when the
    source ended inside the window; subscribers of windows that were never announced receive nothing. -/
theorem window_inner (count : Nat) (hn : 0 < count) (s : Stream) (j : Nat) :
    proj (j + 1) (winRun count s) = windowInner count s j := by
  rw [window_trace count hn s]
  have := proj_windowTrace_inner count s.2 (windowChunks count s) 0 j
  simp only [Nat.zero_add] at this
  rw [this]; rfl

/-- the windows' contents are the lists `buffer_with_count` emits, by definition of `windowChunks` -/
theorem window_items_are_buffers (count : Nat) (s : Stream) :
    (Spec.bufferWithCount count (s.1, .complete)).1 = (windowChunks count s).map Data.ofList := rfl

/-- **window_partition.**  Reading the windows one after another gives back exactly the source's items, in order. -/
theorem window_partition (count : Nat) (hn : 0 < count) (s : Stream) : (windowChunks count s).flatten = s.1 :=
  chunks_flatten count hn _ _ (Nat.le_refl _)

/-- non-vacuity: 1 2 3 then complete, windows of 2 -/
example : winRun 2 ([.int 1, .int 2, .int 3], .complete)
    = [(0, .next (.obs 1)), (1, .next (.int 1)), (1, .next (.int 2)), (1, .complete),
       (0, .next (.obs 2)), (2, .next (.int 3)), (2, .complete), (0, .complete)] := by decide
example : windowInner 2 ([.int 1, .int 2, .int 3], .error 5) 1 = [.next (.int 3), .error 5] := by decide
/-- `hn` is needed: the code's counter never reaches 0, a window of size 0 never closes -/
example : proj 1 (winRun 0 ([.int 1, .int 2], .complete)) ≠ windowInner 0 ([.int 1, .int 2], .complete) 0 := by decide

theorem pos_get (k : Int) : ∀ (g : List Int), k ∈ g → g[pos k g]? = some k := by
  intro g
  induction g with
  | nil => intro h; cases h
  | cons a g ih =>
    intro h
    by_cases ha : a = k
    · simp [pos, ha]
    · simp [pos, ha, ih ((List.mem_cons.mp h).resolve_left (Ne.symm ha))]

theorem addKeys_cons (key : Fn) (ks : List Int) (x : Data) (xs : List Data) :
    addKeys key ks (x :: xs) = addKeys key (grpNext key ks x).1 xs := by
  simp only [addKeys, grpNext]
  split <;> rfl

theorem grpNext_nodup (key : Fn) (g : Groups) (x : Data) (h : g.Nodup) : (grpNext key g x).1.Nodup := by
  simp only [grpNext]
  split
  · exact h
  · exact List.nodup_append.mpr ⟨h, by simp, by simpa using fun a ha (h' : a = keyOf key x) => ‹¬keyOf key x ∈ g› (h' ▸ ha)⟩

theorem grpNext_prefix (key : Fn) (g : Groups) (x : Data) : g <+: (grpNext key g x).1 := by
  simp only [grpNext]
  split
  · exact List.prefix_refl g
  · exact List.prefix_append g _

theorem addKeys_nodup (key : Fn) : ∀ (xs : List Data) (g : Groups), g.Nodup → (addKeys key g xs).Nodup := by
  intro xs
  induction xs with
  | nil => intro g h; exact h
  | cons x xs ih => intro g h; rw [addKeys_cons]; exact ih _ (grpNext_nodup key g x h)

/-- the list of keys only grows, and at its end -/
theorem addKeys_prefix (key : Fn) : ∀ (xs : List Data) (g : Groups), g <+: addKeys key g xs
  | [], g => List.prefix_refl g
  | x :: xs, g => addKeys_cons key g x xs ▸ (grpNext_prefix key g x).trans (addKeys_prefix key xs _)

theorem proj_group_ends (e : Ending) (s : Nat) : ∀ (n : Nat),
    proj s ((List.range n).flatMap (fun i => endFor (i + 1) e)) = if 0 < s ∧ s ≤ n then e.toEvs else [] := by
  intro n
  induction n with
  | zero => simp; omega
  | succ n ih =>
    rw [List.range_succ, List.flatMap_append, proj_append, ih]
    simp only [List.flatMap_cons, List.flatMap_nil, List.append_nil, proj_endFor]
    by_cases h1 : n + 1 = s
    · subst h1; simp; omega
    · by_cases h2 : 0 < s ∧ s ≤ n <;> simp [h1, h2] <;> omega

theorem grpNext_target (key : Fn) (g : Groups) (x : Data) :
    ∃ i, (grpNext key g x).1[i]? = some (keyOf key x) ∧
      ∀ j, proj (j + 1) (grpNext key g x).2 = if i = j then [Ev.next x] else [] := by
  simp only [grpNext]
  split
  · exact ⟨_, pos_get _ g ‹_›, fun j => by simp [proj_cons]⟩
  · exact ⟨g.length, by simp, fun j => by simp [proj_cons]⟩

/-- what one item contributes to the subscriber of the group at position `j` of the final key list -/
theorem proj_grpNext (key : Fn) (g : Groups) (x : Data) (xs : List Data) (hnd : g.Nodup) (j : Nat) (k : Int)
    (hK : (addKeys key g (x :: xs))[j]? = some k) :
    proj (j + 1) (grpNext key g x).2 = if keyOf key x == k then [Ev.next x] else [] := by
  obtain ⟨i, hi, hp⟩ := grpNext_target key g x
  have hlt : i < (grpNext key g x).1.length := (List.getElem?_eq_some_iff.1 hi).1
  have hpre := addKeys_cons key g x xs ▸ addKeys_prefix key xs (grpNext key g x).1
  have hKi : (addKeys key g (x :: xs))[i]? = some (keyOf key x) := by
    rw [List.prefix_iff_getElem?.1 hpre i hlt, (List.getElem?_eq_some_iff.1 hi).2]
  have := List.getElem?_inj (j := j) (Nat.lt_of_lt_of_le hlt hpre.length_le) (addKeys_nodup key _ g hnd)
  rw [hKi, hK] at this
  simp [hp, ← this]

theorem group_inner_from (key : Fn) (e : Ending) : ∀ (xs : List Data) (g : Groups), g.Nodup →
    ∀ (j : Nat) (k : Int), (addKeys key g xs)[j]? = some k →
      proj (j + 1) (grpRunFrom key g xs e) = (xs.filter fun x => keyOf key x == k).map Ev.next ++ e.toEvs := by
  intro xs
  induction xs with
  | nil =>
    intro g _ j k hK
    have hj : 0 < j + 1 ∧ j + 1 ≤ g.length := ⟨by omega, (List.getElem?_eq_some_iff.1 hK).1⟩
    simp [grpRunFrom, grpEnd, proj_group_ends, proj_endFor, hj]
  | cons x xs ih =>
    intro g hnd j k hK
    simp only [grpRunFrom, proj_append]
    rw [proj_grpNext key g x xs hnd j k hK, ih _ (grpNext_nodup key g x hnd) j k (addKeys_cons key g x xs ▸ hK)]
    by_cases hk : (keyOf key x == k) = true <;> simp [hk]

theorem group_root_from (key : Fn) (e : Ending) : ∀ (xs : List Data) (g : Groups),
    proj 0 (grpRunFrom key g xs e)
      = (List.range' (g.length + 1) ((addKeys key g xs).length - g.length)).map (fun j => Ev.next (.obs j))
          ++ e.toEvs := by
  intro xs
  induction xs with
  | nil => intro g; simp [grpRunFrom, grpEnd, addKeys, proj_group_ends, proj_endFor]
  | cons x xs ih =>
    intro g
    have hlen := (addKeys_prefix key xs (grpNext key g x).1).length_le
    simp only [grpRunFrom, proj_append, ih, addKeys_cons]
    by_cases hm : keyOf key x ∈ g
    · simp [grpNext, hm, proj_cons]
    · simp only [grpNext, hm, if_false, List.length_append, List.length_cons, List.length_nil] at hlen ⊢
      rw [show (addKeys key (g ++ [keyOf key x]) xs).length - g.length
        = (addKeys key (g ++ [keyOf key x]) xs).length - (g.length + 0 + 1) + 1 by omega, List.range'_succ]
      simp [proj_cons]

/-- **group_root.**  The root subscriber receives one observable per distinct key, then the source's terminal. -/
theorem group_root (key : Fn) (s : Stream) : proj 0 (grpRun key s) = groupRoot key s := by
  rw [grpRun, group_root_from, List.range'_eq_map_range]
  simp [groupRoot, keysOf, Nat.add_comm 1]

/-- **group_inner.**  For every key function, item list and ending: the subscriber of the group announced for key `k`
    (the j-th distinct key in order of first occurrence, observed by subscriber j + 1) receives exactly the items whose
    key is `k`, in source order, followed by the source's terminal. -/
theorem group_inner (key : Fn) (s : Stream) (j : Nat) (k : Int) (hk : (keysOf key s.1)[j]? = some k) :
    proj (j + 1) (grpRun key s) = groupInner key s k :=
  group_inner_from key s.2 s.1 [] List.nodup_nil j k hk

theorem keysOf_complete (key : Fn) : ∀ (xs : List Data) (g : Groups) (x : Data), x ∈ xs → keyOf key x ∈ addKeys key g xs := by
  intro xs
  induction xs with
  | nil => intro g x h; cases h
  | cons y ys ih =>
    intro g x h
    rcases List.mem_cons.mp h with rfl | h
    · -- the key of the head has a position from now on, and group lists only grow
      obtain ⟨i, hi, _⟩ := grpNext_target key g x
      rw [addKeys_cons]
      exact (addKeys_prefix key ys _).subset (List.mem_of_getElem? hi)
    · rw [addKeys_cons]; exact ih _ x h

/-- **group_keys.**  Every key that occurs in the source has exactly one group: the announced key list has no
    duplicates and contains the key of every item. -/
theorem group_keys (key : Fn) (xs : List Data) :
    (keysOf key xs).Nodup ∧ ∀ x ∈ xs, keyOf key x ∈ keysOf key xs :=
  ⟨addKeys_nodup key xs [] List.nodup_nil, fun x hx => keysOf_complete key xs [] x hx⟩

example : grpRun (.mod 2) ([.int 1, .int 2, .int 3], .error 5)
    = [(0, .next (.obs 1)), (1, .next (.int 1)), (0, .next (.obs 2)), (2, .next (.int 2)), (1, .next (.int 3)),
       (1, .error 5), (2, .error 5), (0, .error 5)] := by decide
example : keysOf (.mod 2) [.int 1, .int 2, .int 3] = [1, 0] := by decide

end Rx.C02

#print axioms Rx.C02.window_trace
#print axioms Rx.C02.window_root
#print axioms Rx.C02.window_inner
#print axioms Rx.C02.window_items_are_buffers
#print axioms Rx.C02.group_root
#print axioms Rx.C02.group_inner
#print axioms Rx.C02.keysOf_complete
#print axioms Rx.C02.window_partition
#print axioms Rx.C02.group_keys
