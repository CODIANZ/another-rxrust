/-
Lists with one entry replaced (`List.set`): the thread tables of the concurrent models (C08, C11, C19) are updated
this way, and every invariant proof splits a lookup in the new table into "the stepping thread" and "another one".
-/
namespace Rx

theorem lt_of_getElem? {α} {l : List α} {i : Nat} {a : α} (h : l[i]? = some a) : i < l.length :=
  (List.getElem?_eq_some_iff.1 h).1

theorem getElem?_set_cases {α} {l : List α} {i j : Nat} {a b : α} (h : (l.set i a)[j]? = some b) :
    (j = i ∧ b = a) ∨ (j ≠ i ∧ l[j]? = some b) := by
  by_cases hij : i = j
  · subst hij
    rw [List.getElem?_set_self (List.length_set ▸ lt_of_getElem? h)] at h
    exact .inl ⟨rfl, (Option.some.inj h).symm⟩
  · rw [List.getElem?_set_ne hij] at h
    exact .inr ⟨fun e => hij e.symm, h⟩

theorem flatMap_set_perm {α β} {f : α → List β} {l : List α} {i : Nat} {a b : α} (h : l[i]? = some a) :
    ((l.set i b).flatMap f ++ f a).Perm (l.flatMap f ++ f b) := by
  induction l generalizing i with
  | nil => cases h
  | cons x l ih =>
    cases i with
    | zero =>
      cases h
      rw [List.set_cons_zero, List.flatMap_cons, List.flatMap_cons]
      refine List.perm_append_comm.trans ?_
      rw [List.append_assoc]
      exact List.perm_append_comm.append_left _
    | succ i =>
      rw [List.set_cons_succ, List.flatMap_cons, List.flatMap_cons, List.append_assoc, List.append_assoc]
      exact (ih h).append_left _

end Rx
