import RxVerif.Theorems.C13RefSides
/-
C13-REF: the source side over a HOT source (a plain `Subject` H).  A source event `H.next / error / complete` walks
the snapshot of H's map; every entry is a source observer whose callback forwards into the connectable's subject
(`connRecv`); generic in the users' side `V` (plain subject for publish / ref_count, ReplaySubject for replay) and in
the connectable's own side `O`.  Then `source.subscribe(next → sbj.next, error → sbj.error, complete → sbj.complete)`
(publish.rs:31-39, ref_count.rs:76-84) and `Subscription::unsubscribe` of the handle it returned.  Before each, the
facts on `liveFrom` and on flag lists it needs; at the end `AgreesC.of_parts`: what the differential test compares,
read off the sides.
-/
namespace Rx.CRef
open Rx.Sim Rx.SubjM Rx.Ref Rx.RefR

theorem liveFrom_allFalse (k : Nat) (cs : List Nat) (bs : List Bool) (h : ∀ b ∈ bs, b = false) :
    liveFrom k cs bs = [] := by
  fun_induction liveFrom k cs bs with
  | case1 k c cs b bs ih => rw [h b (List.mem_cons_self ..), ih fun x hx => h x (List.mem_cons_of_mem _ hx)]; rfl
  | case2 => rfl

theorem drop_cons_getD {α} (l : List α) (k : Nat) (d : α) (h : k < l.length) :
    l.drop k = l.getD k d :: l.drop (k + 1) := by
  rw [List.drop_eq_getElem_cons h]
  simp [List.getD_eq_getElem?_getD, List.getElem?_eq_getElem h]

theorem drop_cons_rootAt (l : List Nat) (k : Nat) (h : k < l.length) : l.drop k = rootAt l k :: l.drop (k + 1) :=
  drop_cons_getD l k 0 h

theorem set_getD_same (l : List Bool) (i : Nat) (b : Bool) (hi : i < l.length) : (l.set i b).getD i false = b := by
  simp [List.getD_eq_getElem?_getD, hi]

theorem set_getD_other (l : List Bool) {i j : Nat} (b : Bool) (h : i ≠ j) : (l.set i b).getD j false = l.getD j false := by
  simp [List.getD_eq_getElem?_getD, h]

theorem getD_true {l : List Bool} {i : Nat} : l.getD i false = true ↔ l[i]? = some true := by
  rw [List.getD_eq_getElem?_getD]; cases l[i]? <;> simp

theorem set_false_self {l : List Bool} {i : Nat} (h : l.getD i false = false) : l.set i false = l := by
  apply List.ext_getElem?; intro j
  by_cases e : i = j
  · subst e
    rcases Nat.lt_or_ge i l.length with hi | hi
    · simp [List.getD_eq_getElem?_getD, hi] at h; simp [hi, h]
    · simp [List.getElem?_eq_none hi]; omega
  · simp [e]

/-- switching all flags off, one index after the other -/
theorem foldSet_all (p : List Bool) : ∀ l : List Bool,
    (List.range' p.length l.length).foldl (fun l i => l.set i false) (p ++ l) = p ++ l.map fun _ => false
  | [] => rfl
  | b :: l => by
    have := foldSet_all (p ++ [false]) l
    simp only [List.length_append, List.length_cons, List.length_nil, List.append_assoc, List.cons_append,
      List.nil_append] at this
    simp only [List.length_cons, List.range'_succ, List.foldl_cons, List.map_cons]
    rw [List.set_append_right _ _ (Nat.le_refl _), Nat.sub_self]
    exact this

theorem foldSet_all_eq (l : List Bool) :
    (List.range' 0 l.length).foldl (fun l i => l.set i false) l = l.map fun _ => false :=
  foldSet_all [] l

theorem connRecv_off (k : ConnM.Kind) {st : ConnM.State} {i : Nat} (h : st.conns.getD i false = false) (ev : Ev) :
    ConnM.connRecv k st i ev = st := by
  unfold ConnM.connRecv; rw [if_neg fun x => by rw [getD_true.2 x] at h; cases h]

theorem connRecv_conns (k : ConnM.Kind) (st : ConnM.State) (i : Nat) (ev : Ev) :
    (ConnM.connRecv k st i ev).conns = if ev.isTerminal then st.conns.set i false else st.conns := by
  cases h : st.conns.getD i false with
  | false => rw [connRecv_off k h, set_false_self h, ite_self]
  | true => unfold ConnM.connRecv; rw [if_pos (getD_true.1 h)]

theorem foldRecv_conns (k : ConnM.Kind) (ev : Ev) (is : List Nat) : ∀ st : ConnM.State,
    (is.foldl (fun s i => ConnM.connRecv k s i ev) st).conns =
      if ev.isTerminal then is.foldl (fun l i => l.set i false) st.conns else st.conns := by
  induction is with
  | nil => intro st; exact (ite_self _).symm
  | cons i rest ih => intro st; rw [List.foldl_cons, ih, connRecv_conns]; split <;> rfl

theorem hotEmit_conns (k : ConnM.Kind) (st : ConnM.State) (ev : Ev) :
    (ConnM.hotEmit k st ev).conns = if ev.isTerminal then st.conns.map fun _ => false else st.conns := by
  unfold ConnM.hotEmit
  rw [foldRecv_conns, List.range_eq_range', foldSet_all_eq]

/-- Source observer `i` loses its callbacks through `f` (a terminal went through it / its handle was used);
    `armed'` = the armed flags afterwards, changed at most at `i`. -/
theorem ConnsPart.off {H fn fe fc acell cobs w w' hmap hmap' conns armed armed'} {roots : List Nat}
    (h : ConnsPart H fn fe fc acell cobs w hmap conns armed) (g : Glob roots cobs w) {i : Nat} (hi : i < conns.length)
    (hl : armed'.length = armed.length) (hA : ∀ j, j ≠ i → armed'.getD j false = armed.getD j false) {f : Obs → Obs}
    (hf : ∀ b, f (connObs H fn fe fc i b (armed.getD i false)) = connObs H fn fe fc i false (armed'.getD i false))
    (hobs : w'.obs = w.obs.modify (rootAt cobs i) f)
    (hO : w'.cells[H.observers]? = some (encMap hmap')) (hS : w'.cells[H.serial]? = w.cells[H.serial]?)
    (hac : ∀ j, j < conns.length → w'.cells[acell j]? = some (.bool (armed'.getD j false)))
    (hv : w'.obsvs = w.obsvs) :
    ConnsPart H fn fe fc acell cobs w' hmap' (conns.set i false) armed' :=
  { ne := h.ne, cellO := hO, obsv := hv ▸ h.obsv
    cellS := by rw [hS, List.length_set]; exact h.cellS
    lenC := by rw [List.length_set]; exact h.lenC
    lenA := by rw [List.length_set, hl]; exact h.lenA
    acell := by rw [List.length_set]; exact hac
    obs := by
      intro j hj
      rw [List.length_set] at hj
      rw [hobs]
      by_cases e : j = i
      · subst e
        rw [modify_get_same _ _ (h.obs j hj), hf, set_getD_same _ _ _ hj]
      · rw [modify_get_other _ _ fun x => e (g.cob_inj (h.lenC ▸ hj) (h.lenC ▸ hi) x.symm), h.obs j hj,
          set_getD_other _ _ (Ne.symm e), hA j e]
    liveArmed := by
      intro j hj
      by_cases e : j = i
      · rw [e, set_getD_same _ _ _ hi] at hj; cases hj
      · rw [set_getD_other _ _ (Ne.symm e)] at hj
        rw [hA j e]; exact h.liveArmed j hj }

/-- the hot source side while H's broadcast walks its snapshot: the map cell's content `hmap` is fixed -/
def HotCP (fn : Data → Prog) (fe : Nat → Prog) (fc : Prog) (acell : Nat → Nat) (cobs : List Nat)
    (hmap : List (Nat × Nat)) (armed : List Bool) (w : World) (conns : List Bool) : Prop :=
  ConnsPart Hp fn fe fc acell cobs w hmap conns armed

section hot
variable {V : UsersSide} {O : OwnSide} {cobs : List Nat} {acell : Nat → Nat} {armed : List Bool}

theorem hotLoop (ck : ConnM.Kind) (hk : ck.subj = V.kind)
    (hfree : ∀ i, i < cobs.length → ¬ V.Kc (acell i)) (ev : Ev) {hmap : List (Nat × Nat)} :
    ∀ (n k : Nat) (st : ConnM.State) (w : World), k + n = st.conns.length →
      LoopInv V O .hot cobs (HotCP V.fn V.fe V.fc acell cobs hmap armed) w st →
      WP (forEach ((liveFrom k (cobs.drop k) (st.conns.drop k)).map fun p => Data.int p.2)
          fun o => evProg ev o.toInt.toNat .done) w
        (fun w' => LoopInv V O .hot cobs (HotCP V.fn V.fe V.fc acell cobs hmap armed) w'
          ((List.range' k n).foldl (fun s i => ConnM.connRecv ck s i ev) st)) := by
  intro n
  induction n with
  | zero =>
    intro k st w hk h
    rw [List.drop_eq_nil_iff.2 (show st.conns.length ≤ k by omega)]
    have : liveFrom k (cobs.drop k) [] = [] := by cases cobs.drop k <;> rfl
    rw [this]
    exact WP.done h
  | succ n ih =>
    intro k st w hkn h
    have C : ConnsPart .. := h.conns
    have hkl : k < st.conns.length := by omega
    have hkc : k < cobs.length := by rw [C.lenC]; exact hkl
    rw [drop_cons_getD st.conns k false hkl, drop_cons_getD cobs k 0 hkc, List.range'_succ, List.foldl_cons]
    simp only [liveFrom]
    cases hb : st.conns.getD k false with
    | false =>
      rw [connRecv_off ck hb]
      simp only [Bool.false_eq_true, ↓reduceIte, List.nil_append]
      exact ih (k + 1) st w (by omega) h
    | true =>
      simp only [↓reduceIte, List.singleton_append, List.map_cons, forEach, toNat_int]
      apply WP.seq
      have hobs := C.obs k hkl
      rw [hb] at hobs
      refine wp_ev_code (show w.obs[cobs.getD k 0]? = _ from hobs) rfl rfl rfl ?_
      refine (recv_step (CP := HotCP V.fn V.fe V.fc acell cobs hmap armed) ck hk hkc
        (fun g (c : ConnsPart ..) => c.off g (c.lenC ▸ hkc) rfl (fun _ _ => rfl) (fun _ => rfl) rfl c.cellO rfl c.acell rfl)
        (fun g (c : ConnsPart ..) t => c.touch t (fun i hi hm => g.disj _ hm (rootAt_mem (c.lenC ▸ hi)))
          ⟨fun x => absurd (V.kc2 _ x) (by decide), fun x => absurd (V.kc2 _ x) (by decide),
            fun i hi => hfree i (c.lenC ▸ hi)⟩) h (getD_true.1 hb) ev).conseq fun w2 h2 => WP.done ?_
      have hd : (ConnM.connRecv ck st k ev).conns.drop (k + 1) = st.conns.drop (k + 1) := by
        rw [connRecv_conns]; split
        · rw [List.drop_set, if_pos (Nat.lt_succ_self k)]
        · rfl
      have := ih (k + 1) _ w2 (by rw [ConnM.connRecv_conns_length]; omega) h2
      rw [hd] at this
      exact this

end hot

/-- `H.next / error / complete` on the hot source (subject.rs:37-52) = `ConnM.hotEmit` -/
theorem hotEmit_spec {V : UsersSide} {O : OwnSide} {cobs : List Nat} {acell : Nat → Nat} {armed : List Bool}
    (ck : ConnM.Kind) (hk : ck.subj = V.kind)
    (hfree : ∀ i, i < cobs.length → 2 ≤ acell i ∧ ¬ V.Kc (acell i)) (ev : Ev) {st : ConnM.State} {w : World}
    (h : LoopInv V O .hot cobs (HotCP V.fn V.fe V.fc acell cobs (liveFrom 0 cobs st.conns) armed) w st) :
    WP (evCall Hp ev) w (fun w' => LoopInv V O .hot cobs
      (HotCP V.fn V.fe V.fc acell cobs (liveFrom 0 cobs (ConnM.hotEmit ck st ev).conns) armed) w'
      (ConnM.hotEmit ck st ev)) := by
  have C : ConnsPart .. := h.conns
  have hread : w.cells[Hp.observers]?.getD .unit = encMap (liveFrom 0 cobs st.conns) := by rw [C.cellO]; rfl
  have hloop := fun hm w => hotLoop (O := O) ck hk (fun i hi => (hfree i hi).2) ev (hmap := hm) (armed := armed)
    st.conns.length 0 st w (Nat.zero_add _)
  have hrange : ConnM.hotEmit ck st ev =
      (List.range' 0 st.conns.length).foldl (fun s i => ConnM.connRecv ck s i ev) st := by
    unfold ConnM.hotEmit; rw [List.range_eq_range']
  rw [hotEmit_conns]
  -- a terminal empties H's map before the snapshot is walked
  have key : ev.isTerminal = true → WP (.cellRead Hp.observers false fun m => .cellWrite Hp.observers false .lnil <|
      forEach (amapVals m) fun o => evProg ev o.toInt.toNat .done) w
      (fun w' => LoopInv V O .hot cobs (HotCP V.fn V.fe V.fc acell cobs
        (liveFrom 0 cobs (if ev.isTerminal then st.conns.map fun _ => false else st.conns)) armed) w'
        (ConnM.hotEmit ck st ev)) := by
    intro ht
    rw [ht, if_pos rfl, liveFrom_allFalse 0 _ _ (by simp), hrange]
    refine wp_cellReadG h.held (wp_cellWriteG h.held ?_)
    rw [hread, amapVals_encMap]
    refine hloop _ _
      { held := h.held
        uo := h.uo.touch (touch_setCell (J := NoObs) (K := IsCell 0) w 0 .lnil rfl) (fun _ => rfl) (fun _ _ x => x)
          (fun i hi e => absurd (e ▸ V.kc2 i hi) (by decide)) (fun i hi e => absurd (e ▸ O.kc2 i hi) (by decide))
        conns :=
          { C with
            cellO := set_get_same _ C.cellO
            cellS := (set_get_other _ C.ne).trans C.cellS
            acell := fun i hi => (set_get_other _ (by have := (hfree i (C.lenC ▸ hi)).1; show 0 ≠ _; omega)).trans
              (C.acell i hi) } }
  cases ev with
  | next d =>
    refine wp_cellReadG h.held ?_
    rw [hread, amapVals_encMap, hrange]
    exact hloop _ w h
  | error e => exact key rfl
  | complete => exact key rfl

theorem liveFrom_keys (k : Nat) (cs : List Nat) (bs : List Bool) :
    ∀ p ∈ liveFrom k cs bs, k < p.1 ∧ p.1 ≤ k + bs.length := by
  fun_induction liveFrom k cs bs with
  | case1 k c cs b bs ih =>
    intro p hp
    rcases List.mem_append.1 hp with hp | hp
    · cases b <;> simp at hp
      subst hp; simp
    · have := ih p hp
      simp only [List.length_cons]; omega
  | case2 => intro p hp; cases hp

theorem liveFrom_append (c : Nat) : ∀ (k : Nat) (cs : List Nat) (bs : List Bool), cs.length = bs.length →
    liveFrom k (cs ++ [c]) (bs ++ [true]) = liveFrom k cs bs ++ [(k + bs.length + 1, c)]
  | k, [], [], _ => by simp [liveFrom]
  | _, [], _ :: _, h => by simp at h
  | _, _ :: _, [], h => by simp at h
  | k, x :: cs, b :: bs, h => by
    simp only [List.cons_append, liveFrom, List.length_cons]
    rw [liveFrom_append c (k + 1) cs bs (by simpa using h), List.append_assoc]
    have : k + 1 + bs.length + 1 = k + (bs.length + 1) + 1 := by omega
    rw [this]

/-- the world after `source.subscribe(..)` returned the handle `(new observer, new armed flag)` -/
def connWorld (H : Subj) (fn : Data → Prog) (fe : Nat → Prog) (fc : Prog) (w : World) (hmap : List (Nat × Nat))
    (m : Nat) : World :=
  { w with
    obs := w.obs ++ [connObs H fn fe fc m true true]
    cells := (w.cells.set H.serial (.int ((m + 1 : Nat) : Int))).set H.observers
      (encMap (hmap ++ [(m + 1, w.obs.length)])) ++ [.bool true] }

theorem connWorld_obs_lt (H fn fe fc) (w : World) (hmap m) {j : Nat} (hj : j < w.obs.length) :
    (connWorld H fn fe fc w hmap m).obs[j]? = w.obs[j]? :=
  get_app_lt _ _ _ hj

theorem connWorld_cellsLen (H : Subj) (fn fe fc) (w : World) (hmap m) :
    (connWorld H fn fe fc w hmap m).cells.length = w.cells.length + 1 := by
  simp [connWorld]

/-- `source.subscribe(next, error, complete)` (publish.rs:31-39): the observer is made, the source runs on it, then
    the armed flag of the `Subscription` handle is allocated -/
theorem subscribeWith_pre {hid : Nat} {src : Obsv} {fn : Data → Prog} {fe : Nat → Prog} {fc : Prog} {w : World}
    {k : Data → Prog} {Q : World → Prop} (hobsv : w.obsvs[hid]? = some src)
    (h : WP (src w.obs.length) { w with obs := w.obs ++ [⟨some (.code fn), some (.code fe), some (.code fc), none⟩] }
      fun w2 => WP (k (.pair (.int (w.obs.length : Nat)) (.int (w2.cells.length : Nat))))
        { w2 with cells := w2.cells ++ [.bool true] } Q) :
    WP (subscribeWith (fun o => .obsvSub hid o .done) fn fe fc k) w Q := by
  unfold subscribeWith
  refine wp_obsNew (WP.seq ?_)
  simp only [Obsv.sub]
  refine wp_obsIsSub (by dsimp only; rw [get_app0]; rfl) ?_
  simp only [Obs.isSub, Option.isSome_some, Bool.and_self, ↓reduceIte]
  exact wp_obsvSub hobsv (h.conseq fun w2 h2 => WP.done (wp_cellNew h2))

theorem connect_pre {H : Subj} {hid : Nat} {fn : Data → Prog} {fe : Nat → Prog} {fc : Prog} {w : World}
    {hmap : List (Nat × Nat)} {m : Nat} {k : Data → Prog} {Q : World → Prop} (hh : SlotReads w.held)
    (hobsv : w.obsvs[hid]? = some H.observable) (hslot : w.slots[H.onSub]? = some none)
    (hne : H.observers ≠ H.serial) (hO : w.cells[H.observers]? = some (encMap hmap))
    (hS : w.cells[H.serial]? = some (.int m)) (hkeys : ∀ p ∈ hmap, p.1 ≤ m)
    (hQ : WP (k (.pair (.int (w.obs.length : Nat)) (.int (w.cells.length : Nat)))) (connWorld H fn fe fc w hmap m) Q) :
    WP (subscribeWith (fun o => .obsvSub hid o .done) fn fe fc k) w Q := by
  refine subscribeWith_pre hobsv (observable_pre (serial := m) (obsl := hmap) hh (by dsimp only; rw [get_app0]; rfl) rfl
    hne hS hO hkeys (slotTail_none hh hslot ?_))
  dsimp only [subWorld, World.setObs]
  rw [modify_app0]
  simp only [List.modify_cons, ↓reduceIte, List.length_set]
  exact hQ

theorem connWorld_cells (H : Subj) (fn fe fc) (w : World) (hmap m) {i : Nat} (h1 : i ≠ H.observers)
    (h2 : i ≠ H.serial) (hi : i < w.cells.length) : (connWorld H fn fe fc w hmap m).cells[i]? = w.cells[i]? := by
  show (((w.cells.set _ _).set _ _) ++ _)[i]? = _
  rw [get_app_lt _ _ _ (by simp; exact hi), set_get_other _ (Ne.symm h1), set_get_other _ (Ne.symm h2)]

theorem connWorld_glob {H fn fe fc roots cobs w} (g : Glob roots cobs w) (hmap m) :
    Glob roots (cobs ++ [w.obs.length]) (connWorld H fn fe fc w hmap m) :=
  g.newCob rfl (List.length_append ..)

theorem getD_append_lt {α} (l : List α) (x d : α) {i : Nat} (h : i < l.length) : (l ++ [x]).getD i d = l.getD i d := by
  simp [List.getD_eq_getElem?_getD, List.getElem?_append_left h]

theorem getD_append_last {α} (l : List α) (x d : α) : (l ++ [x]).getD l.length d = x := by
  simp [List.getD_eq_getElem?_getD]

theorem forall_getD_snoc {α} {l : List α} {x d : α} {P : Nat → α → Prop} (h : ∀ i, i < l.length → P i (l.getD i d))
    (hx : P l.length x) : ∀ i, i < (l ++ [x]).length → P i ((l ++ [x]).getD i d) := by
  rw [List.length_append]
  exact Nat.forall_lt_succ_right.2
    ⟨fun i hi => by rw [getD_append_lt _ _ _ hi]; exact h i hi, by rw [getD_append_last]; exact hx⟩

theorem ConnsPart.acell_congr {H fn fe fc acell acell' cobs w hmap conns armed}
    (h : ConnsPart H fn fe fc acell cobs w hmap conns armed) (he : ∀ i, i < conns.length → acell' i = acell i) :
    ConnsPart H fn fe fc acell' cobs w hmap conns armed :=
  { h with acell := fun i hi => by rw [he i hi]; exact h.acell i hi }

/-- the source side after one more `source.subscribe(..)` -/
theorem connWorld_conns {H fn fe fc acell roots cobs w conns armed}
    (h : ConnsPart H fn fe fc acell cobs w (liveFrom 0 cobs conns) conns armed) (g : Glob roots cobs w)
    (hA : ∀ i, i < conns.length → acell i ≠ H.observers ∧ acell i ≠ H.serial)
    (hnew : acell conns.length = w.cells.length) :
    ConnsPart H fn fe fc acell (cobs ++ [w.obs.length]) (connWorld H fn fe fc w (liveFrom 0 cobs conns) conns.length)
      (liveFrom 0 (cobs ++ [w.obs.length]) (conns ++ [true])) (conns ++ [true]) (armed ++ [true]) := by
  have hlenC := h.lenC
  have hlenA := h.lenA
  have hn : (conns ++ [true]).length = (armed ++ [true]).length := by simp [hlenA]
  refine
    { ne := h.ne, obsv := h.obsv
      lenC := by simp [hlenC]
      lenA := hn.symm
      cellO := ?_, cellS := ?_, obs := ?_, acell := ?_, liveArmed := ?_ }
  · rw [liveFrom_append _ 0 cobs conns hlenC, Nat.zero_add]
    show (((w.cells.set _ _).set _ _) ++ _)[H.observers]? = _
    rw [get_app_lt _ _ _ (by simp; exact lt_of_getElem?_some h.cellO)]
    exact set_get_same _ ((set_get_other _ (Ne.symm h.ne)).trans h.cellO)
  · show (((w.cells.set _ _).set _ _) ++ _)[H.serial]? = _
    rw [get_app_lt _ _ _ (by simp; exact lt_of_getElem?_some h.cellS), set_get_other _ h.ne, List.length_append]
    exact set_get_same _ h.cellS
  · refine forall_getD_snoc (P := fun i c => (w.obs ++ [_])[rootAt (cobs ++ [w.obs.length]) i]? =
      some (connObs H fn fe fc i c ((armed ++ [true]).getD i false))) (fun i hi => ?_) ?_
    · rw [rootAt_append_lt _ _ (hlenC ▸ hi), get_app_lt _ _ _ (g.cobsLt _ (rootAt_mem (hlenC ▸ hi))),
        getD_append_lt _ _ _ (hlenA ▸ hi)]
      exact h.obs i hi
    · rw [← hlenC, rootAt_append_last, get_app0, hlenC, ← hlenA, getD_append_last]; rfl
  · rw [hn]
    refine forall_getD_snoc (P := fun i a => (connWorld H fn fe fc w _ _).cells[acell i]? = some (.bool a))
      (fun i hi => ?_) ?_
    · rw [hlenA] at hi
      exact (connWorld_cells _ _ _ _ _ _ _ (hA i hi).1 (hA i hi).2 (lt_of_getElem?_some (h.acell i hi))).trans
        (h.acell i hi)
    · show (((w.cells.set _ _).set _ _) ++ _)[_]? = _
      rw [hlenA, hnew, get_app_at _ _ _ 0 (by simp)]; rfl
  · intro i hi
    refine forall_getD_snoc (P := fun i a => (conns ++ [true]).getD i false = true → a = true) (fun i hi hl => ?_)
      (fun _ => rfl) i (hn ▸ lt_of_getElem?_some (getD_true.1 hi)) hi
    rw [getD_append_lt _ _ _ (hlenA ▸ hi)] at hl
    exact h.liveArmed i hl

theorem liveFrom_filter_gt (k s : Nat) (cs : List Nat) (bs : List Bool) (h : s ≤ k) :
    (liveFrom k cs bs).filter (fun p => p.1 != s) = liveFrom k cs bs := by
  rw [List.filter_eq_self]
  intro p hp
  have := (liveFrom_keys k cs bs p hp).1
  simp; omega

theorem liveFrom_filter : ∀ (k : Nat) (cs : List Nat) (bs : List Bool) (i : Nat),
    (liveFrom k cs bs).filter (fun p => p.1 != k + i + 1) = liveFrom k cs (bs.set i false)
  | _, [], bs, _ => by cases bs <;> simp [liveFrom]
  | _, _ :: _, [], _ => by simp [liveFrom]
  | k, c :: cs, b :: bs, 0 => by
    simp only [liveFrom, List.set_cons_zero, List.filter_append, Bool.false_eq_true, ↓reduceIte, List.nil_append]
    rw [liveFrom_filter_gt (k + 1) (k + 0 + 1) cs bs (by omega)]
    cases b <;> simp
  | k, c :: cs, b :: bs, i + 1 => by
    simp only [liveFrom, List.set_cons_succ, List.filter_append]
    have := liveFrom_filter (k + 1) cs bs i
    rw [show k + 1 + i + 1 = k + (i + 1) + 1 by omega] at this
    rw [this]
    cases b <;> simp

theorem srcUnsub_spec {H fn fe fc acell roots cobs w conns armed} {K : Nat → Prop} (hh : SlotReads w.held)
    (h : ConnsPart H fn fe fc acell cobs w (liveFrom 0 cobs conns) conns armed) (g : Glob roots cobs w)
    (hslot : w.slots[H.onUnsub]? = some none)
    (hA : ∀ i, i < conns.length → acell i ≠ H.observers ∧ acell i ≠ H.serial)
    (hAinj : ∀ i j, i < conns.length → j < conns.length → acell i = acell j → i = j)
    (hK : K H.observers ∧ ∀ i, i < conns.length → K (acell i)) {i : Nat} (hi : i < conns.length) :
    WP (subUnsub (.pair (.int (rootAt cobs i : Nat)) (.int (acell i : Nat)))) w (fun w' =>
      ConnsPart H fn fe fc acell cobs w' (liveFrom 0 cobs (conns.set i false)) (conns.set i false)
        (armed.set i false) ∧ Touch (InList cobs) K w w' ∧ w'.trace = w.trace) := by
  refine subUnsub_pre hh (h.acell i hi) (fun har => ⟨?_, Touch.refl _ _ _, rfl⟩) fun har => ?_
  · have hc : conns.getD i false = false :=
      Bool.eq_false_iff.2 fun hc => by rw [h.liveArmed i hc] at har; cases har
    rw [set_false_self hc, set_false_self har]; exact h
  · have hobs := h.obs i hi
    rw [har] at hobs
    have hO : (w.cells.set (acell i) (.bool false))[H.observers]? = _ := (set_get_other _ (hA i hi).1).trans h.cellO
    refine wp_obsUnsub_some (f := hookProg H ((i + 1 : Nat) : Int)) (show _ = some _ from hobs) rfl
      (hookProg_pre hh hO (slotTail_none hh hslot (WP.done ?_)))
    have hf := liveFrom_filter 0 cobs conns i
    rw [Nat.zero_add] at hf
    rw [hf]
    refine ⟨h.off g hi (List.length_set ..) (fun j e => set_getD_other _ _ (Ne.symm e))
      (fun _ => by rw [set_getD_same _ _ _ (h.lenA ▸ hi)]; rfl) rfl (set_get_same _ hO)
      ((set_get_other _ h.ne).trans (set_get_other _ (hA i hi).2)) (fun j hj => ?_) rfl,
      (touch_setCell w _ _ (hK.2 i hi)).trans ((Touch.setObs _ _ _ (rootAt_mem (h.lenC ▸ hi))).trans
        (touch_setCell _ _ _ hK.1)), rfl⟩
    refine (set_get_other _ (Ne.symm (hA j hj).1)).trans ?_
    by_cases e : j = i
    · rw [e, set_getD_same _ _ _ (h.lenA ▸ hi)]; exact set_get_same _ (h.acell i hi)
    · rw [set_getD_other _ _ (Ne.symm e)]
      exact (set_get_other _ fun x => e (hAinj _ _ hi hj x).symm).trans (h.acell j hj)

theorem liveFrom_isEmpty : ∀ (k : Nat) (cs : List Nat) (bs : List Bool), cs.length = bs.length →
    ((liveFrom k cs bs).length != 0) = bs.any id
  | _, [], [], _ => rfl
  | _, [], _ :: _, h => by simp at h
  | _, _ :: _, [], h => by simp at h
  | k, c :: cs, b :: bs, h => by
    have ih := liveFrom_isEmpty (k + 1) cs bs (by simpa using h)
    cases b
    · simpa [liveFrom] using ih
    · simp [liveFrom]

theorem AgreesC.of_parts {H fn fe fc acell roots cobs w armed} {st : ConnM.State} (g : Glob roots cobs w)
    (hh : w.held = []) (a : UsersAgree w st.sub)
    (C : ConnsPart H fn fe fc acell cobs w (liveFrom 0 cobs st.conns) st.conns armed)
    (hO : H.observers = 0) (hS : H.serial = 1) : AgreesC w st := by
  refine ⟨g.status, hh, a.logs, ?_, ?_, a.reg, a.alive⟩
  · have := C.cellS; rw [hS] at this
    simp [srcSubsOf, this, Data.toInt, ConnM.sourceSubscriptions]
  · have := C.cellO; rw [hO] at this
    simp only [srcLiveOf, this, Option.getD_some, amapLen_encMap, ConnM.sourceLive]
    exact liveFrom_isEmpty 0 cobs st.conns C.lenC

end Rx.CRef
