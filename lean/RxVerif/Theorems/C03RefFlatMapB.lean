import RxVerif.Theorems.C03RefFlatMapA
import RxVerif.Theorems.C03RefGStatic
/-
C03-REF, flat_map: model A's `oFlatMap f src` (Machine/Lib.lean, transliterating src/operators/flat_map.rs) where
`src` is plain hot subject 0 and `f x` is the plain hot subject number `x mod k` (the case language's `fm_ref`), against
the pure history machine `Comb.flatMap` with selector `defaultInner k`: the layout, the invariant `Inv` that ties the
entity table to the machine's state, one delivery and one broadcast loop (`deliver_spec`, `bcast_spec`).  The theorem is
in C03RefFlatMap.lean.
Entities are the controller's serials: 0 = the outer observer, `n ≥ 1` = the inner observer created for the n-th item.
-/
namespace Rx.GRef.FlatMap
open Rx.Sim Rx.Ref Rx.Comb Rx.CRef

def scOf (k : Nat) : Sctl := ⟨0, 2 * k, 2 * k + 1, 2 * k⟩

/-- `fm_ref s0 .. s(k-1)` (Machine/Case.lean): item `x` selects subject `x mod k` -/
def fOf (k : Nat) : Data → Obsv := fun x =>
  ((sjs k).map Subj.observable).getD (x.toInt.emod ((sjs k).map Subj.observable).length).toNat oNever

/-- flat_map.rs:36-52: the outer observer's `next` closure -/
def newInner (k : Nat) (x : Data) : Prog :=
  (scOf k).newObserver (fun _ xx => (scOf k).sinkNext xx) (fun _ ee => (scOf k).sinkError ee)
    (fun serial => (scOf k).sinkComplete serial) fun o => (fOf k x).sub o

def lay (k : Nat) : GLay :=
  GLay.std k id (fun e x => if e = 0 then newInner k x else (scOf k).sinkNext x) (fun _ err => (scOf k).sinkError err)
    fun e => (scOf k).sinkComplete e

theorem lay_ok (k : Nat) : (lay k).Ok := GLay.std_ok fun _ => rfl

theorem inner_lt {k : Nat} (hk : 0 < k) (x : Data) : flatMap.defaultInner k x < k := by
  simp only [flatMap.defaultInner]
  have h1 := Int.emod_nonneg x.toInt (show (k : Int) ≠ 0 by omega)
  have h2 := Int.emod_lt_of_pos x.toInt (show (0 : Int) < k by omega)
  have he : x.toInt.emod k = x.toInt % k := rfl
  omega

theorem fOf_eq {k : Nat} (hk : 0 < k) (x : Data) : fOf k x = (sjOf (flatMap.defaultInner k x)).observable := by
  have hl : ((sjs k).map Subj.observable).length = k := by simp [sjs]
  simp only [fOf, hl]
  have hi := inner_lt hk x
  simp only [flatMap.defaultInner] at hi ⊢
  rw [List.getD_eq_getElem?_getD, List.getElem?_map, sjs_get, if_pos hi]; rfl

/-- what ties the existential entity table to the machine state; `P` = the entities of a terminal broadcast in
    progress that have not been reached yet -/
structure Inv (k : Nat) (E : Ent) (s : flatMap.State) (P : List Nat) : Prop where
  pos : 1 ≤ s.nextSerial
  subs_eq : s.subs = (List.range s.nextSerial).map fun e => (e, E.sub e)
  subK : ∀ e, e < s.nextSerial → E.sub e < k
  sorted : s.ctl.live.Pairwise (· < ·)
  liveLt : ∀ e ∈ s.ctl.live, e < s.nextSerial
  regLt : ∀ e ∈ s.ctl.reg, e < s.nextSerial
  mode : ∀ e ∈ s.ctl.live, E.mode e = if P.contains e then .pend else .on
  ci : CI s.ctl

/-- the controller lost live / registered observers, nothing else changed -/
theorem Inv.shrink {k : Nat} {E : Ent} {s : flatMap.State} {P P' : List Nat} (h : Inv k E s P) (c' : Ctl)
    (hl : c'.live.Sublist s.ctl.live) (hr : ∀ e ∈ c'.reg, e ∈ s.ctl.reg) (hci : CI c')
    (hP : ∀ e ∈ c'.live, P'.contains e = P.contains e) : Inv k E { s with ctl := c' } P' :=
  { pos := h.pos, subs_eq := h.subs_eq, subK := h.subK
    sorted := h.sorted.sublist hl
    liveLt := fun e he => h.liveLt e (hl.subset he)
    regLt := fun e he => h.regLt e (hr e he)
    mode := fun e he => by rw [hP e he]; exact h.mode e (hl.subset he)
    ci := hci }

/-- the entity table after the outer observer created and subscribed inner observer `n` on subject `j` -/
def Ent.grow (E : Ent) (n j : Nat) : Ent := (E.attach n j).activate n j

theorem grow_sub_other (E : Ent) {n j a : Nat} (h : a ≠ n) : (Ent.grow E n j).sub a = E.sub a := fupd_other _ _ h
theorem grow_sub_same (E : Ent) (n j : Nat) : (Ent.grow E n j).sub n = j := fupd_same _ _ _
theorem grow_mode_other (E : Ent) {n j a : Nat} (h : a ≠ n) : (Ent.grow E n j).mode a = E.mode a := by
  show fupd (fupd E.mode n .fresh) n .on a = _
  rw [fupd_other _ _ h, fupd_other _ _ h]
theorem grow_mode_same (E : Ent) (n j : Nat) : (Ent.grow E n j).mode n = .on := fupd_same _ _ _

/-- the invariant after the outer observer's `next` -/
theorem Inv.grow {k : Nat} {E : Ent} {s : flatMap.State} (h : Inv k E s []) (ha : s.ctl.alive = true) {j : Nat}
    (hj : j < k) :
    Inv k (Ent.grow E s.nextSerial j)
      { ctl := s.ctl.addObserver s.nextSerial, subs := s.subs ++ [(s.nextSerial, j)],
        nextSerial := s.nextSerial + 1 } [] where
  pos := by show 1 ≤ s.nextSerial + 1; omega
  subs_eq := by
    show s.subs ++ _ = (List.range (s.nextSerial + 1)).map _
    rw [List.range_succ, List.map_append, h.subs_eq]
    congr 1
    · apply List.map_congr_left
      intro e he
      rw [grow_sub_other E (by have := List.mem_range.1 he; omega)]
    · simp [grow_sub_same]
  subK := by
    intro e he
    by_cases q : e = s.nextSerial
    · subst q; rw [grow_sub_same]; exact hj
    · rw [grow_sub_other E q]; exact h.subK e (by have : e < s.nextSerial + 1 := he; omega)
  sorted := by
    show (s.ctl.live ++ [s.nextSerial]).Pairwise _
    rw [List.pairwise_append]
    exact ⟨h.sorted, List.pairwise_singleton _ _, fun a ha b hb => by
      simp only [List.mem_singleton] at hb; subst hb; exact h.liveLt a ha⟩
  liveLt := by
    intro e he
    simp only [Ctl.addObserver, List.mem_append, List.mem_singleton] at he
    show e < s.nextSerial + 1
    rcases he with q | q
    · have := h.liveLt e q; omega
    · omega
  regLt := by
    intro e he
    simp only [Ctl.addObserver, List.mem_append, List.mem_singleton] at he
    show e < s.nextSerial + 1
    rcases he with q | q
    · have := h.regLt e q; omega
    · omega
  mode := by
    intro e he
    simp only [Ctl.addObserver, List.mem_append, List.mem_singleton] at he
    simp only [List.contains_nil, Bool.false_eq_true, ↓reduceIte]
    rcases he with q | q
    · have hne : e ≠ s.nextSerial := by have := h.liveLt e q; omega
      rw [grow_mode_other E hne]; simpa using h.mode e q
    · subst q; exact grow_mode_same E _ j
  ci := h.ci.addObserver ha _

/-- the relation during a broadcast (`P` = entities of a terminal broadcast not reached yet) -/
def RB (k : Nat) (s : flatMap.State) (P : List Nat) (out : List Ev) (w : World) : Prop :=
  ∃ E, Rel (lay k) E [] s.ctl ⟨.unit, s.nextSerial, 1 + s.nextSerial⟩ out w ∧ Inv k E s P

/-- the outer observer's `next` closure (flat_map.rs:36-52): `new_observer` — the re-check finds the subscriber
    alive, see `CI` — then `inner_subscribe` to the selected subject -/
theorem outer_next_spec {k : Nat} (hk : 0 < k) {E : Ent} {s : flatMap.State} {out : List Ev} {w : World} (x : Data)
    (hrel : Rel (lay k) E [] s.ctl ⟨.unit, s.nextSerial, 1 + s.nextSerial⟩ out w) (hinv : Inv k E s [])
    (h0 : s.ctl.live.contains 0 = true) :
    WP (newInner k x) w
      (RB k { ctl := s.ctl.addObserver s.nextSerial,
              subs := s.subs ++ [(s.nextSerial, flatMap.defaultInner k x)],
              nextSerial := s.nextSerial + 1 } [] out) := by
  have ok := lay_ok k
  have hj := inner_lt hk x
  have halive := hinv.ci.alive h0
  have hnk : known s.ctl s.nextSerial = false :=
    known_eq_false (fun q => Nat.lt_irrefl _ (hinv.liveLt _ q)) fun q => Nat.lt_irrefl _ (hinv.regLt _ q)
  have hn0 : s.nextSerial ≠ 0 := by have := hinv.pos; omega
  simp only [newInner]
  rw [fOf_eq hk]
  exact (newEntity_spec (L := lay k) ok hrel halive (e := s.nextSerial) hj hnk rfl rfl _ _ _
    (by simp [fullObs, lay, GLay.std, hn0])).conseq fun w3 h3 => ⟨_, h3, hinv.grow halive hj⟩

theorem kill_notin (c : Ctl) (e : Nat) : e ∉ (c.kill e).live := by
  simp [Ctl.kill, List.mem_filter]

/-- one delivery of a broadcast = `Comb.flatMap.deliver` -/
theorem deliver_spec {k : Nat} (hk : 0 < k) (ev : Ev) (e : Nat) (rest : List Nat)
    (s : flatMap.State) (out : List Ev) (w : World)
    (h : RB k s (if ev.isTerminal then e :: rest else []) out w) :
    WP (evProg ev ((lay k).ob e) .done) w
      (RB k (flatMap.deliver (flatMap.defaultInner k) s e ev).1 (if ev.isTerminal then rest else [])
        (out ++ (flatMap.deliver (flatMap.defaultInner k) s e ev).2)) := by
  have ok := lay_ok k
  obtain ⟨E, hrel, hinv⟩ := h
  cases hlv : s.ctl.live.contains e with
  | false =>
    rw [deliver_dead' _ s e ev hlv, List.append_nil]
    refine deliver_notlive hrel hlv ev (WP.done ⟨E, hrel, ?_⟩)
    refine hinv.shrink s.ctl (List.Sublist.refl _) (fun _ q => q) hinv.ci fun a ha => ?_
    cases ev.isTerminal with
    | false => rfl
    | true =>
      have : a ≠ e := by
        intro q; subst q
        have : s.ctl.live.contains a = true := by simpa using ha
        rw [hlv] at this; cases this
      simp [this]
  | true =>
    have hmode : ev.isTerminal = true → E.mode e ≠ .on := by
      intro ht
      have := hinv.mode e (by simpa using hlv)
      simp only [ht, ↓reduceIte, List.contains_cons, beq_self_eq_true, Bool.true_or] at this
      rw [this]; exact fun q => nomatch q
    refine deliver_live ok hrel hlv ev hmode fun w1 h1 => ?_
    -- the state the closure starts from
    have hinv1 : Inv k E { s with ctl := if ev.isTerminal then s.ctl.kill e else s.ctl }
        (if ev.isTerminal then rest else []) := by
      cases ht : ev.isTerminal with
      | false =>
        simp only [ht, Bool.false_eq_true, ↓reduceIte] at hinv ⊢
        exact hinv
      | true =>
        simp only [ht, ↓reduceIte] at hinv ⊢
        refine hinv.shrink _ (kill_le _ _).live (fun _ q => q) (hinv.ci.kill e) fun a ha => ?_
        have : a ≠ e := fun q => kill_notin s.ctl e (q ▸ ha)
        simp [this]
    have hstep : ∀ (c' : Ctl) (o' : List Ev) (w2 : World), Le c' (if ev.isTerminal then s.ctl.kill e else s.ctl) → CI c' →
        Rel (lay k) E [] c' ⟨.unit, s.nextSerial, 1 + s.nextSerial⟩ o' w2 →
        WP .done w2 (RB k { s with ctl := c' } (if ev.isTerminal then rest else []) o') := by
      intro c' o' w2 hle hci h2
      exact WP.done ⟨E, h2, hinv1.shrink c' hle.live hle.reg hci fun _ _ => rfl⟩
    -- a terminal is handled alike by the outer and the inner observers (`Comb.deliver_error`, `deliver_complete`)
    cases ev with
    | next x =>
      simp only [Ev.isTerminal, Bool.false_eq_true, ↓reduceIte] at h1 hstep hinv1 ⊢
      simp only [flatMap.deliver, Ctl.isLive, hlv, ↓reduceIte]
      by_cases he0 : e = 0
      · subst he0
        simp only [beq_self_eq_true, ↓reduceIte, List.append_nil]
        show WP (newInner k x) _ _
        exact (outer_next_spec hk x h1 hinv1 hlv).conseq fun w2 q => WP.done q
      · have hb : (e == 0) = false := by rw [beq_eq_false_iff_ne]; exact he0
        simp only [hb, Bool.false_eq_true, ↓reduceIte]
        show WP (codeBody (.next x) ((lay k).hn e) _ _) _ _
        simp only [codeBody, lay, GLay.std, he0, ↓reduceIte]
        exact (sinkNext_spec ok h1 x).conseq fun w2 h2 => hstep _ _ w2 (sinkNext_le _ _) (hinv1.ci.sinkNext x) h2
    | error x =>
      rw [deliver_error _ s e x hlv]
      simp only [Ev.isTerminal, ↓reduceIte] at h1 hstep hinv1 ⊢
      exact (sinkError_spec ok h1 x).conseq fun w2 h2 => hstep _ _ w2 (sinkError_le _ _) (hinv1.ci.sinkError x) h2
    | complete =>
      rw [deliver_complete _ s e hlv]
      simp only [Ev.isTerminal, ↓reduceIte] at h1 hstep hinv1 ⊢
      exact (sinkComplete_spec ok h1 e).conseq fun w2 h2 =>
        hstep _ _ w2 (sinkComplete_le _ _) (hinv1.ci.sinkComplete e (kill_notin _ _)) h2

/-- the loop over the snapshot = `Comb.flatMap.broadcast` over the same entities -/
theorem bcast_spec {k : Nat} (hk : 0 < k) (ev : Ev) : ∀ (S : List Nat) (s : flatMap.State) (out : List Ev) (w : World),
    RB k s (if ev.isTerminal then S else []) out w →
    WP (bcast (lay k) ev S) w
      (RB k (flatMap.broadcast (flatMap.defaultInner k) ev s S).1 []
        (out ++ (flatMap.broadcast (flatMap.defaultInner k) ev s S).2)) := by
  intro S
  induction S with
  | nil =>
    intro s out w h
    rw [bcast_nil]
    simp only [flatMap.broadcast, List.append_nil]
    refine WP.done ?_
    simpa using h
  | cons e rest ih =>
    intro s out w h
    rw [bcast_cons, broadcast_cons]
    apply WP.seq
    refine (deliver_spec hk ev e rest s out w h).conseq fun w1 h1 => ?_
    refine (ih _ _ w1 h1).conseq fun w2 h2 => ?_
    rw [← List.append_assoc]; exact h2

/-- all serials ever attached to subject `j`, in creation order -/
theorem attached_eq {k : Nat} {E : Ent} {s : flatMap.State} {P : List Nat} (h : Inv k E s P) (j : Nat) :
    (s.subs.filter (·.2 == j)).map (·.1) = (List.range s.nextSerial).filter fun e => E.sub e == j := by
  rw [h.subs_eq, List.filter_map, List.map_map]
  have : ((fun p : Nat × Nat => p.1) ∘ fun e => (e, E.sub e)) = id := rfl
  rw [this, List.map_id]; rfl

/-- model A's snapshot = the attached serials that are live -/
theorem snapshot_eq {k : Nat} {E : Ent} {s : flatMap.State} (h : Inv k E s []) (j : Nat) :
    ((s.subs.filter (·.2 == j)).map (·.1)).filter s.ctl.live.contains = inMap E s.ctl j := by
  rw [attached_eq h j]
  apply sorted_ext
  · exact (List.pairwise_lt_range.filter _).filter _
  · exact h.sorted.filter _
  · intro e
    simp only [inMap, List.mem_filter, List.mem_range, Bool.and_eq_true, beq_iff_eq, Mode.isOn_iff,
      List.contains_eq_mem, decide_eq_true_eq]
    constructor
    · rintro ⟨⟨_, q2⟩, q3⟩
      exact ⟨q3, q2, by simpa using h.mode e q3⟩
    · rintro ⟨q1, q2, _⟩
      exact ⟨⟨h.liveLt e q1, q2⟩, q1⟩

end Rx.GRef.FlatMap
