/-
C12, `ReplaySubject`: the late-subscriber clause holds along QUIET runs (no `next` call overlaps a `subscribe` call):
three theorems over `ReachableQ`, then a decidable replay (`replayQFrom`, over `quietB`) whose results are `ReachableQ`,
and with it a run that satisfies their hypotheses.
-/
import RxVerif.Theorems.C12ReplayB

namespace Rx.Conc.Replay

theorem mem_proj {x : Entry} {l : List Entry} (h : x ∈ l) : x.2 ∈ proj x.1 l :=
  List.mem_map.mpr ⟨x, List.mem_filter.mpr ⟨h, beq_self_eq_true _⟩, rfl⟩

theorem filter_eq_map_proj (t : Nat) : ∀ l : List Entry, l.filter (·.1 == t) = (proj t l).map fun y => (t, y)
  | [] => rfl
  | x :: l => by
    rw [proj_cons, List.filter_cons]
    by_cases h : x.1 = t
    · rw [if_pos h, if_pos (beq_iff_eq.mpr h), List.map_cons, filter_eq_map_proj t l, ← h]
    · rw [if_neg h, if_neg (mt beq_iff_eq.mp h), filter_eq_map_proj t l]

theorem progItems_of_ge {progs : List (List Call)} {t : Nat} (ht : progs.length ≤ t) : progItems progs t = [] := by
  simp [progItems, List.getD, List.getElem?_eq_none ht, nextItems]

theorem progItems_ne_nil_of_mem {progs : List (List Call)} {l : List Entry}
    (ha : ∀ t, Asc (progItems progs t) 0 (proj t l)) {x : Entry} (hx : x ∈ l) : progItems progs x.1 ≠ [] := by
  intro hP
  have hm := mem_proj hx
  have := ha x.1
  rw [hP] at this
  rw [this.eq_nil] at hm
  cases hm

theorem asc_received {progs : List (List Call)} {s : State} (h : ReachableQ progs s) {o : Nat}
    (hsub : (s.obs o).subDone = true) (hlive : (s.obs o).fnNext = true) {t : Nat}
    (ht : (s.threads t).pc.inNext = false) :
    Asc (progItems progs t) 0 (proj t (s.received o)) ∧ (proj t (s.received o)).length = (s.threads t).cnt := by
  have hf := (invB_reachableQ h).full o t
  rw [(pos_of_not_inNext ht o).1] at hf
  obtain ⟨ha, hl⟩ := hf hsub (.inr hlive)
  rw [State.received, proj_reverse, List.length_reverse]
  exact ⟨ha, (Nat.zero_add _).symm.trans hl⟩

/-- PARTIAL THEOREM (ReplaySubject).  Along runs in which no `next` call overlaps a `subscribe` call, an observer `o`
whose `subscribe` call has installed the live subscription (`subDone`: `setSbsc` done, only the `is_subscribed` check of
l.95 is left) and that was not unsubscribed has received, from every producer `t` that is not inside a `next` call right
now, exactly the entries `t` ever pushed into `items` — each once, in push order; these are the items of `t`'s first
`cnt` calls.
(The FULL clause — the same for ALL runs — is false: `replay_late_subscriber_violated`.) -/
theorem late_subscriber_per_producer {progs : List (List Call)} {s : State} (h : ReachableQ progs s) (o : Nat)
    (hsub : (s.obs o).subDone = true) (hlive : (s.obs o).fnNext = true) (t : Nat)
    (ht : (s.threads t).pc.inNext = false) :
    (s.received o).filter (·.1 == t) = s.items.filter (·.1 == t) ∧
    ((s.received o).filter (·.1 == t)).map (·.2.2) = (progItems progs t).take (s.threads t).cnt := by
  obtain ⟨ha, hl⟩ := asc_received h hsub hlive ht
  obtain ⟨ha', hl'⟩ := (invB_reachableQ h).items t
  rw [(pos_of_not_inNext ht o).2] at hl'
  have hfil : (s.received o).filter (·.1 == t) = s.items.filter (·.1 == t) := by
    rw [filter_eq_map_proj, filter_eq_map_proj, Asc.unique ha ha' (hl.trans hl'.symm)]
  refine ⟨hfil, ?_⟩
  have hv := Asc.vals ha'
  rw [hl'] at hv
  rw [hfil, filter_eq_map_proj, List.map_map]
  exact hv

/-- PARTIAL THEOREM, multiset form: when no producer is inside `next`, such an observer has received every entry of
`items` exactly once. -/
theorem late_subscriber_exactly_once {progs : List (List Call)} {s : State} (h : ReachableQ progs s) (o : Nat)
    (hsub : (s.obs o).subDone = true) (hlive : (s.obs o).fnNext = true)
    (hidle : ∀ t, (s.threads t).pc.inNext = false) :
    (s.received o).Perm s.items := by
  have hlt : ∀ {l : List Entry}, (∀ t, Asc (progItems progs t) 0 (proj t l)) → ∀ x ∈ l, x.1 < progs.length :=
    fun ha x hx => Nat.lt_of_not_le fun hge => progItems_ne_nil_of_mem ha hx (progItems_of_ge hge)
  have p1 := map_perm_flatMap_filter (fun x : Nat × Nat × Data => x) progs.length (s.received o)
    (hlt fun t => (asc_received h hsub hlive (hidle t)).1)
  have p2 := map_perm_flatMap_filter (fun x : Nat × Nat × Data => x) progs.length s.items
    (hlt fun t => ((invB_reachableQ h).items t).1)
  simp only [List.map_id'] at p1 p2
  rw [show (fun t => (s.received o).filter (·.1 == t)) = fun t => s.items.filter (·.1 == t) from
    funext fun t => (late_subscriber_per_producer h o hsub hlive t (hidle t)).1] at p1
  exact p1.trans p2.symm

/-- PARTIAL THEOREM, push-order form: with a single producer thread `p` the observer has received exactly the
contents of `items`, in push order. -/
theorem late_subscriber_push_order {progs : List (List Call)} {s : State} (h : ReachableQ progs s) (o : Nat)
    (hsub : (s.obs o).subDone = true) (hlive : (s.obs o).fnNext = true)
    (hidle : ∀ t, (s.threads t).pc.inNext = false)
    (p : Nat) (hsingle : ∀ t, t ≠ p → progItems progs t = []) :
    s.recvVals o = s.itemVals := by
  have hall : ∀ {l : List Entry}, (∀ t, Asc (progItems progs t) 0 (proj t l)) → l.filter (·.1 == p) = l :=
    fun ha => List.filter_eq_self.mpr fun x hx =>
      beq_iff_eq.mpr (Classical.byContradiction fun hne => progItems_ne_nil_of_mem ha hx (hsingle x.1 hne))
  have hkey := (late_subscriber_per_producer h o hsub hlive p (hidle p)).1
  rw [hall fun t => (asc_received h hsub hlive (hidle t)).1, hall fun t => ((invB_reachableQ h).items t).1] at hkey
  rw [State.recvVals, State.itemVals, hkey]

theorem stepT_threads_ne {s s' : State} {t t' : Nat} (hs : stepT s t = some s') (hne : t' ≠ t) :
    s'.threads t' = s.threads t' := by
  revert hs
  fun_cases stepT s t <;> intro hs <;> cases hs <;> exact setAt_ne _ _ hne

/-- threads without a program never move -/
theorem idle_beyond {progs : List (List Call)} {s : State} (h : Reachable progs s) (t : Nat)
    (ht : progs.length ≤ t) : (s.threads t).pc = .idle ∧ (s.threads t).todo = [] := by
  induction h with
  | init => simp [init, List.getD, List.getElem?_eq_none ht]
  | @step s1 s2 l _ hs ih =>
    have hs := stepT_of_step hs
    by_cases hl : t = l.1
    · subst hl
      simp [stepT, ih.1, ih.2] at hs
    · rw [stepT_threads_ne hs hl]; exact ih

/-- `quiet` restricted to threads `0 .. n-1`, decidable -/
def State.quietB (s : State) (n : Nat) : Bool :=
  Conc.quietB (fun t => (s.threads t).pc.inSub) (fun t => (s.threads t).pc.inNext) n

theorem quiet_of_quietB {progs : List (List Call)} {s : State} (h : Reachable progs s)
    (hq : s.quietB progs.length = true) : s.quiet :=
  quietB_sound (fun t ht => by rw [(idle_beyond h t ht).1]; rfl) (fun t ht => by rw [(idle_beyond h t ht).1]; rfl) hq

def replayQFrom (n : Nat) (s : State) (ls : List Label) : Option State := replayOk step (·.quietB n) s ls

theorem reachableQ_of_replayQFrom {progs : List (List Call)} {s s' : State} (h : ReachableQ progs s)
    {ls : List Label} (hr : replayQFrom progs.length s ls = some s') : ReachableQ progs s' :=
  replayOk_ind step _ (fun h hs hq => .step h hs (quiet_of_quietB (.step h.reachable hs) hq)) h hr

def exProgs : List (List Call) :=
  [[.next (.int 1), .next (.int 2)], [.next (.int 10), .next (.int 20)], [.subscribe 0]]

/-- both producers push once, then observer 0 subscribes (replaying 1, 10), then both producers push concurrently -/
def exRun : List Label :=
  [(0, .call), (0, .push), (1, .call), (1, .push), (0, .snap), (1, .snap), (0, .ret), (1, .ret),
   (2, .call), (2, .isSub1), (2, .setTd), (2, .hist), (2, .serial), (2, .setTdF), (2, .insert), (2, .rdErr),
   (2, .rdCompl), (2, .hfetch), (2, .hdeliver), (2, .hfetch), (2, .hdeliver), (2, .hdone), (2, .setSbsc),
   (2, .isSubEnd),
   (0, .call), (1, .call), (0, .push), (1, .push), (1, .snap), (0, .snap), (1, .fetch), (1, .ofetch), (1, .deliver),
   (0, .fetch), (0, .ofetch), (0, .deliver), (0, .ret), (1, .ret)]

def exFinal : Option State := replayQFrom 3 (init exProgs) exRun

def State.exVerdict (s : State) : Bool × Bool × Bool × List Data × List Data :=
  ((s.obs 0).subDone, (s.obs 0).fnNext, (List.range 3).all (fun t => !(s.threads t).pc.inNext),
   s.recvVals 0, s.itemVals)

theorem exFinal_verdict : exFinal.map State.exVerdict =
    some (true, true, true, [.int 1, .int 10, .int 20, .int 2], [.int 1, .int 10, .int 2, .int 20]) := by
  decide +kernel

/-- the hypotheses of the partial theorems are satisfiable by a non-trivial run; the same run shows that with TWO
concurrent producers the delivery order (1, 10, 20, 2) may differ from the push order (1, 10, 2, 20) although no `next`
overlaps the `subscribe` — push order proper needs a single producer (`late_subscriber_push_order`). -/
theorem partial_hypotheses_satisfiable : ∃ s, ReachableQ exProgs s ∧ (s.obs 0).subDone = true ∧
    (s.obs 0).fnNext = true ∧ (∀ t, (s.threads t).pc.inNext = false) ∧
    s.recvVals 0 = [.int 1, .int 10, .int 20, .int 2] ∧ s.itemVals = [.int 1, .int 10, .int 2, .int 20] := by
  obtain ⟨s, hs, hv⟩ := Option.map_eq_some_iff.mp exFinal_verdict
  simp only [State.exVerdict, Prod.mk.injEq] at hv
  obtain ⟨h1, h2, h3, h4, h5⟩ := hv
  have hr : ReachableQ exProgs s := reachableQ_of_replayQFrom (progs := exProgs) .init hs
  refine ⟨s, hr, h1, h2, fun t => ?_, h4, h5⟩
  by_cases ht : t < 3
  · simp only [List.all_eq_true, List.mem_range, Bool.not_eq_eq_eq_not, Bool.not_true] at h3
    exact h3 t ht
  · rw [(idle_beyond hr.reachable t (Nat.le_of_not_lt ht)).1]; rfl

end Rx.Conc.Replay
