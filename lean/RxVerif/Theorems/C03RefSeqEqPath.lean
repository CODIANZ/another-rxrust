import RxVerif.Theorems.C03RefSeqEqStep
/-
C03-REF, sequence_equal (what the files `C03RefSeqEq*` are for: header of C03RefSequenceEqual.lean and DESIGN §10.9):
a call on subject `i` travels up its chain:
`Subject::next(d)` → map_i (`Some(d)`) → concat_i → zip's observer `i`; an error the same way, followed by the
`finalize` calls on the way back; `Subject::complete()` makes map_i complete, concat_i subscribe `just(None)` (a NEW
observer), the end marker travel to zip, concat_i complete and zip's observer `i` complete.  The two terminal calls
are followed to the end, where `QRel` holds again for the result of the pure step.  One history entry =
`Comb.sequenceEqual.step` (`step_spec`), a whole history (`drive_seq`).
-/
namespace Rx.SeqRef
open Rx.Sim Rx.Ref Rx.Comb Rx.CRef

variable {k : Nat} {σ : GS} {hl : List (LockId × Bool)} {w : World} {R : List Nat} {qs : List (List Data)}

/-- rewriting a cell with the value it already holds -/
theorem GRel.set_same (h : GRel k σ hl w) {c : Nat} {v : Data} (hv : w.cells[c]? = some v) :
    GRel k σ hl { w with cells := w.cells.set c v } := by
  rw [RefU.set_self hv]; exact h

/-- concat_i's `next` closure: `sink_next` to zip's observer `i` -/
theorem cNext_spec {Q : World → Prop} (h : GRel k σ [] w) (hr : Ready k σ) {i : Nat} (hi : i < k)
    (hz : (σ.ch i).zL = true) (x : Data)
    (hk : ∀ w1, GRel k (zStep σ i (.next x)) [] w1 → Q w1) : WP ((scC k i).sinkNext x) w Q := by
  have ho := (h.chains i hi).oZ
  simp only [hz, ↓reduceIte] at ho
  exact wp_sinkNext ho rfl (z_deliver h hr hi hz (.next x) fun w1 h1 => WP.done (hk w1 h1))

/-- map_i's `next` closure (`stdOp kSome`): `sink_next(Some(d))` to concat_i's observer -/
theorem mNext_spec {Q : World → Prop} (h : GRel k σ [] w) (hr : Ready k σ) {i : Nat} (hi : i < k)
    (hz : (σ.ch i).zL = true) (hc : (σ.ch i).cL = true) (d : Data)
    (hk : ∀ w1, GRel k (zStep σ i (.next (Data.optEnc (some d)))) [] w1 → Q w1) :
    WP (mapNext k i d) w Q := by
  simp only [mapNext, kSome, holdAcq, holdRel, actsP, forEach, actP]
  have hT := (h.chains i hi).mT
  refine wp_cellRead_val h.held hT (wp_cellWrite h.held ?_)
  have h1 := h.set_same hT
  have ho := (h1.chains i hi).oC
  simp only [hc, ↓reduceIte] at ho
  refine WP.seq (WP.done (WP.seq (WP.seq (wp_sinkNext ho rfl (wp_ev_code (ev := .next _) ho rfl rfl rfl ?_)))))
  exact cNext_spec h1 hr hi hz _ fun w2 h2 => WP.done (WP.done (WP.done (hk w2 h2)))

/-- `Subject::next(d)` on a subject whose chain is live -/
theorem subjNext_spec (h : GRel k σ [] w) (hr : Ready k σ) {i : Nat} (hi : i < k) (hl : σ.ch i = bLive) (d : Data) :
    WP (evCall (sjOf i) (.next d)) w (GRel k (zStep σ i (.next (Data.optEnc (some d)))) []) := by
  have hch := h.chains i hi
  rw [hl] at hch
  refine wp_cellRead_val h.held hch.subjO ?_
  rw [amapVals_encMap]
  simp only [bLive, ↓reduceIte, List.map_cons, List.map_nil, forEach, toNat_int]
  refine WP.seq (wp_ev_code (ev := .next d) hch.oM rfl rfl rfl ?_)
  exact mNext_spec h hr hi (by rw [hl]; rfl) (by rw [hl]; rfl) d fun w1 h1 => WP.done (WP.done h1)

/-- a call on a subject that holds no observer changes nothing -/
theorem subjNoop_spec (h : GRel k σ [] w) {i : Nat} (hi : i < k) (hs : (σ.ch i).sR = false) (ev : Ev) :
    WP (evCall (sjOf i) ev) w (GRel k σ []) := by
  have hO := (h.chains i hi).subjO
  simp only [hs, Bool.false_eq_true, ↓reduceIte] at hO
  cases ev with
  | next d => exact wp_cellRead_val h.held hO (WP.done h)
  | error e => exact wp_cellRead_val h.held hO (wp_cellWrite h.held (WP.done (h.set_same hO)))
  | complete => exact wp_cellRead_val h.held hO (wp_cellWrite h.held (WP.done (h.set_same hO)))

/-- a terminal call on a live subject `i`, as far as map_i's closure, whose rest is `body` (`hbody`, `rfl` at both uses:
    the shape the error and the completion closure share) -/
theorem subjTerm_spec {Q : World → Prop} (h : GRel k σ [] w) {i : Nat} (hi : i < k) (hl : σ.ch i = bLive) (ev : Ev)
    (ht : ev.isTerminal = true) {body : Prog}
    (hbody : codeBody ev (mapNext k i) (mapErr k i) (mapDone k i) =
      .cellRead (mst k i) false fun _ => .cellWrite (mst k i) false .unit body)
    (hk : ∀ w1, GRel k (σ.setCh i { bLive with sR := false, mL := false }) [] w1 → WP body w1 Q) :
    WP (evCall (sjOf i) ev) w Q := by
  have hch := h.chains i hi
  rw [hl] at hch
  have c2 := hch.clearS.setM hi Obs.cleared false true rfl
  have g2 := h.chain_step hi hl c2
    ((Same.setCell w .lnil (cs := [2 * i]) (os := [Mo k i]) (.head _)).trans
      (Same.setObs _ _ _ (.head _)))
    (by simp [cellAddrs]) (by simp [chainObs, lowObs]) rfl
  have main : WP (.cellRead (2 * i) false fun m => .cellWrite (2 * i) false .lnil <|
      forEach (amapVals m) fun o => evProg ev o.toInt.toNat .done) w Q := by
    refine wp_cellRead_val h.held hch.subjO (wp_cellWrite h.held ?_)
    rw [amapVals_encMap]
    simp only [bLive, ↓reduceIte, List.map_cons, List.map_nil, forEach, toNat_int]
    refine WP.seq (wp_ev_code (ev := ev) hch.clearS.oM rfl rfl rfl ?_)
    rw [hbody, if_pos ht]
    refine wp_cellRead_val h.held c2.mT (wp_cellWrite h.held ?_)
    exact (hk _ (g2.set_same c2.mT)).conseq fun _ q => WP.done (WP.done q)
  cases ev with
  | next d => cases ht
  | error e => exact main
  | complete => exact main

/-- chain `i` when the error reaches zip: the subject has forgotten its observer; map_i's and concat_i's observers
    have lost their callbacks (they received the terminal) but still have their teardowns -/
def bErr : CB := { bLive with sR := false, mL := false, cL := false }

theorem cTerm_deliver {Q : World → Prop} {kp : Prog} {b : CB} (h : GRel k σ [] w) {i : Nat} (hi : i < k)
    (hb : σ.ch i = b) (hc : b.cL = true) (hH : b.cH = true) (ev : Ev) (ht : ev.isTerminal = true) {body : Prog}
    (hbody : codeBody ev (fun x => (scC k i).sinkNext x) (fun e => (scC k i).sinkError e)
      (concatNext (scC k i) (cq k i) theEnd 100000) = body)
    (hk : ∀ w1, GRel k (σ.setCh i { b with cL := false }) [] w1 → WP body w1 fun w2 => WP kp w2 Q) :
    WP (evProg ev (Co k i) kp) w Q := by
  have hch := h.chain_at hi hb
  have ho := hch.oC
  simp only [hc, hH, ↓reduceIte, optHook] at ho
  refine wp_ev_code ho rfl rfl rfl ?_
  rw [hbody, if_pos ht]
  exact hk _ (h.chain_step hi hb (hch.setC hi Obs.cleared false b.cH (cleared_of _ _ _ rfl)) (Same.setObs w _ _ (cs := []) (.head [])) nofun
    (by simp [chainObs, lowObs]) rfl)

/-- `Subject::error(e)` on a live source: zip's observer `i` passes the error on and everything in zip's map is torn
    down; on the way back `concat_i.finalize` and `map_i.finalize` -/
theorem subjError_spec (h : GRel k σ [] w) (hc : CorrOk k R qs σ) {i : Nat} (hR : R.contains i = true) (e : Nat) :
    WP (evCall (sjOf i) (.error e)) w
      (QRel k (sequenceEqualCode.step (okS R qs) (i, .error e)).1
        (σ.out ++ (sequenceEqualCode.step (okS R qs) (i, .error e)).2)) := by
  have hi := hc.rlt i (by simpa using hR)
  have hr := hc.ready
  obtain ⟨e1, e2⟩ := ok_error R qs i e hR
  rw [e1]
  refine subjTerm_spec h hi (hc.chL i hi hR) (.error e) rfl rfl fun w3 g3 => ?_
  simp only [forEach, actP]
  refine WP.seq (wp_sinkError (g3.chain_at hi (σ.setCh_ch ..)).oC rfl ?_)
  refine cTerm_deliver g3 hi (σ.setCh_ch ..) rfl rfl (.error e) rfl rfl fun w4 g4 => ?_
  -- concat_i's observer on map_i has taken its callbacks
  rw [GS.setCh_setCh] at g4
  replace g4 : GRel k (σ.setCh i bErr) [] w4 := g4
  refine wp_sinkError (g4.chain_at hi (σ.setCh_ch ..)).oZ rfl (z_deliver g4 (hr.setCh ..) hi
    (by rw [GS.setCh_ch]; rfl) (.error e) fun w5 h5 => ?_)
  have q5 : Quiet k (zStep (σ.setCh i bErr) i (.error e)).ch := by
    show Quiet k (tearAll (GRef.fupd (GRef.fupd σ.ch i bErr) i _) σ.reg)
    rw [hc.reg, GRef.fupd_fupd]
    exact torn_quiet hc _ (upd_or _ _ (by show (GRef.fupd σ.ch i bErr i).sR = false; rw [GRef.fupd_same]; rfl))
  -- back in concat_i, then in map_i: `finalize`
  have hle := zStep_le (σ.setCh i bErr) i (.error e) i
  rw [GS.setCh_ch] at hle
  refine (h5.finConcat hi rfl (zStep_zL _ i rfl)).conseq fun w6 g6 => ?_
  refine (g6.finMap hi (GS.setCh_ch ..) (tFC_cL _ (hle.cL rfl))).conseq fun w7 g7 => ?_
  rw [GS.setCh_setCh] at g7
  exact WP.done ⟨_, g7, rfl, .inr ⟨e2, q5.upd i ((tFM_le _).trans (tFC_le _))⟩⟩

theorem GRel.appendObs (h : GRel k σ hl w) (o : Obs) : GRel k σ hl { w with obs := w.obs ++ [o] } :=
  { h with
    root := RefR.getElem?_append_some h.root
    o1 := RefR.getElem?_append_some h.o1
    chains := fun j hj => (h.chains j hj).appendObs o }

/-- the `just(None)` observers all exist already -/
theorem GRel.jx_lt (h : GRel k σ hl w) {j : Nat} (hj : j < k) {p : Nat × Bool} (hp : (σ.ch j).jx = some p) :
    p.1 < w.obs.length := getElem?_lt ((h.chains j hj).oJ p hp).2

/-- the `3k + 2` observers of set-up (`Mo k (k - 1)` is the last); those on `just(None)` come after them -/
theorem GRel.obsLen (h : GRel k σ hl w) (hk : 0 < k) : 3 * k + 2 ≤ w.obs.length := by
  have := getElem?_lt (h.chains (k - 1) (by omega)).oM
  simp only [Mo] at this; omega

/-- concat_j registers its new observer on `just(None)` -/
theorem ChainAt.addJ {j : Nat} {b : CB} (h : ChainAt k j b w) (hb : b.jx = none) (hcr : b.cR = true) (J : Nat)
    (hJ : 3 * k + 2 ≤ J) (hoJ : w.obs[J]? = some (justObs k j)) :
    ChainAt k j { b with jx := some (J, true) }
      { w with cells := w.cells.set (cmap k j) (encMap [(0, Co k j), (1, J)]) } := by
  obtain ⟨h1, h2, _, _⟩ := chainAt_iff.1 h
  refine chainAt_iff.2 ⟨?_, h2, .cons h.oZ (.cons h.oC (.cons h.oM (.cons hoJ .nil))), ?_⟩
  · have := h1.set (cellAddrs_nodup k j) (i := 3) rfl (encMap [(0, Co k j), (1, J)])
    simp only [cellVals, cmapOf, hb, hcr, ↓reduceIte, List.set_cons_succ, List.set_cons_zero] at this ⊢
    exact this
  · intro o ho; rw [List.mem_singleton.1 ho]; exact hJ

/-- chain `i` when concat_i's observer on map_i completes: the subject and map_i are done (`5`, `7`: the stations of
    the completion path, numbered as the worlds in `subjComplete_spec` and `cDone_spec`) -/
def b5 : CB := { bLive with sR := false, mL := false, mR := false, cL := false }
/-- ... and concat_i has subscribed its observer `J` to `just(None)` -/
def b7 (J : Nat) : CB := { b5 with jx := some (J, true), cs := 2, q := 1 }

theorem tZ_b7 (J : Nat) : (tZ (b7 J)).jx = some (J, false) := rfl

/-- `complete_and_next` when nothing is pending any more (in the state `σX` of `corr_tail`): concat_i completes, zip's
    observer `i` completes, concat_i is finalized -/
theorem cDone_end {σX : GS} (h : GRel k σX [] w) (hX : Ready k σX) (hc : CorrOk k R qs σ) {i : Nat}
    (hR : R.contains i = true) (hreg : σX.reg = R) (hout : σX.out = σ.out) (hch : ∀ j, j ≠ i → σX.ch j = σ.ch j)
    {J : Nat} (hb : σX.ch i = { b7 J with jx := some (J, false) }) (f : Nat) :
    WP (concatNext (scC k i) (cq k i) theEnd (f + 1)) w fun w' => ∃ σ', GRel k σ' [] w' ∧ (σ'.ch i).le (b7 J) ∧
      σ'.out = σ.out ++ (sequenceEqualCode.step (okS R σX.qs) (i, .complete)).2 ∧
      Outcome k (sequenceEqualCode.step (okS R σX.qs) (i, .complete)).1 σ' := by
  have hi := hc.rlt i (by simpa using hR)
  have c := h.chain_at hi hb
  obtain ⟨o1, o2⟩ := corr_tail hc hR σX hX hreg hout hch (by rw [hb]; rfl)
  have hz := zStep_le σX i .complete i
  rw [hb] at hz
  simp only [concatNext]
  refine wp_cellRead_val h.held c.cQ ?_
  simp only [b7, b5, bLive, toNat_int, theEnd]
  rw [show ([oJust (Data.optEnc none)] : List Obsv)[1]? = none from rfl]
  refine wp_sinkCompleteForce c.oZ rfl (z_deliver h hX hi (by rw [hb]; rfl) .complete fun w1 h1 => ?_)
  refine (h1.finConcat hi rfl (zStep_zL _ i rfl)).conseq fun w2 g2 =>
    ⟨_, g2, ?_, o1, o2.setCh (hz.sR rfl) (((tFC_le _).trans hz).sR rfl)⟩
  rw [GS.setCh_ch]
  exact ((tFC_le _).trans hz).trans ⟨id, id, id, rfl⟩

/-- `complete_and_next` of concat_i after map_i has completed: it subscribes a new observer to `just(None)`, the end
    marker reaches zip, then (unless the comparison failed) concat_i and zip's observer `i` complete -/
theorem cDone_spec {i : Nat} (h : GRel k (σ.setCh i b5) [] w) (hc : CorrOk k R qs σ) (hR : R.contains i = true) :
    WP (concatNext (scC k i) (cq k i) theEnd 100000) w fun w' => ∃ σ', GRel k σ' [] w' ∧
      (σ'.ch i).le (b7 w.obs.length) ∧ σ'.out = σ.out ++ (sequenceEqual.step (okS R qs) (i, .complete)).2 ∧
      Outcome k (sequenceEqual.step (okS R qs) (i, .complete)).1 σ' := by
  have hi := hc.rlt i (by simpa using hR)
  have hr := hc.ready
  simp only [sequenceEqual.step, show sequenceEqual.endNone = Data.optEnc none from rfl]
  have hch := h.chain_at hi (σ.setCh_ch ..)
  -- one unfolding of `concatNext`: its equation wants the fuel as `F + 1`, the code has the literal `100000`
  -- (`cDone_end` meets what is left, `99998 + 1`)
  obtain ⟨F, hF⟩ : ∃ F, (100000 : Nat) = F + 1 := ⟨99999, rfl⟩
  rw [hF]
  simp only [concatNext]
  rw [show F = 99999 by omega]
  refine wp_cellRead_val h.held hch.cQ ?_
  simp only [b5, bLive, toNat_int, theEnd, List.getElem?_cons_zero]
  refine wp_cellWrite h.held ?_
  rw [show ((0 : Nat) : Int) + 1 = ((1 : Nat) : Int) from rfl]
  -- `new_observer`: the observer `w.obs.length` on `just(None)` is registered under serial 1
  have c1 := hch.setQ 1
  refine wp_newObserver (scC k i) _ _ _ _ (M := [(0, Co k i)]) (s0 := 1) h.held (by simp [scC, cser, cmap]) c1.cS c1.cM
    (by simp) ⟨_, c1.oZ, rfl⟩ ?_
  have gA := h.appendObs (justObs k i)
  have c4 := (((gA.chain_at hi (σ.setCh_ch ..)).setQ 1).setCs 2).addJ rfl rfl w.obs.length (h.obsLen hr.kpos)
    (by show (w.obs ++ [justObs k i])[w.obs.length]? = _; simp)
  have g4 := gA.chain_step_core hi (b' := b7 w.obs.length) c4
    (((Same.setCell _ _ (cs := [cq k i, cser k i, cmap k i]) (os := []) (.head _)).trans
      (Same.setCell _ _ (.tail _ (.head _)))).trans
      (Same.setCell _ _ (.tail _ (.tail _ (.head _)))))
    (by simp [cellAddrs]) nofun fun a p p' ha _ hp hp' => by cases hp'; exact Nat.ne_of_lt (h.jx_lt ha hp)
  rw [GS.setCh_setCh] at g4
  have hr7 : Ready k (σ.setCh i (b7 w.obs.length)) := hr.setCh ..
  have c7 := g4.chain_at hi (σ.setCh_ch ..)
  -- `just(None)` is subscribed: it emits `None` and completes
  have hJ := (c7.oJ (w.obs.length, true) rfl).2
  simp only [↓reduceIte] at hJ
  simp only [Obsv.sub]
  refine wp_obsIsSub hJ ?_
  simp only [justObs, Obs.isSub, Option.isSome_some, Bool.and_self, ↓reduceIte, oJust]
  refine wp_ev_code (ev := .next (Data.optEnc none)) hJ rfl rfl rfl ?_
  refine cNext_spec g4 hr7 hi (by rw [GS.setCh_ch]; rfl) _ fun w5 h5 => ?_
  -- `just(None)` completes
  rcases zStep_next_cases hr7 hc.qs hR (Data.optEnc none) with ⟨Q, hQ, hneQ, hlenQ, hs⟩ | ⟨Q, hQ, hs, hd⟩
  · -- the observer on `just(None)` takes its callbacks, then runs `complete_and_next` once more
    rw [hQ] at h5
    have c5 := h5.chain_at hi (σ.setCh_ch ..)
    have hJ5 := (c5.oJ (w.obs.length, true) rfl).2
    simp only [↓reduceIte] at hJ5
    refine wp_ev_code (ev := .complete) hJ5 rfl rfl rfl ?_
    have c6 := c5.killJ hi w.obs.length true rfl
    have g6 := h5.chain_step hi (σ.setCh_ch ..) c6 (Same.setObs w5 _ _ (cs := []) (.head [])) nofun
      (by simp [chainObs, lowObs, jl, b7]) rfl
    rw [hs]
    exact (cDone_end g6 ((hr7.setQ hneQ hlenQ).setCh ..) hc hR hc.reg rfl
      (fun j hj => (GRef.fupd_other _ _ hj).trans (GRef.fupd_other _ _ hj)) (GS.setCh_ch ..) 99998).conseq
      fun _ q => WP.done q
  · -- the comparison failed: everything in zip's map, chain `i` included, has been torn down
    have ha := zStep_le (σ.setCh i (b7 w.obs.length)) i (.next (Data.optEnc none)) i
    rw [hQ, GS.setCh_ch] at ha
    rw [hQ] at h5
    obtain ⟨f1, f2⟩ := dead_code_step _ hd (i, .complete)
    have hjd : ((endState { σ.setCh i (b7 w.obs.length) with qs := Q } true [.next (.bool false), .complete]).ch
        i).jx = some (w.obs.length, false) := by
      simp only [endState, ↓reduceIte, tearAll]
      rw [show (σ.setCh i (b7 w.obs.length)).reg = σ.reg from rfl, hc.reg, hR]
      exact (congrArg (fun b => (tZ b).jx) (σ.setCh_ch ..)).trans (tZ_b7 _)
    have hJ5 := ((h5.chains i hi).oJ _ hjd).2
    simp only [Bool.false_eq_true, ↓reduceIte] at hJ5
    rw [hs, f1]
    refine wp_ev_dead (ev := .complete) hJ5 rfl (WP.done ⟨_, h5, ha, rfl, .inr ⟨f2, ?_⟩⟩)
    show Quiet k (tearAll (GRef.fupd σ.ch i (b7 w.obs.length)) σ.reg)
    rw [hc.reg]
    exact torn_quiet hc _ (upd_or _ _ rfl)

theorem subjComplete_spec (h : GRel k σ [] w) (hc : CorrOk k R qs σ) {i : Nat} (hR : R.contains i = true) :
    WP (evCall (sjOf i) .complete) w
      (QRel k (sequenceEqual.step (okS R qs) (i, .complete)).1
        (σ.out ++ (sequenceEqual.step (okS R qs) (i, .complete)).2)) := by
  have hi := hc.rlt i (by simpa using hR)
  refine subjTerm_spec (body := .done ;; (((scM k i).sinkComplete 0 ;; .done) ;; .done)) h hi (hc.chL i hi hR)
    .complete rfl rfl fun w3 g3 => ?_
  have c3 := g3.chain_at hi (σ.setCh_ch ..)
  -- `map_i.sink_complete(0)`: the last upstream of map_i is gone, map_i completes
  refine WP.seq (WP.done (WP.seq (WP.seq (wp_sinkComplete c3.oC rfl g3.held c3.mM ?_))))
  simp only [bLive, ↓reduceIte, List.filter_cons, bne_self_eq_false, Bool.false_eq_true, List.filter_nil,
    List.length_nil, beq_self_eq_true]
  have g4 := g3.chain_step hi (σ.setCh_ch ..) c3.clearM
    (Same.setCell w3 _ (cs := [mmap k i]) (os := []) (.head _)) (by simp [cellAddrs]) nofun rfl
  refine cTerm_deliver g4 hi (GS.setCh_ch ..) rfl rfl .complete rfl rfl fun w5 g5 => ?_
  rw [GS.setCh_setCh, GS.setCh_setCh] at g5
  refine (cDone_spec g5 hc hR).conseq fun w6 ⟨σ6, h6, hle, ho, hO⟩ => ?_
  -- back in map_i: `finalize`
  refine (h6.finMap hi rfl (hle.cL rfl)).conseq fun w7 g7 => ?_
  exact WP.done (WP.done ⟨_, g7, ho, hO.setCh (hle.sR rfl) ((tFM_le _).sR (hle.sR rfl))⟩)

theorem callNoop_spec {σ : GS} {w : World} (h : GRel k σ [] w) (i : Nat) (ev : Ev)
    (hs : i < k → (σ.ch i).sR = false) : WP (callOf (sjs k) (i, ev)) w (GRel k σ []) := by
  rcases Nat.lt_or_ge i k with hi | hi
  · rw [callOf_lt hi]; exact subjNoop_spec h hi (hs hi) ev
  · rw [callOf_ge hi]; exact WP.done h

theorem step_spec (s : Over) (out : List Ev) (w : World) (p : Nat × Ev) (h : QRel k s out w) :
    WP (callOf (sjs k) p) w (QRel k (sequenceEqual.step s p).1 (out ++ (sequenceEqual.step s p).2)) := by
  obtain ⟨i, ev⟩ := p
  obtain ⟨σ, hg, hout, hcorr⟩ := h
  rcases hcorr with ⟨R, qs, rfl, hc⟩ | ⟨hd, hs⟩
  · -- nothing has ended yet
    cases hR : R.contains i with
    | false =>
      rw [ok_notlive_seq R qs i ev hR, List.append_nil]
      exact (callNoop_spec hg i ev fun hi => hc.chD i hi hR).conseq fun w1 h1 => ⟨σ, h1, hout, .inl ⟨R, qs, rfl, hc⟩⟩
    | true =>
      have hi : i < k := hc.rlt i (by simpa using hR)
      rw [callOf_lt hi]
      have hl := hc.chL i hi hR
      cases ev with
      | next d =>
        obtain ⟨e1, e2⟩ := corr_next hc hR (Data.optEnc (some d))
        refine (subjNext_spec hg hc.ready hi hl d).conseq fun w1 h1 => ⟨_, h1, ?_, e2⟩
        rw [e1, hout]; rfl
      | error e =>
        exact hout ▸ subjError_spec hg hc hR e
      | complete =>
        exact hout ▸ subjComplete_spec hg hc hR
  · -- everything is over
    obtain ⟨e1, e2⟩ := dead_step s hd (i, ev)
    rw [e1, List.append_nil]
    exact (callNoop_spec hg i ev (hs i)).conseq fun w1 h1 => ⟨σ, h1, hout, .inr ⟨e2, hs⟩⟩

theorem drive_seq (H : History) (s : Over) (out : List Ev) (w : World) (h : QRel k s out w) :
    WP (drive (sjs k) H) w (QRel k (finalFrom sequenceEqual.step s H) (out ++ runFrom sequenceEqual.step s H)) :=
  drive_spec sequenceEqual.step (QRel k) (callOf (sjs k)) step_spec H s out w h

end Rx.SeqRef
