/-
Structural invariant of the `Subject` LTS: who owns which observer, serial numbers are unique, the map holds exactly
the inserted observers that were not torn down, a live (fn_next present) inserted observer is in the map.
A step changes one thread and at most one record; `invA_thr`, `invA_upd` and `invA_set` re-establish `InvA` from what
the step does to these.
-/
import RxVerif.Conc.Subject
import RxVerif.Theorems.C12Lists

namespace Rx.Conc.Subject

def LocA (obs : Nat → Obs) (t : Nat) : Pc → Prop
  | .nxL _ _ snap => snap.Nodup ∧ ∀ o ∈ snap, (obs o).ins = true
  | .nx2 _ _ o rest => (o :: rest).Nodup ∧ ∀ o' ∈ o :: rest, (obs o').ins = true
  | .s0 o | .s1 o | .s2 o => (obs o).used = some t ∧ (obs o).ins = false
  | .s3 o | .s4 o => (obs o).used = some t ∧ (obs o).ins = false ∧ (obs o).ser.isSome = true
  | .u1 o | .u2 o | .u3 o | .u4 o | .u5 o => (obs o).fnNext = false
  | _ => True

/-- `ob'` differs from `ob` in nothing `InvA` relates to other records or to threads -/
structure Keeps (ob ob' : Obs) : Prop where
  used : ob'.used = ob.used
  ins : ob'.ins = ob.ins
  ser : ob'.ser = ob.ser
  fnNext : ob.fnNext = false → ob'.fnNext = false

theorem Keeps.rfl {ob : Obs} : Keeps ob ob := ⟨_root_.rfl, _root_.rfl, _root_.rfl, id⟩

theorem LocA_mono {obs obs' : Nat → Obs} {t : Nat} {pc : Pc}
    (h1 : ∀ o, (obs o).ins = true → (obs' o).ins = true)
    (h2 : ∀ o, (obs o).used = some t → (obs o).ins = false → Keeps (obs o) (obs' o))
    (h3 : ∀ o, (obs o).fnNext = false → (obs' o).fnNext = false)
    (h : LocA obs t pc) : LocA obs' t pc := by
  cases pc
  case idle | nx0 | u0 => trivial
  case nxL | nx2 => exact ⟨h.1, fun o ho => h1 o (h.2 o ho)⟩
  case s0 o | s1 o | s2 o => have r := h2 o h.1 h.2; exact ⟨r.used.trans h.1, r.ins.trans h.2⟩
  case s3 o | s4 o => have r := h2 o h.1 h.2.1; exact ⟨r.used.trans h.1, r.ins.trans h.2.1, r.ser ▸ h.2.2⟩
  all_goals exact h3 _ h

structure InvA (s : State) : Prop where
  loc : ∀ t : Nat, LocA s.obs t (s.threads t).pc
  mapSer : ∀ k o : Nat, (k, o) ∈ s.map → (s.obs o).ser = some k ∧ (s.obs o).ins = true
  mapNodup : (s.map.map (·.2)).Nodup
  serLe : ∀ o k : Nat, (s.obs o).ser = some k → k ≤ s.serial
  serInj : ∀ o o' k : Nat, (s.obs o).ser = some k → (s.obs o').ser = some k → o = o'
  live : ∀ o : Nat, (s.obs o).ins = true → (s.obs o).fnNext = true → o ∈ s.map.map (·.2)
  logIns : ∀ o : Nat, (s.obs o).rlog ≠ [] → (s.obs o).ins = true
  preIns : ∀ o : Nat, (s.obs o).pre = true → (s.obs o).ins = true
  insUsed : ∀ o : Nat, (s.obs o).ins = true → (s.obs o).used.isSome = true

theorem invA_init (progs : List (List Call)) (nPre : Nat) : InvA (init progs nPre) := by
  constructor
  · intro t; simp [init, LocA]
  · intro k o h
    simp [init] at h
    obtain ⟨ha, rfl⟩ := h
    simp [init, ha]
  · simp [init, List.map_map, Function.comp_def]
    exact List.nodup_range
  · intro o k h
    simp only [init] at h ⊢
    split at h <;> simp at h; omega
  · intro o o' k h h'
    simp only [init] at h h'
    split at h <;> split at h' <;> simp at h h'; omega
  · intro o h _
    simp only [init] at h ⊢
    split at h <;> simp at h
    simp [List.map_map, Function.comp_def]; assumption
  · intro o h; simp [init] at h; split at h <;> simp at h
  · intro o h; simp only [init] at h ⊢; split at h <;> simp at h
    rename_i h'; simp [h']
  · intro o h; simp only [init] at h ⊢; split at h <;> simp at h
    rename_i h'; simp [h']

theorem InvA.map {s : State} (h : InvA s) : MapInv Obs.ser Obs.ins Obs.fnNext s.map s.obs s.serial :=
  ⟨h.mapSer, h.mapNodup, h.serLe, h.serInj, h.live⟩

structure ObsA (ob : Obs) : Prop where
  logIns : ob.rlog ≠ [] → ob.ins = true
  preIns : ob.pre = true → ob.ins = true
  insUsed : ob.ins = true → ob.used.isSome = true

theorem InvA.obsA {s : State} (h : InvA s) (o : Nat) : ObsA (s.obs o) := ⟨h.logIns o, h.preIns o, h.insUsed o⟩

theorem invA_thr {s : State} (h : InvA s) {t : Nat} {th' : Thread} {map' : List (Nat × Nat)}
    (hmap : MapInv Obs.ser Obs.ins Obs.fnNext map' s.obs s.serial) (hl : LocA s.obs t th'.pc) :
    InvA { s with map := map', threads := setAt s.threads t th' } :=
  { h with
    loc := setAt_ind (P := fun t' (th : Thread) => LocA s.obs t' th.pc) hl fun j _ => h.loc j
    mapSer := hmap.mapSer, mapNodup := hmap.mapNodup, live := hmap.live }

/-- thread `t` moves and observer `o` gets the record `ob'`; the other threads do not notice as long as `o` is not an
observer they are subscribing -/
theorem invA_upd {s : State} (h : InvA s) {t : Nat} {th' : Thread} (o : Nat) {ob' : Obs}
    {map' : List (Nat × Nat)} {serial' : Nat}
    (hmap : MapInv Obs.ser Obs.ins Obs.fnNext map' (setAt s.obs o ob') serial') (hA : ObsA ob')
    (hl : LocA (setAt s.obs o ob') t th'.pc)
    (hins : (s.obs o).ins = true → ob'.ins = true) (hfn : (s.obs o).fnNext = false → ob'.fnNext = false)
    (hoth : ∀ t', t' ≠ t → (s.obs o).used = some t' → (s.obs o).ins = false → Keeps (s.obs o) ob') :
    InvA { s with obs := setAt s.obs o ob', map := map', serial := serial', threads := setAt s.threads t th' } := by
  have hobs : ∀ j, ObsA (setAt s.obs o ob' j) := setAt_ind (P := fun _ ob => ObsA ob) hA fun j _ => h.obsA j
  refine ⟨?_, hmap.mapSer, hmap.mapNodup, hmap.serLe, hmap.serInj, hmap.live, fun j => (hobs j).logIns,
    fun j => (hobs j).preIns, fun j => (hobs j).insUsed⟩
  refine setAt_ind (P := fun t' (th : Thread) => LocA (setAt s.obs o ob') t' th.pc) hl fun t' ht => ?_
  exact LocA_mono (setAt_rel (R := fun x y : Obs => x.ins = true → y.ins = true) (fun _ => id) hins)
    (setAt_rel (R := fun x y : Obs => x.used = some t' → x.ins = false → Keeps x y) (fun _ _ _ => .rfl) (hoth t' ht))
    (setAt_rel (R := fun x y : Obs => x.fnNext = false → y.fnNext = false) (fun _ => id) hfn) (h.loc t')

theorem invA_set {s : State} (h : InvA s) {t : Nat} {th' : Thread} (o : Nat) {ob' : Obs} (k : Keeps (s.obs o) ob')
    (hA : ObsA ob') (hl : LocA s.obs t th'.pc) :
    InvA { s with obs := setAt s.obs o ob', threads := setAt s.threads t th' } := by
  have kk := setAt_rel (R := Keeps) (fun _ => .rfl) k
  refine invA_upd h o (h.map.set k.ser k.ins fun hj => ?_) hA
    (LocA_mono (fun j hj => (kk j).ins.trans hj) (fun j _ _ => kk j) (fun j => (kk j).fnNext) hl)
    (fun hi => k.ins.trans hi) k.fnNext (fun _ _ _ _ => k)
  cases hf : (s.obs o).fnNext
  · rw [k.fnNext hf] at hj; cases hj
  · rfl

theorem stepT_of_step {s s' : State} {l : Label} (h : step s l = some s') : stepT s l.1 = some s' := by
  unfold step at h
  split at h
  · exact h
  · cases h

theorem invA_step {s s' : State} {t : Nat} (h : InvA s) (hs : stepT s t = some s') : InvA s' := by
  have hl := h.loc t
  have a := h.obsA
  cases hpc : (s.threads t).pc <;> rw [hpc] at hl <;> simp only [stepT, hpc, Option.some.injEq] at hs
  case nx0 =>
    subst hs
    refine invA_thr h h.map ?_
    exact ⟨h.mapNodup, fun _ => h.map.mem_ins⟩
  case u1 | u2 => subst hs; exact invA_thr h h.map hl
  case nxL k v snap =>
    cases snap <;> simp only [Option.some.injEq] at hs <;> subst hs
    · exact invA_thr h h.map (by trivial)
    · refine invA_thr h h.map ?_
      split
      · exact hl
      · exact pending_tail hl
  case s0 | s1 =>
    subst hs
    refine invA_thr h h.map ?_
    split
    · exact hl
    · trivial
  case u3 =>
    subst hs
    refine invA_thr h h.map ?_
    split <;> exact hl
  case u4 => subst hs; exact invA_thr h (h.map.remove hl) hl
  case nx2 k v o rest =>
    subst hs
    exact invA_set h o ⟨rfl, rfl, rfl, id⟩ { a o with logIns := fun _ => hl.2 o List.mem_cons_self } (pending_tail hl)
  case s3 o => subst hs; exact invA_set h o ⟨rfl, rfl, rfl, id⟩ { a o with } hl
  case u5 o => subst hs; exact invA_set h o ⟨rfl, rfl, rfl, id⟩ { a o with } (by trivial)
  -- the subscribing thread works on its own observer, which no other thread's facts mention
  case idle =>
    split at hs
    · cases hs
    · cases hs; exact invA_thr h h.map (by trivial)
    · split at hs
      · cases hs
      · rename_i o _ _ hu
        cases hs
        have hn : (s.obs o).used = none := by simpa using hu
        have hi : (s.obs o).ins = false := by
          cases hi : (s.obs o).ins
          · rfl
          · have := (a o).insUsed hi; rw [hn] at this; cases this
        refine invA_upd h o (h.map.set rfl rfl id) { a o with insUsed := fun _ => rfl } ?_ id id
          (fun _ _ hu' => by rw [hn] at hu'; cases hu')
        rw [LocA, setAt_same]; exact ⟨rfl, hi⟩
    · cases hs; exact invA_thr h h.map (by trivial)
  case s2 o =>
    subst hs
    refine invA_upd h o (h.map.fresh hl.2 rfl hl.2) { a o with } ?_ id id
      (fun _ ht => not_owner hl.1 ht)
    rw [LocA, setAt_same]; exact ⟨hl.1, hl.2, rfl⟩
  case s4 o =>
    subst hs
    obtain ⟨k, hk⟩ := Option.isSome_iff_exists.mp hl.2.2
    rw [show (s.obs o).ser.getD 0 = k by rw [hk]; rfl]
    exact invA_upd h o (h.map.insert hk hl.2.1 rfl rfl)
      { a o with logIns := fun _ => rfl, preIns := fun _ => rfl, insUsed := fun _ => by rw [hl.1]; rfl }
      (by trivial) (fun _ => rfl) id
      (fun _ ht => not_owner hl.1 ht)
  -- `fn_next` is cleared: what other threads know of this observer is at most that it is already cleared
  case u0 o =>
    subst hs
    exact invA_upd h o (h.map.set rfl rfl nofun) { a o with } (by rw [LocA, setAt_same]) id (fun _ => rfl)
      (fun _ _ _ _ => ⟨rfl, rfl, rfl, fun _ => rfl⟩)

theorem invA_reachable {progs : List (List Call)} {nPre : Nat} {s : State} (h : Reachable progs nPre s) : InvA s := by
  induction h with
  | init => exact invA_init progs nPre
  | step _ hs ih => exact invA_step ih (stepT_of_step hs)

end Rx.Conc.Subject
