/-
Delivery invariant of the `ReplaySubject` LTS along QUIET runs (no `next` call overlaps a `subscribe` call).
-/
import RxVerif.Theorems.C12ReplayA

namespace Rx.Conc.Replay

def nextItems : List Call → List Data
  | [] => []
  | .next v :: r => v :: nextItems r
  | _ :: r => nextItems r

/-- the items thread `t` pushes, in program order -/
def progItems (progs : List (List Call)) (t : Nat) : List Data := nextItems (progs.getD t [])

/-- entries of producer `t` in a list of tagged entries (order preserved), as `(call index, item)` -/
def proj (t : Nat) (l : List Entry) : List (Nat × Data) := (l.filter (·.1 == t)).map (·.2)

theorem proj_cons (t : Nat) (x : Entry) (l : List Entry) :
    proj t (x :: l) = if x.1 = t then x.2 :: proj t l else proj t l := by
  simp only [proj, List.filter_cons]
  by_cases h : x.1 = t <;> simp [h]

theorem proj_append (t : Nat) (l l' : List Entry) : proj t (l ++ l') = proj t l ++ proj t l' := by
  simp [proj]

theorem proj_reverse (t : Nat) (l : List Entry) : proj t l.reverse = (proj t l).reverse := by
  simp [proj, List.filter_reverse]

@[simp] theorem proj_nil (t : Nat) : proj t [] = [] := rfl

/-- `(n, strong)`: calls `0 .. n-1` of the thread have passed observer `o`; `strong` = the thread holds the fetched
callback of `o` for call `n` -/
def pos (th : Thread) (o : Nat) : Nat × Bool :=
  match th.pc with
  | .r0 k _ | .nx0 k _ => (k, false)
  | .nxL k _ snap => pend k snap o
  | .nxF k _ o' rest => pend k (o' :: rest) o
  | .nxD k _ o' rest => if o = o' then (k, true) else pend k rest o
  | _ => (th.cnt, false)

/-- number of items the thread has pushed into `items` -/
def pushed (th : Thread) : Nat :=
  match th.pc with
  | .r0 k _ => k
  | _ => th.cnt

/-- the part of the cloned history a subscribing thread still has to replay, and to whom -/
def histRem : Pc → Option (Nat × List Entry)
  | .s3 o h | .s4 o h | .s5 o h | .s6 o h | .s7 o h | .s8 o h => some (o, h)
  | .s8d o x h => some (o, x :: h)
  | .s9 o => some (o, [])
  | _ => none

theorem inSub_of_histRem {pc : Pc} {x : Nat × List Entry} (h : histRem pc = some x) : pc.inSub = true := by
  cases pc <;> cases h <;> rfl

/-- a thread against the items `P` of its program: `cnt` calls begun, the others still to do; inside `next` number `k`
    it carries `P[k]` -/
def LocB (P : List Data) (th : Thread) : Prop :=
  th.cnt ≤ P.length ∧ nextItems th.todo = P.drop th.cnt ∧
  match th.pc with
  | .r0 k v | .nx0 k v | .nxL k v _ | .nxF k v _ _ | .nxD k v _ _ => th.cnt = k + 1 ∧ P[k]? = some v
  | _ => True

/-- once `o`'s `subscribe` call has installed the live subscription (`subDone`) and while `o` is live, `o` has received
from `t` exactly the items of `t`'s calls `0 .. n-1`, each once, in order -/
abbrev Full (P : List Data) (ob : Obs) (t : Nat) (p : Nat × Bool) : Prop :=
  FullAt P 0 (proj t ob.rlog) ob.subDone ob.fnNext p

/-- `full` is what the theorems project.  It holds of a late subscriber `o` from the moment `subDone` is set (`s9`)
    because of `hist`: while a thread replays to `o`, the log of `o` followed by the history still to replay is `items`;
    at `s9` the history is used up and (quiet) nobody is inside `next`, so the log of `o` is `items`, which holds what each
    thread has pushed (`items`). -/
structure InvB (progs : List (List Call)) (s : State) : Prop where
  loc : ∀ t : Nat, LocB (progItems progs t) (s.threads t)
  full : ∀ o t : Nat, Full (progItems progs t) (s.obs o) t (pos (s.threads t) o)
  hist : ∀ (ts o : Nat) (h : List Entry), histRem (s.threads ts).pc = some (o, h) → (s.obs o).fnNext = true →
    ∀ t, (proj t (s.obs o).rlog).reverse ++ proj t h = proj t s.items
  items : ∀ t : Nat, Asc (progItems progs t) 0 (proj t s.items) ∧ (proj t s.items).length = pushed (s.threads t)

theorem invB_init (progs : List (List Call)) : InvB progs (init progs) := by
  constructor
  · intro t; simp [init, LocB, progItems]
  · intro o t; exact .of_not_sd rfl
  · intro ts o h hh; simp [init, histRem] at hh
  · intro t; simp [init, Asc, pushed]

theorem pos_of_not_inNext {th : Thread} (h : th.pc.inNext = false) (o : Nat) :
    pos th o = (th.cnt, false) ∧ pushed th = th.cnt := by
  obtain ⟨_, pc, _⟩ := th
  cases pc
  case r0 | nx0 | nxL | nxF | nxD => cases h
  all_goals exact ⟨rfl, rfl⟩

theorem locB_of_not_inNext {P : List Data} {th : Thread} (h : th.pc.inNext = false) :
    LocB P th ↔ th.cnt ≤ P.length ∧ nextItems th.todo = P.drop th.cnt := by
  obtain ⟨_, pc, _⟩ := th
  cases pc
  case r0 | nx0 | nxL | nxF | nxD => cases h
  all_goals exact ⟨fun h => ⟨h.1, h.2.1⟩, fun h => ⟨h.1, h.2, trivial⟩⟩

/-- what a step may do to an observer record without `InvB` noticing -/
structure SameB (ob ob' : Obs) : Prop where
  rlog : ob'.rlog = ob.rlog
  subDone : ob'.subDone = ob.subDone
  fnNext : ob'.fnNext = true → ob.fnNext = true

theorem SameB.rfl {ob : Obs} : SameB ob ob := ⟨_root_.rfl, _root_.rfl, id⟩

theorem Full.same {P : List Data} {ob ob' : Obs} {t : Nat} {p : Nat × Bool} (k : SameB ob ob') (h : Full P ob t p) :
    Full P ob' t p :=
  fun h1 h2 => k.rlog ▸ h (k.subDone ▸ h1) (h2.imp id k.fnNext)

theorem InvB.loc_setAt {progs : List (List Call)} {s : State} (hB : InvB progs s) {t : Nat} {th' : Thread}
    (hloc : LocB (progItems progs t) th') (t' : Nat) : LocB (progItems progs t') (setAt s.threads t th' t') :=
  setAt_ind (P := fun t' th => LocB (progItems progs t') th) hloc (fun j _ => hB.loc j) t'

theorem InvB.items_setAt {progs : List (List Call)} {s : State} (hB : InvB progs s) {t : Nat} {th th' : Thread}
    (hth : s.threads t = th) (hp : pushed th' = pushed th) (t' : Nat) :
    Asc (progItems progs t') 0 (proj t' s.items) ∧ (proj t' s.items).length = pushed (setAt s.threads t th' t') :=
  setAt_ind (P := fun t' th => _ ∧ (proj t' s.items).length = pushed th) (hp ▸ hth ▸ hB.items t)
    (fun j _ => hB.items j) t'

/-- thread `t` moves; `items`, the logs and `subDone` stay -/
theorem invB_move {progs : List (List Call)} {s s' : State} (hB : InvB progs s) {t : Nat} {th th' : Thread}
    (hth : s.threads t = th) (hthr : s'.threads = setAt s.threads t th') (hitems : s'.items = s.items)
    (hobs : ∀ o, SameB (s.obs o) (s'.obs o)) (hloc : LocB (progItems progs t) th')
    (hfull : ∀ o, Full (progItems progs t) (s.obs o) t (pos th' o)) (hpushed : pushed th' = pushed th)
    (hhist : ∀ o h, histRem th'.pc = some (o, h) → (s.obs o).fnNext = true → histRem th.pc = some (o, h) ∨
      ∀ t', (proj t' (s.obs o).rlog).reverse ++ proj t' h = proj t' s.items) :
    InvB progs s' := by
  refine ⟨fun t' => hthr ▸ hB.loc_setAt hloc t', fun o t' => ?_, fun ts o h hh hfn t' => ?_,
    fun t' => hthr ▸ hitems ▸ hB.items_setAt hth hpushed t'⟩ <;> subst hth <;> rw [hthr] at *
  · exact Full.same (hobs o) (setAt_ind (P := fun t' th => Full (progItems progs t') (s.obs o) t' (pos th o)) (hfull o)
      (fun j _ => hB.full o j) t')
  · rw [(hobs o).rlog, hitems]
    have hfn := (hobs o).fnNext hfn
    exact setAt_ind (P := fun ts (th : Thread) => histRem th.pc = some (o, h) → _)
      (fun hh => (hhist o h hh hfn).elim (fun hh => hB.hist t o h hh hfn t') fun hh => hh t')
      (fun j _ hh => hB.hist j o h hh hfn t') ts hh

/-- `invB_move` for a step from and to a point outside `next` that starts no replay -/
theorem invB_silent {progs : List (List Call)} {s : State} (hB : InvB progs s) {t : Nat} {pc pc' : Pc}
    {obs' : Nat → Obs} {todo todo' : List Call} {cnt : Nat} {map' : List (Nat × Nat)} {serial' : Nat}
    (hth : s.threads t = ⟨todo, pc, cnt⟩) (h0 : pc.inNext = false) (h1 : pc'.inNext = false)
    (hh : ∀ x, histRem pc' = some x → (s.obs x.1).fnNext = true → histRem pc = some x)
    (hobs : ∀ o, SameB (s.obs o) (obs' o)) (htodo : nextItems todo' = nextItems todo) :
    InvB progs { obs := obs', map := map', serial := serial', items := s.items,
                 threads := setAt s.threads t ⟨todo', pc', cnt⟩ } := by
  have hl := (locB_of_not_inNext h0).mp (hth ▸ hB.loc t)
  refine invB_move hB hth rfl rfl hobs ((locB_of_not_inNext h1).mpr ⟨hl.1, htodo ▸ hl.2⟩) (fun o => ?_) ?_
    fun o h hr hfn => .inl (hh _ hr hfn)
  · rw [(pos_of_not_inNext h1 o).1]; exact (pos_of_not_inNext (th := ⟨todo, pc, cnt⟩) h0 o).1 ▸ hth ▸ hB.full o t
  · rw [(pos_of_not_inNext h1 0).2, (pos_of_not_inNext (th := ⟨todo, pc, cnt⟩) h0 0).2]

theorem proj_cons_self (t k : Nat) (v : Data) (l : List Entry) : proj t ((t, k, v) :: l) = (k, v) :: proj t l := by
  rw [proj_cons, if_pos rfl]

theorem proj_cons_ne {t' : Nat} {x : Entry} (hne : x.1 ≠ t') (l : List Entry) : proj t' (x :: l) = proj t' l := by
  rw [proj_cons, if_neg hne]

theorem used_of_histRem {obs : Nat → Obs} {ts o : Nat} {h : List Entry} : ∀ {pc : Pc}, LocA obs ts pc →
    histRem pc = some (o, h) → (obs o).used = some ts := by
  intro pc hl hr
  cases pc <;> cases hr <;> exact hl.1

theorem invB_step {progs : List (List Call)} {s s' : State} {t : Nat} (hq : s.quiet) (hA : InvA s)
    (hB : InvB progs s) (hs : stepT s t = some s') : InvB progs s' := by
  cases hth : s.threads t with | mk todo pc cnt
  have hl := hB.loc t
  have hlA := hA.loc t
  have hf := fun o => hB.full o t
  rw [hth] at hl hlA hf
  cases pc <;> simp only [stepT, hth, Option.some.injEq] at hs
  case e7 | e8 | e9r | u1 | u2 | u7 | u8 | u9r => subst hs; exact invB_silent hB hth rfl rfl nofun (fun _ => .rfl) rfl
  case s0 | s10 | e9 | u3 | u4 | u9 =>
    subst hs; split <;> exact invB_silent hB hth rfl rfl nofun (fun _ => .rfl) rfl
  case s6 | s7 => subst hs; exact invB_silent hB hth rfl rfl (fun _ h _ => h) (fun _ => .rfl) rfl
  case s1 | e6 | e9c | u6 | u9c | u10 =>
    subst hs; exact invB_silent hB hth rfl rfl nofun (setAt_rel (fun _ => .rfl) ⟨rfl, rfl, id⟩) rfl
  case u0 => subst hs; exact invB_silent hB hth rfl rfl nofun (setAt_rel (fun _ => .rfl) ⟨rfl, rfl, nofun⟩) rfl
  case s3 | s4 | s5 =>
    subst hs; exact invB_silent hB hth rfl rfl (fun _ h _ => h) (setAt_rel (fun _ => .rfl) ⟨rfl, rfl, id⟩) rfl
  case e5 | u5 =>
    subst hs; split <;> exact invB_silent hB hth rfl rfl nofun (setAt_rel (fun _ => .rfl) ⟨rfl, rfl, id⟩) rfl
  case s8 o hh =>
    cases hh <;> simp only [Option.some.injEq] at hs <;> subst hs
    · exact invB_silent hB hth rfl rfl (fun _ h _ => h) (fun _ => .rfl) rfl
    · split
      · exact invB_silent hB hth rfl rfl (fun _ h _ => h) (fun _ => .rfl) rfl
      · rename_i hc
        exact invB_silent hB hth rfl rfl (fun _ h hfn => by cases h; exact absurd hfn hc) (fun _ => .rfl) rfl
  case idle =>
    split at hs
    · cases hs
    · cases hs
      obtain ⟨h1, h2, h3⟩ := drop_cons_inv hl.2.1
      exact invB_move hB hth rfl rfl (fun _ => .rfl) ⟨h1, h2, rfl, h3⟩ hf rfl nofun
    · split at hs
      · cases hs
      · cases hs; exact invB_silent hB hth rfl rfl nofun (setAt_rel (fun _ => .rfl) ⟨rfl, rfl, id⟩) rfl
    · cases hs; exact invB_silent hB hth rfl rfl nofun (fun _ => .rfl) rfl
  case nx0 k v =>
    subst hs
    exact invB_move hB hth rfl rfl (fun _ => .rfl) hl (fun o => (hf o).snap fun hsd => hA.live o (hA.subIns o hsd))
      rfl nofun
  case nxL k v snap =>
    cases snap <;> simp only [Option.some.injEq] at hs <;> subst hs
    · obtain ⟨h1, h2, hc, _⟩ := hl
      subst hc
      exact invB_move hB hth rfl rfl (fun _ => .rfl) ⟨h1, h2, trivial⟩ (fun o => (hf o).pend_nil) rfl nofun
    · split
      · exact invB_move hB hth rfl rfl (fun _ => .rfl) hl hf rfl nofun
      · rename_i o _ hc
        exact invB_move hB hth rfl rfl (fun _ => .rfl) hl
          (FullAt.skip hf fun _ => hA.fLive o ((Bool.not_eq_true _).mp hc)) rfl nofun
  case nxF k v o rest =>
    subst hs
    split <;> rename_i hc
    · exact invB_move hB hth rfl rfl (fun _ => .rfl) hl (FullAt.hold hf hc) rfl nofun
    · exact invB_move hB hth rfl rfl (fun _ => .rfl) hl (FullAt.skip hf fun _ => (Bool.not_eq_true _).mp hc) rfl nofun
  case r0 k v =>
    -- the push: `t` is inside `next`, so (quiet) no thread holds a cloned history that would now miss the item
    subst hs
    refine ⟨hB.loc_setAt hl, fun o =>
      setAt_ind (P := fun t' th => Full (progItems progs t') (s.obs o) t' (pos th o)) (hf o) fun j _ => hB.full o j,
      fun ts o h => setAt_ind (P := fun ts (th : Thread) => histRem th.pc = some (o, h) → _) nofun
        (fun j _ hh => (hq j t (inSub_of_histRem hh) (by rw [hth]; rfl)).elim) ts,
      setAt_ind (P := fun t' th => Asc (progItems progs t') 0 (proj t' (s.items ++ [(t, k, v)])) ∧
        (proj t' (s.items ++ [(t, k, v)])).length = pushed th) ?_ fun j hj => ?_⟩
    · obtain ⟨ha, hlen⟩ := hth ▸ hB.items t
      rw [show proj t (s.items ++ [(t, k, v)]) = proj t s.items ++ [(0 + (proj t s.items).length, v)] by
        rw [proj_append, proj_cons_self, Nat.zero_add, hlen]; rfl]
      exact ⟨Asc.append ha (by rw [Nat.zero_add, hlen]; exact hl.2.2.2),
        by rw [List.length_append, hlen]; exact hl.2.2.1.symm⟩
    · rw [show proj j (s.items ++ [(t, k, v)]) = proj j s.items by
        rw [proj_append, proj_cons_ne (Ne.symm hj)]; exact List.append_nil _]
      exact hB.items j
  case nxD k v o rest =>
    subst hs
    refine ⟨hB.loc_setAt hl, ?_,
      fun ts o h => setAt_ind (P := fun ts (th : Thread) => histRem th.pc = some (o, h) → _) nofun
        (fun j _ hh => (hq j t (inSub_of_histRem hh) (by rw [hth]; rfl)).elim) ts,
      hB.items_setAt hth rfl⟩
    refine setAt_ind (P := fun o' ob => ∀ t', Full (progItems progs t') ob t' (pos (setAt s.threads t _ t') o'))
      (setAt_ind (P := fun t' th => Full (progItems progs t') _ t' (pos th o)) ?_ fun j hj => ?_)
      fun o' ho' => setAt_ind (P := fun t' th => Full (progItems progs t') (s.obs o') t' (pos th o')) ?_ fun j _ =>
        hB.full o' j
    · have := hf o
      simp only [pos, if_true] at this
      show FullAt _ _ (proj t ((t, k, v) :: (s.obs o).rlog)) _ _ (pend k rest o)
      rw [proj_cons_self, pend_of_not_mem (List.nodup_cons.mp hlA.1).1]
      exact this.deliver hl.2.2.2
    · show FullAt _ _ (proj j ((t, k, v) :: (s.obs o).rlog)) _ _ _
      rw [proj_cons_ne (Ne.symm hj)]
      exact hB.full o j
    · have := hf o'
      simp only [pos, ho', if_false] at this ⊢
      exact this
  case s2 o =>
    -- the history is cloned while the log of `o` is still empty
    subst hs
    refine invB_move hB hth rfl rfl (fun _ => .rfl) hl hf rfl fun o' h hr _ => .inr fun t' => ?_
    cases hr
    rw [Classical.byContradiction fun hne => Bool.noConfusion (hlA.2.1.symm.trans (hA.logIns o hne))]
    rfl
  case s8d o x h =>
    -- `x` moves from the history still to replay to the log of `o`; no other thread replays to `o`
    subst hs
    refine ⟨hB.loc_setAt hl, ?_, fun ts o' h' => ?_, hB.items_setAt hth rfl⟩
    · intro o' t'
      show Full _ _ _ (pos (setAt s.threads t ⟨todo, .s8 o h, cnt⟩ t') o')
      rw [setAt_congr (a := ⟨todo, .s8 o h, cnt⟩) (pos · _) (hth ▸ rfl)]
      refine setAt_ind (P := fun o' ob => Full (progItems progs t') ob t' (pos (s.threads t') o')) ?_
        (fun j _ => hB.full j t') o'
      exact .of_not_sd hlA.2.2
    · refine setAt_ind (P := fun ts (th : Thread) => histRem th.pc = some (o', h') → _) (fun hr => ?_)
        (fun j hj hr => ?_) ts
      · cases hr
        show (setAt s.obs o _ o).fnNext = true → ∀ t', (proj t' (setAt s.obs o _ o).rlog).reverse ++ _ = _
        rw [setAt_same]
        intro hfn t'
        rw [← hB.hist t o (x :: h) (by rw [hth]; rfl) hfn t', proj_cons, proj_cons]
        split
        · rw [List.reverse_cons, List.append_assoc]; rfl
        · rfl
      · have ho : o' ≠ o := fun e => hj (Option.some.inj
          ((used_of_histRem (hA.loc j) hr).symm.trans (e ▸ hlA.1)))
        show (setAt s.obs o _ o').fnNext = true → ∀ t', (proj t' (setAt s.obs o _ o').rlog).reverse ++ _ = _
        rw [setAt_ne _ _ ho]
        exact hB.hist j o' h' hr
  case s9 o =>
    -- the subscription is installed: nobody is inside `next` (quiet) and the history is used up, so the log of `o` is
    -- `items`
    subst hs
    have hnn : ∀ t', (s.threads t').pc.inNext = false := fun t' =>
      (Bool.not_eq_true _).mp fun h => hq t t' (by rw [hth]; rfl) h
    refine ⟨hB.loc_setAt hl, fun o' t' => ?_, fun ts o' h' => ?_, hB.items_setAt hth rfl⟩
    · show Full _ _ _ (pos (setAt s.threads t ⟨todo, .s10 o, cnt⟩ t') o')
      rw [setAt_congr (a := ⟨todo, .s10 o, cnt⟩) (pos · _) (hth ▸ rfl)]
      refine setAt_ind (P := fun o' ob => Full (progItems progs t') ob t' (pos (s.threads t') o'))
        (fun _ hx => ?_) (fun j _ => hB.full j t') o'
      have hfn := hx.resolve_left (by rw [(pos_of_not_inNext (hnn t') o).1]; exact Bool.noConfusion)
      have hh := hB.hist t o [] (by rw [hth]; rfl) hfn t'
      rw [proj_nil, List.append_nil] at hh
      obtain ⟨ha, hlen⟩ := hB.items t'
      refine ⟨hh ▸ ha, ?_⟩
      show 0 + (proj t' (s.obs o).rlog).length = _
      rw [(pos_of_not_inNext (hnn t') o).1, ← (pos_of_not_inNext (hnn t') o).2, ← hlen, ← hh, List.length_reverse,
        Nat.zero_add]
    · refine setAt_ind (P := fun ts (th : Thread) => histRem th.pc = some (o', h') → _) nofun (fun j _ hr => ?_) ts
      have := setAt_rel (R := fun ob ob' : Obs => ob'.rlog = ob.rlog ∧ ob'.fnNext = ob.fnNext) (f := s.obs) (o := o)
        (a := { s.obs o with sbsc := true, subDone := true }) (fun _ => ⟨rfl, rfl⟩) ⟨rfl, rfl⟩ o'
      show (setAt s.obs o _ o').fnNext = true → ∀ t', (proj t' (setAt s.obs o _ o').rlog).reverse ++ _ = _
      rw [this.1, this.2]
      exact hB.hist j o' h' hr

theorem quiet_init (progs : List (List Call)) : (init progs).quiet := by
  intro t t' h; simp [init, Pc.inSub] at h

theorem ReachableQ.quiet {progs : List (List Call)} {s : State} (h : ReachableQ progs s) : s.quiet := by
  cases h with
  | init => exact quiet_init progs
  | step _ _ hq => exact hq

theorem invB_reachableQ {progs : List (List Call)} {s : State} (h : ReachableQ progs s) : InvB progs s := by
  induction h with
  | init => exact invB_init progs
  | step hr hs _ ih =>
    exact invB_step hr.quiet (invA_reachable hr.reachable) ih (stepT_of_step hs)

end Rx.Conc.Replay
