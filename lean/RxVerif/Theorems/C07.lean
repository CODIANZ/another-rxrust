/-
C07 — ranked lock acquisition never deadlocks (model: `RxVerif/Conc/LockOrder.lean`), under the plain and under the
writer-preferring admission policy; unranked programs that do deadlock; the trace checker `checkTrace` accepts exactly
the traces whose per-thread prefixes are rank-consistent, among them every run of a ranked system; `rw_exclusion`.
-/
import RxVerif.Conc.LockOrder

namespace Rx.C07
open Rx.LockOrder

theorem map_fst_eraseP (h : List (Nat × Bool)) (l : Nat) :
    (h.eraseP (fun x => x.1 == l)).map Prod.fst = (h.map Prod.fst).erase l := by
  induction h with
  | nil => rfl
  | cons a t ih =>
    by_cases e : a.1 = l
    · simp [e]
    · simp [e, ih]

theorem rankedFrom_append (rank : Nat → Nat) (h : List Nat) (p q : List Op) :
    rankedFrom rank h (p ++ q) = (rankedPrefixFrom rank h p && rankedFrom rank (finalHeld h p) q) := by
  fun_induction rankedPrefixFrom rank h p <;> simp_all [rankedFrom, finalHeld, Bool.and_assoc]

theorem ranked_prefix {rank : Nat → Nat} {p q : List Op} (h : Ranked rank (p ++ q)) :
    RankedPrefix rank p := by
  unfold Ranked at h
  rw [rankedFrom_append] at h
  simp only [Bool.and_eq_true] at h
  exact h.1

theorem rankedFrom_releases (rank : Nat → Nat) (h : List Nat) :
    rankedFrom rank h (h.map Op.rel) = true := by
  induction h with
  | nil => rfl
  | cons a t ih => simpa [rankedFrom] using ih

/-- conversely every rank-consistent prefix can be completed to a ranked program (release what is held),
    so `RankedPrefix` is exactly "prefix of some ranked program" -/
theorem rankedPrefix_completion {rank : Nat → Nat} {p : List Op} (h : RankedPrefix rank p) :
    Ranked rank (p ++ (finalHeld [] p).map Op.rel) := by
  unfold Ranked
  rw [rankedFrom_append, rankedFrom_releases]
  simpa [RankedPrefix] using h

/-- every thread's remaining program is ranked from the locks it holds now -/
def Inv (rank : Nat → Nat) (st : State) : Prop :=
  ∀ th ∈ st, rankedFrom rank (th.held.map Prod.fst) th.rest = true

theorem inv_init {rank : Nat → Nat} {progs : List (List Op)} (h : ∀ p ∈ progs, Ranked rank p) :
    Inv rank (init progs) := by
  intro th hth
  simp only [init, List.mem_map] at hth
  obtain ⟨p, hp, rfl⟩ := hth
  exact h p hp

/-- a ranked program is balanced: a thread at the end of its program holds nothing -/
theorem Inv.held_nil {rank : Nat → Nat} {st : State} (hi : Inv rank st) {th : Thread} (hth : th ∈ st)
    (hf : th.rest = []) : th.held = [] := by
  have := hi th hth
  rw [hf] at this
  cases hh : th.held with
  | nil => rfl
  | cons a t => simp [hh, rankedFrom] at this

theorem stepG_some {wp : Bool} {st st' : State} {t : Label} (h : stepG wp st t = some st') :
    ∃ th op rest, st[t]? = some th ∧ th.rest = op :: rest ∧ opEnabled wp st op = true ∧
      st' = st.set t ⟨rest, heldAfter th.held op⟩ := by
  unfold stepG at h
  split at h
  · cases h
  · rename_i th hth
    split at h
    · cases h
    · rename_i op rest hr
      split at h
      · rename_i hen
        cases h
        exact ⟨th, op, rest, hth, hr, hen, rfl⟩
      · cases h

theorem rankedFrom_heldAfter {rank : Nat → Nat} {held : List (Nat × Bool)} {op : Op} {rest : List Op}
    (h : rankedFrom rank (held.map Prod.fst) (op :: rest) = true) :
    rankedFrom rank ((heldAfter held op).map Prod.fst) rest = true := by
  cases op <;> simp_all [rankedFrom, heldAfter, map_fst_eraseP]

theorem inv_step {rank : Nat → Nat} {wp : Bool} {st st' : State} {t : Label}
    (hi : Inv rank st) (h : stepG wp st t = some st') : Inv rank st' := by
  obtain ⟨th, op, rest, hth, hr, -, rfl⟩ := stepG_some h
  intro u hu
  rcases List.mem_or_eq_of_mem_set hu with hu | rfl
  · exact hi u hu
  · have := hi th (List.mem_of_getElem? hth)
    rw [hr] at this
    exact rankedFrom_heldAfter this

theorem inv_reachable {rank : Nat → Nat} {wp : Bool} {progs : List (List Op)} {st : State}
    (h : ∀ p ∈ progs, Ranked rank p) (hr : ReachableG wp progs st) : Inv rank st := by
  induction hr with
  | init => exact inv_init h
  | step _ hs ih => exact inv_step ih hs

theorem holds_of_holdsW {th : Thread} {l : Nat} (h : th.holdsW l = true) : th.holds l = true := by
  simp only [Thread.holdsW, Thread.holds, List.any_eq_true, Bool.and_eq_true] at *
  obtain ⟨x, hx, hl, -⟩ := h
  exact ⟨x, hx, hl⟩

theorem waitsW_rest {th : Thread} {l : Nat} (h : th.waitsW l = true) :
    ∃ rest, th.rest = Op.acq l true :: rest := by
  unfold Thread.waitsW at h
  split at h
  · rename_i l' rest hr
    exact ⟨rest, by simp_all⟩
  · cases h

/-- in a deadlocked state the next operation of every thread is disabled -/
theorem refused_of_deadlocked {wp : Bool} {st : State} (hd : DeadlockedG wp st) {th : Thread} (hth : th ∈ st)
    {op : Op} {rest : List Op} (hr : th.rest = op :: rest) : opEnabled wp st op = false := by
  obtain ⟨i, hi⟩ := List.getElem?_of_mem hth
  simpa [stepG, hi, hr] using hd.2 i

theorem waits_of_deadlocked {wp : Bool} {st : State} (hd : DeadlockedG wp st) {th : Thread}
    (hth : th ∈ st) (hne : th.rest ≠ []) : ∃ l w rest, th.rest = Op.acq l w :: rest := by
  cases hr : th.rest with
  | nil => exact absurd hr hne
  | cons op rest =>
    have := refused_of_deadlocked hd hth hr
    cases op with
    | acq l w => exact ⟨l, w, rest, rfl⟩
    | rel l => cases this
    | work => cases this

theorem holder_of_not_canAcq {st : State} {l : Nat} {w : Bool} (h : canAcq st l w = false) :
    ∃ u ∈ st, u.holds l = true := by
  simp only [canAcq, List.all_eq_false] at h
  obtain ⟨u, hu, hc⟩ := h
  refine ⟨u, hu, ?_⟩
  cases w with
  | true => simpa using hc
  | false => exact holds_of_holdsW (by simpa using hc)

/-- in a deadlocked state a refused acquisition of `l` means that somebody holds `l`
    (with writer preference: the reader is refused because of a parked writer, which in turn is refused
    because of a holder) -/
theorem holder_of_refused {wp : Bool} {st : State} (hd : DeadlockedG wp st) {l : Nat} {w : Bool}
    (h : grant wp st l w = false) : ∃ u ∈ st, u.holds l = true := by
  cases hc : canAcq st l w with
  | false => exact holder_of_not_canAcq hc
  | true =>
    have : ¬ ((!wp || w || !st.any (fun u => u.waitsW l)) = true) := by
      intro h'
      simp [grant, hc, h'] at h
    simp only [Bool.or_eq_true, Bool.not_eq_true', not_or, Bool.not_eq_false,
      List.any_eq_true] at this
    obtain ⟨-, v, hv, hw⟩ := this
    obtain ⟨rest, hr⟩ := waitsW_rest hw
    have : canAcq st l true = false := by simpa [opEnabled, grant] using refused_of_deadlocked hd hv hr
    exact holder_of_not_canAcq this

/-- from a thread blocked on `l` we find a thread blocked on a lock of strictly greater rank -/
theorem climb {rank : Nat → Nat} {wp : Bool} {st : State} (hi : Inv rank st) (hd : DeadlockedG wp st)
    {th : Thread} (hth : th ∈ st) {l : Nat} {w : Bool} {r : List Op} (hr : th.rest = Op.acq l w :: r) :
    ∃ th' ∈ st, ∃ l' w' r', th'.rest = Op.acq l' w' :: r' ∧ rank l < rank l' := by
  obtain ⟨u, hu, hh⟩ := holder_of_refused hd (refused_of_deadlocked hd hth hr)
  have hiu := hi u hu
  simp only [Thread.holds, List.any_eq_true, beq_iff_eq] at hh
  obtain ⟨x, hx, rfl⟩ := hh
  obtain ⟨l', w', r', hr'⟩ := waits_of_deadlocked hd hu fun he => by rw [hi.held_nil hu he] at hx; cases hx
  refine ⟨u, hu, l', w', r', hr', ?_⟩
  rw [hr'] at hiu
  simp only [rankedFrom, Bool.and_eq_true, List.all_eq_true, decide_eq_true_eq] at hiu
  exact hiu.1 x.1 (List.mem_map.2 ⟨x, hx, rfl⟩)

/-- rank of the lock a thread stands in front of -/
def waitRank (rank : Nat → Nat) (th : Thread) : Nat :=
  match th.rest with
  | .acq l _ :: _ => rank l
  | _ => 0

def bound (rank : Nat → Nat) : State → Nat
  | [] => 0
  | th :: st => max (waitRank rank th) (bound rank st)

theorem le_bound (rank : Nat → Nat) {st : State} {th : Thread} (h : th ∈ st) :
    waitRank rank th ≤ bound rank st := by
  induction st with
  | nil => cases h
  | cons a t ih =>
    rcases List.mem_cons.1 h with rfl | h
    · simp only [bound]; omega
    · have := ih h
      simp only [bound]; omega

/-- the core: a state satisfying the invariant is not deadlocked, under either admission policy -/
theorem inv_not_deadlocked {rank : Nat → Nat} {wp : Bool} {st : State} (hi : Inv rank st) :
    ¬ DeadlockedG wp st := by
  intro hd
  have key : ∀ n : Nat, ∃ th ∈ st, ∃ l w r, th.rest = Op.acq l w :: r ∧ n ≤ rank l := by
    intro n
    induction n with
    | zero =>
      obtain ⟨th, hth, hne⟩ := hd.1
      obtain ⟨l, w, r, hr⟩ := waits_of_deadlocked hd hth hne
      exact ⟨th, hth, l, w, r, hr, Nat.zero_le _⟩
    | succ n ih =>
      obtain ⟨th, hth, l, w, r, hr, hn⟩ := ih
      obtain ⟨th', hth', l', w', r', hr', hlt⟩ := climb hi hd hth hr
      exact ⟨th', hth', l', w', r', hr', by omega⟩
  obtain ⟨th, hth, l, w, r, hr, hn⟩ := key (bound rank st + 1)
  have := le_bound rank hth
  simp only [waitRank, hr] at this
  omega

/-- Any number of threads, any number of locks: if every thread program is ranked, no
    reachable state is deadlocked. -/
theorem ranked_no_deadlock {rank : Nat → Nat} {progs : List (List Op)} {st : State}
    (h : ∀ p ∈ progs, Ranked rank p) (hr : Reachable progs st) : ¬ Deadlocked st :=
  inv_not_deadlocked (inv_reachable h hr)

/-- the same in the `prog : thread → program` presentation with `n` threads -/
theorem ranked_no_deadlock_fn {rank : Nat → Nat} {n : Nat} {prog : Nat → List Op} {st : State}
    (h : ∀ t, Ranked rank (prog t)) (hr : Reachable ((List.range n).map prog) st) : ¬ Deadlocked st := by
  refine ranked_no_deadlock (rank := rank) ?_ hr
  intro p hp
  obtain ⟨t, -, rfl⟩ := List.mem_map.1 hp
  exact h t

theorem stepWP_step {st st' : State} {t : Label} (h : stepWP st t = some st') : step st t = some st' := by
  obtain ⟨th, op, rest, hth, hr, hen, rfl⟩ := stepG_some h
  have : opEnabled false st op = true := by
    cases op <;> simp_all [opEnabled, grant]
  simp [step, stepG, hth, hr, this]

theorem reachableWP_reachable {progs : List (List Op)} {st : State} (h : ReachableWP progs st) :
    Reachable progs st := by
  induction h with
  | init => exact .init
  | step _ hs ih => exact .step ih (stepWP_step hs)

theorem deadlocked_deadlockedWP {st : State} (h : Deadlocked st) : DeadlockedWP st := by
  refine ⟨h.1, fun t => ?_⟩
  cases hs : stepG true st t with
  | none => rfl
  | some st' => have := stepWP_step hs; simp [step, h.2 t] at this

/-- strongest form: in every state reachable under the *plain* policy (a superset of what a
    writer-preferring lock can reach) not even the *writer-preferring* notion of "nobody can move" holds.
    It implies `ranked_no_deadlock` (by `deadlocked_deadlockedWP`) and `ranked_no_deadlock_wp` (by
    `reachableWP_reachable`). -/
theorem ranked_no_deadlock_strong {rank : Nat → Nat} {progs : List (List Op)} {st : State}
    (h : ∀ p ∈ progs, Ranked rank p) (hr : Reachable progs st) : ¬ DeadlockedWP st :=
  inv_not_deadlocked (inv_reachable h hr)

theorem ranked_no_deadlock_wp {rank : Nat → Nat} {progs : List (List Op)} {st : State}
    (h : ∀ p ∈ progs, Ranked rank p) (hr : ReachableWP progs st) : ¬ DeadlockedWP st :=
  inv_not_deadlocked (inv_reachable h hr)

/-- progress: in a reachable state of a ranked system in which some thread is unfinished, some step is
    enabled (even under writer preference) -/
theorem ranked_progress_wp {rank : Nat → Nat} {progs : List (List Op)} {st : State}
    (h : ∀ p ∈ progs, Ranked rank p) (hr : Reachable progs st) (hu : Unfinished st) :
    ∃ t st', stepWP st t = some st' := by
  apply Classical.byContradiction
  intro hn
  refine ranked_no_deadlock_strong h hr ⟨hu, fun t => ?_⟩
  cases hs : stepG true st t with
  | none => rfl
  | some st' => exact absurd ⟨t, st', hs⟩ hn

theorem ranked_progress {rank : Nat → Nat} {progs : List (List Op)} {st : State}
    (h : ∀ p ∈ progs, Ranked rank p) (hr : Reachable progs st) (hu : Unfinished st) :
    ∃ t st', step st t = some st' := by
  obtain ⟨t, st', hs⟩ := ranked_progress_wp h hr hu
  exact ⟨t, st', stepWP_step hs⟩

/-- finished threads of a ranked system hold nothing: when all threads are finished all locks are free -/
theorem ranked_finished_holds_nothing {rank : Nat → Nat} {progs : List (List Op)} {st : State}
    (h : ∀ p ∈ progs, Ranked rank p) (hr : Reachable progs st) {th : Thread} (hth : th ∈ st)
    (hf : th.rest = []) : th.held = [] :=
  (inv_reachable h hr).held_nil hth hf

theorem replayG_reachable {wp : Bool} {progs : List (List Op)} {ls : List Label} {st st' : State}
    (hr : ReachableG wp progs st) (h : replayG wp st ls = some st') : ReachableG wp progs st' := by
  induction ls generalizing st with
  | nil => simp only [replayG, Option.some.injEq] at h; exact h ▸ hr
  | cons t ts ih =>
    simp only [replayG] at h
    split at h
    · cases h
    · rename_i st1 hs
      exact ih (.step hr hs) h

theorem replay_reachable {progs : List (List Op)} {ls : List Label} {st : State}
    (h : replay progs ls = some st) : Reachable progs st :=
  replayG_reachable .init h

theorem deadlockedB_sound {wp : Bool} {st : State} (h : deadlockedB wp st = true) : DeadlockedG wp st := by
  simp only [deadlockedB, Bool.and_eq_true, List.any_eq_true, List.all_eq_true, List.mem_range,
    Bool.not_eq_true', List.isEmpty_eq_false_iff, Option.isNone_iff_eq_none] at h
  refine ⟨h.1, fun t => ?_⟩
  by_cases ht : t < st.length
  · exact h.2 t ht
  · have : st[t]? = none := List.getElem?_eq_none (Nat.le_of_not_lt ht)
    simp [stepG, this]

/-- a single thread that takes `l` for writing and then again for reading blocks on itself -/
def selfProg : List Op := [.acq 0 true, .acq 0 false, .rel 0, .rel 0]

theorem self_reacquire_blocks :
    (∀ rank, ¬ Ranked rank selfProg) ∧
    ∃ st, Reachable [selfProg] st ∧ ReachableWP [selfProg] st ∧ Deadlocked st ∧ DeadlockedWP st := by
  refine ⟨fun rank => by simp [selfProg, Ranked, rankedFrom], ?_⟩
  refine ⟨[⟨[.acq 0 false, .rel 0, .rel 0], [(0, true)]⟩], ?_, ?_, ?_, ?_⟩
  · exact replay_reachable (ls := [0]) (by decide +kernel)
  · exact replayG_reachable (ls := [0]) .init (by decide +kernel)
  · exact deadlockedB_sound (by decide +kernel)
  · exact deadlockedB_sound (by decide +kernel)

/-- same for read-then-write (lock upgrade) -/
theorem self_upgrade_blocks :
    ∃ st, Reachable [[.acq 0 false, .acq 0 true, .rel 0, .rel 0]] st ∧ Deadlocked st :=
  ⟨[⟨[.acq 0 true, .rel 0, .rel 0], [(0, false)]⟩], replay_reachable (ls := [0]) (by decide +kernel),
    deadlockedB_sound (by decide +kernel)⟩

/-- the AB/BA cycle -/
def cycleProgs : List (List Op) :=
  [[.acq 0 true, .acq 1 true, .rel 1, .rel 0], [.acq 1 true, .acq 0 true, .rel 0, .rel 1]]

theorem two_thread_cycle :
    (∀ rank, ¬ ∀ p ∈ cycleProgs, Ranked rank p) ∧
    ∃ st, Reachable cycleProgs st ∧ ReachableWP cycleProgs st ∧ Deadlocked st ∧ DeadlockedWP st := by
  constructor
  · intro rank h
    have h0 := h _ (List.mem_cons_self)
    have h1 := h _ (List.mem_cons_of_mem _ List.mem_cons_self)
    simp [Ranked, rankedFrom] at h0 h1
    omega
  · refine ⟨[⟨[.acq 1 true, .rel 1, .rel 0], [(0, true)]⟩, ⟨[.acq 0 true, .rel 0, .rel 1], [(1, true)]⟩],
      ?_, ?_, ?_, ?_⟩
    · exact replay_reachable (ls := [0, 1]) (by decide +kernel)
    · exact replayG_reachable (ls := [0, 1]) .init (by decide +kernel)
    · exact deadlockedB_sound (by decide +kernel)
    · exact deadlockedB_sound (by decide +kernel)

/-- the cycle also arises with *read* locks on one side as long as the other side writes -/
theorem two_thread_cycle_rw :
    ∃ st, Reachable [[.acq 0 false, .acq 1 true, .rel 1, .rel 0], [.acq 1 false, .acq 0 true, .rel 0, .rel 1]] st
      ∧ Deadlocked st :=
  ⟨[⟨[.acq 1 true, .rel 1, .rel 0], [(0, false)]⟩, ⟨[.acq 0 true, .rel 0, .rel 1], [(1, false)]⟩],
    replay_reachable (ls := [0, 1]) (by decide +kernel), deadlockedB_sound (by decide +kernel)⟩

/-- re-entrant READ acquisition: harmless for the plain policy, a deadlock under writer preference
    (thread 0 holds `0` for reading and wants it again, thread 1 is parked on a write of `0`).
    The program of thread 0 is not ranked, so this does not contradict `ranked_no_deadlock_strong`. -/
def rereadProgs : List (List Op) :=
  [[.acq 0 false, .acq 0 false, .rel 0, .rel 0], [.work, .acq 0 true, .rel 0]]

theorem reentrant_read_deadlocks_under_writer_preference :
    ∃ st, ReachableWP rereadProgs st ∧ DeadlockedWP st ∧ ¬ Deadlocked st := by
  refine ⟨[⟨[.acq 0 false, .rel 0, .rel 0], [(0, false)]⟩, ⟨[.acq 0 true, .rel 0], []⟩], ?_, ?_, ?_⟩
  · exact replayG_reachable (ls := [0, 1]) .init (by decide +kernel)
  · exact deadlockedB_sound (by decide +kernel)
  · intro h
    have := h.2 0
    revert this
    decide +kernel

def goodProgs : List (List Op) :=
  [[.acq 0 true, .work, .acq 1 false, .rel 1, .rel 0], [.acq 0 false, .acq 1 true, .rel 0, .work, .rel 1]]

/-- hypotheses of `ranked_no_deadlock` / `ranked_progress` hold for `goodProgs`, rank = identity, in a
    state where thread 0 holds lock 0 for writing and thread 1 is blocked on it -/
example : (∀ p ∈ goodProgs, Ranked id p) ∧
    ∃ st, Reachable goodProgs st ∧ Unfinished st ∧ step st 1 = none ∧ (step st 0).isSome ∧ ¬ Deadlocked st := by
  have hr : ∀ p ∈ goodProgs, Ranked id p := by decide +kernel
  have hreach : Reachable goodProgs
      [⟨[.acq 1 false, .rel 1, .rel 0], [(0, true)]⟩, ⟨[.acq 0 false, .acq 1 true, .rel 0, .work, .rel 1], []⟩] :=
    replay_reachable (ls := [0, 0]) (by decide +kernel)
  exact ⟨hr, _, hreach, ⟨_, List.mem_cons_self, by simp⟩, by decide +kernel, by decide +kernel, ranked_no_deadlock hr hreach⟩

/-- `ranked_no_deadlock_fn`: three threads given as a function -/
example : ∀ st, Reachable ((List.range 3).map fun t => [Op.acq t true, .acq (t + 1) false, .rel t, .rel (t + 1)]) st →
    ¬ Deadlocked st := by
  intro st h
  refine ranked_no_deadlock_fn (rank := id) (fun t => ?_) h
  simp [Ranked, rankedFrom]

/-- the ranked system can run to completion: all threads finished, all locks free -/
example : ∃ st, Reachable goodProgs st ∧ ¬ Unfinished st ∧ ∀ th ∈ st, th.held = [] :=
  ⟨[⟨[], []⟩, ⟨[], []⟩], replay_reachable (ls := [0, 0, 0, 0, 0, 1, 1, 1, 1, 1]) (by decide +kernel), by
    simp [Unfinished], by simp⟩

theorem forall_nat_split (u : Nat) {Q : Nat → Prop} : (∀ t, Q t) ↔ Q u ∧ ∀ t, t ≠ u → Q t :=
  ⟨fun h => ⟨h u, fun t _ => h t⟩, fun h t => if e : t = u then e ▸ h.1 else h.2 t e⟩

/-- An event of thread `u` changes the held list and the projection of `u` only: on both sides the quantifier
    over threads is split into `u` and the others. -/
theorem checkFrom_iff (rank : Nat → Nat) (w : Bool) (held : Nat → List Nat) (es : List Event) :
    checkFrom rank held es = true ↔ ∀ t, rankedPrefixFrom rank (held t) (proj w t es) = true := by
  induction es generalizing held with
  | nil => simp [checkFrom, proj, rankedPrefixFrom]
  | cons e es ih =>
    obtain ⟨u, a, l⟩ := e
    rw [forall_nat_split u]
    cases a <;> simp only [checkFrom, Bool.and_eq_true, ih] <;> rw [forall_nat_split u] <;>
      simp +contextual [updHeld, proj, rankedPrefixFrom, and_assoc]

/-- soundness of the trace checker: if `checkTrace` accepts, the program prefix every thread has
    executed according to the trace is rank-consistent (`w`: the mode `proj` gives to every acquisition) -/
theorem checkTrace_sound {rank : Nat → Nat} {events : List (Nat × Bool × Nat)}
    (h : checkTrace rank events = true) : ∀ (w : Bool) (t : Nat), RankedPrefix rank (proj w t events) :=
  fun w => (checkFrom_iff rank w (fun _ => []) events).1 h

/-- and each such prefix extends to a fully `Ranked` program by releasing what is still held -/
theorem checkTrace_sound_ranked {rank : Nat → Nat} {events : List (Nat × Bool × Nat)}
    (h : checkTrace rank events = true) (w : Bool) (t : Nat) :
    Ranked rank (proj w t events ++ (finalHeld [] (proj w t events)).map Op.rel) :=
  rankedPrefix_completion (checkTrace_sound h w t)

/-- completeness: the checker rejects only traces in which some thread's prefix breaks the discipline -/
theorem checkTrace_complete {rank : Nat → Nat} {events : List (Nat × Bool × Nat)} (w : Bool)
    (h : ∀ t, RankedPrefix rank (proj w t events)) : checkTrace rank events = true :=
  (checkFrom_iff rank w (fun _ => []) events).2 h

/-- an accepted interleaved trace of two threads, and a rejected one (AB/BA) -/
example : checkTrace id [(0, true, 0), (1, true, 0), (0, true, 1), (0, false, 1), (1, true, 2), (0, false, 0),
    (1, false, 0), (1, false, 2)] = true := by decide +kernel
example : checkTrace id [(0, true, 0), (1, true, 1), (0, true, 1), (1, true, 0)] = false := by decide +kernel
example : proj true 1 [(0, true, 0), (1, true, 0), (0, true, 1), (1, false, 0)] = [.acq 0 true, .rel 0] := by decide +kernel

def heldOf (st : State) (t : Nat) : List Nat :=
  match st[t]? with
  | some th => th.held.map Prod.fst
  | none => []

theorem heldOf_set {st : State} {u : Nat} {th th' : Thread} (hth : st[u]? = some th) :
    heldOf (st.set u th') = updHeld (heldOf st) u (th'.held.map Prod.fst) := by
  funext t
  by_cases htu : t = u
  · subst htu; simp [heldOf, updHeld, List.getElem?_set_self (List.getElem?_eq_some_iff.1 hth).1]
  · simp [heldOf, updHeld, htu, List.getElem?_set_ne (Ne.symm htu)]

theorem updHeld_same (held : Nat → List Nat) (u : Nat) : updHeld held u (held u) = held := by
  funext t; unfold updHeld; split <;> simp_all

theorem run_trace_check {rank : Nat → Nat} (wp : Bool) (ls : List Label) {st : State} (hi : Inv rank st) :
    checkFrom rank (heldOf st) (traceOf wp st ls) = true := by
  induction ls generalizing st with
  | nil => rfl
  | cons u ls ih =>
    cases hs : stepG wp st u with
    | none => simp [traceOf, hs, checkFrom]
    | some st' =>
      have ih' := ih (inv_step hi hs)
      obtain ⟨th, op, rest, hth, hr, -, rfl⟩ := stepG_some hs
      have hiu := hi th (List.mem_of_getElem? hth)
      have hu : th.held.map Prod.fst = heldOf st u := by simp [heldOf, hth]
      rw [heldOf_set hth] at ih'
      rw [hr, hu] at hiu
      simp only [traceOf, hs, hth, hr]
      cases op with
      | work => simpa [eventOf, heldAfter, hu, updHeld_same] using ih'
      | acq l m =>
        simp only [rankedFrom, Bool.and_eq_true] at hiu
        simpa [eventOf, checkFrom, heldAfter, hu, hiu.1] using ih'
      | rel l => simpa [eventOf, checkFrom, heldAfter, map_fst_eraseP, hu] using ih'

theorem heldOf_init (progs : List (List Op)) : heldOf (init progs) = fun _ => [] := by
  funext t
  simp only [heldOf, init, List.getElem?_map]
  cases progs[t]? <;> rfl

/-- every run (complete or not) of a ranked system, under either policy, produces a trace that `checkTrace` accepts -/
theorem ranked_run_checkTrace {rank : Nat → Nat} {progs : List (List Op)} (h : ∀ p ∈ progs, Ranked rank p)
    (wp : Bool) (ls : List Label) : checkTrace rank (traceOf wp (init progs) ls) = true :=
  (congrArg (checkFrom rank · _) (heldOf_init progs)).symm.trans (run_trace_check wp ls (inv_init h))

/-- the trace of a run of `goodProgs` (thread 0 to its end, then two steps of thread 1), and the rejected trace of the
    AB/BA run -/
example : traceOf false (init goodProgs) [0, 0, 0, 0, 0, 1, 1] =
    [(0, true, 0), (0, true, 1), (0, false, 1), (0, false, 0), (1, true, 0), (1, true, 1)] := by decide +kernel
example : checkTrace id (traceOf false (init cycleProgs) [0, 0, 0, 0, 1, 1]) = false := by decide +kernel
/-- CAVEAT for whoever records traces: the model trace contains *granted* acquisitions only, so the run of
    `cycleProgs` that actually deadlocks is accepted (the two offending acquisitions never complete).
    A recorder that wants the checker to flag the deadlocking run itself must log the acquire event
    before calling `lock`/`read`/`write` (at the attempt), as in the second line. -/
example : checkTrace id (traceOf false (init cycleProgs) [0, 1]) = true := by decide +kernel
example : checkTrace id (traceOf false (init cycleProgs) [0, 1] ++ [(0, true, 1), (1, true, 0)]) = false := by decide +kernel

theorem mem_heldAfter {held : List (Nat × Bool)} {op : Op} {x : Nat × Bool} (h : x ∈ heldAfter held op) :
    x ∈ held ∨ op = Op.acq x.1 x.2 := by
  cases op with
  | acq l w =>
    simp only [heldAfter, List.mem_cons] at h
    rcases h with rfl | h
    · exact .inr rfl
    · exact .inl h
  | rel l => exact .inl (List.mem_of_mem_eraseP h)
  | work => exact .inl h

theorem holdsW_heldAfter {th : Thread} {rest : List Op} {op : Op} {l : Nat}
    (h : (⟨rest, heldAfter th.held op⟩ : Thread).holdsW l = true) : th.holdsW l = true ∨ op = .acq l true := by
  simp only [Thread.holdsW, List.any_eq_true, Bool.and_eq_true, beq_iff_eq] at h ⊢
  obtain ⟨x, hx, rfl, hw⟩ := h
  rcases mem_heldAfter hx with hx | rfl
  · exact .inl ⟨x, hx, rfl, hw⟩
  · exact .inr (hw ▸ rfl)

theorem holds_heldAfter {th : Thread} {rest : List Op} {op : Op} {l : Nat}
    (h : (⟨rest, heldAfter th.held op⟩ : Thread).holds l = true) : th.holds l = true ∨ ∃ w, op = .acq l w := by
  simp only [Thread.holds, List.any_eq_true, beq_iff_eq] at h ⊢
  obtain ⟨x, hx, rfl⟩ := h
  rcases mem_heldAfter hx with hx | rfl
  · exact .inl ⟨x, hx, rfl⟩
  · exact .inr ⟨_, rfl⟩

theorem canAcq_excl {st : State} {l : Nat} {w : Bool} (h : canAcq st l w = true) {v : Thread} (hv : v ∈ st) :
    v.holdsW l = false ∧ (w = true → v.holds l = false) := by
  have := List.all_eq_true.1 h v hv
  cases hW : v.holdsW l with
  | false => cases w <;> simp_all
  | true => cases w <;> simp_all [holds_of_holdsW hW]

/-- a write holder excludes every other thread: if thread `i` holds `l` for writing and thread `j` holds `l`
    in any mode then `i = j` — in every reachable state of every system under either policy -/
theorem rw_exclusion {wp : Bool} {progs : List (List Op)} {st : State} (hr : ReachableG wp progs st) :
    ∀ (i j : Nat) (u v : Thread) (l : Nat), st[i]? = some u → st[j]? = some v →
      u.holdsW l = true → v.holds l = true → i = j := by
  induction hr with
  | init =>
    intro i j u v l hu _ hw _
    have := List.mem_of_getElem? hu
    simp only [init, List.mem_map] at this
    obtain ⟨p, -, rfl⟩ := this
    cases hw
  | @step st st' t _ hs ih =>
    obtain ⟨th, op, rest, hth, -, hen, rfl⟩ := stepG_some hs
    have hlt : t < st.length := (List.getElem?_eq_some_iff.1 hth).1
    -- a lock newly taken by the stepping thread was granted, so it conflicts with nobody (`canAcq_excl`)
    have hgr : ∀ {l w}, op = .acq l w → ∀ v ∈ st, v.holdsW l = false ∧ (w = true → v.holds l = false) := by
      rintro l w rfl v hv
      simp only [opEnabled, grant, Bool.and_eq_true] at hen
      exact canAcq_excl hen.1 hv
    intro i j u v l hu hv hw hh
    by_cases hit : i = t <;> by_cases hjt : j = t
    · exact hit.trans hjt.symm
    · subst hit
      rw [List.getElem?_set_self hlt] at hu
      rw [List.getElem?_set_ne (Ne.symm hjt)] at hv
      cases hu
      rcases holdsW_heldAfter hw with hw | hop
      · exact ih i j th v l hth hv hw hh
      · have := (hgr hop v (List.mem_of_getElem? hv)).2 rfl
        simp [hh] at this
    · subst hjt
      rw [List.getElem?_set_ne (Ne.symm hit)] at hu
      rw [List.getElem?_set_self hlt] at hv
      cases hv
      rcases holds_heldAfter hh with hh | ⟨w, hop⟩
      · exact ih i j u th l hu hth hw hh
      · have := (hgr hop u (List.mem_of_getElem? hu)).1
        simp [hw] at this
    · rw [List.getElem?_set_ne (Ne.symm hit)] at hu
      rw [List.getElem?_set_ne (Ne.symm hjt)] at hv
      exact ih i j u v l hu hv hw hh

/-- many readers at once are possible (both threads hold lock 0 for reading), a writer is then refused -/
example : ∃ st, Reachable [[.acq 0 false, .rel 0], [.acq 0 false, .rel 0], [.acq 0 true, .rel 0]] st ∧
    (∀ th ∈ st.take 2, th.holds 0 = true) ∧ step st 2 = none ∧ (step st 0).isSome :=
  ⟨[⟨[.rel 0], [(0, false)]⟩, ⟨[.rel 0], [(0, false)]⟩, ⟨[.acq 0 true, .rel 0], []⟩],
    replay_reachable (ls := [0, 1]) (by decide +kernel), by decide +kernel, by decide +kernel, by decide +kernel⟩

#print axioms ranked_no_deadlock
#print axioms ranked_no_deadlock_fn
#print axioms ranked_no_deadlock_strong
#print axioms ranked_no_deadlock_wp
#print axioms ranked_progress
#print axioms ranked_progress_wp
#print axioms ranked_finished_holds_nothing
#print axioms self_reacquire_blocks
#print axioms self_upgrade_blocks
#print axioms two_thread_cycle
#print axioms two_thread_cycle_rw
#print axioms reentrant_read_deadlocks_under_writer_preference
#print axioms checkTrace_sound
#print axioms checkTrace_sound_ranked
#print axioms checkTrace_complete
#print axioms ranked_prefix
#print axioms rankedPrefix_completion
#print axioms ranked_run_checkTrace
#print axioms rw_exclusion

end Rx.C07
