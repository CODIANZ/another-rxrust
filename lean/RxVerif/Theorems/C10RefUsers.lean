import RxVerif.Theorems.C10RefBase
import RxVerif.Theorems.C10
import RxVerif.Machine.Subjects
/-
The users' side of a subject, once: the inner `Subject` `sj` (anywhere in the world), its subscribers, their root
observers, forwarders, `sbsc` cells and armed flags, described by the components of a `SubjM.State` (`UOk`: one
subscription; `UP`: the first `n`).
Open-world form: the relation owns only its own observers and cells (`Layout.J`, `Layout.K`), every lemma says what it
touched (`Touch` / `Edit`), guards may be held on closure slots (`SlotReads`), and where the Subject calls
`on_unsubscribe(len)` the lemma takes the continuation (`hookCall`; for `on_subscribe(len)` it is
`CRef.observable_pre` that does).  The relations of C10-REF (`Ref.RelC` and on it `RefA.RelA`, `RefR.RelR`,
`RefB.RelB`) and the users' sides of C13-REF's connectables are this relation at their layouts.
At the end, a ReplaySubject's own three cells beside `UP` (`RStore`) and its `next / error / complete` (`rsEmit`), for
C10's and C13's replay alike.
Namespaces: `Rx.RefU` the relation; `Rx.Ref`, `Rx.RefR` facts on records, logs and `World.deliverTo` that need no layout
(`Ref.deliverTo_eq` is the `setObs` / `emit` form, `CRef.deliverTo_eq` the record form).
-/
namespace Rx.Ref
open Rx.Sim Rx.SubjM

/-- the part of a `SubjM` record the plain refinement looks at -/
def View (r : ObsSt) : Bool × Bool × List Ev × Bool × Option Nat := (r.seen, r.alive, r.log, r.hook, r.inHook)

theorem View.eq {r r' : ObsSt} (h : View r' = View r) :
    r'.seen = r.seen ∧ r'.alive = r.alive ∧ r'.log = r.log ∧ r'.hook = r.hook ∧ r'.inHook = r.inHook := by
  simpa [View] using h

def evCall (sj : Subj) : Ev → Prog
  | .next v => sj.next v
  | .error e => sj.error e
  | .complete => sj.complete

theorem logOf_append_evs {w w' : World} {n : Nat} {evs : List Ev} (h : w'.trace = w.trace ++ evs.map (Rec.ev n))
    (u : Nat) : logOf w' u = logOf w u ++ if n = u then evs else [] := by
  simp only [logOf, h, List.filterMap_append, List.filterMap_map]
  congr 1
  split
  · next e => subst e; simp [Function.comp_def]
  · next e => simp [Function.comp_def, e]

def gate (t : Bool) : Obs → Obs := if t then Obs.cleared else id

theorem gate_setObs (w : World) (φ : Nat) (t : Bool) :
    (if t then w.setObs φ Obs.cleared else w) = w.setObs φ (gate t) := by
  cases t <;> simp [World.setObs, gate]

theorem deliverTo_eq (w : World) (ρ u : Nat) (ev : Ev) :
    w.deliverTo ρ u ev = (w.setObs ρ (gate ev.isTerminal)).emit (.ev u ev) := by
  unfold World.deliverTo; rw [← gate_setObs]; split <;> rfl

theorem logOf_deliverTo_same (w : World) (o s : Nat) (ev : Ev) :
    logOf (w.deliverTo o s ev) s = logOf w s ++ [ev] := by
  rw [deliverTo_eq, logOf_emit_same]; rfl

theorem logOf_deliverTo_other (w : World) (o s s' : Nat) (ev : Ev) (h : s ≠ s') :
    logOf (w.deliverTo o s ev) s' = logOf w s' := by
  rw [deliverTo_eq, logOf_emit_other _ _ _ _ h]; rfl

theorem recv_dead {r : ObsSt} (ev : Ev) (h : r.alive = false) : r.recv ev = r := by
  cases r; simp_all [ObsSt.recv]

end Rx.Ref

namespace Rx.RefR
open Rx.Ref

theorem users_modify_same {w : World} {u : Nat} {x : User} (g : User → User) (h : w.users[u]? = some x) :
    (w.setUser u g).users[u]? = some (g x) := modify_get_same _ _ h

theorem users_modify_other {w : World} {u i : Nat} (g : User → User) (h : i ≠ u) :
    (w.setUser u g).users[i]? = w.users[i]? := modify_get_other _ _ (fun e => h e.symm)

end Rx.RefR

namespace Rx.RefU
open Rx.Sim Rx.SubjM Rx.Ref Rx.RefR Rx.CRef

/-- `Touch` without the clause on `users`: `Subscription::unsubscribe` spends the user's handle -/
structure Edit (J K : Nat → Prop) (w w' : World) : Prop where
  status : w'.status = w.status
  held : w'.held = w.held
  slots : w'.slots = w.slots
  obsvs : w'.obsvs = w.obsvs
  usersLen : w'.users.length = w.users.length
  obsLen : w'.obs.length = w.obs.length
  obs : ∀ j, ¬ J j → w'.obs[j]? = w.obs[j]?
  cellsLen : w'.cells.length = w.cells.length
  cells : ∀ i, ¬ K i → w'.cells[i]? = w.cells[i]?
  probes : probesOf w' = probesOf w

theorem Edit.ofTouch {J K w w'} (t : Touch J K w w') : Edit J K w w' :=
  ⟨t.status, t.held, t.slots, t.obsvs, by rw [t.users], t.obsLen, t.obs, t.cellsLen, t.cells, t.probes⟩

theorem Edit.refl (J K : Nat → Prop) (w : World) : Edit J K w w := .ofTouch (Touch.refl J K w)

theorem Edit.trans {J K w1 w2 w3} (a : Edit J K w1 w2) (b : Edit J K w2 w3) : Edit J K w1 w3 :=
  ⟨b.status.trans a.status, b.held.trans a.held, b.slots.trans a.slots, b.obsvs.trans a.obsvs,
   b.usersLen.trans a.usersLen, b.obsLen.trans a.obsLen, fun j hj => (b.obs j hj).trans (a.obs j hj),
   b.cellsLen.trans a.cellsLen, fun i hi => (b.cells i hi).trans (a.cells i hi), b.probes.trans a.probes⟩

theorem Edit.mono {J J' K K' : Nat → Prop} {w w'} (a : Edit J K w w') (hJ : ∀ j, J j → J' j)
    (hK : ∀ i, K i → K' i) : Edit J' K' w w' :=
  { a with obs := fun j hj => a.obs j (fun x => hj (hJ j x)), cells := fun i hi => a.cells i (fun x => hi (hK i x)) }

theorem Edit.step {J K w w'} (t : Edit J K w w') : Step J K w w' :=
  ⟨t.status, t.slots, t.obsvs, Nat.le_of_eq t.obsLen.symm, fun j _ hJ => t.obs j hJ,
   Nat.le_of_eq t.cellsLen.symm, fun i _ hK => t.cells i hK⟩

/-- where the objects of subscription `u` live.  `dir`: the subscriber's own observer sits in the Subject's map (plain
    Subject, AsyncSubject); otherwise `reg u`: it owns a forwarder `fwd u` and an `sbsc` cell `sb u`, and `arm u`: `sbsc`
    has been stored, the armed flag of the live `Subscription` is the cell `ac u` -/
structure Layout where
  dir : Bool
  root : Nat → Nat
  reg : Nat → Prop
  arm : Nat → Prop
  fwd : Nat → Nat
  sb : Nat → Nat
  ac : Nat → Nat
  armReg : ∀ {u}, arm u → reg u

/-- the root observer of test subscriber `u` behind a forwarder; `c` = its `sbsc` cell
    (`s.set_on_unsubscribe(move || if let Some(sbsc) = &*sbsc.read().unwrap() { sbsc.unsubscribe() })`) -/
def ownObs (u c : Nat) (r : ObsSt) : Obs :=
  ⟨if r.alive then some (.user u) else none, if r.alive then some (.user u) else none,
   if r.alive then some (.user u) else none, if r.hook then some (.cellRead c false fun h => subUnsub h) else none⟩

/-- the `Subscription` handle stored in `sbsc` -/
def hdl (φ a : Nat) : Data := .pair (.int (φ : Int)) (.int (a : Int))

/-- the forwarder `subject.observable().subscribe(next, error, complete)` builds for the root observer `ρ` -/
def fwdObs (sj : Subj) (ρ : Nat) (r : ObsSt) : Obs :=
  ⟨if r.inAlive then some (.code fun x => .obsNext ρ x .done) else none,
   if r.inAlive then some (.code fun e => .obsError ρ e .done) else none,
   if r.inAlive then some (.code (.obsComplete ρ .done)) else none,
   r.inHook.map fun s => hookProg sj (s : Int)⟩

def Layout.rootObs (Λ : Layout) (sj : Subj) (u : Nat) (r : ObsSt) : Obs :=
  bif Λ.dir then obsOf sj u r else ownObs u (Λ.sb u) r

/-- the observer that stands for `u` in the Subject's map -/
def Layout.inMap (Λ : Layout) (u : Nat) : Nat := bif Λ.dir then Λ.root u else Λ.fwd u

def Layout.map (Λ : Layout) (l : List (Nat × Nat)) : List (Nat × Nat) := l.map fun p => (p.1, Λ.inMap p.2)

/-- the observers and the cells of the first `n` subscriptions -/
def Layout.J (Λ : Layout) (n : Nat) (j : Nat) : Prop := ∃ u, u < n ∧ (j = Λ.root u ∨ (Λ.reg u ∧ j = Λ.fwd u))
def Layout.K (Λ : Layout) (sj : Subj) (n : Nat) (i : Nat) : Prop :=
  i = sj.observers ∨ i = sj.serial ∨ ∃ u, u < n ∧ ((Λ.reg u ∧ i = Λ.sb u) ∨ (Λ.arm u ∧ i = Λ.ac u))

/-- the objects of different subscriptions are different, and different from the Subject's two cells -/
structure Sep (sj : Subj) (Λ : Layout) (n : Nat) : Prop where
  ne : sj.observers ≠ sj.serial
  obs : ∀ {u u'}, u < n → u' < n → u ≠ u' →
    Λ.root u ≠ Λ.root u' ∧ (Λ.reg u' → Λ.root u ≠ Λ.fwd u') ∧ (Λ.reg u → Λ.reg u' → Λ.fwd u ≠ Λ.fwd u')
  cells : ∀ {u u'}, u < n → u' < n → u ≠ u' → Λ.reg u → Λ.arm u' → Λ.sb u ≠ Λ.ac u' ∧ (Λ.arm u → Λ.ac u ≠ Λ.ac u')
  sbs : ∀ {u u'}, u < n → u' < n → u ≠ u' → Λ.reg u → Λ.reg u' → Λ.sb u ≠ Λ.sb u'
  self : ∀ {u}, u < n → Λ.reg u → Λ.root u ≠ Λ.fwd u ∧ Λ.sb u ≠ sj.observers ∧
    (Λ.arm u → Λ.sb u ≠ Λ.ac u ∧ Λ.ac u ≠ sj.observers ∧ Λ.ac u ≠ sj.serial)
  sbS : ∀ {u}, u < n → Λ.reg u → Λ.sb u ≠ sj.serial
  dirNoReg : Λ.dir = true → ∀ u, ¬ Λ.reg u

/-- everything the world holds for subscription `u`, described by its `SubjM` record.
    `x` is a switch, not a fact about the world: at `x := True` the armed flag `a` of the subscriber's handle is pinned
    (unused exactly as long as the root observer has its teardown).  No lemma of this file uses the clause, they carry
    it: `RefR.RelR` states `a` exactly and gets it back through it (`RelR.mk'`); every other relation takes `False`.
    `pend`: the subscription whose `subscribe` has not returned -/
structure UOk (sj : Subj) (Λ : Layout) (x : Prop) (pend : Option Nat) (w : World) (u : Nat) (r : ObsSt) : Prop where
  user : ∃ rd a, w.users[u]? = some ⟨Λ.root u, noReact, rd, a⟩ ∧ (pend ≠ some u → rd = true) ∧
    (r.hook = true → a = true) ∧ (x → a = r.hook)
  root : w.obs[Λ.root u]? = some (Λ.rootObs sj u r)
  fwd : Λ.reg u → w.obs[Λ.fwd u]? = some (fwdObs sj (Λ.root u) r)
  stored : Λ.arm u → w.cells[Λ.sb u]? = some (hdl (Λ.fwd u) (Λ.ac u)) ∧ w.cells[Λ.ac u]? = some (.bool r.armed)
  unstored : Λ.reg u → ¬ Λ.arm u → w.cells[Λ.sb u]? = some .lnil ∧ r.armed = false
  unreg : ¬ Λ.reg u → bif Λ.dir then r.hook = r.inHook.isSome else r.hook = false
  log : logOf w u = r.log
  seen : r.seen = true
  dead : r.hook = false → r.alive = false

/-- World ↔ the components of a `SubjM.State`, for the first `n` subscriptions.  Nothing bounds the ids in `O`: of an
    entry `≥ n` the delivery lemmas ask (`hb`) that it points past the observer table, which each relation built on
    `UP` knows in its own way (`deliver1_absent`). -/
structure UP (sj : Subj) (Λ : Layout) (x : Prop) (n : Nat) (pend : Option Nat) (w : World) (O : List (Nat × Nat))
    (serial : Nat) (f : Nat → ObsSt) : Prop where
  cellO : w.cells[sj.observers]? = some (encMap (Λ.map O))
  cellS : w.cells[sj.serial]? = some (.int serial)
  nUsers : w.users.length = n
  users : ∀ u, u < n → UOk sj Λ x pend w u (f u)
  -- with `dir` the world holds nothing for `inAlive` / `armed` (no forwarder, no `sbsc`) and the relation speaks of
  -- the `View` only; behind a forwarder `recvK` of an absent entry reads `inAlive` (`deliver1_absent`)
  unseen : ∀ u, n ≤ u → bif Λ.dir then View (f u) = View {} else f u = {}
  quiet : ∀ u, n ≤ u → logOf w u = []
  keys : ∀ p ∈ O, p.1 ≤ serial
  regd : ∀ p ∈ O, Λ.dir = false → Λ.reg p.2

section
variable {sj : Subj} {Λ : Layout} {x : Prop} {n : Nat} {pend : Option Nat} {w : World} {O : List (Nat × Nat)} {s : Nat}
  {f : Nat → ObsSt}

theorem UP.unseen_view (h : UP sj Λ x n pend w O s f) {u : Nat} (hu : n ≤ u) : View (f u) = View {} := by
  have := h.unseen u hu
  cases hd : Λ.dir <;> simp only [hd, cond_true, cond_false] at this
  · rw [this]
  · exact this

theorem UP.unseen_seen (h : UP sj Λ x n pend w O s f) {u : Nat} (hu : n ≤ u) : (f u).seen = false :=
  (View.eq (h.unseen_view hu)).1

theorem map_filter (l : List (Nat × Nat)) (k : Nat) :
    (Λ.map l).filter (fun p => p.1 != k) = Λ.map (l.filter fun p => p.1 != k) := by
  simp only [Layout.map, List.filter_map]; rfl

theorem keys_map {l : List (Nat × Nat)} (h : ∀ p ∈ l, p.1 ≤ s) : ∀ p ∈ Λ.map l, p.1 ≤ s := by
  intro p hp
  obtain ⟨q, hq, rfl⟩ := List.mem_map.1 hp
  exact h q hq

/-- `Λ'` describes the subscriptions in `P` as `Λ` does -/
structure Ext (Λ Λ' : Layout) (P : Nat → Prop) : Prop where
  dir : Λ'.dir = Λ.dir
  root : ∀ u, P u → Λ'.root u = Λ.root u
  reg : ∀ u, P u → (Λ'.reg u ↔ Λ.reg u)
  arm : ∀ u, P u → (Λ'.arm u ↔ Λ.arm u)
  fwd : ∀ u, P u → Λ.reg u → Λ'.fwd u = Λ.fwd u
  sb : ∀ u, P u → Λ.reg u → Λ'.sb u = Λ.sb u
  ac : ∀ u, P u → Λ.arm u → Λ'.ac u = Λ.ac u

theorem Ext.refl (Λ : Layout) (P : Nat → Prop) : Ext Λ Λ P :=
  ⟨rfl, fun _ _ => rfl, fun _ _ => Iff.rfl, fun _ _ => Iff.rfl, fun _ _ _ => rfl, fun _ _ _ => rfl, fun _ _ _ => rfl⟩

/-- subscription `u` seen from another world, under another layout and another pending subscription, that agree
    with the old ones on what is `u`'s -/
theorem UOk.move {Λ' : Layout} {pend' : Option Nat} {w' : World} {u : Nat} {r : ObsSt} (U : UOk sj Λ x pend w u r)
    (hdir : Λ'.dir = Λ.dir) (hroot : Λ'.root u = Λ.root u) (hreg : Λ'.reg u ↔ Λ.reg u) (harm : Λ'.arm u ↔ Λ.arm u)
    (hfwd : Λ.reg u → Λ'.fwd u = Λ.fwd u) (hsb : Λ.reg u → Λ'.sb u = Λ.sb u) (hac : Λ.arm u → Λ'.ac u = Λ.ac u)
    (hp : pend = some u → pend' = some u)
    (huser : w'.users[u]? = w.users[u]?) (hor : w'.obs[Λ.root u]? = w.obs[Λ.root u]?)
    (hof : Λ.reg u → w'.obs[Λ.fwd u]? = w.obs[Λ.fwd u]?) (hcs : Λ.reg u → w'.cells[Λ.sb u]? = w.cells[Λ.sb u]?)
    (hca : Λ.arm u → w'.cells[Λ.ac u]? = w.cells[Λ.ac u]?) (hl : logOf w' u = logOf w u) :
    UOk sj Λ' x pend' w' u r :=
  { user := by
      obtain ⟨rd, a, h1, h2, h3⟩ := U.user
      exact ⟨rd, a, by rw [hroot, huser]; exact h1, fun e => h2 fun e' => e (hp e'), h3⟩
    root := by
      rw [hroot, hor, U.root]
      by_cases hr : Λ.reg u
      · simp [Layout.rootObs, hdir, hsb hr]
      · have := U.unreg hr
        cases hd : Λ.dir <;> simp [Layout.rootObs, hdir, hd] at this ⊢
        simp [ownObs, this]
    fwd := fun hr => by
      have hr := hreg.1 hr
      rw [hfwd hr, hroot, hof hr]; exact U.fwd hr
    stored := fun ha => by
      have ha := harm.1 ha
      rw [hsb (Λ.armReg ha), hfwd (Λ.armReg ha), hac ha, hcs (Λ.armReg ha), hca ha]; exact U.stored ha
    unstored := fun hr hna => by
      have hr := hreg.1 hr
      rw [hsb hr, hcs hr]; exact U.unstored hr fun ha => hna (harm.2 ha)
    unreg := fun hn => hdir ▸ U.unreg fun hr => hn (hreg.2 hr)
    log := hl ▸ U.log, seen := U.seen, dead := U.dead }

/-- a change confined to subscription `o` (user record, root observer, forwarder, `sbsc`, armed flag, log; its place
    in the layout) and to the Subject's map cell; cells may have been appended -/
theorem UP.patchL (S : Sep sj Λ n) (h : UP sj Λ x n pend w O s f) {o : Nat} (ho : o < n) {Λ' : Layout}
    (X : Ext Λ Λ' fun u => u < n ∧ u ≠ o) {w' : World} {r' : ObsSt} {O' : List (Nat × Nat)}
    (hcellO : w'.cells[sj.observers]? = some (encMap (Λ'.map O')))
    (hcells : ∀ i, i < w.cells.length → i ≠ sj.observers → ¬ (Λ.reg o ∧ i = Λ.sb o) → ¬ (Λ.arm o ∧ i = Λ.ac o) →
      w'.cells[i]? = w.cells[i]?)
    (hulen : w'.users.length = w.users.length) (husers : ∀ i, i ≠ o → w'.users[i]? = w.users[i]?)
    (hobs : ∀ i, i ≠ Λ.root o → (Λ.reg o → i ≠ Λ.fwd o) → w'.obs[i]? = w.obs[i]?)
    (hlogs : ∀ u, u ≠ o → logOf w' u = logOf w u)
    (hU : UOk sj Λ' x pend w' o r') (hkeys : ∀ p ∈ O', p.1 ≤ s) (hregd : ∀ p ∈ O', Λ'.dir = false → Λ'.reg p.2) :
    UP sj Λ' x n pend w' O' s (upd f o r') :=
  { cellO := hcellO
    cellS := (hcells _ (lt_of_getElem?_some h.cellS) (Ne.symm S.ne) (fun a => S.sbS ho a.1 a.2.symm)
      fun a => ((S.self ho (Λ.armReg a.1)).2.2 a.1).2.2 a.2.symm).trans h.cellS
    nUsers := hulen.trans h.nUsers
    users := fun u hu => by
      rw [upd_apply]; split
      · next e => exact e ▸ hU
      · next e =>
        have U := h.users u hu
        have A := S.obs hu ho e
        have B := S.obs ho hu (Ne.symm e)
        have P : u < n ∧ u ≠ o := ⟨hu, e⟩
        exact U.move X.dir (X.root u P) (X.reg u P) (X.arm u P) (X.fwd u P) (X.sb u P) (X.ac u P) id (husers u e)
          (hobs _ A.1 A.2.1) (fun hr => hobs _ (Ne.symm (B.2.1 hr)) (A.2.2 hr))
          (fun hr => hcells _ (by
              by_cases ha : Λ.arm u
              · exact lt_of_getElem?_some (U.stored ha).1
              · exact lt_of_getElem?_some (U.unstored hr ha).1)
            (S.self hu hr).2.1 (fun a => S.sbs hu ho e hr a.1 a.2) fun a => (S.cells hu ho e hr a.1).1 a.2)
          (fun ha => hcells _ (lt_of_getElem?_some (U.stored ha).2) ((S.self hu (Λ.armReg ha)).2.2 ha).2.1
            (fun a => (S.cells ho hu (Ne.symm e) a.1 ha).1 a.2.symm) fun a => (S.cells hu ho e (Λ.armReg ha) a.1).2 ha a.2)
          (hlogs u e)
    unseen := fun u hu => by rw [upd_other _ _ _ _ (by omega), X.dir]; exact h.unseen u hu
    quiet := fun u hu => by rw [hlogs u (by omega)]; exact h.quiet u hu
    keys := hkeys
    regd := hregd }

/-- the same within one layout and one table of cells -/
theorem UP.patch (S : Sep sj Λ n) (h : UP sj Λ x n pend w O s f) {o : Nat} (ho : o < n)
    {w' : World} {r' : ObsSt} {O' : List (Nat × Nat)}
    (hcellO : w'.cells[sj.observers]? = some (encMap (Λ.map O')))
    (hcells : ∀ i, i ≠ sj.observers → (Λ.arm o → i ≠ Λ.ac o) → w'.cells[i]? = w.cells[i]?)
    (hulen : w'.users.length = w.users.length) (husers : ∀ i, i ≠ o → w'.users[i]? = w.users[i]?)
    (hobs : ∀ i, i ≠ Λ.root o → (Λ.reg o → i ≠ Λ.fwd o) → w'.obs[i]? = w.obs[i]?)
    (hlogs : ∀ u, u ≠ o → logOf w' u = logOf w u)
    (hU : UOk sj Λ x pend w' o r') (hkeys : ∀ p ∈ O', p.1 ≤ s) (hregd : ∀ p ∈ O', Λ.dir = false → Λ.reg p.2) :
    UP sj Λ x n pend w' O' s (upd f o r') :=
  h.patchL S ho (Ext.refl ..) hcellO (fun i _ h1 _ h3 => hcells i h1 fun a e => h3 ⟨a, e⟩) hulen husers hobs hlogs hU
    hkeys hregd

/-- the relation looks only at its own observers and cells, the users and the logs -/
theorem UP.step {J K : Nat → Prop} {w' : World} (h : UP sj Λ x n pend w O s f) (t : Step J K w w')
    (hu : w'.users = w.users) (hl : ∀ u, logOf w' u = logOf w u) (hJ : ∀ j, Λ.J n j → ¬ J j)
    (hK : ∀ i, Λ.K sj n i → ¬ K i) : UP sj Λ x n pend w' O s f :=
  have cell : ∀ {i d}, w.cells[i]? = some d → Λ.K sj n i → w'.cells[i]? = some d := fun hd hk =>
    (t.cells _ (lt_of_getElem?_some hd) (hK _ hk)).trans hd
  have ob : ∀ {j d}, w.obs[j]? = some d → Λ.J n j → w'.obs[j]? = some d := fun hd hj =>
    (t.obs _ (lt_of_getElem?_some hd) (hJ _ hj)).trans hd
  { h with
    cellO := cell h.cellO (.inl rfl)
    cellS := cell h.cellS (.inr (.inl rfl))
    nUsers := hu ▸ h.nUsers
    users := fun u hlt =>
      have U := h.users u hlt
      { U with
        user := hu ▸ U.user
        root := ob U.root ⟨u, hlt, .inl rfl⟩
        fwd := fun hr => ob (U.fwd hr) ⟨u, hlt, .inr ⟨hr, rfl⟩⟩
        stored := fun ha =>
          ⟨cell (U.stored ha).1 (.inr (.inr ⟨u, hlt, .inl ⟨Λ.armReg ha, rfl⟩⟩)),
           cell (U.stored ha).2 (.inr (.inr ⟨u, hlt, .inr ⟨ha, rfl⟩⟩))⟩
        unstored := fun hr hna => ⟨cell (U.unstored hr hna).1 (.inr (.inr ⟨u, hlt, .inl ⟨hr, rfl⟩⟩)), (U.unstored hr hna).2⟩
        log := (hl u).trans U.log }
    quiet := fun u hu' => (hl u).trans (h.quiet u hu') }

theorem recvK_fwd {k : Kind} (hk : k.isPlain = false) (ev : Ev) (r : ObsSt) :
    recvK k ev r =
      { r with
        log := if r.inAlive && r.alive then r.log ++ [ev] else r.log
        alive := if r.inAlive then r.alive && !ev.isTerminal else r.alive
        inAlive := r.inAlive && !ev.isTerminal } := by
  cases k with
  | plain => cases hk
  | async => cases hk
  | behavior _ => rfl
  | replay => rfl

theorem recvK_fwd_dead {k : Kind} (hk : k.isPlain = false) (ev : Ev) {r : ObsSt} (h : r.inAlive = false) :
    recvK k ev r = r := by
  rw [recvK_fwd hk]; cases r; simp_all

theorem codeBody_fwd (ev : Ev) (ρ : Nat) :
    codeBody ev (fun x => .obsNext ρ x .done) (fun e => .obsError ρ e .done) (.obsComplete ρ .done) =
      evProg ev ρ .done := by
  cases ev <;> rfl

theorem recvK_dir {k : Kind} (hk : k.isPlain = true) (ev : Ev) (r : ObsSt) : recvK k ev r = r.recv ev := by
  cases k with
  | plain => rfl
  | async => rfl
  | behavior _ => cases hk
  | replay => cases hk

theorem rootObs_fwd (hd : Λ.dir = false) (u : Nat) (r : ObsSt) : Λ.rootObs sj u r = ownObs u (Λ.sb u) r := by
  simp [Layout.rootObs, hd]

theorem rootObs_next (u : Nat) (r : ObsSt) : (Λ.rootObs sj u r).next = if r.alive then some (.user u) else none := by
  cases hd : Λ.dir <;> simp [Layout.rootObs, hd, ownObs, obsOf]
theorem rootObs_error (u : Nat) (r : ObsSt) : (Λ.rootObs sj u r).error = if r.alive then some (.user u) else none := by
  cases hd : Λ.dir <;> simp [Layout.rootObs, hd, ownObs, obsOf]
theorem rootObs_complete (u : Nat) (r : ObsSt) :
    (Λ.rootObs sj u r).complete = if r.alive then some (.user u) else none := by
  cases hd : Λ.dir <;> simp [Layout.rootObs, hd, ownObs, obsOf]

/-- the root observer after it has recorded an event (its teardown stays) -/
theorem rootObs_recv (u : Nat) (r : ObsSt) (ev : Ev) (ha : r.alive = true) {r' : ObsSt}
    (h1 : r'.alive = !ev.isTerminal) (h2 : r'.hook = r.hook) (h3 : r'.inHook = r.inHook) :
    gate ev.isTerminal (Λ.rootObs sj u r) = Λ.rootObs sj u r' := by
  cases hd : Λ.dir <;> cases ht : ev.isTerminal <;>
    simp [Layout.rootObs, hd, ownObs, obsOf, gate, Obs.cleared, ha, h1, h2, h3, ht]

/-- subscriber `o`'s own observer records an event: `ObsSt.recv` on `alive` and `log` -/
theorem UOk.recvRoot {w1 : World} {o : Nat} {r r' : ObsSt} (U : UOk sj Λ x pend w1 o r) (ev : Ev) (ha : r.alive = true)
    (hr : Λ.root o ≠ Λ.fwd o ∨ ¬ Λ.reg o)
    (hfwd : Λ.reg o → w1.obs[Λ.fwd o]? = some (fwdObs sj (Λ.root o) r'))
    (h1 : r'.alive = !ev.isTerminal) (h2 : r'.hook = r.hook) (h3 : r'.inHook = r.inHook) (h4 : r'.armed = r.armed)
    (h5 : r'.log = r.log ++ [ev]) (h6 : r'.seen = r.seen) :
    UOk sj Λ x pend (w1.deliverTo (Λ.root o) o ev) o r' := by
  obtain ⟨rd, a, hua, hrd, hah, hex⟩ := U.user
  rw [Ref.deliverTo_eq]
  exact
    { user := ⟨rd, a, hua, hrd, h2 ▸ hah, h2 ▸ hex⟩
      root := by
        show ((w1.setObs _ _).obs)[_]? = _
        rw [getElem?_setObs_same _ U.root, rootObs_recv o r ev ha h1 h2 h3]
      fwd := fun hreg => by
        show ((w1.setObs _ _).obs)[_]? = _
        rw [getElem?_setObs_other _ (hr.resolve_right fun x => x hreg)]; exact hfwd hreg
      stored := fun harm => h4 ▸ U.stored harm
      unstored := fun hreg hna => h4 ▸ U.unstored hreg hna
      unreg := fun hn => by rw [h2, h3]; exact U.unreg hn
      log := by rw [logOf_emit_same]; show logOf w1 o ++ _ = _; rw [U.log, h5]
      seen := h6 ▸ U.seen
      dead := fun hh => by have := U.dead (h2 ▸ hh); simp [ha] at this }

theorem deliverTo_cells (w1 : World) (o u : Nat) (ev : Ev) : (w1.deliverTo o u ev).cells = w1.cells := by
  rw [CRef.deliverTo_eq]
theorem deliverTo_users (w1 : World) (o u : Nat) (ev : Ev) : (w1.deliverTo o u ev).users = w1.users := by
  rw [CRef.deliverTo_eq]

theorem touch_deliverTo_J {w1 : World} {o : Nat} (ho : o < n) (ev : Ev) :
    Touch (Λ.J n) NoCell w1 (w1.deliverTo (Λ.root o) o ev) :=
  (CRef.touch_deliverTo ..).mono (fun _ e => ⟨o, ho, .inl e⟩) fun _ e => e

/-- one entry of the snapshot: the subscriber's own observer (plain, async), or its forwarder, whose callback calls
    the subscriber's (replay_subject.rs:87-93, behavior_subject.rs:79-85) -/
theorem deliver1 (S : Sep sj Λ n) (h : UP sj Λ x n pend w O s f) {k : Kind} (hk : k.isPlain = Λ.dir) (ev : Ev)
    {o : Nat} (ho : o < n) (hr : Λ.dir = false → Λ.reg o) :
    WP (evProg ev (Λ.inMap o) .done) w fun w' =>
      UP sj Λ x n pend w' O s (upd f o (recvK k ev (f o))) ∧ Touch (Λ.J n) NoCell w w' := by
  have U := h.users o ho
  obtain ⟨rd, a, hua, hrd, hah, hex⟩ := U.user
  have same : ∀ {w' : World}, w'.cells = w.cells → w'.users = w.users →
      (∀ i, i ≠ Λ.root o → (Λ.reg o → i ≠ Λ.fwd o) → w'.obs[i]? = w.obs[i]?) → (∀ u, u ≠ o → logOf w' u = logOf w u) →
      UOk sj Λ x pend w' o (recvK k ev (f o)) → UP sj Λ x n pend w' O s (upd f o (recvK k ev (f o))) :=
    fun hc hu hobs hlogs hU => h.patch S ho (hc ▸ h.cellO) (fun _ _ _ => by rw [hc]) (by rw [hu]) (fun _ _ => by rw [hu])
      hobs hlogs hU h.keys h.regd
  cases hd : Λ.dir with
  | true =>
    have hnr : ¬ Λ.reg o := S.dirNoReg hd o
    rw [recvK_dir (hk.trans hd), show Λ.inMap o = Λ.root o by simp [Layout.inMap, hd]]
    cases ha : (f o).alive with
    | false =>
      refine wp_ev_dead U.root (by simp [rootObs_next, ha]) (WP.done ⟨?_, Touch.refl _ _ _⟩)
      rw [recv_dead ev ha, upd_self]; exact h
    | true =>
      refine wp_ev_user (s := o) U.root (by simp [rootObs_next, ha]) (by simp [rootObs_error, ha])
        (by simp [rootObs_complete, ha]) hua rfl (WP.done ⟨?_, touch_deliverTo_J ho ev⟩)
      rw [← recvK_dir (hk.trans hd)]
      refine same (deliverTo_cells ..) (deliverTo_users ..)
        (fun i hi _ => by rw [Ref.deliverTo_eq]; exact getElem?_setObs_other _ (Ne.symm hi))
        (fun u hu => logOf_deliverTo_other _ _ _ _ _ (Ne.symm hu)) ?_
      rw [recvK_dir (hk.trans hd)]
      exact U.recvRoot ev ha (.inr hnr) (fun hreg => absurd hreg hnr) (by simp [ObsSt.recv, ha]) rfl rfl rfl
        (by simp [ObsSt.recv, ha]) rfl
  | false =>
    have hreg := hr hd
    have hne := (S.self ho hreg).1
    have hkp : k.isPlain = false := hk.trans hd
    rw [show Λ.inMap o = Λ.fwd o by simp [Layout.inMap, hd]]
    cases hia : (f o).inAlive with
    | false =>
      refine wp_ev_dead (U.fwd hreg) (by simp [fwdObs, hia]) (WP.done ⟨?_, Touch.refl _ _ _⟩)
      rw [recvK_fwd_dead hkp ev hia, upd_self]; exact h
    | true =>
      refine wp_ev_code (U.fwd hreg) (by simp [fwdObs, hia]; rfl) (by simp [fwdObs, hia]; rfl) (by simp [fwdObs, hia]; rfl) ?_
      rw [codeBody_fwd, gate_setObs]
      -- the forwarder has passed its gate
      have t1 : Touch (Λ.J n) NoCell w (w.setObs (Λ.fwd o) (gate ev.isTerminal)) :=
        Touch.setObs _ _ _ ⟨o, ho, .inr ⟨hreg, rfl⟩⟩
      have hfwd : ∀ r' : ObsSt, r'.inAlive = !ev.isTerminal → r'.inHook = (f o).inHook →
          (w.setObs (Λ.fwd o) (gate ev.isTerminal)).obs[Λ.fwd o]? = some (fwdObs sj (Λ.root o) r') := by
        intro r' h1 h2
        rw [getElem?_setObs_same _ (U.fwd hreg)]
        cases ht : ev.isTerminal <;> simp [gate, fwdObs, Obs.cleared, hia, h1, h2, ht]
      have U1 : UOk sj Λ x pend (w.setObs (Λ.fwd o) (gate ev.isTerminal)) o
          { f o with inAlive := !ev.isTerminal } :=
        { U with
          user := ⟨rd, a, hua, hrd, hah, hex⟩
          root := (getElem?_setObs_other _ (Ne.symm hne)).trans (by rw [U.root]; simp [Layout.rootObs, hd, ownObs])
          fwd := fun _ => hfwd _ rfl rfl }
      cases hal : (f o).alive with
      | false =>
        refine wp_ev_dead U1.root (by simp [rootObs_next, hal]) (WP.done (WP.done ⟨?_, t1⟩))
        refine same rfl rfl (fun i _ h2 => getElem?_setObs_other _ (Ne.symm (h2 hreg))) (fun _ _ => rfl) ?_
        rw [recvK_fwd hkp]
        simpa [hia, hal] using U1
      | true =>
        refine wp_ev_user (s := o) U1.root (by simp [rootObs_next, hal]) (by simp [rootObs_error, hal])
          (by simp [rootObs_complete, hal]) hua rfl (WP.done (WP.done ⟨?_, t1.trans (touch_deliverTo_J ho ev)⟩))
        refine same (deliverTo_cells ..) (deliverTo_users ..)
          (fun i h1 h2 => by
            rw [Ref.deliverTo_eq]
            show ((w.setObs _ _).setObs _ _).obs[i]? = _
            rw [getElem?_setObs_other _ (Ne.symm h1), getElem?_setObs_other _ (Ne.symm (h2 hreg))])
          (fun u hu => (logOf_deliverTo_other _ _ _ _ _ (Ne.symm hu))) ?_
        rw [recvK_fwd hkp]
        exact U1.recvRoot ev hal (.inl hne) (fun _ => hfwd _ (by simp [hia]) rfl) (by simp [hia, hal]) rfl rfl rfl
          (by simp [hia, hal]) rfl

/-- an entry of the map that names no subscription points past the end of the observer table: nothing happens -/
theorem deliver1_absent (h : UP sj Λ x n pend w O s f) {k : Kind} (hk : k.isPlain = Λ.dir) (ev : Ev) {o : Nat}
    (ho : n ≤ o) (hb : w.obs.length ≤ Λ.inMap o) :
    WP (evProg ev (Λ.inMap o) .done) w fun w' =>
      UP sj Λ x n pend w' O s (upd f o (recvK k ev (f o))) ∧ Touch (Λ.J n) NoCell w w' := by
  refine wp_ev_absent (List.getElem?_eq_none hb) (WP.done ⟨?_, Touch.refl _ _ _⟩)
  have hu := h.unseen o ho
  cases hd : Λ.dir <;> simp only [hd, cond_true, cond_false] at hu
  · rw [hu, recvK_default, ← hu, upd_self]; exact h
  · rw [recvK_dir (hk.trans hd), recv_dead ev (View.eq hu).2.1, upd_self]; exact h

/-- `fetch_observers().into_iter().for_each(..)` = `SubjM.deliver`; `m` bounds the observer table -/
theorem deliver_loop (S : Sep sj Λ n) {k : Kind} (hk : k.isPlain = Λ.dir) (ev : Ev) (m : Nat) :
    ∀ (l : List (Nat × Nat)), (∀ p ∈ l, (Λ.dir = false → Λ.reg p.2) ∧ (n ≤ p.2 → m ≤ Λ.inMap p.2)) →
      ∀ (f : Nat → ObsSt) (w : World), w.obs.length ≤ m → UP sj Λ x n pend w O s f →
      WP (forEach ((Λ.map l).map fun p => Data.int p.2) fun o => evProg ev o.toInt.toNat .done) w
        (fun w' => UP sj Λ x n pend w' O s (deliver k ev l f) ∧ Touch (Λ.J n) NoCell w w')
  | [], _, _, _, _, h => WP.done ⟨h, Touch.refl _ _ _⟩
  | p :: rest, hl, f, w, hm, h => by
    simp only [Layout.map, List.map_cons, forEach, toNat_int]
    have a := hl p (List.mem_cons_self ..)
    have h1 : WP (evProg ev (Λ.inMap p.2) .done) w fun w' =>
        UP sj Λ x n pend w' O s (upd f p.2 (recvK k ev (f p.2))) ∧ Touch (Λ.J n) NoCell w w' :=
      (Nat.lt_or_ge p.2 n).elim (fun lt => deliver1 S h hk ev lt a.1)
        fun ge => deliver1_absent h hk ev ge (Nat.le_trans hm (a.2 ge))
    exact WP.seq (h1.conseq fun w1 ⟨h1, t1⟩ =>
      (deliver_loop S hk ev m rest (fun q hq => hl q (List.mem_cons_of_mem _ hq)) _ w1 (t1.obsLen ▸ hm) h1).conseq
        fun w2 ⟨h2, t2⟩ => ⟨h2, t1.trans t2⟩)

/-- the map cell gets the content `Λ.map O'` -/
theorem UP.setMap (S : Sep sj Λ n) (h : UP sj Λ x n pend w O s f) {O' : List (Nat × Nat)} (hO : ∀ p ∈ O', p ∈ O) :
    UP sj Λ x n pend { w with cells := w.cells.set sj.observers (encMap (Λ.map O')) } O' s f :=
  have other : ∀ {i : Nat}, i ≠ sj.observers →
      (w.cells.set sj.observers (encMap (Λ.map O')))[i]? = w.cells[i]? := fun hi => set_get_other _ (Ne.symm hi)
  { h with
    cellO := set_get_same _ h.cellO
    cellS := (other (Ne.symm S.ne)).trans h.cellS
    users := fun u hu =>
      have U := h.users u hu
      { U with
        stored := fun ha =>
          have C := S.self hu (Λ.armReg ha)
          ⟨(other C.2.1).trans (U.stored ha).1, (other (C.2.2 ha).2.1).trans (U.stored ha).2⟩
        unstored := fun hr hna => ⟨(other (S.self hu hr).2.1).trans (U.unstored hr hna).1, (U.unstored hr hna).2⟩ }
    keys := fun p hp => h.keys p (hO p hp)
    regd := fun p hp => h.regd p (hO p hp) }

/-- `Subject::next / error / complete` on `sj` (subject.rs:37-52) = `SubjM.deliver` over the snapshot; a terminal
    empties the map first -/
theorem broadcast (S : Sep sj Λ n) (hh : SlotReads w.held) (h : UP sj Λ x n pend w O s f) {k : Kind}
    (hk : k.isPlain = Λ.dir) (ev : Ev)
    (hb : ∀ p ∈ O, n ≤ p.2 → w.obs.length ≤ Λ.inMap p.2) :
    WP (evCall sj ev) w fun w' =>
      UP sj Λ x n pend w' (if ev.isTerminal then [] else O) s (deliver k ev O f) ∧
      Touch (Λ.J n) (CRef.IsCell sj.observers) w w' := by
  have hread : amapVals (w.cells[sj.observers]?.getD .unit) = (Λ.map O).map fun p => .int p.2 := by
    rw [h.cellO]; exact amapVals_encMap _
  have hb : ∀ p ∈ O, (Λ.dir = false → Λ.reg p.2) ∧ (n ≤ p.2 → w.obs.length ≤ Λ.inMap p.2) :=
    fun p hp => ⟨h.regd p hp, hb p hp⟩
  have clear : ev.isTerminal = true →
      WP (.cellWrite sj.observers false .lnil
        (forEach ((Λ.map O).map fun p => Data.int p.2) fun o => evProg ev o.toInt.toNat .done)) w fun w' =>
      UP sj Λ x n pend w' (if ev.isTerminal then [] else O) s (deliver k ev O f) ∧
      Touch (Λ.J n) (CRef.IsCell sj.observers) w w' := fun ht => by
    rw [ht]
    refine wp_cellWriteG hh ?_
    have t0 : Touch (Λ.J n) (CRef.IsCell sj.observers) w { w with cells := w.cells.set sj.observers .lnil } :=
      touch_setCell w _ _ rfl
    exact (deliver_loop S hk ev w.obs.length O hb f { w with cells := w.cells.set sj.observers .lnil } (Nat.le_refl _)
      (h.setMap S (O' := []) nofun)).conseq fun w' ⟨h', t⟩ => ⟨h', t0.trans (t.mono (fun _ a => a) nofun)⟩
  cases ev with
  | next d =>
    refine wp_cellReadG hh ?_
    rw [hread]
    exact (deliver_loop S hk (.next d) w.obs.length O hb f w (Nat.le_refl _) h).conseq
      fun w' ⟨h', t⟩ => ⟨h', t.mono (fun _ a => a) nofun⟩
  | error e => exact wp_cellReadG hh (hread ▸ clear rfl)
  | complete => exact wp_cellReadG hh (hread ▸ clear rfl)

/-- a subject built on `sj` records the event in a cell `c` of its own, then broadcasts (behavior_subject.rs:26-38,
    replay_subject.rs:28-39) -/
theorem recordBroadcast (S : Sep sj Λ n) (hh : SlotReads w.held) (h : UP sj Λ x n pend w O s f) {k : Kind}
    (hk : k.isPlain = Λ.dir) (ev : Ev) (hb : ∀ p ∈ O, n ≤ p.2 → w.obs.length ≤ Λ.inMap p.2) {c : Nat} (d : Data)
    (hc : ¬ Λ.K sj n c) :
    WP (.cellWrite c false d (evCall sj ev)) w fun w' =>
      UP sj Λ x n pend w' (if ev.isTerminal then [] else O) s (deliver k ev O f) ∧
      Touch (Λ.J n) (CRef.IsCell sj.observers) { w with cells := w.cells.set c d } w' :=
  wp_cellWriteG hh <| broadcast (w := { w with cells := w.cells.set c d }) S hh
    (h.step (touch_setCell (J := NoObs) (K := CRef.IsCell c) w c d rfl).step rfl (fun _ => rfl) (fun _ _ a => a)
      fun _ hi e => hc (e ▸ hi)) hk ev hb

/-- the relation on a whole `SubjM.State` -/
abbrev UPs (sj : Subj) (Λ : Layout) (x : Prop) (n : Nat) (pend : Option Nat) (w : World) (st : State) : Prop :=
  UP sj Λ x n pend w st.observers st.serial st.obs

/-- the `on_unsubscribe(len)` call of subject.rs:82, if the Subject makes one -/
def hookCall (slot : Nat) : Option Nat → Prog
  | none => .done
  | some len => slotTail slot (.int (len : Nat))

/-- in a world where no `on_unsubscribe` hook is installed the call does nothing -/
theorem hookCall_none {slot : Nat} {w : World} {Q : World → Prop} (hh : w.held = []) (hs : w.slots[slot]? = some none)
    (len : Option Nat) (hQ : Q w) : WP (hookCall slot len) w Q := by
  cases len with
  | none => exact WP.done hQ
  | some _ => exact slotTail_none (.of_nil hh) hs hQ

/-- `unsubscribe` of the live subscription of an ended subscriber `o` (replay_subject.rs:48-55, 95-99) = `reap`: if the
    armed flag is still set it is taken and the forwarder unsubscribed; if that is still registered its serial leaves
    the map and `on_unsubscribe(len)` is called -/
theorem reap_spec (S : Sep sj Λ n) (hh : SlotReads w.held) {st : State} (h : UPs sj Λ x n pend w st) {o : Nat}
    (ho : o < n) (ha : Λ.arm o) (hal : (st.obs o).alive = false) {Q : World → Prop}
    (hQ : ∀ w', UPs sj Λ x n pend w' (reap st o).1 → Touch (Λ.J n) (Λ.K sj n) w w' → w'.trace = w.trace →
      WP (hookCall sj.onUnsub (reap st o).2) w' Q) :
    WP (subUnsub (hdl (Λ.fwd o) (Λ.ac o))) w Q := by
  have U := h.users o ho
  have hr := Λ.armReg ha
  have C := S.self ho hr
  obtain ⟨Usb, Uac⟩ := U.stored ha
  have hKac : Λ.K sj n (Λ.ac o) := .inr (.inr ⟨o, ho, .inr ⟨ha, rfl⟩⟩)
  simp only [hdl, subUnsub, Int.toNat_natCast]
  refine wp_cellReadG hh ?_
  rw [Uac]
  rcases Bool.eq_false_or_eq_true (st.obs o).armed with har | har
  case inr =>
    have := hQ w (by rw [reap_idle _ _ (.inr har)]; exact h) (Touch.refl _ _ _) rfl
    rw [reap_idle _ _ (.inr har)] at this
    rw [har]; exact this
  rw [har]
  simp only [Option.getD_some, Data.toBool, ↓reduceIte]
  refine wp_cellWriteG hh ?_
  have t1 : Touch (Λ.J n) (Λ.K sj n) w { w with cells := w.cells.set (Λ.ac o) (.bool false) } := touch_setCell w _ _ hKac
  have c0 : (w.cells.set (Λ.ac o) (.bool false))[sj.observers]? = some (encMap (Λ.map st.observers)) :=
    (set_get_other _ (C.2.2 ha).2.1).trans h.cellO
  -- the world once the forwarder is cleared, for any content of the map cell
  have fin : ∀ (O' : List (Nat × Nat)) (cs : List Data),
      cs[sj.observers]? = some (encMap (Λ.map O')) → (∀ i, i ≠ sj.observers → i ≠ Λ.ac o → cs[i]? = w.cells[i]?) →
      cs[Λ.ac o]? = some (.bool false) → (∀ p ∈ O', p ∈ st.observers) →
      UP sj Λ x n pend
        { (w.setObs (Λ.fwd o) fun x => { x.cleared with onUnsub := none }) with cells := cs } O' st.serial
        (upd st.obs o { st.obs o with armed := false, inAlive := false, inHook := none }) := by
    intro O' cs h0 hcs hac hsub
    refine h.patch S ho h0 (fun i a b => hcs i a (b ha)) (by simp [World.setObs]) (fun _ _ => rfl)
      (fun i _ h2 => getElem?_setObs_other _ (Ne.symm (h2 hr))) (fun _ _ => rfl) ?_
      (fun p hp => h.keys p (hsub p hp)) (fun p hp => h.regd p (hsub p hp))
    exact
      { U with
        user := U.user
        root := (getElem?_setObs_other _ (Ne.symm C.1)).trans (by
          rw [U.root]; cases hd : Λ.dir <;> simp [Layout.rootObs, hd, ownObs, obsOf, hal]
          exact absurd hr (S.dirNoReg hd o))
        fwd := fun _ => (getElem?_setObs_same _ (U.fwd hr)).trans (by simp [fwdObs, Obs.cleared])
        stored := fun _ => ⟨(hcs _ C.2.1 (C.2.2 ha).1).trans Usb, hac⟩
        unstored := fun _ hna => absurd ha hna
        unreg := fun hn => absurd hr hn }
  have tfwd : ∀ cs : List Data, cs.length = w.cells.length → (∀ i, ¬ Λ.K sj n i → cs[i]? = w.cells[i]?) →
      Touch (Λ.J n) (Λ.K sj n) w { (w.setObs (Λ.fwd o) fun x => { x.cleared with onUnsub := none }) with cells := cs } :=
    fun cs hl hc => ⟨rfl, rfl, rfl, rfl, rfl, by simp [World.setObs],
      fun j hj => getElem?_setObs_other _ fun e => hj ⟨o, ho, .inr ⟨hr, e.symm⟩⟩, hl, hc, rfl⟩
  have hre : ∀ O' : List (Nat × Nat), (match (st.obs o).inHook with
        | some s0 => st.observers.filter (fun p => p.1 != s0)
        | none => st.observers) = O' →
      (reap st o).1 = { st with
        observers := O', obs := upd st.obs o ({ st.obs o with armed := false, inAlive := false, inHook := none }) } ∧
      (reap st o).2 = if (st.obs o).inHook.isSome then some O'.length else none := by
    intro O' e
    subst e
    cases hin : (st.obs o).inHook <;> simp [reap, hal, har, hin]
  cases hin : (st.obs o).inHook with
  | none =>
    refine wp_obsUnsub_none (show _ = some _ from U.fwd hr) (by simp [fwdObs, hin]) ?_
    obtain ⟨e1, e2⟩ := hre st.observers (by rw [hin])
    have hf := fin st.observers _ c0 (fun i _ hi => set_get_other _ (Ne.symm hi)) (set_get_same _ Uac) (fun _ hp => hp)
    have := hQ _ (by rw [e1]; exact hf) (tfwd _ (by simp) fun i hi => set_get_other _ fun e => hi (e ▸ hKac)) rfl
    rw [e2, hin] at this
    exact this
  | some s0 =>
    refine wp_obsUnsub_some (f := hookProg sj (s0 : Int)) (show _ = some _ from U.fwd hr) (by simp [fwdObs, hin]) ?_
    refine hookProg_pre (obsl := Λ.map st.observers) hh (show _ = some _ from c0) ?_
    rw [map_filter, show (Λ.map _).length = _ from List.length_map ..]
    obtain ⟨e1, e2⟩ := hre _ (by rw [hin])
    have hf := fin (st.observers.filter fun p => p.1 != s0) _ (set_get_same _ c0)
      (fun i h0 hi => (set_get_other _ (Ne.symm h0)).trans (set_get_other _ (Ne.symm hi)))
      ((set_get_other _ (Ne.symm (C.2.2 ha).2.1)).trans (set_get_same _ Uac)) (fun _ hp => (List.mem_filter.1 hp).1)
    have := hQ _ (by rw [e1]; exact hf) (tfwd _ (by simp) fun i hi =>
      (set_get_other _ fun e : sj.observers = i => hi (.inl e.symm)).trans
        (set_get_other _ fun e : Λ.ac o = i => hi (e ▸ hKac))) rfl
    rw [e2, hin] at this
    exact this.conseq fun _ q => WP.done q

/-- the world once user `u`'s handle is spent and its root observer cleared -/
def spent (Λ : Layout) (w : World) (u : Nat) : World :=
  (w.setUser u fun x => { x with armed := false }).setObs (Λ.root u) fun x => { x.cleared with onUnsub := none }

theorem edit_spent (w : World) {u : Nat} (hu : u < n) : Edit (Λ.J n) (Λ.K sj n) w (spent Λ w u) :=
  ⟨rfl, rfl, rfl, rfl, by simp [spent, World.setObs, World.setUser], by simp [spent, World.setObs, World.setUser],
   fun j hj => getElem?_setObs_other _ fun e => hj ⟨u, hu, .inl e.symm⟩, rfl, fun _ _ => rfl, rfl⟩

/-- `Subscription::unsubscribe` of test subscriber `u`'s handle (subscription.rs, observer.rs:53-60) up to the
    `on_unsubscribe(len)` call site = `SubjM.unsubscribeN`: the root observer is cleared and its teardown run — the
    Subject's own (subject.rs:74-83) for a subscriber that sits in the map itself, else the one that reads `sbsc` and
    unsubscribes the forwarder -/
theorem unsubscribe (S : Sep sj Λ n) (hh : SlotReads w.held) {st : State} (h : UPs sj Λ x n pend w st) {k : Kind}
    (hk : k.isPlain = Λ.dir) (u : Nat) (hp : pend ≠ some u) {Q : World → Prop}
    (hQ : ∀ w', UPs sj Λ x n pend w' (unsubscribeN k st u).1 → Edit (Λ.J n) (Λ.K sj n) w w' → w'.trace = w.trace →
      WP (hookCall sj.onUnsub (unsubscribeN k st u).2) w' Q) :
    WP (.userUnsub u .done) w Q := by
  -- `hQ` at the result of the pure step, once that is known
  have fire : ∀ {w' : World} {r : State × Option Nat}, unsubscribeN k st u = r → UPs sj Λ x n pend w' r.1 →
      Edit (Λ.J n) (Λ.K sj n) w w' → w'.trace = w.trace → WP (hookCall sj.onUnsub r.2) w' Q :=
    fun e => e ▸ hQ _
  rcases Nat.lt_or_ge u n with hlt | hge
  case inr =>
    exact wp_userUnsub_none (List.getElem?_eq_none (by rw [h.nUsers]; exact hge))
      (fire (unsubscribeN_unseen k st u (h.unseen_seen hge)) h (Edit.refl _ _ _) rfl)
  have U := h.users u hlt
  obtain ⟨rd, a, hua, hrd, hah, hex⟩ := U.user
  obtain rfl : rd = true := hrd hp
  cases a with
  | false =>
    have hk0 : (st.obs u).hook = false := Bool.eq_false_iff.2 fun hk0 => by cases hah hk0
    exact wp_userUnsub_spent hua (by simp) (fire (unsub_idle k st u hk0 (U.dead hk0)) h (Edit.refl _ _ _) rfl)
  | true =>
    refine wp_userUnsub_armed hua (by simp) ?_
    have hroot : (w.setUser u fun x => { x with armed := false }).obs[Λ.root u]? = some (Λ.rootObs sj u (st.obs u)) := U.root
    -- the root observer is cleared; `r'`: what is then known of the record
    have fin1 : ∀ r' : ObsSt, r'.alive = false → r'.hook = false → r'.seen = true → r'.log = (st.obs u).log →
        r'.inHook = (bif Λ.dir then none else (st.obs u).inHook) →
        (Λ.reg u → r'.inAlive = (st.obs u).inAlive ∧ r'.armed = (st.obs u).armed) →
        UP sj Λ x n pend (spent Λ w u) st.observers st.serial (upd st.obs u r') := by
      intro r' e1 e2 e3 e4 e5 e6
      refine h.patch S hlt h.cellO (fun _ _ _ => rfl) (by simp [spent, World.setObs, World.setUser])
        (fun i hi => modify_get_other _ _ (Ne.symm hi)) (fun i h1 _ => getElem?_setObs_other _ (Ne.symm h1))
        (fun _ _ => rfl) ?_ h.keys h.regd
      exact
        { user := ⟨true, false, modify_get_same _ _ hua, fun _ => rfl, by simp [e2], fun _ => e2.symm⟩
          root := (getElem?_setObs_same _ hroot).trans (by
            cases hd : Λ.dir <;> simp [Layout.rootObs, hd, ownObs, obsOf, Obs.cleared, e1, e2, e5])
          fwd := fun hr => (getElem?_setObs_other _ (S.self hlt hr).1).trans (by
            have hd : Λ.dir = false := Bool.eq_false_iff.2 fun hd => S.dirNoReg hd u hr
            show w.obs[_]? = _
            rw [U.fwd hr]; simp [fwdObs, e5, (e6 hr).1, hd])
          stored := fun ha => (e6 (Λ.armReg ha)).2 ▸ U.stored ha
          unstored := fun hr hna => (e6 hr).2 ▸ U.unstored hr hna
          unreg := fun hn => by cases hd : Λ.dir <;> simp [e2, e5, hd]
          log := e4 ▸ U.log
          seen := e3
          dead := fun _ => e1 }
    cases hk1 : (st.obs u).hook with
    | false =>
      have hal := U.dead hk1
      have hin : Λ.dir = true → (st.obs u).inHook = none := fun hd => by
        have := U.unreg (S.dirNoReg hd u)
        rw [hd, hk1] at this
        simpa using this.symm
      refine wp_obsUnsub_none hroot (by
        cases hd : Λ.dir <;> simp [Layout.rootObs, hd, ownObs, obsOf, hk1]
        simp [hin hd]) ?_
      have := fin1 (st.obs u) hal hk1 U.seen rfl (by cases hd : Λ.dir <;> simp [hin, hd]) fun _ => ⟨rfl, rfl⟩
      rw [upd_self] at this
      exact fire (unsub_idle k st u hk1 hal) this (edit_spent w hlt) rfl
    | true =>
      cases hd : Λ.dir with
      | true =>
        have hnr := S.dirNoReg hd u
        obtain ⟨s0, hin⟩ : ∃ s0, (st.obs u).inHook = some s0 := by
          have := U.unreg hnr
          rw [hd, hk1] at this
          exact Option.isSome_iff_exists.1 this.symm
        refine wp_obsUnsub_some (f := hookProg sj (s0 : Int)) hroot
          (by simp [Layout.rootObs, hd, obsOf, hin]) ?_
        refine hookProg_pre (obsl := Λ.map st.observers) hh (show _ = some _ from h.cellO) ?_
        rw [map_filter, show (Λ.map _).length = _ from List.length_map ..]
        have e : unsubscribeN k st u =
            ({ st with
               observers := st.observers.filter fun p => p.1 != s0
               obs := upd st.obs u
                 ({ st.obs u with alive := false, hook := false, inAlive := false, armed := false, inHook := none }) },
             some (st.observers.filter fun p => p.1 != s0).length) := by
          simp [unsubscribeN, U.seen, hk1, hin, hk.trans hd]
        have U1 := (fin1 { st.obs u with alive := false, hook := false, inAlive := false, armed := false, inHook := none }
          rfl rfl U.seen rfl (by simp [hd]) fun hr => absurd hr hnr).setMap S
          (O' := st.observers.filter fun p => p.1 != s0) fun _ hp => (List.mem_filter.1 hp).1
        exact (fire e U1
          ((edit_spent w hlt).trans (.ofTouch (touch_setCell (J := Λ.J n) (K := Λ.K sj n) _ _ _ (.inl rfl)))) rfl).conseq
            fun _ q => WP.done q
      | false =>
        have hr : Λ.reg u := Classical.byContradiction fun hn => by
          have := U.unreg hn; rw [hd, hk1] at this; cases this
        refine wp_obsUnsub_some (f := .cellRead (Λ.sb u) false fun h => subUnsub h) hroot
          (by simp [Layout.rootObs, hd, ownObs, hk1]) ?_
        refine wp_cellReadG hh ?_
        have e := unsub_eq_reap (hk.trans hd) st u U.seen hk1
        have U1 : UPs sj Λ x n pend (spent Λ w u)
            { st with obs := upd st.obs u { st.obs u with alive := false, hook := false } } :=
          fin1 { st.obs u with alive := false, hook := false } rfl rfl U.seen rfl (by simp [hd]) fun _ => ⟨rfl, rfl⟩
        by_cases ha : Λ.arm u
        · show WP (subUnsub (w.cells[Λ.sb u]?.getD .unit)) _ _
          rw [(U.stored ha).1, Option.getD_some]
          exact reap_spec (w := spent Λ w u) S hh U1 hlt ha (by simp) fun w' U' t tr =>
            (fire e U' ((edit_spent w hlt).trans (.ofTouch t)) tr).conseq fun _ q => WP.done q
        · show WP (subUnsub (w.cells[Λ.sb u]?.getD .unit)) _ _
          rw [(U.unstored hr ha).1, Option.getD_some]
          rw [reap_idle _ _ (.inr (by simpa using (U.unstored hr ha).2))] at e
          exact (fire e U1 (edit_spent w hlt) rfl).conseq fun _ q => WP.done q

/-- what the differential tests compare, read off the relation -/
theorem UP.agrees {st : State} (h : UPs sj Λ x n pend w st) :
    (∀ u, logOf w u = SubjM.logOf st u) ∧
    (amapVals (w.cells[sj.observers]?.getD .lnil)).map (fun d => d.toInt.toNat) = (registered st).map Λ.inMap ∧
    amapLen (w.cells[sj.observers]?.getD .lnil) = (registered st).length ∧ ∀ u, w.isSubOf u = aliveOf st u := by
  have hc : w.cells[sj.observers]?.getD .lnil = encMap (Λ.map st.observers) := by rw [h.cellO]; rfl
  refine ⟨fun u => ?_, ?_, ?_, fun u => ?_⟩
  · rcases Nat.lt_or_ge u n with hlt | hge
    · exact (h.users u hlt).log
    · rw [h.quiet u hge, SubjM.logOf]
      exact (View.eq (h.unseen_view hge)).2.2.1.symm
  · simp [hc, amapVals_encMap, registered, Layout.map, List.map_map, Function.comp_def, Data.toInt]
  · simp [hc, amapLen_encMap, registered, Layout.map]
  · rcases Nat.lt_or_ge u n with hlt | hge
    · have U := h.users u hlt
      obtain ⟨rd, a, hua, _⟩ := U.user
      simp only [World.isSubOf, hua, U.root, aliveOf]
      cases ha : (st.obs u).alive <;> simp [Obs.isSub, rootObs_next, rootObs_error, rootObs_complete, ha]
    · have : w.users[u]? = none := List.getElem?_eq_none (by rw [h.nUsers]; exact hge)
      simp only [World.isSubOf, this, aliveOf]
      exact (View.eq (h.unseen_view hge)).2.1.symm

theorem UP.init {w : World} (hO : w.cells[sj.observers]? = some .lnil) (hS : w.cells[sj.serial]? = some (.int 0))
    (hu : w.users = []) (ht : w.trace = []) : UP sj Λ x 0 none w [] 0 (fun _ => {}) :=
  { cellO := hO, cellS := hS, nUsers := by rw [hu]; rfl, users := nofun
    unseen := fun _ _ => by cases Λ.dir <;> rfl
    quiet := fun _ _ => by simp only [logOf, ht]; rfl
    keys := nofun, regd := nofun }

/-- one more subscription: nothing that existed has changed, apart from the Subject's two cells -/
theorem UP.grow {Λ' : Layout} {pend' : Option Nat} {w' : World} {rF : ObsSt} {O' : List (Nat × Nat)} {s' : Nat}
    (S : Sep sj Λ n) (h : UP sj Λ x n none w O s f) (X : Ext Λ Λ' (· < n))
    (hobs : ∀ j, j < w.obs.length → w'.obs[j]? = w.obs[j]?)
    (hcells : ∀ i, i < w.cells.length → i ≠ sj.observers → i ≠ sj.serial → w'.cells[i]? = w.cells[i]?)
    (husers : ∀ u, u < n → w'.users[u]? = w.users[u]?) (hulen : w'.users.length = n + 1)
    (hlogs : ∀ u, u ≠ n → logOf w' u = logOf w u)
    (hcellO : w'.cells[sj.observers]? = some (encMap (Λ'.map O'))) (hcellS : w'.cells[sj.serial]? = some (.int s'))
    (hU : UOk sj Λ' x pend' w' n rF) (hkeys : ∀ p ∈ O', p.1 ≤ s') (hregd : ∀ p ∈ O', Λ'.dir = false → Λ'.reg p.2) :
    UP sj Λ' x (n + 1) pend' w' O' s' (upd f n rF) :=
  { cellO := hcellO, cellS := hcellS, nUsers := hulen
    users := fun u hu => by
      rw [upd_apply]; split
      · next e => exact e ▸ hU
      · next e =>
        have hlt : u < n := by omega
        have U := h.users u hlt
        have ob : ∀ {j d}, w.obs[j]? = some d → w'.obs[j]? = w.obs[j]? := fun hd => hobs _ (lt_of_getElem?_some hd)
        exact U.move X.dir (X.root u hlt) (X.reg u hlt) (X.arm u hlt) (X.fwd u hlt) (X.sb u hlt) (X.ac u hlt) nofun
          (husers u hlt) (ob U.root) (fun hr => ob (U.fwd hr))
          (fun hr => by
            by_cases ha : Λ.arm u
            · exact hcells _ (lt_of_getElem?_some (U.stored ha).1) (S.self hlt hr).2.1 (S.sbS hlt hr)
            · exact hcells _ (lt_of_getElem?_some (U.unstored hr ha).1) (S.self hlt hr).2.1 (S.sbS hlt hr))
          (fun ha => hcells _ (lt_of_getElem?_some (U.stored ha).2) ((S.self hlt (Λ.armReg ha)).2.2 ha).2.1
            ((S.self hlt (Λ.armReg ha)).2.2 ha).2.2)
          (hlogs u e)
    unseen := fun u hu => by rw [upd_other _ _ _ _ (by omega), X.dir]; exact h.unseen u (by omega)
    quiet := fun u hu => (hlogs u (by omega)).trans (h.quiet u (by omega))
    keys := hkeys, regd := hregd }

theorem set_self {α} {l : List α} {i : Nat} {x : α} (h : l[i]? = some x) : l.set i x = l := by
  apply List.ext_getElem?
  intro j
  rw [List.getElem?_set]; split
  · next e => subst e; rw [if_pos (lt_of_getElem? h), h]
  · rfl

/-- a complete `subscribe` of user `n` in a world that allocates at the end: the root observer, the user record and —
    if the subscription registers in the Subject — the forwarder `fw` and the two cells `nc` are appended -/
theorem UP.extend {Λ' : Layout} {w' : World} {rF : ObsSt} {O' : List (Nat × Nat)} {s' : Nat} {a : Bool}
    {fw : List Obs} {nc : List Data} (S : Sep sj Λ n) (h : UP sj Λ x n none w O s f) (X : Ext Λ Λ' (· < n))
    (hroot : Λ'.root n = w.obs.length)
    (hobs : w'.obs = w.obs ++ Λ'.rootObs sj n rF :: fw)
    (husers : w'.users = w.users ++ [⟨w.obs.length, noReact, true, a⟩])
    (hcells : w'.cells = (w.cells.set sj.serial (.int s')).set sj.observers (encMap (Λ'.map O')) ++ nc)
    (htrace : w'.trace = w.trace ++ rF.log.map (Rec.ev n))
    (hreg : Λ'.reg n → Λ'.arm n ∧ Λ'.fwd n = w.obs.length + 1 ∧ Λ'.sb n = w.cells.length ∧
      Λ'.ac n = w.cells.length + 1 ∧ fw = [fwdObs sj (Λ'.root n) rF] ∧
      nc = [hdl (Λ'.fwd n) (Λ'.ac n), .bool rF.armed])
    (hunreg : ¬ Λ'.reg n → bif Λ'.dir then rF.hook = rF.inHook.isSome else rF.hook = false)
    (ha : (rF.hook = true → a = true) ∧ (x → a = rF.hook)) (hseen : rF.seen = true)
    (hdead : rF.hook = false → rF.alive = false) (hkeys : ∀ p ∈ O', p.1 ≤ s')
    (hregd : ∀ p ∈ O', Λ'.dir = false → Λ'.reg p.2) :
    UP sj Λ' x (n + 1) none w' O' s' (upd f n rF) := by
  have hcl : ((w.cells.set sj.serial (.int s')).set sj.observers (encMap (Λ'.map O'))).length = w.cells.length := by
    simp
  refine h.grow S X (fun j hj => by rw [hobs]; exact get_app_lt _ _ _ hj)
    (fun i hi h1 h2 => by
      rw [hcells, get_app_lt _ _ _ (hcl ▸ hi), set_get_other _ (Ne.symm h1), set_get_other _ (Ne.symm h2)])
    (fun u hu => by rw [husers]; exact get_app_lt _ _ _ (h.nUsers ▸ hu)) (by rw [husers]; simp [h.nUsers])
    (fun u hu => by rw [logOf_append_evs htrace, if_neg (Ne.symm hu), List.append_nil])
    (by rw [hcells]; exact getElem?_append_some (set_get_same _ ((set_get_other _ (Ne.symm S.ne)).trans h.cellO)))
    (by rw [hcells]; exact getElem?_append_some ((set_get_other _ S.ne).trans (set_get_same _ h.cellS)))
    ?_ hkeys hregd
  exact
    { user := ⟨true, a, by rw [hroot, husers, ← h.nUsers]; exact get_app0 .., fun _ => rfl, ha.1, ha.2⟩
      root := by rw [hroot, hobs]; exact get_app0 ..
      fwd := fun hr => by
        obtain ⟨_, e1, _, _, e2, _⟩ := hreg hr
        rw [hobs, e2, e1]; exact get_app_ge _ _ 1
      stored := fun ha => by
        obtain ⟨_, _, e2, e3, _, e4⟩ := hreg (Λ'.armReg ha)
        rw [hcells, e4, e2, e3, ← hcl]; exact ⟨get_app0 .., get_app_ge _ _ 1⟩
      unstored := fun hr hna => absurd (hreg hr).1 hna
      unreg := hunreg
      log := by rw [logOf_append_evs htrace, h.quiet n (Nat.le_refl _), if_pos rfl]; rfl
      seen := hseen, dead := hdead }

/-- `subscribe` has returned: the handle exists -/
theorem UP.ready {o : Nat} (h : UP sj Λ x n (some o) w O s f) :
    UP sj Λ x n none (w.setUser o fun u => { u with ready := true }) O s f :=
  { h with
    nUsers := by simp [World.setUser, h.nUsers]
    users := fun u hu =>
      have U := h.users u hu
      { U with
        user := by
          obtain ⟨rd, a, h1, h2, h3⟩ := U.user
          by_cases e : u = o
          · subst e; exact ⟨true, a, users_modify_same _ h1, fun _ => rfl, h3⟩
          · exact ⟨rd, a, (users_modify_other _ e).trans h1, fun _ => h2 fun y => e (Option.some.inj y).symm, h3⟩ } }

def RK (r : RSubj) (i : Nat) : Prop := i = r.items ∨ i = r.wasError ∨ i = r.wasCompleted

/-- the ReplaySubject's own cells hold what `SubjM` records; they are no cell of the users' part -/
structure RStore (r : RSubj) (w : World) (st : State) : Prop where
  cellI : w.cells[r.items]? = some (Data.ofList st.items)
  cellE : w.cells[r.wasError]? = some (Data.optEnc (st.wasError.map fun (e : Nat) => Data.int (e : Int)))
  cellC : w.cells[r.wasCompleted]? = some (.bool st.wasCompleted)

structure RSep (r : RSubj) (Λ : Layout) (n : Nat) : Prop where
  ie : r.items ≠ r.wasError
  ic : r.items ≠ r.wasCompleted
  ec : r.wasError ≠ r.wasCompleted
  free : ∀ i, RK r i → ¬ Λ.K r.inner n i

theorem RStore.frame {r : RSubj} {w w' : World} {st st' : State} (R : RStore r w st)
    (hc : ∀ i, RK r i → w'.cells[i]? = w.cells[i]?) (hm : SubjM.mem st' = SubjM.mem st := by rfl) : RStore r w' st' := by
  simp only [SubjM.mem, Prod.mk.injEq] at hm
  exact ⟨(hc _ (.inl rfl)).trans (hm.2.2.1 ▸ R.cellI), (hc _ (.inr (.inl rfl))).trans (hm.2.2.2.1 ▸ R.cellE),
    (hc _ (.inr (.inr rfl))).trans (hm.2.2.2.2 ▸ R.cellC)⟩

/-- `ReplaySubject::next / error / complete` (replay_subject.rs:28-39): record the event, then the inner Subject's
    broadcast = `SubjM.emit .replay` -/
theorem rsEmit {r : RSubj} (S : Sep r.inner Λ n) (D : RSep r Λ n) (hh : SlotReads w.held) {st : State}
    (h : UPs r.inner Λ x n pend w st) (R : RStore r w st) (hd : Λ.dir = false) (ev : Ev)
    (hb : ∀ p ∈ st.observers, n ≤ p.2 → w.obs.length ≤ Λ.inMap p.2) :
    WP (codeBody ev (fun v => r.next v) (fun e => r.error e) r.complete) w fun w' =>
      UPs r.inner Λ x n pend w' (emit .replay st ev) ∧ RStore r w' (emit .replay st ev) ∧
      Touch (Λ.J n) (fun i => i = r.inner.observers ∨ RK r i) w w' := by
  -- `d` is written to the store cell `c`; then the broadcast
  have wr : ∀ (c : Nat) (d : Data) (hc : RK r c),
      RStore r { w with cells := w.cells.set c d } (emit .replay st ev) →
      WP (.cellWrite c false d (evCall r.inner ev)) w fun w' =>
        UPs r.inner Λ x n pend w' (emit .replay st ev) ∧ RStore r w' (emit .replay st ev) ∧
        Touch (Λ.J n) (fun i => i = r.inner.observers ∨ RK r i) w w' := by
    intro c d hc R1
    exact (recordBroadcast S hh h (k := .replay) (by rw [hd]; rfl) ev hb d (D.free c hc)).conseq fun w' ⟨U, t⟩ =>
      ⟨U, R1.frame fun i hi => t.cells i fun e => D.free i hi (e ▸ .inl rfl),
        (touch_setCell w c d (.inr hc)).trans (t.mono (fun _ a => a) fun _ a => .inl a)⟩
  have other : ∀ {c i : Nat} (d : Data), c ≠ i → (w.cells.set c d)[i]? = w.cells[i]? := fun d hne => set_get_other d hne
  cases ev with
  | next v =>
    refine wp_cellReadG hh ?_
    rw [R.cellI]
    exact wr _ _ (.inl rfl) ⟨by simpa [emit, newItems] using set_get_same _ R.cellI,
      (other _ D.ie).trans R.cellE, (other _ D.ic).trans R.cellC⟩
  | error e =>
    exact wr _ _ (.inr (.inl rfl)) ⟨(other _ D.ie.symm).trans R.cellI, set_get_same _ R.cellE,
      (other _ D.ec).trans R.cellC⟩
  | complete =>
    exact wr _ _ (.inr (.inr rfl)) ⟨(other _ D.ic.symm).trans R.cellI, (other _ D.ec.symm).trans R.cellE,
      set_get_same _ R.cellC⟩

end
end Rx.RefU
