import RxVerif.Theorems.C03RefSeqEqTop
/-
C03-REF, sequence_equal: the pure side.  (What the files `C03RefSeqEq*` are for: header of C03RefSequenceEqual.lean
and DESIGN §10.9.)  What `Comb.sequenceEqualCode.step` does in the two kinds of reachable
states — `okS` (nothing has ended; zip's `reg` and `live` coincide) and `DeadRes`; when a model-side state `GS` is in
step with them (`CorrOk`, `Outcome`), and the quiescent relation `QRel`; how `zStep`, the function on `GS` that
describes zip's closures, matches the pure step (`zStep_next_cases`, `corr_next`, `corr_tail`).
-/
namespace Rx.SeqRef
open Rx.Sim Rx.Ref Rx.Comb Rx.CRef

def okS (R : List Nat) (qs : List (List Data)) : Over := ⟨⟨⟨true, R, R⟩, qs⟩, Ctl.init 1⟩

/-- an item on a live source that does not complete a tuple -/
theorem ok_next_quiet (R : List Nat) (qs : List (List Data)) (i : Nat) (x : Data) (hi : R.contains i = true)
    (hne : Zip.ne (qs.modify i (· ++ [x])) = false) :
    sequenceEqualCode.step (okS R qs) (i, .next x) = (okS R (qs.modify i (· ++ [x])), []) := by
  simp only [sequenceEqualCode.step, okS, zip.step, Ctl.isLive, hi, ↓reduceIte, Zip.drain_stop _ _ _ hne,
    sequenceEqualCode.feed, Over.sync]
  rfl

/-- an item on a live source that completes a tuple with equal components -/
theorem ok_next_same (R : List Nat) (qs : List (List Data)) (i : Nat) (x : Data) (hi : R.contains i = true)
    (h0 : Zip.ne qs = false) (hne : Zip.ne (qs.modify i (· ++ [x])) = true)
    (hs : sequenceEqualCode.allSame ((qs.modify i (· ++ [x])).map fun q => q.headD .unit) = true) :
    sequenceEqualCode.step (okS R qs) (i, .next x) = (okS R ((qs.modify i (· ++ [x])).map List.tail), []) := by
  simp only [sequenceEqualCode.step, okS, zip.step, Ctl.isLive, hi, ↓reduceIte, drain_after_push _ _ _ _ h0,
    show nonEmptyAll (qs.modify i (· ++ [x])) = true from hne, tupleEv, heads, tails,
    sequenceEqualCode.feed, Over.sync, Data.toList_ofList, hs]
  rfl

theorem filter_not_self (l : List Nat) (p : Nat → Bool) : (l.filter p).filter (fun a => !l.contains a) = [] := by
  rw [List.filter_eq_nil_iff]; intro a ha
  have := (List.mem_filter.1 ha).1
  simp [this]

/-- the result of a step is a `Dead` state with nobody live any more -/
structure DeadRes (s : Over) : Prop where
  dead : s.Dead
  live : s.z.ctl.live = []

theorem deadRes_sync (z : zip.State) (hl : (z.ctl.live.filter fun a => !z.ctl.reg.contains a) = []) :
    DeadRes (Over.sync z ⟨false, [], []⟩) :=
  ⟨⟨rfl, rfl⟩, hl⟩

/-- an item on a live source that completes a tuple with different components: the verdict `false` -/
theorem ok_next_diff (R : List Nat) (qs : List (List Data)) (i : Nat) (x : Data) (hi : R.contains i = true)
    (h0 : Zip.ne qs = false) (hne : Zip.ne (qs.modify i (· ++ [x])) = true)
    (hs : sequenceEqualCode.allSame ((qs.modify i (· ++ [x])).map fun q => q.headD .unit) = false) :
    (sequenceEqualCode.step (okS R qs) (i, .next x)).2 = [.next (.bool false), .complete] ∧
      DeadRes (sequenceEqualCode.step (okS R qs) (i, .next x)).1 := by
  have e1 : sequenceEqualCode.feed (Ctl.init 1)
      [.next (Data.ofList ((qs.modify i (· ++ [x])).map fun q => q.headD .unit))] =
      (⟨false, [], []⟩, [.next (.bool false), .complete]) := by
    simp only [sequenceEqualCode.feed, Data.toList_ofList, hs]
    decide
  simp only [sequenceEqualCode.step, okS, zip.step, Ctl.isLive, hi, ↓reduceIte, drain_after_push _ _ _ _ h0,
    show nonEmptyAll (qs.modify i (· ++ [x])) = true from hne, tupleEv, heads, e1]
  exact ⟨trivial, deadRes_sync _ (List.filter_eq_nil_iff.2 fun a ha => by simp [ha])⟩

/-- an error on a live source -/
theorem ok_error (R : List Nat) (qs : List (List Data)) (i : Nat) (e : Nat) (hi : R.contains i = true) :
    (sequenceEqualCode.step (okS R qs) (i, .error e)).2 = [.error e] ∧
      DeadRes (sequenceEqualCode.step (okS R qs) (i, .error e)).1 := by
  have e1 : sequenceEqualCode.feed (Ctl.init 1) [.error e] = (⟨false, [], []⟩, [.error e]) := by
    simp [sequenceEqualCode.feed, Ctl.init, Ctl.isLive, Ctl.kill, Ctl.sinkError, Ctl.finalize, List.range_succ]
  simp only [sequenceEqualCode.step, okS, zip.step, Ctl.isLive, hi, ↓reduceIte, Ctl.kill, Ctl.sinkError, e1]
  refine ⟨trivial, deadRes_sync _ ?_⟩
  show List.filter _ (List.filter _ (List.filter _ R)) = []
  rw [filter_not_self]; rfl

/-- a completion on a live source that is not the last one -/
theorem ok_complete_more (R : List Nat) (qs : List (List Data)) (i : Nat) (hi : R.contains i = true)
    (hm : (R.filter (· != i)).isEmpty = false) :
    sequenceEqualCode.step (okS R qs) (i, .complete) = (okS (R.filter (· != i)) qs, []) := by
  simp only [sequenceEqualCode.step, okS, zip.step, Ctl.isLive, hi, ↓reduceIte, Ctl.kill, Ctl.sinkComplete, hm,
    Bool.false_eq_true, sequenceEqualCode.feed, Over.sync]
  rfl

/-- the completion of the last live source: the verdict `true` -/
theorem ok_complete_last (R : List Nat) (qs : List (List Data)) (i : Nat) (hi : R.contains i = true)
    (hm : (R.filter (· != i)).isEmpty = true) :
    (sequenceEqualCode.step (okS R qs) (i, .complete)).2 = [.next (.bool true), .complete] ∧
      DeadRes (sequenceEqualCode.step (okS R qs) (i, .complete)).1 := by
  have e1 : sequenceEqualCode.feed (Ctl.init 1) [.complete] = (⟨false, [], []⟩, [.next (.bool true), .complete]) := by
    decide
  simp only [sequenceEqualCode.step, okS, zip.step, Ctl.isLive, hi, ↓reduceIte, Ctl.kill, Ctl.sinkComplete, hm, e1]
  refine ⟨trivial, deadRes_sync _ ?_⟩
  show List.filter _ (List.filter _ (List.filter _ R)) = []
  rw [List.isEmpty_iff.1 hm]; rfl

/-- an event of a source that is not live changes nothing -/
theorem ok_notlive (R : List Nat) (qs : List (List Data)) (i : Nat) (ev : Ev) (hi : R.contains i = false) :
    sequenceEqualCode.step (okS R qs) (i, ev) = (okS R qs, []) := by
  simp only [sequenceEqualCode.step, okS, zip.step, Ctl.isLive, hi, Bool.false_eq_true, ↓reduceIte,
    sequenceEqualCode.feed, Over.sync]
  rfl

/-- once everything is over nothing happens any more -/
theorem dead_code_step (s : Over) (h : DeadRes s) (p : Nat × Ev) :
    (sequenceEqualCode.step s p).2 = [] ∧ DeadRes (sequenceEqualCode.step s p).1 := by
  obtain ⟨⟨h1, h2⟩, h3⟩ := h
  have hl : s.z.ctl.isLive p.1 = false := by simp [Ctl.isLive, h3]
  simp only [sequenceEqualCode.step, zip.step, hl, Bool.false_eq_true, ↓reduceIte, sequenceEqualCode.feed]
  refine ⟨trivial, ⟨sync_dead _ _ h1, ?_⟩⟩
  simp only [Over.sync, h1, Bool.false_eq_true, ↓reduceIte, Ctl.finalize, h3, List.filter_nil]

theorem dead_step (s : Over) (h : DeadRes s) (p : Nat × Ev) :
    (sequenceEqual.step s p).2 = [] ∧ DeadRes (sequenceEqual.step s p).1 := by
  obtain ⟨i, ev⟩ := p
  cases ev with
  | next d => exact dead_code_step s h _
  | error e => exact dead_code_step s h _
  | complete =>
    simp only [sequenceEqual.step]
    have a := dead_code_step s h (i, .next sequenceEqual.endNone)
    have b := dead_code_step _ a.2 (i, .complete)
    exact ⟨by rw [a.1, b.1]; rfl, b.2⟩

theorem ok_notlive_seq (R : List Nat) (qs : List (List Data)) (i : Nat) (ev : Ev) (hi : R.contains i = false) :
    sequenceEqual.step (okS R qs) (i, ev) = (okS R qs, []) := by
  cases ev with
  | next d => exact ok_notlive R qs i _ hi
  | error e => exact ok_notlive R qs i _ hi
  | complete =>
    simp only [sequenceEqual.step]
    rw [ok_notlive R qs i _ hi, ok_notlive R qs i _ hi]; rfl

variable {k : Nat}

/-- the chain of a source whose events reach zip -/
def bLive : CB :=
  { zL := true, zH := true, cL := true, cH := true, mL := true, mH := true, cR := true, mR := true, sR := true,
    jx := none, cs := 1, q := 0 }

theorem tZ_live : (tZ bLive).sR = false := by decide

/-- nothing has ended: zip's map holds the sources `R`, exactly their chains are live -/
structure CorrOk (k : Nat) (R : List Nat) (qs : List (List Data)) (σ : GS) : Prop where
  ready : Ready k σ
  reg : σ.reg = R
  qs : σ.qs = qs
  chL : ∀ j, j < k → R.contains j = true → σ.ch j = bLive
  chD : ∀ j, j < k → R.contains j = false → (σ.ch j).sR = false
  rlt : ∀ j ∈ R, j < k

/-- no subject holds an observer any more -/
def Quiet (k : Nat) (ch : Nat → CB) : Prop := ∀ j, j < k → (ch j).sR = false

theorem Quiet.upd {ch : Nat → CB} (h : Quiet k ch) (i : Nat) {b : CB} (hb : b.le (ch i)) : Quiet k (GRef.fupd ch i b) :=
  fun j hj => (upd_le hb j).sR (h j hj)

/-- the outcome of a step, seen from both sides -/
def Outcome (k : Nat) (s' : Over) (σ' : GS) : Prop :=
  (∃ R qs, s' = okS R qs ∧ CorrOk k R qs σ') ∨ (DeadRes s' ∧ Quiet k σ'.ch)

/-- between two history entries (no guard held): some `GS` describes the world and is in step with the pure state `s` -/
def QRel (k : Nat) (s : Over) (out : List Ev) (w : World) : Prop :=
  ∃ σ, GRel k σ [] w ∧ σ.out = out ∧ Outcome k s σ

theorem zStep_next_quiet (σ : GS) (i : Nat) (x : Data) (h : Zip.ne (σ.qs.modify i (· ++ [x])) = false) :
    zStep σ i (.next x) = { σ with qs := σ.qs.modify i (· ++ [x]) } := by
  simp only [zStep, h, Bool.false_eq_true, ↓reduceIte]

theorem zStep_next_same (σ : GS) (i : Nat) (x : Data) (h : Zip.ne (σ.qs.modify i (· ++ [x])) = true)
    (hs : sequenceEqualCode.allSame ((σ.qs.modify i (· ++ [x])).map fun q => q.headD .unit) = true) :
    zStep σ i (.next x) = { σ with qs := (σ.qs.modify i (· ++ [x])).map List.tail } := by
  simp only [zStep, h, ↓reduceIte, o1Step, Data.toList_ofList, hs]

theorem zStep_next_diff (σ : GS) (i : Nat) (x : Data) (h : Zip.ne (σ.qs.modify i (· ++ [x])) = true)
    (hs : sequenceEqualCode.allSame ((σ.qs.modify i (· ++ [x])).map fun q => q.headD .unit) = false) :
    zStep σ i (.next x) =
      endState { σ with qs := (σ.qs.modify i (· ++ [x])).map List.tail } true [.next (.bool false), .complete] := by
  simp only [zStep, h, ↓reduceIte, o1Step, Data.toList_ofList, hs, Bool.false_eq_true]

theorem zStep_complete_ch (σ : GS) (i : Nat) :
    (zStep σ i .complete).ch = GRef.fupd σ.ch i { σ.ch i with zL := false } := by
  simp only [zStep]; split <;> rfl

variable {R : List Nat} {qs : List (List Data)} {σ : GS}

/-- tearing down everything in zip's map leaves no subject with an observer (`ch'` = the chains, one of which may
    have moved on and lost its registration) -/
theorem torn_quiet (hc : CorrOk k R qs σ) (ch' : Nat → CB) (hch : ∀ j, ch' j = σ.ch j ∨ (ch' j).sR = false) :
    Quiet k (tearAll ch' R) := by
  intro j hj
  rcases hch j with q | q
  · cases hr : R.contains j with
    | false => exact (tearAll_le ..).sR (q ▸ hc.chD j hj hr)
    | true => simp only [tearAll, hr, ↓reduceIte, q, hc.chL j hj hr, tZ_live]
  · exact (tearAll_le ..).sR q

theorem upd_or (ch : Nat → CB) (i : Nat) {b : CB} (hb : b.sR = false) (j : Nat) :
    GRef.fupd ch i b j = ch j ∨ (GRef.fupd ch i b j).sR = false := by
  by_cases q : j = i
  · subst q; rw [GRef.fupd_same]; exact .inr hb
  · rw [GRef.fupd_other _ _ q]; exact .inl rfl

/-- an item reaches zip's observer `i`, whatever the chains are: the comparison goes on (queues `Q`) or fails -/
theorem zStep_next_cases (hr : Ready k σ) (hq : σ.qs = qs) {i : Nat} (hR : R.contains i = true) (x : Data) :
    (∃ Q, zStep σ i (.next x) = { σ with qs := Q } ∧ Zip.ne Q = false ∧ Q.length = k ∧
        sequenceEqualCode.step (okS R qs) (i, .next x) = (okS R Q, [])) ∨
      ∃ Q, zStep σ i (.next x) = endState { σ with qs := Q } true [.next (.bool false), .complete] ∧
        (sequenceEqualCode.step (okS R qs) (i, .next x)).2 = [.next (.bool false), .complete] ∧
        DeadRes (sequenceEqualCode.step (okS R qs) (i, .next x)).1 := by
  subst hq
  have hlen : (σ.qs.modify i (· ++ [x])).length = k := by rw [List.length_modify]; exact hr.len
  cases hne : Zip.ne (σ.qs.modify i (· ++ [x])) with
  | false => exact .inl ⟨_, zStep_next_quiet σ i x hne, hne, hlen, ok_next_quiet _ _ i x hR hne⟩
  | true =>
    cases hs : sequenceEqualCode.allSame ((σ.qs.modify i (· ++ [x])).map fun q => q.headD .unit) with
    | true =>
      exact .inl ⟨_, zStep_next_same σ i x hne hs, nonEmpty_tails_modify σ.qs i x hr.ne hne,
        by rw [List.length_map]; exact hlen, ok_next_same _ _ i x hR hr.ne hne hs⟩
    | false => exact .inr ⟨_, zStep_next_diff σ i x hne hs, ok_next_diff _ _ i x hR hr.ne hne hs⟩

theorem zStep_next_alive (hr : Ready k σ) (i : Nat) (x : Data) (ha : (zStep σ i (.next x)).alive = true) :
    ∃ Q, zStep σ i (.next x) = { σ with qs := Q } ∧ Zip.ne Q = false ∧ Q.length = k := by
  -- only the `GS` half is wanted: any `R` that contains `i` will do
  rcases zStep_next_cases hr rfl (i := i) (R := [i]) (by simp) x with ⟨Q, hQ, h1, h2, _⟩ | ⟨Q, hQ, _⟩
  · exact ⟨Q, hQ, h1, h2⟩
  · rw [hQ] at ha; cases ha

/-- an item on a live source, on both sides -/
theorem corr_next (hc : CorrOk k R qs σ) {i : Nat} (hR : R.contains i = true) (x : Data) :
    (zStep σ i (.next x)).out = σ.out ++ (sequenceEqualCode.step (okS R qs) (i, .next x)).2 ∧
      Outcome k (sequenceEqualCode.step (okS R qs) (i, .next x)).1 (zStep σ i (.next x)) := by
  obtain ⟨hr, rfl, rfl, hL, hD, hlt⟩ := hc
  rcases zStep_next_cases hr rfl hR x with ⟨Q, hz, h1, h2, hs⟩ | ⟨Q, hz, hs, hd⟩
  · rw [hz, hs]
    exact ⟨(List.append_nil _).symm, .inl ⟨_, _, rfl, hr.setQ h1 h2, rfl, rfl, hL, hD, hlt⟩⟩
  · rw [hz, hs]
    exact ⟨rfl, .inr ⟨hd, torn_quiet ⟨hr, rfl, rfl, hL, hD, hlt⟩ σ.ch fun _ => .inl rfl⟩⟩

/-- a chain whose subject has been left may decay further -/
theorem Outcome.setCh {s : Over} (h : Outcome k s σ) {i : Nat} (hs : (σ.ch i).sR = false) {b : CB}
    (hb : b.sR = false) : Outcome k s (σ.setCh i b) := by
  have key : ∀ j, (σ.ch j).sR = false → ((σ.setCh i b).ch j).sR = false := fun j h =>
    (upd_or σ.ch i hb j).elim (fun q => (congrArg CB.sR q).trans h) id
  rcases h with ⟨R, qs, rfl, hc⟩ | ⟨hd, hq⟩
  · refine .inl ⟨R, qs, rfl, hc.ready.setCh .., hc.reg, hc.qs, fun j hj hjr => ?_, fun j hj hjr => key j (hc.chD j hj hjr),
      hc.rlt⟩
    have e : j ≠ i := fun e => by rw [e] at hj hjr; rw [hc.chL i hj hjr] at hs; cases hs
    exact (GRef.fupd_other _ _ e).trans (hc.chL j hj hjr)
  · exact .inr ⟨hd, fun j hj => key j (hq j hj)⟩

/-- the second half of a completion: zip's observer `i` completes in `σX`, which differs from `σ` in its queues and
    in chain `i`, whose subject has been left -/
theorem corr_tail (hc : CorrOk k R qs σ) {i : Nat} (hR : R.contains i = true) (σX : GS) (hX : Ready k σX)
    (hreg : σX.reg = R) (hout : σX.out = σ.out) (hch : ∀ j, j ≠ i → σX.ch j = σ.ch j)
    (hf : (σX.ch i).sR = false) :
    (zStep σX i .complete).out = σ.out ++ (sequenceEqualCode.step (okS R σX.qs) (i, .complete)).2 ∧
      Outcome k (sequenceEqualCode.step (okS R σX.qs) (i, .complete)).1 (zStep σX i .complete) := by
  have hne : ∀ j, j ∈ R.filter (· != i) ↔ j ∈ R ∧ j ≠ i := fun j => by simp
  have hD : ∀ j, j < k → (R.filter (· != i)).contains j = false → ((zKill σX i).ch j).sR = false := by
    intro j hj hjr
    refine (zKill_le σX i j).sR ?_
    by_cases e : j = i
    · exact e ▸ hf
    · rw [hch j e]
      refine hc.chD j hj ?_
      cases q : R.contains j with
      | false => rfl
      | true => rw [List.contains_iff_mem.2 ((hne j).2 ⟨by simpa using q, e⟩)] at hjr; cases hjr
  cases hm : (R.filter (· != i)).isEmpty with
  | false =>
    rw [ok_complete_more R σX.qs i hR hm]
    have hz : zStep σX i .complete = { zKill σX i with reg := R.filter (· != i) } := by
      simp only [zStep, hreg, hm, Bool.false_eq_true, ↓reduceIte]
    rw [hz]
    refine ⟨by rw [List.append_nil]; exact hout, .inl ⟨_, _, rfl, ?_⟩⟩
    exact
    { ready := ⟨⟨hX.top.alive, hX.top.oL, hX.top.oH, hX.top.oR, (hreg ▸ hX.top.nd).filter _⟩, hX.ne, hX.len, hX.kpos⟩
      reg := rfl
      qs := rfl
      chL := fun j hj hjr => by
        obtain ⟨q1, q2⟩ := (hne j).1 (by simpa using hjr)
        exact (GRef.fupd_other _ _ q2).trans ((hch j q2).trans (hc.chL j hj (by simpa using q1)))
      chD := hD
      rlt := fun j hj => hc.rlt j ((hne j).1 hj).1 }
  | true =>
    obtain ⟨e1, e2⟩ := ok_complete_last R σX.qs i hR hm
    have hz : zStep σX i .complete =
        endState { zKill σX i with reg := [] } false [.next (.bool true), .complete] := by
      simp only [zStep, hreg, hm, ↓reduceIte]
    rw [e1, hz]
    exact ⟨by show σX.out ++ _ = _; rw [hout],
      .inr ⟨e2, fun j hj => hD j hj (by rw [List.isEmpty_iff.1 hm]; rfl)⟩⟩

end Rx.SeqRef
