import RxVerif.Theorems.SimLoop
import RxVerif.Theorems.C02b
import RxVerif.Machine.Closed
/-
SIM: the object machine runs a standard operator exactly as its kernel says.

`stdOp K src` (Machine/Lib.lean; the shape of src/operators/take.rs, skip.rs, map.rs, … : one
`StreamController::new`, one state cell, one `new_observer` with three closures, `source.inner_subscribe`)
subscribed by a plain test subscriber, from an ARBITRARY ready world, over any source that plays a
stream `s` into the observer it is handed (`Plays`; `stdOp_sim`: the polite script source) produces for
the new subscriber exactly `K.run s`, disturbs nobody else, and leaves the upstream observer unsubscribed
exactly when the (machine-exact) kernel run says `cancelled` or the source delivered its own terminal.

This file: subscription set-up, `KRun` against the machine-exact run (`runFullX`), the main theorems.
-/
namespace Rx.Sim

/-- the shape shared by every standard operator: one controller, one state cell, one upstream observer -/
def genOp (N : Sctl → Nat → Nat → Data → Prog) (E : Sctl → Nat → Nat → Nat → Prog)
    (C : Sctl → Nat → Nat → Prog) (init : Data) (src : Obsv) : Obsv := fun s =>
  sctlNew s fun sc => .cellNew init fun c => sc.newObserver (N sc c) (E sc c) (C sc c) fun o => src.sub o

theorem modify_concat_length {α} (l : List α) (x : α) (f : α → α) :
    (l ++ [x]).modify l.length f = l ++ [f x] := by
  induction l with
  | nil => rfl
  | cons a l ih => simp [ih]

theorem set3_0 {α} (l : List α) (a b c a' : α) : (l ++ [a, b, c]).set l.length a' = l ++ [a', b, c] := by
  induction l with
  | nil => rfl
  | cons x l ih => simp [ih]

theorem set3_1 {α} (l : List α) (a b c b' : α) :
    (l ++ [a, b, c]).set (l.length + 1) b' = l ++ [a, b', c] := by
  induction l with
  | nil => rfl
  | cons x l ih => simp [ih]

theorem get3_0 {α} (l : List α) (a b c : α) : (l ++ [a, b, c])[l.length]? = some a := by simp
theorem get3_1 {α} (l : List α) (a b c : α) : (l ++ [a, b, c])[l.length + 1]? = some b := by simp
theorem get3_2 {α} (l : List α) (a b c : α) : (l ++ [a, b, c])[l.length + 2]? = some c := by simp
theorem get2_0 {α} (l : List α) (a b : α) : (l ++ [a, b])[l.length]? = some a := by simp
theorem get2_1 {α} (l : List α) (a b : α) : (l ++ [a, b])[l.length + 1]? = some b := by simp

/-- configuration of the subscription that `genOp N E C` creates in world `w` -/
def cfgGen (N : Sctl → Nat → Nat → Data → Prog) (E : Sctl → Nat → Nat → Nat → Prog)
    (C : Sctl → Nat → Nat → Prog) (w : World) : Cfg :=
  let sc : Sctl := ⟨w.obs.length, w.cells.length, w.cells.length + 1, w.slots.length⟩
  { R := w.obs.length, U := w.obs.length + 1, sU := w.users.length
    cs := w.cells.length, cm := w.cells.length + 1, cc := w.cells.length + 2, fin := w.slots.length
    hn := N sc (w.cells.length + 2) 0, he := E sc (w.cells.length + 2) 0, hc := C sc (w.cells.length + 2) 0
    base := logOf w }

theorem cfgGen_ok (N E C) (w : World) : (cfgGen N E C w).Ok :=
  ⟨by simp [cfgGen], by simp [cfgGen]⟩

/-- the world in which `subscribe` of `genOp ..` hands the upstream observer to the source -/
def setupW0 (N : Sctl → Nat → Nat → Data → Prog) (E : Sctl → Nat → Nat → Nat → Prog)
    (C : Sctl → Nat → Nat → Prog) (init : Data) (f : Nat → Prog) (w : World) : World :=
  let c := cfgGen N E C w
  { obs := w.obs ++ [xR c true true, xU c true]
    slots := w.slots ++ [none]
    cells := w.cells ++ [.int 1, mapD c true, init]
    obsvs := w.obsvs ++ [f]
    users := w.users ++ [⟨w.obs.length, fun _ _ _ => .done, false, true⟩]
    held := []
    trace := w.trace
    status := .ok }

/-- 14 steps: `obsvNew`, `userSub`, `sctlNew` (4), the state cell, `new_observer` (6), `src.sub` -/
theorem setup_run0 (N E C init) (body : Nat → Prog) (w : World) (hs : w.status = .ok) (hh : w.held = [])
    (fuel : Nat) (st : List Prog) :
    run (fuel + 14) ((Prog.obsvNew (genOp N E C init body) fun id =>
        .userSub id (fun _ _ _ => .done) .done) :: st) w
      = run fuel (body (w.obs.length + 1) :: .userReady w.users.length .done :: st)
          (setupW0 N E C init (genOp N E C init body) w) := by
  obtain ⟨obs, slots, cells, obsvs, users, held, trace, status⟩ := w
  simp only at hs hh
  subst hs hh
  simp only [genOp, run, sctlNew, Sctl.newObserver, Obsv.sub, List.getElem?_concat_length,
    World.conflicts, List.any_nil, World.setObs, Bool.false_eq_true, ↓reduceIte, Bool.and_false,
    List.append_assoc, List.cons_append, List.nil_append, List.length_append, List.length_cons, List.length_nil,
    modify_concat_length, get3_0, get3_1, set3_0, set3_1, get2_0, get2_1, Option.getD_some, Data.toInt, Int.toNat_zero,
    Obs.isSub, Option.isSome_some, Bool.and_self, Nat.zero_add, Nat.reduceAdd]
  rfl

theorem setup_rep0 (N E C init f) (w : World) (hq : logOf w w.users.length = []) :
    Rep (cfgGen N E C w) true true true [] init [] (setupW0 N E C init f w) where
  status := rfl
  held := rfl
  obsR := ⟨true, get2_0 _ _ _⟩
  obsU := get2_1 _ _ _
  map := get3_1 _ _ _ _
  cst := get3_2 _ _ _ _
  slot := by simp [setupW0, cfgGen]
  user := ⟨⟨w.obs.length, fun _ _ _ => .done, false, true⟩, by simp [setupW0, cfgGen], rfl⟩
  log := hq
  others := fun s' _ => rfl

def setupW (N : Sctl → Nat → Nat → Data → Prog) (E : Sctl → Nat → Nat → Nat → Prog)
    (C : Sctl → Nat → Nat → Prog) (init : Data) (f : Nat → Prog) (tag : Nat) (w : World) : World :=
  (setupW0 N E C init f w).emit (.probe (tag * 4) (.int (w.obs.length + 1 : Nat)))

def subscribeOver {σ} (K : Kernel σ) (body : Obsv) : Prog :=
  .obsvNew (stdOp K body) fun id => .userSub id (fun _ _ _ => .done) .done

/-- `subscribeOver K (oScript tag true s.toEvs)`, by `rfl` (the main theorems pass from one to the other silently) -/
def subscribeScript {σ} (K : Kernel σ) (tag : Nat) (s : Stream) : Prog :=
  .obsvNew (stdOp K (oScript tag true (s.toEvs))) fun id => .userSub id (fun _ _ _ => .done) .done

/-- any world a finished, successful run can have left behind -/
structure Ready (w : World) : Prop where
  status : w.status = .ok
  held : w.held = []
  inv : Inv w

/-- the observer `stdOp` handed to the source (created right after the subscriber's root observer)
    is no longer subscribed -/
def upstreamCancelled (w w' : World) : Bool :=
  (w'.obs[w.obs.length + 1]?.map Obs.isSub) == some false

def stdN {σ} (K : Kernel σ) : Sctl → Nat → Nat → Data → Prog := fun sc c serial x =>
  .cellRead c false fun st =>
    let r := K.onNext (K.dec st) x
    .cellWrite c false (K.enc r.1) (holdAcq K.holdNext c ;; actsP sc serial r.2 ;; holdRel K.holdNext c)
def stdE {σ} (K : Kernel σ) : Sctl → Nat → Nat → Nat → Prog := fun sc c serial e =>
  .cellRead c false fun st =>
    let r := K.onError (K.dec st) e
    .cellWrite c false (K.enc r.1) (actsP sc serial r.2)
def stdC {σ} (K : Kernel σ) : Sctl → Nat → Nat → Prog := fun sc c serial =>
  .cellRead c false fun st =>
    let r := K.onComplete (K.dec st)
    .cellWrite c false (K.enc r.1) (holdAcq K.holdComplete c ;; actsP sc serial r.2 ;; holdRel K.holdComplete c)

theorem stdOp_eq_genOp {σ} (K : Kernel σ) (src : Obsv) :
    stdOp K src = genOp (stdN K) (stdE K) (stdC K) (K.enc K.init) src := rfl

theorem std_handlers {σ} (K : Kernel σ) (w : World) :
    Handlers K (cfgGen (stdN K) (stdE K) (stdC K) w) :=
  ⟨fun _ => rfl, fun _ => rfl, rfl⟩

/-! ### `KRun` against the machine-exact run

`KRun.act .abortSelf` says `cancelled := true`; the machine (and the Rust code) unsubscribes the
upstream observer only if its serial is still registered.  The two can differ only after the
downstream has already received its terminal, so the subscriber's log is the same for EVERY kernel;
the `cancelled` flag is the same for every kernel whose `on_next` never completes before aborting
(`AbortsFirst`). -/

theorem actX_dead (r : KRun) (a : Act) (h1 : r.alive = false) (h2 : r.registered = false) :
    actX r a = r := by
  obtain ⟨al, ca, rg, out⟩ := r
  simp only at h1 h2
  subst h1 h2
  cases a <;> simp [actX, KRun.act]

theorem actsX_dead (as : List Act) (r : KRun) (h1 : r.alive = false) (h2 : r.registered = false) :
    actsX r as = r := by
  induction as with
  | nil => rfl
  | cons a as ih => simp only [actsX, List.foldl_cons, actX_dead r a h1 h2]; exact ih

theorem feedX_dead {σ} (K : Kernel σ) (xs : List Data) : ∀ (st : σ) (r : KRun), r.alive = false →
    r.registered = false → (feedX K st r xs).2 = r := by
  induction xs with
  | nil => exact fun _ _ _ _ => rfl
  | cons x xs ih =>
    intro st r h1 h2
    simp only [feedX]
    split
    · rfl
    · rw [actsX_dead _ r h1 h2]; exact ih _ r h1 h2

theorem finishX_dead {σ} (K : Kernel σ) (st : σ) (r : KRun) (e : Ending) (h1 : r.alive = false)
    (h2 : r.registered = false) : finishX K st r e = r := by
  cases e <;> simp only [finishX, actsX_dead _ r h1 h2, ite_self]

theorem act_dead (r : KRun) (a : Act) (h1 : r.alive = false) :
    (r.act a).alive = false ∧ (r.act a).out = r.out := by
  cases a <;> simp [KRun.act, h1]

theorem cancelled_act (r : KRun) (a : Act) (h : r.cancelled = true ∨ a = .abortSelf) :
    (r.act a).cancelled = true := by
  obtain ⟨al, ca, rg, out⟩ := r
  cases a <;> cases al <;> simp_all [KRun.act]

/-- from the initial state: an unregistered upstream is cancelled unless the downstream is already dead -/
def GoodR (r : KRun) : Prop := r.registered = false → r.cancelled = true ∨ r.alive = false

theorem goodR_act (r : KRun) (a : Act) (h : GoodR r) : GoodR (r.act a) := by
  obtain ⟨al, ca, rg, out⟩ := r
  unfold GoodR at *
  cases a <;> cases al <;> simp_all [KRun.act]

/-- the two runs have parted: `KRun` believes `cancelled`, the machine's upstream is still subscribed;
    the downstream is dead on both sides, so nothing more is ever delivered -/
structure Div (r rx : KRun) : Prop where
  rc : r.cancelled = true
  ra : r.alive = false
  xa : rx.alive = false
  xr : rx.registered = false
  out : rx.out = r.out

/-- the `KRun` run `r` against the machine-exact run `rx`: equal, or parted for good -/
def J (r rx : KRun) : Prop := (rx = r ∧ GoodR r) ∨ Div r rx

theorem J.out {r rx : KRun} (h : J r rx) : rx.out = r.out := by
  rcases h with ⟨rfl, _⟩ | h
  · rfl
  · exact h.out

theorem J_act (r rx : KRun) (a : Act) (h : J r rx) : J (r.act a) (actX rx a) := by
  rcases h with ⟨rfl, hg⟩ | h
  · by_cases ha : a = .abortSelf
    · subst ha
      obtain ⟨al, ca, rg, out⟩ := rx
      unfold GoodR at hg
      cases rg with
      | true => left; refine ⟨by simp [actX, KRun.act], ?_⟩; simp [GoodR, KRun.act]
      | false =>
        cases ca with
        | true => left; refine ⟨by simp [actX, KRun.act], ?_⟩; simp [GoodR, KRun.act]
        | false =>
          right
          have : al = false := by simpa using hg
          subst this
          exact ⟨rfl, rfl, rfl, rfl, rfl⟩
    · left
      refine ⟨?_, goodR_act _ _ hg⟩
      cases a <;> first | rfl | exact absurd rfl ha
  · right
    have := act_dead r a h.ra
    rw [actX_dead rx a h.xa h.xr]
    exact ⟨cancelled_act r a (Or.inl h.rc), this.1, h.xa, h.xr, by rw [this.2]; exact h.out⟩

theorem J_acts (as : List Act) : ∀ (r rx : KRun), J r rx → J (r.acts as) (actsX rx as) := by
  induction as with
  | nil => intro r rx h; exact h
  | cons a as ih =>
    intro r rx h
    simp only [KRun.acts, actsX, List.foldl_cons]
    exact ih _ _ (J_act r rx a h)

theorem J_feed {σ} (K : Kernel σ) (xs : List Data) : ∀ (st : σ) (r : KRun), GoodR r →
    (feedX K st r xs = K.feed st r xs ∧ GoodR (K.feed st r xs).2) ∨
      Div (K.feed st r xs).2 (feedX K st r xs).2 := by
  induction xs with
  | nil => exact fun _ _ hg => Or.inl ⟨rfl, hg⟩
  | cons x xs ih =>
    intro st r hg
    cases hc : r.cancelled with
    | true =>
      rw [C02b.feed_cancelled K st r _ hc, feedX_cancelled K _ st r hc]
      exact Or.inl ⟨rfl, hg⟩
    | false =>
      simp only [Kernel.feed, feedX, hc, Bool.false_eq_true, ↓reduceIte]
      rcases J_acts (K.onNext st x).2 r r (Or.inl ⟨rfl, hg⟩) with ⟨e, g⟩ | d
      · rw [e]; exact ih _ _ g
      · rw [C02b.feed_cancelled K _ _ _ d.rc, feedX_dead K xs _ _ d.xa d.xr]
        exact Or.inr d

/-- the subscriber's log: `KRun` is exact for every kernel -/
theorem runFullX_out {σ} (K : Kernel σ) (s : Stream) : (runFullX K s).out = K.run s := by
  show (finishX K _ _ s.2).out = (K.finish _ _ s.2).out
  rcases J_feed K s.1 K.init {} (fun h => nomatch h) with ⟨e, g⟩ | d
  · rw [e]
    generalize K.feed K.init {} s.1 = p at g
    have key : ∀ as, (if p.2.cancelled then p.2 else actsX p.2 as).out
        = (if p.2.cancelled then p.2 else p.2.acts as).out := fun as => by
      split
      · rfl
      · exact (J_acts as _ _ (Or.inl ⟨rfl, g⟩)).out
    cases s.2 with
    | silent => rfl
    | complete => exact key _
    | error e => exact key _
  · rw [C02b.finish_cancelled K _ _ _ d.rc, finishX_dead K _ _ _ d.xa d.xr]
    exact d.out

/-- no `complete` before an `abortSelf` in one action list (`ab`: an `abortSelf` has been seen) -/
def okActs : Bool → List Act → Bool
  | _, [] => true
  | _, .abortSelf :: as => okActs true as
  | ab, .complete :: as => ab && okActs ab as
  | ab, _ :: as => okActs ab as

/-- `on_next` never calls `sink_complete` without having called `upstream_abort_observe` first -/
def _root_.Rx.Kernel.AbortsFirst {σ} (K : Kernel σ) : Prop := ∀ st x, okActs false (K.onNext st x).2 = true

/-- what a kernel that aborts first keeps true of its run -/
structure Settled (r : KRun) : Prop where
  reg : r.cancelled = true ∨ r.registered = true
  done : r.alive = false → r.cancelled = true

theorem Settled.init : Settled {} := ⟨Or.inr rfl, fun h => nomatch h⟩

theorem actX_eq (r : KRun) (a : Act) (h : Settled r) : actX r a = r.act a := by
  obtain ⟨al, ca, rg, out⟩ := r
  cases a <;> first | rfl | (rcases h.reg with h | h <;> simp only at h <;> subst h <;> simp [actX, KRun.act])

theorem Settled.act {r : KRun} (h : Settled r) (a : Act) (ha : a ≠ .complete ∨ r.cancelled = true) :
    Settled (r.act a) := by
  obtain ⟨al, ca, rg, out⟩ := r
  obtain ⟨h1, h2⟩ := h
  constructor <;> cases a <;> cases al <;> simp_all [KRun.act]

theorem okActs_cons {ab : Bool} {a : Act} {as : List Act} (h : okActs ab (a :: as) = true) :
    (a ≠ .complete ∨ ab = true) ∧
      ∃ ab', okActs ab' as = true ∧ (ab' = true → ab = true ∨ a = .abortSelf) := by
  cases a
  case abortSelf => exact ⟨Or.inl nofun, true, h, fun _ => Or.inr rfl⟩
  case complete =>
    simp only [okActs, Bool.and_eq_true] at h
    exact ⟨Or.inr h.1, ab, h.2, Or.inl⟩
  all_goals exact ⟨Or.inl nofun, ab, h, Or.inl⟩

theorem acts_exact (as : List Act) : ∀ (ab : Bool) (r : KRun), okActs ab as = true →
    (ab = true → r.cancelled = true) → Settled r →
    actsX r as = r.acts as ∧ Settled (r.acts as) := by
  induction as with
  | nil => exact fun _ _ _ _ h => ⟨rfl, h⟩
  | cons a as ih =>
    intro ab r hok hab hr
    obtain ⟨ha, ab', hok', h'⟩ := okActs_cons hok
    simp only [actsX, KRun.acts, List.foldl_cons]
    rw [actX_eq r a hr]
    exact ih ab' _ hok' (fun e => cancelled_act r a ((h' e).imp_left hab)) (hr.act a (ha.imp_right hab))

theorem feed_exact {σ} (K : Kernel σ) (hA : Kernel.AbortsFirst K) (xs : List Data) : ∀ (st : σ) (r : KRun),
    Settled r → feedX K st r xs = K.feed st r xs ∧ Settled (K.feed st r xs).2 := by
  induction xs with
  | nil => exact fun _ _ h => ⟨rfl, h⟩
  | cons x xs ih =>
    intro st r hr
    simp only [feedX, Kernel.feed]
    split
    · exact ⟨rfl, hr⟩
    · have := acts_exact (K.onNext st x).2 false r (hA st x) (fun h => nomatch h) hr
      rw [this.1]
      exact ih _ _ this.2

theorem cancelled_exact {σ} (K : Kernel σ) (hA : Kernel.AbortsFirst K) (s : Stream) :
    ((runFullX K s).cancelled || s.2 != .silent) = ((K.runFull s).cancelled || s.2 != .silent) := by
  obtain ⟨xs, e⟩ := s
  cases e with
  | silent =>
    simp only [runFullX, Kernel.runFull, finishX, Kernel.finish]
    rw [(feed_exact K hA xs K.init {} .init).1]
  | complete => simp [complete_bne_silent]
  | error e => simp [error_bne_silent]

/-- SIM, for any source whose program plays `s` against the closures of `stdOp K` -/
theorem stdOp_sim_of_plays {σ} (K : Kernel σ) (w : World) (hw : Ready w) (body : Obsv) (s : Stream)
    (hbody : ∀ c : Cfg, c.Ok → Handlers K c → Plays K c (body c.U) s.1 s.2) :
    WP (subscribeOver K body) w fun w' =>
      w'.status = .ok ∧
      logOf w' w.users.length = K.run s ∧
      (∀ s', s' ≠ w.users.length → logOf w' s' = logOf w s') ∧
      upstreamCancelled w w' = ((runFullX K s).cancelled || s.2 != .silent) ∧
      w'.held = [] := by
  let c := cfgGen (stdN K) (stdE K) (stdC K) w
  have h1 : RepK c false {} [] (K.enc K.init)
      (setupW0 (stdN K) (stdE K) (stdC K) (K.enc K.init) (stdOp K body) w) :=
    setup_rep0 _ _ _ _ _ w (hw.inv.quiet _ (Nat.le_refl _))
  refine Ref.wp_steps2 14 _ _ _ (setup_run0 _ _ _ _ body w hw.status hw.held)
    ((hbody c (cfgGen_ok _ _ _ w) (std_handlers K w) K.init {} _ h1).conseq fun w2 ⟨cs', h2⟩ =>
      Ref.wp_userReady (WP.done ?_))
  have hu : w2.obs[w.obs.length + 1]? = some (xU c (!((runFullX K s).cancelled || s.2 != .silent))) := h2.obsU
  refine ⟨h2.status, (runFullX_out K s) ▸ h2.log, h2.others, ?_, h2.held⟩
  show ((w2.obs[w.obs.length + 1]?).map Obs.isSub == some false) = _
  rw [hu, Option.map_some, xU_isSub]
  cases (runFullX K s).cancelled || s.2 != .silent <;> rfl

theorem plays_script {σ} {K : Kernel σ} {c : Cfg} (ok : c.Ok) (hh : Handlers K c) (hK : Kernel.WellEncoded K)
    (tag : Nat) (s : Stream) : Plays K c (oScript tag true s.toEvs c.U) s.1 s.2 :=
  fun st r _ h => rep_probe h fun w1 h1 => loop_spec ok hh hK tag s.2 s.1 st r w1 h1

/-- SIM.  `K.run s` is what the new subscriber sees — for EVERY well-encoded kernel, from ANY ready
    world — and nobody else is disturbed.  The cancellation link is stated with the machine-exact run
    (`runFullX`); `stdOp_sim_cancel` below replaces it by `K.runFull` for kernels that abort first. -/
theorem stdOp_sim {σ} (K : Kernel σ) (hK : Kernel.WellEncoded K) (w : World) (hw : Ready w) (tag : Nat)
    (s : Stream) :
    ∃ N, ∀ fuel, N ≤ fuel →
      let w' := run fuel [subscribeScript K tag s] w
      w'.status = .ok ∧
      logOf w' w.users.length = K.run s ∧
      (∀ s', s' ≠ w.users.length → logOf w' s' = logOf w s') ∧
      upstreamCancelled w w' = ((runFullX K s).cancelled || s.2 != .silent) :=
  eventually_imp (stdOp_sim_of_plays K w hw (oScript tag true s.toEvs) s
    fun _ ok hh => plays_script ok hh hK tag s).run_all fun _ h => ⟨h.1, h.2.1, h.2.2.1, h.2.2.2.1⟩

/-- the world after the subscription is ready again: subscriptions can be chained -/
theorem stdOp_ready {σ} (K : Kernel σ) (hK : Kernel.WellEncoded K) (w : World) (hw : Ready w) (tag : Nat)
    (s : Stream) :
    ∃ N, ∀ fuel, N ≤ fuel → Ready (run fuel [subscribeScript K tag s] w) :=
  eventually_imp (stdOp_sim_of_plays K w hw (oScript tag true s.toEvs) s
    fun _ ok hh => plays_script ok hh hK tag s).run_all
    fun _ h => ⟨h.1, h.2.2.2.2, run_closed inv_closed _ _ _ hw.inv⟩

/-- C06 link: the upstream observer ends up unsubscribed iff the kernel run says `cancelled`, or the
    source delivered its own terminal (which also clears the observer's slots). -/
theorem stdOp_sim_cancel {σ} (K : Kernel σ) (hK : Kernel.WellEncoded K) (hA : Kernel.AbortsFirst K)
    (w : World) (hw : Ready w) (tag : Nat) (s : Stream) :
    ∃ N, ∀ fuel, N ≤ fuel →
      let w' := run fuel [subscribeScript K tag s] w
      w'.status = .ok ∧
      logOf w' w.users.length = K.run s ∧
      (∀ s', s' ≠ w.users.length → logOf w' s' = logOf w s') ∧
      upstreamCancelled w w' = ((K.runFull s).cancelled || s.2 != .silent) := by
  refine eventually_imp (stdOp_sim K hK w hw tag s) fun fuel h => ?_
  rw [cancelled_exact K hA] at h
  exact h

theorem cancelled_exact_silent {σ} (K : Kernel σ) (hA : Kernel.AbortsFirst K) (xs : List Data) :
    (runFullX K (xs, .silent)).cancelled = (K.runFull (xs, .silent)).cancelled := by
  simpa using cancelled_exact K hA (xs, .silent)

/-- a source that never terminates: unsubscribed ⇔ cancelled, exactly -/
theorem stdOp_sim_silent {σ} (K : Kernel σ) (hK : Kernel.WellEncoded K) (hA : Kernel.AbortsFirst K)
    (w : World) (hw : Ready w) (tag : Nat) (xs : List Data) :
    ∃ N, ∀ fuel, N ≤ fuel →
      upstreamCancelled w (run fuel [subscribeScript K tag (xs, .silent)] w)
        = (K.runFull (xs, .silent)).cancelled :=
  eventually_imp (stdOp_sim_cancel K hK hA w hw tag (xs, .silent)) fun _ h => by simpa using h.2.2.2

/-- C14: what a new subscriber sees does not depend on the world it subscribes in -/
theorem subscribe_independent {σ} (K : Kernel σ) (hK : Kernel.WellEncoded K) (w₁ w₂ : World)
    (h₁ : Ready w₁) (h₂ : Ready w₂) (tag₁ tag₂ : Nat) (s : Stream) :
    ∃ N, ∀ fuel, N ≤ fuel →
      logOf (run fuel [subscribeScript K tag₁ s] w₁) w₁.users.length
        = logOf (run fuel [subscribeScript K tag₂ s] w₂) w₂.users.length :=
  eventually_imp (eventually_and (stdOp_sim K hK w₁ h₁ tag₁ s) (stdOp_sim K hK w₂ h₂ tag₂ s))
    fun _ h => h.1.2.1.trans h.2.2.1.symm

/-- every world a run of ANY program from the empty world leaves behind in good order is ready for the next
    subscription -/
theorem ready_run (n : Nat) (p : Prog) (h : (run n [p] {}).status = .ok) (hh : (run n [p] {}).held = []) :
    Ready (run n [p] {}) :=
  ⟨h, hh, run_closed inv_closed n [p] {} inv_empty⟩

/-! ### the kernels of Kernel/Basic.lean are well encoded and abort first
(`kTimeInterval`: `Theorems/C02c.lean`; `kSome` has no lemma of its own) -/

theorem we_unit (K : Kernel Unit) : Kernel.WellEncoded K := fun _ => rfl

theorem we_kMap (f : Fn) : Kernel.WellEncoded (kMap f) := we_unit _
theorem we_kFilter (p : Pred) : Kernel.WellEncoded (kFilter p) := we_unit _
theorem we_kTake (n : Nat) : Kernel.WellEncoded (kTake n) := fun st => by simp [kTake, Data.toInt]
theorem we_kSkip (n : Nat) : Kernel.WellEncoded (kSkip n) := fun st => by simp [kSkip, Data.toInt]
theorem we_kTakeWhile (p : Pred) : Kernel.WellEncoded (kTakeWhile p) := we_unit _
theorem we_kSkipWhile (p : Pred) : Kernel.WellEncoded (kSkipWhile p) := fun st => by
  simp [kSkipWhile, Data.toBool]
theorem we_kTakeLast (n : Nat) : Kernel.WellEncoded (kTakeLast n) := fun st => by simp [kTakeLast]
theorem we_kSkipLast (n : Nat) : Kernel.WellEncoded (kSkipLast n) := fun st => by simp [kSkipLast]
theorem we_kDistinct : Kernel.WellEncoded kDistinct := fun st => optDec_optEnc st
theorem we_kScan (f : Fn2) : Kernel.WellEncoded (kScan f) := fun st => optDec_optEnc st
theorem we_kFold (f : Data → Data → Data) : Kernel.WellEncoded (kFold f) := fun st => optDec_optEnc st
theorem we_kReduce (f : Fn2) : Kernel.WellEncoded (kReduce f) := we_kFold _
theorem we_kSum : Kernel.WellEncoded kSum := we_kFold _
theorem we_kMin : Kernel.WellEncoded kMin := we_kFold _
theorem we_kMax : Kernel.WellEncoded kMax := we_kFold _
theorem we_kCount : Kernel.WellEncoded kCount := fun st => by simp [kCount, Data.toInt]
theorem we_kSumAndCount : Kernel.WellEncoded kSumAndCount := fun st => by
  obtain ⟨a, n⟩ := st
  simp [kSumAndCount, optDec_optEnc]
theorem we_kContains (d : Data) : Kernel.WellEncoded (kContains d) := we_unit _
theorem we_kDefaultIfEmpty (d : Data) : Kernel.WellEncoded (kDefaultIfEmpty d) := fun st => by
  simp [kDefaultIfEmpty, Data.toBool]
theorem we_kIgnoreElements : Kernel.WellEncoded kIgnoreElements := we_unit _
theorem we_kBuffer (n : Nat) : Kernel.WellEncoded (kBuffer n) := fun st => by simp [kBuffer]
theorem we_kMaterialize : Kernel.WellEncoded kMaterialize := we_unit _
theorem we_kDematerialize : Kernel.WellEncoded kDematerialize := we_unit _
theorem we_kId : Kernel.WellEncoded kId := we_unit _

theorem af_kMap (f : Fn) : Kernel.AbortsFirst (kMap f) := fun _ _ => rfl
theorem af_kFilter (p : Pred) : Kernel.AbortsFirst (kFilter p) := fun _ x => by
  simp only [kFilter]; split <;> rfl
theorem af_kTake (n : Nat) : Kernel.AbortsFirst (kTake n) := fun st x => by
  simp only [kTake]; split <;> split <;> rfl
theorem af_kSkip (n : Nat) : Kernel.AbortsFirst (kSkip n) := fun st x => by
  simp only [kSkip]; split <;> rfl
theorem af_kTakeWhile (p : Pred) : Kernel.AbortsFirst (kTakeWhile p) := fun _ x => by
  simp only [kTakeWhile]; split <;> rfl
theorem af_kSkipWhile (p : Pred) : Kernel.AbortsFirst (kSkipWhile p) := fun st x => by
  simp only [kSkipWhile]; split <;> rfl
theorem af_kTakeLast (n : Nat) : Kernel.AbortsFirst (kTakeLast n) := fun _ _ => rfl
theorem af_kSkipLast (n : Nat) : Kernel.AbortsFirst (kSkipLast n) := fun st x => by
  simp only [kSkipLast]; split
  · simp only; split <;> rfl
  · rfl
theorem af_kDistinct : Kernel.AbortsFirst kDistinct := fun st x => by
  simp only [kDistinct]; split
  · split <;> rfl
  · rfl
theorem af_kScan (f : Fn2) : Kernel.AbortsFirst (kScan f) := fun _ _ => rfl
theorem af_kFold (f : Data → Data → Data) : Kernel.AbortsFirst (kFold f) := fun _ _ => rfl
theorem af_kReduce (f : Fn2) : Kernel.AbortsFirst (kReduce f) := af_kFold _
theorem af_kSum : Kernel.AbortsFirst kSum := af_kFold _
theorem af_kMin : Kernel.AbortsFirst kMin := af_kFold _
theorem af_kMax : Kernel.AbortsFirst kMax := af_kFold _
theorem af_kCount : Kernel.AbortsFirst kCount := fun _ _ => rfl
theorem af_kSumAndCount : Kernel.AbortsFirst kSumAndCount := fun _ _ => rfl
theorem af_kContains (d : Data) : Kernel.AbortsFirst (kContains d) := fun _ x => by
  simp only [kContains]; split <;> rfl
theorem af_kDefaultIfEmpty (d : Data) : Kernel.AbortsFirst (kDefaultIfEmpty d) := fun _ _ => rfl
theorem af_kIgnoreElements : Kernel.AbortsFirst kIgnoreElements := fun _ _ => rfl
theorem af_kBuffer (n : Nat) : Kernel.AbortsFirst (kBuffer n) := fun st x => by
  simp only [kBuffer]; split <;> rfl
theorem af_kMaterialize : Kernel.AbortsFirst kMaterialize := fun _ _ => rfl
theorem af_kDematerialize : Kernel.AbortsFirst kDematerialize := fun _ x => by
  simp only [kDematerialize]; split <;> rfl
theorem af_kId : Kernel.AbortsFirst kId := fun _ _ => rfl

/-- `stdOp_sim_cancel` for `take(n)`, the two hypotheses on the kernel discharged -/
theorem take_sim (n : Nat) (w : World) (hw : Ready w) (tag : Nat) (s : Stream) :
    ∃ N, ∀ fuel, N ≤ fuel →
      let w' := run fuel [subscribeScript (kTake n) tag s] w
      w'.status = .ok ∧
      logOf w' w.users.length = (kTake n).run s ∧
      (∀ s', s' ≠ w.users.length → logOf w' s' = logOf w s') ∧
      upstreamCancelled w w' = (((kTake n).runFull s).cancelled || s.2 != .silent) :=
  stdOp_sim_cancel (kTake n) (we_kTake n) (af_kTake n) w hw tag s

/-! ### `upstreamCancelled w' = (K.runFull s).cancelled` is false for arbitrary kernels

A kernel whose `on_next` completes first and aborts afterwards: `sink_complete` removes the serial
from the map, so the later `upstream_abort_observe` finds nothing and the upstream observer stays
subscribed, while `KRun.act .abortSelf` reports `cancelled = true`.  (No operator of the crate does
this; `AbortsFirst` is exactly the condition that rules it out.) -/

def kBad : Kernel Unit :=
  { init := (), onNext := fun _ _ => ((), [.complete, .abortSelf]), enc := fun _ => .unit, dec := fun _ => () }

theorem ready_empty : Ready {} := ⟨rfl, rfl, inv_empty⟩

theorem kBad_not_cancelled :
    upstreamCancelled {} (run 200 [subscribeScript kBad 0 ([.int 1], .silent)] {}) = false ∧
    (kBad.runFull ([.int 1], .silent)).cancelled = true ∧
    (runFullX kBad ([.int 1], .silent)).cancelled = false := by decide

example : Ready {} := ready_empty
/-- `take(2)` over a 3-item script, from the empty world, as the machine computes it -/
theorem take2_run :
    let w' := run 400 [subscribeScript (kTake 2) 7 ([.int 1, .int 2, .int 3], .complete)] {}
    w'.status = .ok ∧ w'.held = [] ∧ logOf w' 0 = [.next (.int 1), .next (.int 2), .complete] ∧
    upstreamCancelled {} w' = true := by decide

/-- a non-trivial ready world: the one a first subscription leaves behind -/
example : Ready (run 400 [subscribeScript (kTake 2) 7 ([.int 1, .int 2, .int 3], .complete)] {}) :=
  ready_run _ _ take2_run.1 take2_run.2.1
/-- `Rep` (hypothesis of every macro lemma) holds right after set-up, whatever the closures are -/
example (N E C) : Rep (cfgGen N E C {}) true true true [] .unit [] (setupW N E C .unit (fun _ => .done) 0 {}) :=
  (setup_rep0 N E C .unit _ {} rfl).probe _ _
example : Kernel.WellEncoded (kTake 2) ∧ Kernel.AbortsFirst (kTake 2) := ⟨we_kTake 2, af_kTake 2⟩

/-- the conclusion of `stdOp_sim_cancel` on `take(2)` and a 3-item script, computed by the machine -/
example :
    let s : Stream := ([.int 1, .int 2, .int 3], .complete)
    let w' := run 400 [subscribeScript (kTake 2) 7 s] {}
    w'.status = .ok ∧
    logOf w' 0 = [.next (.int 1), .next (.int 2), .complete] ∧
    logOf w' 0 = (kTake 2).run s ∧
    upstreamCancelled {} w' = true ∧
    ((kTake 2).runFull s).cancelled = true :=
  ⟨take2_run.1, take2_run.2.2.1, take2_run.2.2.1.trans (by decide), take2_run.2.2.2, by decide⟩

/-- a hold-carrying kernel (`take_last`: read guard alive across the emissions); the source completes, so its observer
    ends up unsubscribed although the kernel run does not say `cancelled` -/
example :
    let s : Stream := ([.int 1, .int 2, .int 3], .complete)
    let w' := run 400 [subscribeScript (kTakeLast 2) 7 s] {}
    w'.status = .ok ∧ w'.held = [] ∧
    logOf w' 0 = [.next (.int 2), .next (.int 3), .complete] ∧
    upstreamCancelled {} w' = true ∧ ((kTakeLast 2).runFull s).cancelled = false := by decide

/-- a second subscription in the world the first one left behind (independence, C14) -/
example :
    let s : Stream := ([.int 1, .int 2, .int 3], .silent)
    let w1 := run 400 [subscribeScript (kTake 2) 7 s] {}
    let w2 := run 400 [subscribeScript (kSkip 1) 8 s] w1
    w1.status = .ok ∧ w1.held = [] ∧
    logOf w2 1 = [.next (.int 2), .next (.int 3)] ∧ logOf w2 0 = logOf w1 0 ∧
    upstreamCancelled w1 w2 = false := by decide

end Rx.Sim

#print axioms Rx.Sim.finalize_spec
#print axioms Rx.Sim.acts_spec
#print axioms Rx.Sim.loop_spec
#print axioms Rx.Sim.runFullX_out
#print axioms Rx.Sim.cancelled_exact
#print axioms Rx.Sim.stdOp_sim
#print axioms Rx.Sim.stdOp_ready
#print axioms Rx.Sim.stdOp_sim_cancel
#print axioms Rx.Sim.stdOp_sim_silent
#print axioms Rx.Sim.subscribe_independent
#print axioms Rx.Sim.ready_run
#print axioms Rx.Sim.take_sim
#print axioms Rx.Sim.kBad_not_cancelled
