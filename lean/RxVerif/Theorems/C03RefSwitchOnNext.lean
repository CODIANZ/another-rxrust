import RxVerif.Theorems.C03RefGStatic
import RxVerif.Theorems.C03
/-
C03-REF, switch_on_next: model A's `oSwitchOnNext` (Machine/Lib.lean, transliterating
src/operators/switch_on_next.rs) over two plain hot subjects (0 = source, 1 = target) REFINES the pure history
machine `Comb.switchOnNext`.  (There is no list specification of switch_on_next in Spec/Comb.lean / C03.lean, so
there is no transported corollary.)
-/
namespace Rx.CRef.SwitchOnNext
open Rx.Sim Rx.Ref Rx.Comb Rx.CRef Rx.GRef

def sc : Sctl := ⟨0, 4, 5, 4⟩

/-- switch_on_next.rs:30-64: the source's observer is created first (serial 0, observer 1), then the target's
    (serial 1, observer 2); the `emitted` flag lives in cell 6 -/
def lay : GLay :=
  GLay.std 2 id
    (fun i x => if i = 0 then .cellRead 6 false fun b => if b.toBool then sc.abortObserve 0 else sc.sinkNext x
      else .cellWrite 6 false (.bool true) (sc.sinkNext x))
    (fun _ e => sc.sinkError e) fun i => if i = 0 then sc.sinkComplete 0 else sc.sinkCompleteForce

theorem lay_ok : lay.Ok := GLay.std_ok fun _ => rfl

def sim : StaticSim lay switchOnNext.step where
  ok := lay_ok
  ctl s := s.ctl
  fr s := ⟨.bool s.emitted, 2, 3⟩
  dead s p h := if_neg (by rw [show s.ctl.isLive p.1 = false from h]; decide)
  body s i ev out w _ hi hlv h := by
    have hi : i < 2 := hi
    obtain ⟨c, em⟩ := s
    have ok := lay_ok
    refine WP.conseq ?_ fun _ q => ⟨q, trivial⟩
    rcases (by omega : i = 0 ∨ i = 1) with e | e <;> subst e <;> cases ev <;>
      simp only [switchOnNext.step, Ctl.isLive, hlv, ↓reduceIte, beq_self_eq_true]
    · show WP (.cellRead 6 false fun b => if b.toBool then sc.abortObserve 0 else sc.sinkNext _) _ _
      refine wp_cellRead_val h.held (h.xc_some (by simp)) ?_
      cases em with
      | true => simp only [Data.toBool, ↓reduceIte, List.append_nil]; exact h.abort ok 0
      | false => exact h.sinkNext ok _
    · exact h.sinkError ok _
    · exact h.sinkComplete ok 0
    · show WP (.cellWrite 6 false (.bool true) (sc.sinkNext _)) _ _
      exact wp_cellWrite h.held ((h.setX ok (by simp) (.bool true)).sinkNext ok _)
    · exact h.sinkError ok _
    · exact h.sinkCompleteForce ok

/-- two plain subjects; test user 0 subscribes to `s0.switch_on_next(s1)`; then the history -/
def prog (H : History) : Prog :=
  subjsNew 2 fun sjs =>
    .obsvNew (oSwitchOnNext (sjs.getD 0 default).observable (sjs.getD 1 default).observable) fun id =>
    .userSub id noReact (drive sjs H)

/-- the closures by serial (0 = the source's observer), for `newObservers sc 2 mk` as in C03RefTakeUntil.lean -/
def mk : Nat → (Nat → Data → Prog) × (Nat → Nat → Prog) × (Nat → Prog) := fun m =>
  if m = 0 then
    (fun serial x => .cellRead 6 false fun b => if b.toBool then sc.abortObserve serial else sc.sinkNext x,
     fun _ e => sc.sinkError e, fun serial => sc.sinkComplete serial)
  else (fun _ x => .cellWrite 6 false (.bool true) (sc.sinkNext x), fun _ e => sc.sinkError e,
        fun _ => sc.sinkCompleteForce)

def theObsv : Nat → Prog := oSwitchOnNext (sjOf 0).observable (sjOf 1).observable

/-- For EVERY history over the two subjects the program ends, for all sufficient
    fuel, with `status = ok`, no guard held, the user's log equal to the output of `Comb.switchOnNext`, and subject
    `i` holding one observer iff `i` is in the machine's final `live` set. -/
theorem switch_on_next_refines (H : History) :
    ∃ n0, ∀ fuel, n0 ≤ fuel →
      Agrees 2 (run fuel [prog H] {}) (finalFrom switchOnNext.step switchOnNext.init H).ctl.live
        (switchOnNext.run 2 H) := by
  refine sim.refines (fun sjs => oSwitchOnNext (sjs.getD 0 default).observable (sjs.getD 1 default).observable) H
    switchOnNext.init trivial ?_
  show WP (theObsv 0) (startWorld 2 theObsv) (SRel lay (Ctl.init 2) ⟨.bool false, 2, 3⟩ [])
  simp only [theObsv, oSwitchOnNext]
  refine wp_sctlNew_start (wp_cellNew_ctl ?_)
  show WP (newObservers sc 2 mk fun os =>
    (sjOf 0).observable.sub (os.getD 0 0) ;; (sjOf 1).observable.sub (os.getD 1 0)) _ _
  refine wp_prepare lay_ok (GLay.std_std (fun _ => rfl) fun _ h => h) mk (two_cases rfl rfl)
    (rel_ctlWorld lay_ok (fun _ => rfl) [_] _) fun w1 h1 =>
    WP.seq ?_
  have hnd : (Ctl.init 2).live.Nodup := by decide
  refine (subscribe_static lay_ok h1 hnd (j := 0) (by decide) rfl rfl).conseq fun w2 h2 => ?_
  refine (subscribe_static lay_ok h2 hnd (j := 1) (by decide) rfl rfl).conseq fun w3 h3 => ?_
  exact ⟨_, h3, Static.of_on hnd (by decide)⟩

/-- the source's first item passes, the target takes over, the source aborts itself on its next item -/
def demo : History :=
  [(0, .next (.int 1)), (1, .next (.int 10)), (0, .next (.int 2)), (1, .next (.int 11)), (0, .next (.int 3)),
   (1, .complete), (1, .next (.int 12))]

theorem demo_run : (run 3000 [prog demo] {}).status = .ok ∧
    logOf (run 3000 [prog demo] {}) 0 = [.next (.int 1), .next (.int 10), .next (.int 11), .complete] := by
  decide +kernel

example : (run 3000 [prog demo] {}).status = .ok := demo_run.1
example : logOf (run 3000 [prog demo] {}) 0 = [.next (.int 1), .next (.int 10), .next (.int 11), .complete] := demo_run.2
example : switchOnNext.run 2 demo = [.next (.int 1), .next (.int 10), .next (.int 11), .complete] := by
  decide +kernel
example : (List.range 2).map (regCount (run 3000 [prog (demo.take 3)] {})) = [0, 1] ∧
    (finalFrom switchOnNext.step switchOnNext.init (demo.take 3)).ctl.live = [1] := by decide +kernel

#print axioms switch_on_next_refines

end Rx.CRef.SwitchOnNext
