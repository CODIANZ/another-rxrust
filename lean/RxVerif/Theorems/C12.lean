/-
C12 — subjects used from several threads.  Main theorems.

* plain `Subject` (all interleavings, any number of threads, arbitrary programs): `stays_subscribed_gets_all`,
  `stays_subscribed_multiset`, `per_producer_gap_free`, `no_duplicates`, `late_subscriber_suffix`,
  `unsubscriber_prefix` — proved in `RxVerif/Theorems/C12Subject.lean`, re-exported here.
* `ReplaySubject` / `BehaviorSubject`: the late-subscriber clauses are false in the model under concurrency (on the
  code: finding F14) — `replay_late_subscriber_violated`, `behavior_late_subscriber_violated` (concrete schedules,
  checked by `decide`); they hold when no `next` call overlaps a `subscribe` call — `replay_late_subscriber_partial`,
  `behavior_late_subscriber_partial`.
-/
import RxVerif.Theorems.C12Subject
import RxVerif.Theorems.C12Replay
import RxVerif.Theorems.C12Behavior

namespace Rx.Conc

/-- An observer registered before any producer started (`o < nPre`) and never unsubscribed has, once all
producers are done, received from every producer exactly that producer's items, each call exactly once, in program
order. -/
theorem stays_subscribed_gets_all {progs : List (List Subject.Call)} {nPre : Nat} {s : Subject.State}
    (h : Subject.Reachable progs nPre s) (o : Nat) (hpre : o < nPre)
    (hnever : ∀ t, Subject.Call.unsubscribe o ∉ progs.getD t [])
    (hdone : ∀ t, t < progs.length → s.done t) :
    ∀ t, s.recvFrom o t = Subject.progItems progs t ∧
      s.recvIdxFrom o t = List.range' 0 (Subject.progItems progs t).length :=
  Subject.stays_subscribed_gets_all h o hpre hnever hdone

/-- Multiset form: what it received is, as a multiset, exactly all items of all producers. -/
theorem stays_subscribed_multiset {progs : List (List Subject.Call)} {nPre : Nat} {s : Subject.State}
    (h : Subject.Reachable progs nPre s) (o : Nat) (hpre : o < nPre)
    (hnever : ∀ t, Subject.Call.unsubscribe o ∉ progs.getD t [])
    (hdone : ∀ t, t < progs.length → s.done t) :
    ((s.received o).map (·.2.2)).Perm ((List.range progs.length).flatMap (Subject.progItems progs)) :=
  Subject.stays_subscribed_multiset h o hpre hnever hdone

/-- Per producer, what ANY observer received — in ANY reachable state — is a contiguous block of that producer's
program, each call of the block delivered exactly once, in order. -/
theorem per_producer_gap_free {progs : List (List Subject.Call)} {nPre : Nat} {s : Subject.State}
    (h : Subject.Reachable progs nPre s) (o t : Nat) :
    ∃ a n, s.recvFrom o t = ((Subject.progItems progs t).drop a).take n ∧ s.recvIdxFrom o t = List.range' a n :=
  Subject.per_producer_gap_free h o t

theorem no_duplicates {progs : List (List Subject.Call)} {nPre : Nat} {s : Subject.State}
    (h : Subject.Reachable progs nPre s) (o t : Nat) : (s.recvIdxFrom o t).Nodup :=
  Subject.no_duplicates h o t

theorem late_subscriber_suffix {progs : List (List Subject.Call)} {nPre : Nat} {s : Subject.State}
    (h : Subject.Reachable progs nPre s) (o t : Nat) (hlive : (s.obs o).fnNext = true) (hdone : s.done t) :
    ∃ a, s.recvFrom o t = (Subject.progItems progs t).drop a ∧
      s.recvIdxFrom o t = List.range' a ((Subject.progItems progs t).length - a) :=
  Subject.late_subscriber_suffix h o t hlive hdone

theorem unsubscriber_prefix {progs : List (List Subject.Call)} {nPre : Nat} {s : Subject.State}
    (h : Subject.Reachable progs nPre s) (o t : Nat) (hpre : o < nPre) :
    ∃ n, s.recvFrom o t = (Subject.progItems progs t).take n ∧ s.recvIdxFrom o t = List.range' 0 n :=
  Subject.unsubscriber_prefix h o t hpre

def replayProgs : List (List Replay.Call) := [[.next (.int 1)], [.subscribe 0]]

/-- LOST ITEM: the subscriber clones the history (`hist`, still empty), then the producer pushes and broadcasts to a
still empty inner subject, then the subscriber registers.  Item 1 is in `items` but never reaches the subscriber. -/
def replayLost : List Replay.Label :=
  [(0, .call), (1, .call), (1, .isSub1), (1, .setTd), (1, .hist), (0, .push), (0, .snap), (0, .ret),
   (1, .serial), (1, .setTdF), (1, .insert), (1, .rdErr), (1, .rdCompl), (1, .hdone), (1, .setSbsc),
   (1, .isSubEnd)]

/-- DUPLICATED ITEM: the producer pushes, the subscriber clones the history (containing 1) and registers, the
producer broadcasts 1 to the registered forwarder, then the subscriber replays 1 again. -/
def replayDup : List Replay.Label :=
  [(0, .call), (0, .push), (1, .call), (1, .isSub1), (1, .setTd), (1, .hist), (1, .serial), (1, .setTdF),
   (1, .insert), (0, .snap), (0, .fetch), (0, .ofetch), (0, .deliver), (0, .ret), (1, .rdErr), (1, .rdCompl),
   (1, .hfetch), (1, .hdeliver), (1, .hdone), (1, .setSbsc), (1, .isSubEnd)]

/-- what the schedules are judged on: all threads finished, observer 0 subscribed and never unsubscribed,
contents of `items`, items received by observer 0 -/
def Replay.State.verdict (s : Replay.State) : Bool × Bool × Bool × List Data × List Data :=
  (s.allDone 2, (s.obs 0).subDone, (s.obs 0).fnNext, s.itemVals, s.recvVals 0)

theorem replayLost_verdict :
    (Replay.replay replayProgs replayLost).map Replay.State.verdict = some (true, true, true, [.int 1], []) := by
  decide +kernel

/-- "A late subscriber to a ReplaySubject still receives every item ever pushed exactly once in push order, even
while pushes are in progress" is false in the model: there is a complete run in which the subscriber receives
nothing although 1 was pushed, and a complete run in which it receives 1 twice. -/
theorem replay_late_subscriber_violated :
    (∃ ls, (Replay.replay replayProgs ls).map Replay.State.verdict = some (true, true, true, [.int 1], [])) ∧
    (∃ ls, (Replay.replay replayProgs ls).map Replay.State.verdict
      = some (true, true, true, [.int 1], [.int 1, .int 1])) :=
  ⟨⟨replayLost, replayLost_verdict⟩, ⟨replayDup, by decide +kernel⟩⟩

/-- the universally quantified clause, refuted -/
theorem replay_late_subscriber_clause_false :
    ¬ ∀ (progs : List (List Replay.Call)) (s : Replay.State) (o : Nat), Replay.Reachable progs s →
      (∀ t, t < progs.length → s.done t) → (s.obs o).subDone = true → (s.obs o).fnNext = true →
      s.recvVals o = s.itemVals := by
  intro hall
  obtain ⟨s, hs, hv⟩ := Option.map_eq_some_iff.mp replayLost_verdict
  simp only [Replay.State.verdict, Prod.mk.injEq] at hv
  obtain ⟨hd, h1, h2, h3, h4⟩ := hv
  simp only [Replay.State.allDone, List.all_eq_true, List.mem_range, decide_eq_true_eq] at hd
  have := hall replayProgs s 0 (Replay.reachable_of_replay hs) hd h1 h2
  rw [h3, h4] at this
  cases this

def behaviorProgs : List (List Behavior.Call) := [[.next (.int 1)], [.subscribe 0]]

/-- GAP: the subscriber reads `last_item = 0`, the producer stores 1 and broadcasts it to a still empty inner
subject, the subscriber is handed 0 and only then registers.  It has received 0 and will never see 1. -/
def behaviorLost : List Behavior.Label :=
  [(0, .call), (1, .call), (1, .isSub1), (1, .rdLast), (0, .setLast), (0, .snap), (0, .ret), (1, .rdErr),
   (1, .hfetch), (1, .hdeliver), (1, .isSub2), (1, .setTd), (1, .serial), (1, .setTdF), (1, .insert), (1, .setSbsc)]

/-- DUPLICATE: the producer stores 1, the subscriber reads it, is handed 1 and registers, then the producer's
broadcast of the same 1 reaches it again. -/
def behaviorDup : List Behavior.Label :=
  [(0, .call), (0, .setLast), (1, .call), (1, .isSub1), (1, .rdLast), (1, .rdErr), (1, .hfetch), (1, .hdeliver),
   (1, .isSub2), (1, .setTd), (1, .serial), (1, .setTdF), (1, .insert), (0, .snap), (0, .fetch), (0, .ofetch),
   (0, .deliver), (0, .ret), (1, .setSbsc)]

/-- all threads finished, observer 0 subscribed and never unsubscribed, every value `last_item` ever held,
items received by observer 0 -/
def Behavior.State.verdict (s : Behavior.State) : Bool × Bool × Bool × List Data × List Data :=
  (s.allDone 2, (s.obs 0).subDone, (s.obs 0).fnNext, s.vals, s.recvVals 0)

theorem behaviorLost_verdict : (Behavior.replay behaviorProgs (.int 0) behaviorLost).map Behavior.State.verdict
    = some (true, true, true, [.int 0, .int 1], [.int 0]) := by
  decide +kernel

/-- "A late subscriber to a BehaviorSubject receives a value and then every later value with no gap, even while
pushes are in progress" is false in the model: there is a complete run in which the subscriber receives the value 0
but never the later value 1, and a complete run in which it receives the single value 1 twice. -/
theorem behavior_late_subscriber_violated :
    (∃ ls, (Behavior.replay behaviorProgs (.int 0) ls).map Behavior.State.verdict
      = some (true, true, true, [.int 0, .int 1], [.int 0])) ∧
    (∃ ls, (Behavior.replay behaviorProgs (.int 0) ls).map Behavior.State.verdict
      = some (true, true, true, [.int 0, .int 1], [.int 1, .int 1])) :=
  ⟨⟨behaviorLost, behaviorLost_verdict⟩, ⟨behaviorDup, by decide +kernel⟩⟩

/-- the universally quantified clause ("what the subscriber received is a suffix of the sequence of values the
subject ever held"), refuted -/
theorem behavior_late_subscriber_clause_false :
    ¬ ∀ (progs : List (List Behavior.Call)) (s : Behavior.State) (o : Nat), Behavior.Reachable progs (.int 0) s →
      (∀ t, t < progs.length → s.done t) → (s.obs o).subDone = true → (s.obs o).fnNext = true →
      ∃ a, a < s.vals.length ∧ s.recvVals o = s.vals.drop a := by
  intro hall
  obtain ⟨s, hs, hv⟩ := Option.map_eq_some_iff.mp behaviorLost_verdict
  simp only [Behavior.State.verdict, Prod.mk.injEq] at hv
  obtain ⟨hd, h1, h2, h3, h4⟩ := hv
  simp only [Behavior.State.allDone, List.all_eq_true, List.mem_range, decide_eq_true_eq] at hd
  obtain ⟨a, ha, heq⟩ := hall behaviorProgs s 0 (Behavior.reachable_of_replay hs) hd h1 h2
  rw [h3] at ha heq
  rw [h4] at heq
  match a, ha with
  | 0, _ => cases heq
  | 1, _ => cases heq

/-- Along runs in which no `next` call overlaps a `subscribe` call (`ReachableQ`), a subscribed, never unsubscribed
observer has received from every producer not currently inside `next` exactly the entries that producer pushed into
`items`, each once, in push order (= the items of its first `cnt` calls); when no producer is inside `next` it has
received every entry of `items` exactly once; with a single producer thread it has received exactly `items`, in push
order.  (With two concurrent producers the delivery order may differ from the push order even in quiet runs:
`Replay.partial_hypotheses_satisfiable`.) -/
theorem replay_late_subscriber_partial {progs : List (List Replay.Call)} {s : Replay.State}
    (h : Replay.ReachableQ progs s) (o : Nat)
    (hsub : (s.obs o).subDone = true) (hlive : (s.obs o).fnNext = true) :
    (∀ t, (s.threads t).pc.inNext = false →
      (s.received o).filter (·.1 == t) = s.items.filter (·.1 == t) ∧
      ((s.received o).filter (·.1 == t)).map (·.2.2) = (Replay.progItems progs t).take (s.threads t).cnt) ∧
    ((∀ t, (s.threads t).pc.inNext = false) → (s.received o).Perm s.items) ∧
    ((∀ t, (s.threads t).pc.inNext = false) → ∀ p, (∀ t, t ≠ p → Replay.progItems progs t = []) →
      s.recvVals o = s.itemVals) :=
  ⟨fun t ht => Replay.late_subscriber_per_producer h o hsub hlive t ht,
   fun hidle => Replay.late_subscriber_exactly_once h o hsub hlive hidle,
   fun hidle p hp => Replay.late_subscriber_push_order h o hsub hlive hidle p hp⟩

/-- Along runs in which no `next` call overlaps a `subscribe` call, a subscribed, never unsubscribed observer has
received first the value its subscription read from `last_item`, then — from every producer not currently inside
`next` — exactly the items of all calls that producer made after that read, each once, in order, and nothing else. -/
theorem behavior_late_subscriber_partial {progs : List (List Behavior.Call)} {initial : Data} {s : Behavior.State}
    (h : Behavior.ReachableQ progs initial s) (o : Nat)
    (hsub : (s.obs o).subDone = true) (hlive : (s.obs o).fnNext = true) :
    ∃ x later, (s.obs o).hand = some x ∧ x ∈ s.vals ∧ s.received o = (none, 0, x) :: later ∧
      (∀ e ∈ later, e.1.isSome = true) ∧
      ∀ t, (s.threads t).pc.inNext = false →
        (later.filter (·.1 == some t)).map (·.2.2)
          = ((Behavior.progItems progs t).drop ((s.obs o).base t)).take ((s.threads t).cnt - (s.obs o).base t) ∧
        (later.filter (·.1 == some t)).map (·.2.1)
          = List.range' ((s.obs o).base t) ((s.threads t).cnt - (s.obs o).base t) :=
  Behavior.late_subscriber_value_then_all_later h o hsub hlive

example : ∃ s, Replay.ReachableQ Replay.exProgs s ∧ (s.obs 0).subDone = true ∧ (s.obs 0).fnNext = true ∧
    (∀ t, (s.threads t).pc.inNext = false) := by
  obtain ⟨s, h1, h2, h3, h4, _⟩ := Replay.partial_hypotheses_satisfiable
  exact ⟨s, h1, h2, h3, h4⟩

example : ∃ s, Behavior.ReachableQ Behavior.exProgs (.int 0) s ∧ (s.obs 0).subDone = true ∧
    (s.obs 0).fnNext = true := by
  obtain ⟨s, h1, h2, h3, _⟩ := Behavior.partial_hypotheses_satisfiable
  exact ⟨s, h1, h2, h3⟩

end Rx.Conc

#print axioms Rx.Conc.stays_subscribed_gets_all
#print axioms Rx.Conc.stays_subscribed_multiset
#print axioms Rx.Conc.per_producer_gap_free
#print axioms Rx.Conc.no_duplicates
#print axioms Rx.Conc.late_subscriber_suffix
#print axioms Rx.Conc.unsubscriber_prefix
#print axioms Rx.Conc.replay_late_subscriber_violated
#print axioms Rx.Conc.replay_late_subscriber_clause_false
#print axioms Rx.Conc.behavior_late_subscriber_violated
#print axioms Rx.Conc.behavior_late_subscriber_clause_false
#print axioms Rx.Conc.replay_late_subscriber_partial
#print axioms Rx.Conc.behavior_late_subscriber_partial
#print axioms Rx.Conc.Replay.partial_hypotheses_satisfiable
#print axioms Rx.Conc.Behavior.partial_hypotheses_satisfiable
