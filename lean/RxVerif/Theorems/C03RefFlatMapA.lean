import RxVerif.Theorems.C03RefCtl
import RxVerif.Theorems.C03RefBase
import RxVerif.Theorems.C03
/-
C03-REF, flat_map: pure facts about `Comb.flatMap` — a broadcast over all serials ever attached to a source
equals the broadcast over those that are live when it starts (model A's snapshot), and strictly sorted lists with
the same members are equal.
-/
namespace Rx.GRef.FlatMap
open Rx.Comb Rx.CRef

theorem sorted_ext : ∀ (l1 l2 : List Nat), l1.Pairwise (· < ·) → l2.Pairwise (· < ·) →
    (∀ e, e ∈ l1 ↔ e ∈ l2) → l1 = l2 := fun _ _ h1 h2 h =>
  List.Perm.eq_of_pairwise (fun _ _ _ _ hab hba => absurd hab (Nat.lt_asymm hba)) h1 h2
    ((List.perm_ext_iff_of_nodup (h1.imp Nat.ne_of_lt) (h2.imp Nat.ne_of_lt)).mpr h)

variable (inner : Data → Nat)

theorem deliver_dead' (s : flatMap.State) (e : Nat) (ev : Ev) (h : s.ctl.live.contains e = false) :
    flatMap.deliver inner s e ev = (s, []) := by
  simp only [flatMap.deliver, Ctl.isLive, h, Bool.false_eq_true, ↓reduceIte]

theorem mem_fin {c : Ctl} {a : Nat} (h : a ∈ c.finalize.live) : a ∈ c.live := (List.mem_filter.1 h).1

/-- `deliver` never takes a serial back and makes nobody live except the new one -/
theorem deliver_frame (s : flatMap.State) (e : Nat) (ev : Ev) :
    s.nextSerial ≤ (flatMap.deliver inner s e ev).1.nextSerial ∧
      ∀ a ∈ (flatMap.deliver inner s e ev).1.ctl.live, a ∈ s.ctl.live ∨ a = s.nextSerial := by
  cases hl : s.ctl.isLive e with
  | false => rw [deliver_dead' inner s e ev hl]; exact ⟨Nat.le_refl _, fun _ => .inl⟩
  | true =>
    cases ev with
    | next x =>
      simp only [flatMap.deliver, hl, if_true]
      split
      · exact ⟨Nat.le_succ _, fun a h => by simpa [Ctl.addObserver] using h⟩
      · exact ⟨Nat.le_refl _, fun a h => .inl ((sinkNext_le _ x).live.subset h)⟩
    | error x =>
      rw [deliver_error inner s e x hl]
      exact ⟨Nat.le_refl _, fun a h => .inl (((sinkError_le _ x).trans (kill_le _ _)).live.subset h)⟩
    | complete =>
      rw [deliver_complete inner s e hl]
      exact ⟨Nat.le_refl _, fun a h => .inl (((sinkComplete_le _ _).trans (kill_le _ _)).live.subset h)⟩

theorem broadcast_cons (ev : Ev) (s : flatMap.State) (e : Nat) (l : List Nat) :
    flatMap.broadcast inner ev s (e :: l) =
      ((flatMap.broadcast inner ev (flatMap.deliver inner s e ev).1 l).1,
        (flatMap.deliver inner s e ev).2 ++ (flatMap.broadcast inner ev (flatMap.deliver inner s e ev).1 l).2) := rfl

theorem broadcast_cons_dead (ev : Ev) (s : flatMap.State) (e : Nat) (l : List Nat)
    (h : s.ctl.live.contains e = false) :
    flatMap.broadcast inner ev s (e :: l) = flatMap.broadcast inner ev s l := by
  rw [broadcast_cons, deliver_dead' inner s e ev h]; rfl

/-- entities that are not live when the broadcast starts can be left out -/
theorem broadcast_filter_gen (ev : Ev) : ∀ (l : List Nat) (s : flatMap.State) (p : Nat → Bool),
    (∀ e ∈ l, e < s.nextSerial) → (∀ e ∈ l, s.ctl.live.contains e = true → p e = true) →
    flatMap.broadcast inner ev s l = flatMap.broadcast inner ev s (l.filter p) := by
  intro l
  induction l with
  | nil => intro s p _ _; rfl
  | cons e rest ih =>
    intro s p hlt hp
    have hlt' : ∀ a ∈ rest, a < s.nextSerial := fun a ha => hlt a (by simp [ha])
    have hp' : ∀ a ∈ rest, s.ctl.live.contains a = true → p a = true := fun a ha => hp a (by simp [ha])
    cases hlv : s.ctl.live.contains e with
    | false =>
      rw [broadcast_cons_dead inner ev s e rest hlv, List.filter_cons]
      split
      · rw [broadcast_cons_dead inner ev s e _ hlv]; exact ih s p hlt' hp'
      · exact ih s p hlt' hp'
    | true =>
      have hpe : p e = true := hp e (by simp) hlv
      rw [List.filter_cons, hpe]
      simp only [↓reduceIte, broadcast_cons]
      have hstep := ih (flatMap.deliver inner s e ev).1 p
        (fun a ha => Nat.lt_of_lt_of_le (hlt' a ha) (deliver_frame inner s e ev).1)
        (fun a ha hla => by
          rcases (deliver_frame inner s e ev).2 a (by simpa using hla) with q | q
          · exact hp' a ha (by simpa using q)
          · have := hlt' a ha; omega)
      rw [hstep]

theorem broadcast_filter (ev : Ev) (l : List Nat) (s : flatMap.State) (hlt : ∀ e ∈ l, e < s.nextSerial) :
    flatMap.broadcast inner ev s l = flatMap.broadcast inner ev s (l.filter s.ctl.live.contains) :=
  broadcast_filter_gen inner ev l s _ hlt fun _ _ h => h

end Rx.GRef.FlatMap
