import RxVerif.Theorems.C03RefZip
/-
C03-REF, sequence_equal: the program, and the statement checked on concrete histories.
The THEOREM is proved in C03RefSeqEqFinal.lean (`Rx.SeqRef.sequence_equal_refines`, for every `n` and EVERY history).

Model A's `oSequenceEqual` (Machine/Lib.lean) is a four-layer pipeline per source
    subject i ─ stdOp kSome ─ oConcat [oJust None] ─┐
                                                    ├─ oZip ─ outer controller (comparison closures) ─ test user
    subject j ─ stdOp kSome ─ oConcat [oJust None] ─┘
i.e. `2k + 2` StreamControllers for `k` sources, whose `finalize` calls nest four deep (the outer controller
unsubscribes zip's subscriber, whose teardown finalizes zip's controller, which unsubscribes the `k` concat subscribers,
whose teardowns finalize the concat controllers, which unsubscribe the map subscribers, ... down to the subjects).

    theorem sequence_equal_refines (n : Nat) (H : History) :
      ∃ n0, ∀ fuel, n0 ≤ fuel →
        Agrees (n + 1) (run fuel [prog n H] {})
          (finalFrom sequenceEqual.step (Over.init (n + 1)) H).z.ctl.live (sequenceEqual.run (n + 1) H)

Proof (files C03RefSeqEq*.lean, namespace `Rx.SeqRef`): a relation for the TREE of controllers.  Each chain
subject → map → concat → zip-observer is described by nine bits (`CB`: which observers still have callbacks / hooks,
which registrations remain) so that teardown lemmas hold from ANY partially decayed state; `GRel` is the global
relation with guards held, `QRel` the quiescent one tied to the `Comb.sequenceEqual` state.

Below: the statement on concrete histories (logs, status, the observer count of every subject after every prefix).
-/
namespace Rx.CRef.SequenceEqual
open Rx.Ref Rx.Comb Rx.CRef

/-- `n+1` plain subjects; test user 0 subscribes to `s0.sequence_equal(&[s1, .., sn])`; then the history -/
def prog (n : Nat) (H : History) : Prog :=
  subjsNew (n + 1) fun sjs =>
    .obsvNew (oSequenceEqual (sjs.headD default).observable (sjs.tail.map Subj.observable)) fun id =>
    .userSub id noReact (drive sjs H)

/-- the comparison `sequence_equal_refines` makes (`Agrees`), as a `Bool`, for one history and one fuel -/
def agreesB (n fuel : Nat) (H : History) : Bool :=
  let w := run fuel [prog n H] {}
  let s := finalFrom sequenceEqual.step (Over.init (n + 1)) H
  w.status == .ok && w.held.isEmpty && logOf w 0 == sequenceEqual.run (n + 1) H &&
    (List.range (n + 1)).all fun i => regCount w i == (if s.z.ctl.live.contains i then 1 else 0)

/-- every prefix of the history -/
def allPrefixes (n fuel : Nat) (H : History) : Bool := (List.range (H.length + 1)).all fun m => agreesB n fuel (H.take m)

/-- a=1, a completes, b=1, b=2, b completes: `false` when b's second item meets a's end marker -/
def h1 : History := [(0, .next (.int 1)), (0, .complete), (1, .next (.int 1)), (1, .next (.int 2)), (1, .complete)]
example : logOf (run 20000 [prog 1 (h1.take 3)] {}) 0 = [] ∧
    logOf (run 20000 [prog 1 (h1.take 4)] {}) 0 = [.next (.bool false), .complete] := by decide +kernel
example : allPrefixes 1 20000 h1 = true := by decide +kernel

/-- equal sequences, three sources; an ill-formed tail (source 1 talks after its completion) -/
def h2 : History :=
  [(0, .next (.int 1)), (1, .next (.int 1)), (2, .next (.int 1)), (1, .complete), (1, .next (.int 9)), (0, .complete),
   (2, .complete)]
example : logOf (run 40000 [prog 2 h2] {}) 0 = [.next (.bool true), .complete] := by decide +kernel
example : allPrefixes 2 40000 h2 = true := by decide +kernel

/-- an error arrives before any position is complete; a mismatch known only when the third source arrives -/
def h3 : History := [(0, .next (.int 1)), (1, .error 7), (0, .complete)]
def h4 : History := [(0, .next (.int 1)), (1, .next (.int 2)), (2, .next (.int 1)), (0, .complete)]
example : allPrefixes 1 20000 h3 = true ∧ allPrefixes 2 40000 h4 = true := by decide +kernel

end Rx.CRef.SequenceEqual
