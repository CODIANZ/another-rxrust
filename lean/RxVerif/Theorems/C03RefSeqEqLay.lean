import RxVerif.Theorems.C03RefZip
/-
C03-REF, sequence_equal: the layout of the world that `oSequenceEqual` builds over `k` plain subjects — a TREE of
`2k+2` StreamControllers
    subject j ─ map_j (stdOp kSome) ─ concat_j (+ just(None)) ─┐
                                                              ├─ zip ─ outer (comparison closures) ─ test user 0
and `unsubscribe` of an observer whose teardown may or may not be left.
-/
namespace Rx.SeqRef
open Rx.Sim Rx.Ref Rx.Comb Rx.CRef

-- `*fin` are SLOT indices, the others CELL indices, in allocation order (`o` outer, `z` zip, `c`/`m` concat_j/map_j)
def oser (k : Nat) : Nat := 2 * k
def omap (k : Nat) : Nat := 2 * k + 1
def ofin (k : Nat) : Nat := 2 * k
def zser (k : Nat) : Nat := 2 * k + 2
def zmap (k : Nat) : Nat := 2 * k + 3
def zq (k : Nat) : Nat := 2 * k + 4
def zfin (k : Nat) : Nat := 2 * k + 1
def cser (k j : Nat) : Nat := 2 * k + 5 + 6 * j
def cmap (k j : Nat) : Nat := 2 * k + 5 + 6 * j + 1
def cq (k j : Nat) : Nat := 2 * k + 5 + 6 * j + 2
def mser (k j : Nat) : Nat := 2 * k + 5 + 6 * j + 3
def mmap (k j : Nat) : Nat := 2 * k + 5 + 6 * j + 4
def mst (k j : Nat) : Nat := 2 * k + 5 + 6 * j + 5
def cfin (k j : Nat) : Nat := 2 * k + 2 + 2 * j
def mfin (k j : Nat) : Nat := 2 * k + 2 + 2 * j + 1
/-- observers: 0 = root of the test user, 1 = the outer controller's observer on zip, then zip's observers, then per
    source the concat observer and the map observer -/
def Zo (j : Nat) : Nat := 2 + j
def Co (k j : Nat) : Nat := k + 2 + 2 * j
def Mo (k j : Nat) : Nat := k + 2 + 2 * j + 1

def scO (k : Nat) : Sctl := ⟨0, oser k, omap k, ofin k⟩
def scZ (k : Nat) : Sctl := ⟨1, zser k, zmap k, zfin k⟩
def scC (k j : Nat) : Sctl := ⟨Zo j, cser k j, cmap k j, cfin k j⟩
def scM (k j : Nat) : Sctl := ⟨Co k j, mser k j, mmap k j, mfin k j⟩

/-- the closures of `stdOp kSome` for map_j (serial 0) -/
def mapNext (k j : Nat) (x : Data) : Prog :=
  .cellRead (mst k j) false fun st =>
    let r := kSome.onNext (kSome.dec st) x
    .cellWrite (mst k j) false (kSome.enc r.1)
      (holdAcq kSome.holdNext (mst k j) ;; actsP (scM k j) 0 r.2 ;; holdRel kSome.holdNext (mst k j))

def mapErr (k j : Nat) (e : Nat) : Prog :=
  .cellRead (mst k j) false fun st =>
    let r := kSome.onError (kSome.dec st) e
    .cellWrite (mst k j) false (kSome.enc r.1) (actsP (scM k j) 0 r.2)

def mapDone (k j : Nat) : Prog :=
  .cellRead (mst k j) false fun st =>
    let r := kSome.onComplete (kSome.dec st)
    .cellWrite (mst k j) false (kSome.enc r.1)
      (holdAcq kSome.holdComplete (mst k j) ;; actsP (scM k j) 0 r.2 ;; holdRel kSome.holdComplete (mst k j))

/-- map_j's observer on subject `j` -/
def mapObs (k j : Nat) (hook : Option Prog) : Obs :=
  ⟨some (.code (mapNext k j)), some (.code (mapErr k j)), some (.code (mapDone k j)), hook⟩

def theEnd : List Obsv := [oJust (Data.optEnc none)]

/-- concat_j's observer on map_j (serial 0); `100000`: the fuel literal of `oConcat` (Machine/Lib.lean) -/
def concatObs (k j : Nat) (hook : Option Prog) : Obs :=
  ⟨some (.code fun x => (scC k j).sinkNext x), some (.code fun e => (scC k j).sinkError e),
   some (.code (concatNext (scC k j) (cq k j) theEnd 100000)), hook⟩

/-- concat_j's observer on `just(None)` (serial 1) -/
def justObs (k j : Nat) : Obs :=
  ⟨some (.code fun x => (scC k j).sinkNext x), some (.code fun e => (scC k j).sinkError e),
   some (.code (concatNext (scC k j) (cq k j) theEnd 99999)), none⟩

/-- zip's `next` closure for source `j`; `100000`: the fuel literal of `oZip` (Machine/Lib.lean) -/
def zPush (k j : Nat) (x : Data) : Prog :=
  .cellRead (zq k) false fun qs =>
    let queues := qs.toList
    .cellWrite (zq k) false (Data.ofList (queues.modify j fun q => Data.ofList (q.toList ++ [x]))) <|
    zipTryEmit (scZ k) (zq k) 100000

/-- zip's observer on concat_j (serial `j`) -/
def zipObs (k j : Nat) (hook : Option Prog) : Obs :=
  ⟨some (.code fun x => zPush k j x), some (.code fun e => (scZ k).sinkError e),
   some (.code ((scZ k).sinkComplete j)), hook⟩

/-- the comparison closure of sequence_equal.rs -/
def cmpNext (k : Nat) (x : Data) : Prog :=
  let l := x.toList
  if l.all (fun i => i == l.headD .unit) then .done
  else (scO k).abortObserve 0 ;; (scO k).sinkNext (.bool false) ;; (scO k).sinkComplete 0

/-- the outer controller's observer on zip (serial 0) -/
def outerObs (k : Nat) (hook : Option Prog) : Obs :=
  ⟨some (.code fun x => cmpNext k x), some (.code fun e => (scO k).sinkError e),
   some (.code ((scO k).sinkNext (.bool true) ;; (scO k).sinkComplete 0)), hook⟩

def rootObs (k : Nat) (alive : Bool) : Obs :=
  ⟨if alive then some (.user 0) else none, if alive then some (.user 0) else none,
   if alive then some (.user 0) else none, some (scO k).finalize⟩

/-- an observer that has lost its callbacks -/
def deadObs (hook : Option Prog) : Obs := ⟨none, none, none, hook⟩

def optHook (h : Bool) (p : Prog) : Option Prog := if h then some p else none

/-- only READ guards of cells are held -/
def ReadCells (w : World) : Prop := ∀ p ∈ w.held, p.2 = false ∧ ∃ c, p.1 = .cell c

theorem noconf_read {w : World} (h : ReadCells w) (l : LockId) : w.conflicts l false = false := by
  simp only [World.conflicts, List.any_eq_false]
  intro p hp
  obtain ⟨a, b⟩ := p
  have := (h _ hp).1
  simp only at this
  simp [this]

/-! ### `unsubscribe` (observer.rs:53-60) of an observer that may have lost its callbacks and its teardown -/

theorem dead_of (l : Bool) (full : Obs) (hk : Option Prog) :
    ({ (if l then full else deadObs hk).cleared with onUnsub := none } : Obs) = deadObs none := by
  cases l <;> rfl

theorem cleared_of (l : Bool) (full : Obs) (hk : Option Prog) (hn : full.onUnsub = hk) :
    (if l then full else deadObs hk).cleared = deadObs hk := by
  cases l
  · rfl
  · show full.cleared = _; rw [← hn]; rfl

/-- the observer loses callbacks and teardown; the teardown `f`, if it was still there (`hk`), runs afterwards -/
theorem unsub_hook_spec {w : World} {o : Nat} {l hk : Bool} {full : Obs} {f : Prog} {P : World → Prop}
    (ho : w.obs[o]? = some (if l then full else deadObs (optHook hk f))) (hfull : full.onUnsub = optHook hk f)
    (h0 : hk = false → P (w.setObs o fun x => { x.cleared with onUnsub := none }))
    (h1 : hk = true → WP f (w.setObs o fun x => { x.cleared with onUnsub := none }) P) :
    WP (.obsUnsub o .done) w P := by
  have hx : (if l then full else deadObs (optHook hk f)).onUnsub = optHook hk f := by
    cases l
    · rfl
    · exact hfull
  cases hk with
  | false => exact wp_obsUnsub_none ho hx (WP.done (h0 rfl))
  | true => exact wp_obsUnsub_some ho hx ((h1 rfl).conseq fun _ h => WP.done h)

end Rx.SeqRef
