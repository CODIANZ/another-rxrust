import RxVerif.Theorems.C13RefPlain
/-
C13-REF, publish — model A's `publishConnect` (Machine/Subjects.lean, publish.rs:26-41) refines `ConnM` (kind
`.publish`), over a hot plain `Subject` and over the harness' cold source.

World of `progP` / `progPc`: cells 0,1 = the source Subject H (hot; allocated but unused over a cold source),
2,3 = the connectable's subject S, 4 = the list of `Subscription` handles `connect()` returned (what the test keeps to
`disconnect`), then one armed flag per handle; slots 0,1 / 2,3 = hooks of H / S (never set); observable 0 = the
source, 1 = `S.observable`.  Over a cold source the whole script is delivered inside `connect()`.
-/
namespace Rx.CRef
open Rx.Sim Rx.SubjM Rx.Ref Rx.RefR

/-- the handles stored by the test, oldest first -/
def handles (cobs cacs : List Nat) : List Data :=
  List.zipWith (fun c a => .pair (.int (c : Nat)) (.int (a : Nat))) cobs cacs

structure PubPart (cobs cacs : List Nat) (w : World) : Prop where
  held : w.held = []
  slotS : w.slots[2]? = some none
  slotU : w.slots[3]? = some none
  obsvS : w.obsvs[1]? = some Sp.observable
  cn : w.cells[4]? = some (Data.ofList (handles cobs cacs))

def pubSide (cobs cacs : List Nat) : OwnSide where
  X := PubPart cobs cacs
  Kc := IsCell 4
  kc2 := fun i hi => by cases hi; decide
  lt := fun h hi => by cases hi; exact lt_of_getElem?_some h.cn
  step := fun h t hh hK =>
    ⟨hh ▸ h.held, t.slots ▸ h.slotS, t.slots ▸ h.slotU, t.obsvs ▸ h.obsvS,
     by rw [t.cells _ (lt_of_getElem?_some h.cn) (hK _ rfl)]; exact h.cn⟩

theorem pub_KS : ∀ i, IsCell 4 i → ¬ KS i := by
  intro i hi hk; cases hi; rcases hk with hk | hk <;> cases hk

def RelPG (src : ConnM.Src) (roots cobs cacs : List Nat) (armed : List Bool) (w : World) (st : ConnM.State) : Prop :=
  Inv src (plainSide roots none) (pubSide cobs cacs) cobs cacs armed w st

/-- the simulation relation for `publish` over a hot source -/
def RelP (roots cobs : List Nat) (armed : List Bool) (w : World) (st : ConnM.State) : Prop :=
  ∃ cacs, RelPG .hot roots cobs cacs armed w st

section
variable {src : ConnM.Src} {roots cobs cacs : List Nat} {armed : List Bool} {w : World} {st : ConnM.State}

theorem stepP_subscribe (st : ConnM.State) (o : Nat) :
    ConnM.step .publish src st (.subscribe o) = { st with sub := SubjM.step .plain st.sub (.subscribe o) } := rfl

theorem subscribeP_spec (h : RelPG src roots cobs cacs armed w st) :
    WP (.userSub 1 noReact .done) w (fun w' =>
      RelPG src (roots ++ [w.obs.length]) cobs cacs armed w' (ConnM.step .publish src st (.subscribe roots.length))) := by
  have U : UsersP .. := h.users
  have X : PubPart .. := h.own
  rw [stepP_subscribe, plain_subscribe_fresh _ _ (U.up.unseen_seen (Nat.le_refl _))]
  refine userSub_pre X.obsvS h.held U ?_
  exact slotTail_none h.held X.slotS (wp_userReady (WP.done (Inv.readyP (Inv.subUser h))))

/-- the `on_unsubscribe` slot is empty -/
theorem unsubscribeP_spec (h : RelPG src roots cobs cacs armed w st) (u : Nat) :
    WP (.userUnsub u .done) w (fun w' => RelPG src roots cobs cacs armed w' (ConnM.step .publish src st (.unsubscribe u))) :=
  Inv.unsubscribeP h u fun w' h' => by
    have X : PubPart .. := h'.own
    cases (unsubscribeN .plain st.sub u).2 with
    | none => exact WP.done h'
    | some len => exact slotTail_none h'.held X.slotU h'

theorem srcP_spec {roots cobs armed w st} (h : RelP roots cobs armed w st) (ev : Ev) :
    WP (evCall Hp ev) w (fun w' => RelP roots cobs armed w' (ConnM.step .publish .hot st (srcEv ev))) :=
  let ⟨cacs, h⟩ := h
  (Inv.hotEmit .publish rfl h ev).conseq fun _ h' => ⟨cacs, by cases ev <;> exact h'⟩

/-- `(connect x)` of the case runner: `Publish::connect`, the returned handle is appended to the test's list -/
def connectProgG (hid : Nat) (S : Subj) (cn : Nat) : Prog :=
  publishConnect (fun o => .obsvSub hid o .done) S fun hd =>
    .cellRead cn false fun l => .cellWrite cn false (Data.ofList (l.toList ++ [hd])) .done

/-- `Publish::connect` (publish.rs:26-41) = `ConnM.connectSource`; over a cold source the whole script is
    delivered before `connect()` returns the handle -/
theorem connectP_spec (h : RelPG src roots cobs cacs armed w st) :
    WP (connectProgG 0 Sp 4) w (fun w' => ∃ c,
      RelPG src roots (cobs ++ [w.obs.length]) (cacs ++ [c]) (armed ++ [true]) w' (ConnM.step .publish src st .connect)) := by
  unfold connectProgG publishConnect
  refine Inv.connect (V := plainSide roots none) .publish rfl h (fun w2 c h2 => ?_)
  have X2 : PubPart .. := h2.own
  refine wp_cellRead X2.held (wp_cellWrite X2.held (WP.done ⟨c, ?_⟩))
  rw [X2.cn]
  simp only [Option.getD_some, Data.toList_ofList]
  refine Inv.setOwn h2 _ rfl ?_ rfl rfl
  exact ⟨X2.held, X2.slotS, X2.slotU, X2.obsvS, by
    unfold handles
    rw [set_get_same _ X2.cn, List.zipWith_append (by rw [h.conns.lenC, h.lenCa, h.full])]; rfl⟩

/-- `(disconnect x)` of the case runner: every stored handle is unsubscribed -/
def disconnectProgG (cn : Nat) : Prog := .cellRead cn false fun l => forEach l.toList subUnsub

theorem handles_drop {cobs cacs : List Nat} {k : Nat} (hc : k < cobs.length) (ha : k < cacs.length) :
    handles (cobs.drop k) (cacs.drop k) =
      .pair (.int (rootAt cobs k : Nat)) (.int (rootAt cacs k : Nat)) :: handles (cobs.drop (k + 1)) (cacs.drop (k + 1)) := by
  rw [drop_cons_getD cobs k 0 hc, drop_cons_getD cacs k 0 ha]; rfl

theorem disconnect_loop : ∀ (n k : Nat) (st : ConnM.State) (armed : List Bool) (w : World),
    k + n = cobs.length → RelPG src roots cobs cacs armed w st →
    WP (forEach (handles (cobs.drop k) (cacs.drop k)) subUnsub) w (fun w' =>
      RelPG src roots cobs cacs ((List.range' k n).foldl (fun l i => l.set i false) armed) w'
        { st with conns := (List.range' k n).foldl (fun l i => l.set i false) st.conns })
  | 0, k, st, armed, w, hk, h => by
    rw [List.drop_eq_nil_iff.2 (by omega : cobs.length ≤ k)]
    cases cacs.drop k <;> exact WP.done h
  | n + 1, k, st, armed, w, hk, h => by
    have hkl : k < st.conns.length := by rw [← h.conns.lenC]; omega
    rw [handles_drop (by omega) (by rw [h.lenCa, h.full]; exact hkl), List.range'_succ, List.foldl_cons,
      List.foldl_cons]
    exact WP.seq ((Inv.srcUnsub h hkl).conseq fun w1 h1 => disconnect_loop n (k + 1) _ _ w1 (by omega) h1)

/-- dropping every handle `connect()` returned = `ConnM`'s `disconnect` -/
theorem disconnectP_spec (h : RelPG src roots cobs cacs armed w st) :
    WP (disconnectProgG 4) w (fun w' =>
      RelPG src roots cobs cacs (armed.map fun _ => false) w' (ConnM.step .publish src st .disconnect)) := by
  have X : PubPart .. := h.own
  refine wp_cellRead X.held ?_
  rw [X.cn]
  simp only [Option.getD_some, Data.toList_ofList]
  have := disconnect_loop cobs.length 0 st armed w (Nat.zero_add _) h
  rwa [h.conns.lenC, foldSet_all_eq, ← h.full, foldSet_all_eq] at this

end

/-- the calls of a `publish` case over a hot subject, as the case runner builds them (Machine/Case.lean `stepProg`) -/
def callPG (H : Subj) (hid : Nat) (S : Subj) (sid cn : Nat) : ConnM.Call → Prog
  | .subscribe _ => .userSub sid noReact .done
  | .unsubscribe o => .userUnsub o .done
  | .connect => connectProgG hid S cn
  | .disconnect => disconnectProgG cn
  | .srcNext v => H.next v
  | .srcError e => H.error e
  | .srcComplete => H.complete

/-- the calls of a `publish` case over a cold source; nothing can be pushed into a cold source from outside, so
    the three source calls are no-ops (as in `ConnM.step`) -/
def callPcG (hid : Nat) (S : Subj) (sid cn : Nat) : ConnM.Call → Prog
  | .subscribe _ => .userSub sid noReact .done
  | .unsubscribe o => .userUnsub o .done
  | .connect => connectProgG hid S cn
  | .disconnect => disconnectProgG cn
  | .srcNext _ => .done
  | .srcError _ => .done
  | .srcComplete => .done

/-- `(subject a plain) (conn x publish (ref a))` then the calls -/
def progP (cs : List ConnM.Call) : Prog :=
  subjNew fun H => .obsvNew H.observable fun hid => subjNew fun S => .obsvNew S.observable fun sid =>
  .cellNew .lnil fun cn => forEach cs (callPG H hid S sid cn)

/-- `(conn x publish (cold 0 ev…))` then the calls (the first Subject is never used) -/
def progPc (script : List Ev) (cs : List ConnM.Call) : Prog :=
  subjNew fun _ => .obsvNew (coldSrc script) fun hid => subjNew fun S => .obsvNew S.observable fun sid =>
  .cellNew .lnil fun cn => forEach cs (callPcG hid S sid cn)

/-- `RelPG` with the layout hidden -/
def SimP (src : ConnM.Src) (n : Nat) (w : World) (st : ConnM.State) : Prop :=
  ∃ roots cobs cacs armed, roots.length = n ∧ RelPG src roots cobs cacs armed w st

theorem callP_spec {src} {call : ConnM.Call → Prog}
    (hcall : ∀ c, call c = callsOf src (connectProgG 0 Sp 4) (disconnectProgG 4) c) {n w st}
    (c : ConnM.Call) (h : SimP src n w st) (hc : wfC n [c] = true) :
    WP (call c) w (fun w' => SimP src (n + subsC [c]) w' (ConnM.step .publish src st c)) := by
  obtain ⟨roots, cobs, cacs, armed, rfl, h⟩ := h
  exact callsOf_spec hcall c hc ⟨_, _, _, _, rfl, h⟩
    ((subscribeP_spec h).conseq fun w' h' => ⟨_, _, _, _, List.length_append, h'⟩)
    (fun u => (unsubscribeP_spec h u).conseq fun w' h' => ⟨_, _, _, _, rfl, h'⟩)
    ((connectP_spec h).conseq fun w' ⟨_, h'⟩ => ⟨_, _, _, _, rfl, h'⟩)
    ((disconnectP_spec h).conseq fun w' h' => ⟨_, _, _, _, rfl, h'⟩)
    fun e ev => by subst e; exact (Inv.hotEmit .publish rfl h ev).conseq fun w' h' => ⟨_, _, _, _, rfl, h'⟩

/-- the world after the allocations of `progP` / `progPc` -/
def w0P (src : ConnM.Src) : World := w0 src [.lnil, .int 0, .lnil] [none, none] [Sp.observable]

theorem relP_init (src : ConnM.Src) : RelPG src [] [] [] [] (w0P src) ConnM.init :=
  Inv.init src _ _ _ rfl (UsersP.init rfl rfl rfl rfl) ⟨rfl, rfl, rfl, rfl, rfl⟩ pub_KS

theorem progP_spec (cs : List ConnM.Call) (hwf : wfC 0 cs = true) :
    WP (progP cs) {} (fun w' => SimP .hot (0 + subsC cs) w' (ConnM.run .publish .hot cs)) :=
  -- 11 allocations: two `subjNew` (two cells and two slots each), two `obsvNew`, the cell of the handle list
  wp_steps 11 (forEach cs (callPG Hp 0 Sp 1 4)) (w0P .hot) (fun _ _ => rfl)
    (calls_sim (callP_spec fun c => by cases c <;> rfl) cs ⟨_, _, _, _, rfl, relP_init .hot⟩ hwf)

theorem progPc_spec (script : List Ev) (cs : List ConnM.Call) (hwf : wfC 0 cs = true) :
    WP (progPc script cs) {} (fun w' =>
      SimP (.cold script) (0 + subsC cs) w' (ConnM.run .publish (.cold script) cs)) :=
  wp_steps 11 (forEach cs (callPcG 0 Sp 1 4)) (w0P (.cold script)) (fun _ _ => rfl)
    (calls_sim (callP_spec fun c => by cases c <;> rfl) cs ⟨_, _, _, _, rfl, relP_init (.cold script)⟩ hwf)

def FinalP (cs : List ConnM.Call) (w : World) : Prop := ∃ n0, ∀ fuel, n0 ≤ fuel → run fuel [progP cs] {} = w

theorem FinalP.unique {cs w w'} (h : FinalP cs w) (h' : FinalP cs w') : w = w' := FinalOf.unique h h'

def FinalPc (script : List Ev) (cs : List ConnM.Call) (w : World) : Prop :=
  ∃ n0, ∀ fuel, n0 ≤ fuel → run fuel [progPc script cs] {} = w

theorem FinalPc.unique {script cs w w'} (h : FinalPc script cs w) (h' : FinalPc script cs w') : w = w' :=
  FinalOf.unique h h'

theorem publish_refines (cs : List ConnM.Call) (hwf : wfC 0 cs = true) :
    ∃ w, FinalP cs w ∧ AgreesC w (ConnM.run .publish .hot cs) := by
  obtain ⟨w, hf, _, _, _, _, _, h⟩ := refines_of (progP_spec cs hwf)
  exact ⟨w, hf, AgreesC.of_parts h.glob (PubPart.held h.own) (.of_up (UsersP.up h.users)) h.conns rfl rfl⟩

theorem publish_refines_cold (script : List Ev) (cs : List ConnM.Call) (hwf : wfC 0 cs = true) :
    ∃ w, FinalPc script cs w ∧ AgreesCold w (ConnM.run .publish (.cold script) cs) := by
  obtain ⟨w, hf, _, _, _, _, _, h⟩ := refines_of (progPc_spec script cs hwf)
  exact ⟨w, hf, AgreesCold.of_parts h.glob (PubPart.held h.own) (.of_up (UsersP.up h.users)) h.conns⟩

#print axioms publish_refines
#print axioms publish_refines_cold

end Rx.CRef
