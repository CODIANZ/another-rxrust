import RxVerif.Theorems.C04RefLoop
import RxVerif.Theorems.Sim
/-
C04-REF: `oRetry max (oFlaky ..)` and `oRetryWhen p (oFlaky ..)` of model A (Machine/Lib.lean,
transliteration of src/operators/retry.rs l.22-62 and retry_when.rs l.30-68) REFINE the pure mirror
`retryRun` / `retryWhenRun` of Kernel/Retry.lean: same subscriber log, same number of subscriptions
(read off the flaky source's counter cell), nobody else disturbed.  Both are the generic resubscription loop
`resubP` (= `retrySubscribe` = `retryWhenSubscribe`), proved once against `resubGo` (`resub_spec`).
-/
namespace Rx.RetryRef
open Rx.Sim Rx.Ref

theorem getLastD_map_ofScript (scripts : List (List Ev)) :
    (scripts.map Stream.ofScript).getLastD ([], .silent) = Stream.ofScript (scripts.getLast?.getD []) := by
  rw [List.getLastD_eq_getLast?, List.getLast?_map]
  cases scripts.getLast? <;> rfl

theorem attemptAt_map (scripts : List (List Ev)) (i : Nat) :
    attemptAt (scripts.map Stream.ofScript) i = Stream.ofScript (scripts.getD i (scripts.getLast?.getD [])) := by
  unfold attemptAt
  rw [getLastD_map_ofScript]
  simp only [List.getD, List.getElem?_map]
  cases scripts[i]? <;> rfl

def resubP (sc : Sctl) (src : Obsv) (again : Nat → Nat → Bool) : Nat → Nat → Prog
  | 0, _ => .done
  | fuel+1, n =>
    sc.newObserver (fun _ x => sc.sinkNext x)
      (fun serial e =>
        if again n e then sc.abortObserve serial ;; resubP sc src again fuel (n + 1) else sc.sinkError e)
      (fun serial => sc.sinkComplete serial) fun o => src.sub o

theorem retrySubscribe_eq (sc : Sctl) (src : Obsv) (max : Nat) :
    ∀ fuel n, retrySubscribe sc src max fuel n = resubP sc src (retryAgain max) fuel n
  | 0, _ => rfl
  | fuel+1, n => by
    simp only [retrySubscribe, resubP, retrySubscribe_eq sc src max fuel (n + 1)]
    rfl

theorem retryWhenSubscribe_eq (sc : Sctl) (src : Obsv) (p : EPred) :
    ∀ fuel n, retryWhenSubscribe sc src p fuel = resubP sc src (retryWhenAgain p.app) fuel n
  | 0, _ => rfl
  | fuel+1, n => by
    simp only [retryWhenSubscribe, resubP, retryWhenSubscribe_eq sc src p fuel (n + 1)]
    rfl

/-- the configuration of the subscription `userSub` begins in `w`: root observer and subscriber are the next free
    ones, `sctlNew` allocates the next two cells and the next slot -/
def G.at (w : World) (cnt : Nat) (hn : Nat → Data → Prog) (he : Nat → Nat → Prog) (hc : Nat → Prog)
    (cvf : Nat → Option Data) : G :=
  ⟨w.obs.length, w.users.length, w.cells.length, w.cells.length + 1, w.slots.length, cnt, hn, he, hc, logOf w, cvf⟩

/-- configuration of one subscription through `retry` / `retry_when` over a flaky source.  `G`'s closures are a fixed
    function of the serial `i`, so the error closure writes its attempt number and the fuel left in terms of `i`:
    attempt `i + 1` has serial `i` and starts with fuel `F0 - i` (`resub_spec`: `c.serial + fuel = F0`) -/
def resubG (w : World) (cnt : Nat) (src : Obsv) (again : Nat → Nat → Bool) (F0 : Nat) : G :=
  let sc : Sctl := ⟨w.obs.length, w.cells.length, w.cells.length + 1, w.slots.length⟩
  G.at w cnt (fun _ x => sc.sinkNext x)
    (fun i e =>
      if again (i + 1) e then sc.abortObserve i ;; resubP sc src again (F0 - 1 - i) (i + 2) else sc.sinkError e)
    (fun i => sc.sinkComplete i) fun k => some (.int k)

/-- one subscription to the flaky source: bump the counter cell, then play the script it selects -/
theorem flaky_sub {g : G} (ok : g.Ok) (hcv : g.cvf = fun k => some (.int k)) (tag : Nat) (scripts : List (List Ev))
    (s : Nat) (c : Ctl) :
    SubAs g (oFlaky tag g.cnt scripts) tag (scripts.getD c.subs (scripts.getLast?.getD [])) s c
      { c with subs := c.subs + 1 } := by
  intro lv w Q h hs hl hk
  have hr := h.rep
  rw [hcv] at hr
  simp only [Obsv.sub, oFlaky]
  apply rep_isSubU hr hs
  rw [hl]
  simp only [↓reduceIte]
  apply rep_readCnt hr
  apply rep_writeCnt ok hr
  intro w1 h1
  apply rep_probe h1
  intro w2 h2
  simp only [toNat_int]
  apply hk
  refine ⟨?_, h.dead, h.regLt, h.canLt⟩
  rw [hcv]
  exact h2

/-- the error closure of `do_subscribe` as `Kernel/Retry.lean` mirrors it -/
def errK (again : Nat → Nat → Bool) (attempts : List Stream) (k n s : Nat) : Nat → Ctl → Ctl :=
  fun e c2 => if again n e then resubGo again attempts k (n + 1) (c2.abortObserve s) else c2.sinkError e

theorem resubGo_succ (again : Nat → Nat → Bool) (attempts : List Stream) (k n : Nat) (c : Ctl) :
    resubGo again attempts (k + 1) n c =
      attempt (errK again attempts k n c.serial) c (c.subs + 1) (attemptAt attempts (n - 1)) := by
  simp only [resubGo, attempt, begun, playK, errK, Ctl.newObserver]
  split <;> rename_i h <;> simp only [h]

theorem resub_spec {g : G} (ok : g.Ok) (hcv : g.cvf = fun k => some (.int k)) (tag : Nat)
    (scripts : List (List Ev)) (again : Nat → Nat → Bool) (F0 : Nat)
    (hn : ∀ i, g.hn i = fun x => g.sc.sinkNext x) (hc : ∀ i, g.hc i = g.sc.sinkComplete i)
    (he : ∀ i, g.he i = fun e =>
      if again (i + 1) e then
        g.sc.abortObserve i ;; resubP g.sc (oFlaky tag g.cnt scripts) again (F0 - 1 - i) (i + 2)
      else g.sc.sinkError e) :
    ∀ (fuel : Nat) (c : Ctl) (lv : Nat → Bool) (w : World), Rel g c lv w → c.alive = true →
      c.serial + fuel = F0 → c.subs = c.serial →
      WP (resubP g.sc (oFlaky tag g.cnt scripts) again fuel (c.serial + 1)) w
        (Post g c lv (resubGo again (scripts.map Stream.ofScript) fuel (c.serial + 1) c))
  | 0, c, lv, w, h, _, _, _ => WP.done ⟨lv, h, Mono.refl _ _, Nat.le_refl _⟩
  | k+1, c, lv, w, h, ha, hf, hsub => by
    have hk : F0 - 1 - c.serial = k := by omega
    simp only [resubP]
    rw [resubGo_succ, attemptAt_map, Nat.add_sub_cancel, hsub]
    have hsrc := flaky_sub ok hcv tag scripts c.serial c.newObserver.2
    rw [show c.newObserver.2.subs = c.serial from hsub] at hsrc
    refine attempt_spec ok h ha (by rw [hn]) (by rw [he, hk]) (by rw [hc]) (hn _) (hc _) hsrc _ fun e o' lv2 w3 h3 => ?_
    rw [he]
    simp only [errK]
    by_cases hag : again (c.serial + 1) e = true
    · simp only [hag, ↓reduceIte]
      apply WP.seq
      have hmem : c.serial ∈ c.serial :: c.registered := by simp
      apply (abortObserve_spec ok h3 c.serial hmem).conseq
      intro w4 h4
      simp only [begun, Ctl.abortObserve, Ctl.newObserver, hmem, ↓reduceIte] at h4 ⊢
      rw [hk]
      apply (resub_spec ok hcv tag scripts again F0 hn hc he k _ _ w4 h4 ha
        (by show c.serial + 1 + k = F0; omega) rfl).conseq
      exact fun w5 h5 => h5.mono (fun j _ hjl => by simp [hjl]) (Nat.le_refl _)
    · simp only [hag, Bool.false_eq_true, ↓reduceIte]
      exact sinkError_post ok h3 ha e

theorem rel_init (g : G) (w1 : World) (hst : w1.status = .ok) (hh : w1.held = [])
    (hR : w1.obs[g.R]? = some (xR g true true)) (hlen : w1.obs.length = g.R + 1)
    (hs : w1.cells[g.cs]? = some (.int 0)) (hm : w1.cells[g.cm]? = some .lnil)
    (hc : w1.cells[g.cnt]? = g.cvf 0) (hsl : w1.slots[g.fin]? = some none)
    (hu : ∃ u, w1.users[g.sU]? = some u ∧ u.react = noReact) (hl : logOf w1 g.sU = [])
    (ho : ∀ s', s' ≠ g.sU → logOf w1 s' = g.base s') : Rel g {} (fun _ => false) w1 :=
  ⟨{ status := hst, held := hh, obsR := ⟨true, hR⟩, obsLen := hlen
     obsU := fun i hi => absurd hi (Nat.not_lt_zero i)
     serial := hs, map := hm, cnt := hc, slot := hsl, user := hu, log := hl, others := ho },
   fun i hi => (by cases hi), fun i hi => (by cases hi), fun i hi => (by cases hi)⟩

/-- a passive test subscriber subscribes to an operator that opens with `StreamController::new` (`sctlNew`): the
    operator's body starts in a world that represents the empty controller; the counter cell is wherever the caller
    has one (`hcnt`) -/
theorem userSub_sctlNew {w : World} {id cnt : Nat} {f : Obsv} {body : Sctl → Prog} {Q : World → Prop}
    {hn : Nat → Data → Prog} {he : Nat → Nat → Prog} {hc : Nat → Prog} {cvf : Nat → Option Data}
    (hst : w.status = .ok) (hh : w.held = []) (hq : logOf w w.users.length = []) (hf : w.obsvs[id]? = some f)
    (hop : f w.obs.length = sctlNew w.obs.length body) (hcnt : (w.cells ++ [.int 0] ++ [.lnil])[cnt]? = cvf 0)
    (hk : ∀ w1, Rel (G.at w cnt hn he hc cvf) {} (fun _ => false) w1 →
      WP (body (G.at w cnt hn he hc cvf).sc) w1 fun w2 => WP (.userReady w.users.length .done) w2 Q) :
    WP (.userSub id noReact .done) w Q := by
  refine wp_userSub hf ?_
  rw [hop]
  refine wp_cellNew (wp_cellNew (wp_slotNew (wp_obsSetOnUnsub hh ?_)))
  simp only [List.length_append, List.length_cons, List.length_nil, Nat.zero_add]
  refine hk _ (rel_init _ _ hst hh ?_ (by simp [World.setObs, G.at]) (by simp [World.setObs, G.at])
    (by simp [World.setObs, G.at]) hcnt (by simp [World.setObs, G.at])
    ⟨⟨w.obs.length, noReact, false, true⟩, by simp [World.setObs, G.at], rfl⟩ hq fun _ _ => rfl)
  show (World.setObs _ _ _).obs[w.obs.length]? = _
  rw [getElem?_setObs_same (x := ⟨some (.user w.users.length), some (.user w.users.length),
    some (.user w.users.length), none⟩) _ (by simp)]
  rfl

/-- the test: a fresh counter cell, the operator over the flaky source, one passive subscriber -/
def subscribeFlaky (op : Obsv → Obsv) (tag : Nat) (scripts : List (List Ev)) : Prog :=
  .cellNew (.int 0) fun cnt => .obsvNew (op (oFlaky tag cnt scripts)) fun id => .userSub id noReact .done

/-- what the finished run looks like, in terms of the mirror's final controller `c` -/
def Outcome (w : World) (c : Ctl) (w' : World) : Prop :=
  w'.status = .ok ∧ logOf w' w.users.length = c.out ∧ w'.cells[w.cells.length]? = some (.int c.subs) ∧
  (∀ s', s' ≠ w.users.length → logOf w' s' = logOf w s') ∧ w'.held = []

theorem resub_wp (again : Nat → Nat → Bool) (op : Obsv → Obsv)
    (hop : ∀ src s, op src s = sctlNew s fun sc => resubP sc src again 100000 1)
    (tag : Nat) (scripts : List (List Ev)) (w : World) (hw : Ready w) :
    WP (subscribeFlaky op tag scripts) w
      (Outcome w (resubGo again (scripts.map Stream.ofScript) 100000 1 {})) := by
  unfold subscribeFlaky
  refine wp_cellNew (wp_obsvNew ?_)
  let w' : World :=
    { w with cells := w.cells ++ [.int 0], obsvs := w.obsvs ++ [op (oFlaky tag w.cells.length scripts)] }
  let g : G := resubG w' w.cells.length (oFlaky tag w.cells.length scripts) again 100000
  have hl : w'.cells.length = w.cells.length + 1 := by simp [w']
  have ok : g.Ok := ⟨by show w'.cells.length ≠ w'.cells.length + 1; omega,
    by show w.cells.length ≠ w'.cells.length; omega, by show w.cells.length ≠ w'.cells.length + 1; omega⟩
  refine userSub_sctlNew (w := w') (f := op (oFlaky tag w.cells.length scripts)) hw.status hw.held
    (hw.inv.quiet _ (Nat.le_refl _)) (by simp [w']) (hop _ _) (by simp [w']) fun w1 (h1 : Rel g _ _ _) => ?_
  refine (resub_spec (g := g) ok rfl tag scripts again 100000 (fun _ => rfl) (fun _ => rfl) (fun _ => rfl)
    100000 {} (fun _ => false) w1 h1 rfl rfl rfl).conseq ?_
  rintro w2 ⟨lv2, h2, _, _⟩
  exact wp_userReady (WP.done ⟨h2.rep.status, h2.rep.log, h2.rep.cnt, h2.rep.others, h2.rep.held⟩)

theorem resub_refines (again : Nat → Nat → Bool) (op : Obsv → Obsv)
    (hop : ∀ src s, op src s = sctlNew s fun sc => resubP sc src again 100000 1)
    (tag : Nat) (scripts : List (List Ev)) (w : World) (hw : Ready w) :
    ∃ N, ∀ fuel, N ≤ fuel → Outcome w (resubGo again (scripts.map Stream.ofScript) 100000 1 {})
      (run fuel [subscribeFlaky op tag scripts] w) :=
  (resub_wp again op hop tag scripts w hw).run_all

theorem oRetry_eq (max : Nat) (src : Obsv) (s : Nat) :
    oRetry max src s = sctlNew s fun sc => resubP sc src (retryAgain max) 100000 1 := by
  simp only [oRetry, retrySubscribe_eq]

theorem oRetryWhen_eq (p : EPred) (src : Obsv) (s : Nat) :
    oRetryWhen p src s = sctlNew s fun sc => resubP sc src (retryWhenAgain p.app) 100000 1 := by
  simp only [oRetryWhen, retryWhenSubscribe_eq _ _ _ _ 1]

/-- **REFINEMENT, retry.**  From any Ready world, for every `max` and every list of attempt scripts: subscribing a
passive test subscriber to `oRetry max (oFlaky tag counter scripts)` (fresh counter cell) terminates for all
sufficient interpreter fuel in a world with status ok whose log of the new subscriber is the mirror's output,
whose counter cell holds the mirror's number of subscriptions; other subscribers' logs are unchanged and no
guard is left held.  The mirror's fuel is 100000 = the unrolling depth of `do_subscribe` in model A, so the
statement is unconditional (also for `retry(0)` over always-failing scripts: both sides stop after 100000
subscriptions). -/
theorem retry_refines (max tag : Nat) (scripts : List (List Ev)) (w : World) (hw : Ready w) :
    ∃ N, ∀ fuel, N ≤ fuel →
      let w' := run fuel [subscribeFlaky (oRetry max) tag scripts] w
      let r := retryRun max (scripts.map Stream.ofScript) 100000
      w'.status = .ok ∧ logOf w' w.users.length = r.1 ∧
      w'.cells[w.cells.length]? = some (.int r.2) ∧
      (∀ s', s' ≠ w.users.length → logOf w' s' = logOf w s') ∧ w'.held = [] :=
  resub_refines (retryAgain max) (oRetry max) (oRetry_eq max) tag scripts w hw

theorem retryWhen_refines (p : EPred) (tag : Nat) (scripts : List (List Ev)) (w : World) (hw : Ready w) :
    ∃ N, ∀ fuel, N ≤ fuel →
      let w' := run fuel [subscribeFlaky (oRetryWhen p) tag scripts] w
      let r := retryWhenRun p.app (scripts.map Stream.ofScript) 100000
      w'.status = .ok ∧ logOf w' w.users.length = r.1 ∧
      w'.cells[w.cells.length]? = some (.int r.2) ∧
      (∀ s', s' ≠ w.users.length → logOf w' s' = logOf w s') ∧ w'.held = [] :=
  resub_refines (retryWhenAgain p.app) (oRetryWhen p) (oRetryWhen_eq p) tag scripts w hw

theorem ready_empty : Ready ({} : World) := Sim.ready_empty

end Rx.RetryRef

-- non-vacuity examples (concrete runs, `decide`) are in C04RefCor.lean
#print axioms Rx.RetryRef.resub_spec
#print axioms Rx.RetryRef.retry_refines
#print axioms Rx.RetryRef.retryWhen_refines
