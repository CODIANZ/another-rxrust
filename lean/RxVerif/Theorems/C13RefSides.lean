import RxVerif.Theorems.C13RefCore
/-
C13-REF: what the users' side (the connectable's subject and its subscribers) and the connectable's own side (what it
keeps of the source subscriptions) are for the source side.  Each reads a set of observers / cells of its own and is
stable under changes elsewhere (`Step`); the callback of a source observer feeds the users' side (`recv_step` =
`ConnM.connRecv`).
-/
namespace Rx.CRef
open Rx.Sim Rx.SubjM Rx.Ref Rx.RefR

/-- The users' side of a connectable, as the other two sides see it. -/
structure UsersSide where
  kind : SubjM.Kind
  U : World → SubjM.State → Prop
  /-- its observers and its cells -/
  G : List Nat
  Kc : Nat → Prop
  /-- the callbacks of a source observer (they feed the connectable's subject) -/
  fn : Data → Prog
  fe : Nat → Prog
  fc : Prog
  -- cells 0, 1 are the hot source's (`Hp`); so in `two` and in `OwnSide.kc2`
  kc2 : ∀ i, Kc i → 2 ≤ i
  lt : ∀ {w : World} {s i}, U w s → Kc i → i < w.cells.length
  two : ∀ {w : World} {s}, U w s → 2 < w.cells.length
  step : ∀ {w w' : World} {s J K}, U w s → Step J K w w' → w'.users = w.users → (∀ u, logOf w' u = logOf w u) →
    (∀ j ∈ G, ¬ J j) → (∀ i, Kc i → ¬ K i) → U w' s
  emit : ∀ {w : World} {s cobs} (ev : Ev), SlotReads w.held → Glob G cobs w → U w s →
    WP (codeBody ev fn fe fc) w (fun w' => U w' (SubjM.emit kind s ev) ∧ Touch (InList G) Kc w w')

structure OwnSide where
  X : World → Prop
  Kc : Nat → Prop
  kc2 : ∀ i, Kc i → 2 ≤ i
  lt : ∀ {w : World} {i}, X w → Kc i → i < w.cells.length
  step : ∀ {w w' : World} {J K}, X w → Step J K w w' → w'.held = w.held → (∀ i, Kc i → ¬ K i) → X w'

/-- the harness' instrumented cold source `(cold 0 ev…)` -/
def coldSrc (script : List Ev) : Obsv := oScript 0 true script

/-- what the source is: H's hooks are never set / observable 0 is the instrumented cold source -/
def SrcFix : ConnM.Src → World → Prop
  | .hot, w => w.slots[0]? = some none ∧ w.slots[1]? = some none
  | .cold script, w => w.obsvs[0]? = some (coldSrc script)

theorem SrcFix.step {src w w' J K} (h : SrcFix src w) (t : Step J K w w') : SrcFix src w' := by
  cases src with
  | hot => exact ⟨t.slots ▸ h.1, t.slots ▸ h.2⟩
  | cold _ => show w'.obsvs[0]? = _; rw [t.obsvs]; exact h

/-- what the source's loops carry: everything but the source side -/
structure UO (V : UsersSide) (O : OwnSide) (src : ConnM.Src) (cobs : List Nat) (w : World) (s : SubjM.State) :
    Prop where
  glob : Glob V.G cobs w
  users : V.U w s
  own : O.X w
  fix : SrcFix src w
  ownFree : ∀ i, O.Kc i → ¬ V.Kc i

theorem UO.rest {V O src cobs w w' s s' J K} (h : UO V O src cobs w s) (t : Touch J K w w') (hu : V.U w' s')
    (hK : ∀ i, O.Kc i → ¬ K i) : UO V O src cobs w' s' :=
  ⟨h.glob.touch t, hu, O.step h.own t.step t.held hK, h.fix.step t.step, h.ownFree⟩

theorem UO.touch {V O src cobs w w' s J K} (h : UO V O src cobs w s) (t : Touch J K w w')
    (hl : ∀ u, logOf w' u = logOf w u) (hJ : ∀ j ∈ V.G, ¬ J j) (hKv : ∀ i, V.Kc i → ¬ K i)
    (hKo : ∀ i, O.Kc i → ¬ K i) : UO V O src cobs w' s :=
  h.rest t (V.step h.users t.step t.users hl hJ hKv) hKo

theorem UO.step {V O src cobs cobs' w w' s J K} (h : UO V O src cobs w s) (t : Step J K w w')
    (g : Glob V.G cobs' w') (hu : w'.users = w.users) (hl : ∀ u, logOf w' u = logOf w u) (hh : w'.held = w.held)
    (hJ : ∀ j, J j → j ∉ V.G) (hK : ∀ i, K i → ¬ V.Kc i ∧ ¬ O.Kc i) : UO V O src cobs' w' s :=
  ⟨g, V.step h.users t hu hl (fun j m x => hJ j x m) (fun i k x => (hK i x).1 k),
   O.step h.own t hh (fun i k x => (hK i x).2 k), h.fix.step t, h.ownFree⟩

theorem Glob.disj {roots cobs w} (g : Glob roots cobs w) : ∀ j ∈ roots, ¬ InList cobs j :=
  fun j hj hc => (List.nodup_append.1 g.nodup).2.2 j hj j hc rfl

theorem UO.probe {V O src cobs w s} (h : UO V O src cobs w s) (t : Nat) (d : Data) :
    UO V O src cobs (w.emit (.probe t d)) s :=
  h.step (J := NoObs) (K := NoCell) (Step.same rfl rfl rfl rfl rfl) (h.glob.of_obs_eq rfl rfl) rfl
    (logOf_emit_probe w t d) rfl (fun _ => False.elim) (fun _ => False.elim)

/-- `CP` = the source side, as a function of the flags `ConnM.State.conns` -/
structure LoopInv (V : UsersSide) (O : OwnSide) (src : ConnM.Src) (cobs : List Nat) (CP : World → List Bool → Prop)
    (w : World) (st : ConnM.State) : Prop where
  held : SlotReads w.held
  uo : UO V O src cobs w st.sub
  conns : CP w st.conns

/-- One callback of source observer `m` whose callbacks are still there, after the terminal gate of `Observer`
    (observer.rs:37-52): the callback forwards into the connectable's subject = `ConnM.connRecv`. -/
theorem recv_step {V O src cobs} {CP : World → List Bool → Prop} {w st} (ck : ConnM.Kind) (hk : ck.subj = V.kind)
    {m : Nat} (hm : m < cobs.length)
    (hclear : ∀ {w conns}, Glob V.G cobs w → CP w conns →
      CP (w.setObs (rootAt cobs m) Obs.cleared) (conns.set m false))
    (htouch : ∀ {w w' conns}, Glob V.G cobs w → CP w conns → Touch (InList V.G) V.Kc w w' → CP w' conns)
    (h : LoopInv V O src cobs CP w st) (hflag : st.conns[m]? = some true) (ev : Ev) :
    WP (codeBody ev V.fn V.fe V.fc) (if ev.isTerminal then w.setObs (rootAt cobs m) Obs.cleared else w)
      (fun w2 => LoopInv V O src cobs CP w2 (ConnM.connRecv ck st m ev)) := by
  unfold ConnM.connRecv
  rw [if_pos hflag]
  have h1 : LoopInv V O src cobs CP (if ev.isTerminal then w.setObs (rootAt cobs m) Obs.cleared else w)
      { st with conns := if ev.isTerminal then st.conns.set m false else st.conns } := by
    split
    · exact ⟨h.held, h.uo.touch (Touch.setObs (J := InList cobs) (K := NoCell) w _ _ (rootAt_mem hm)) (fun _ => rfl)
        h.uo.glob.disj (fun _ _ x => x) (fun _ _ x => x), hclear h.uo.glob h.conns⟩
    · exact h
  rw [hk]
  exact (V.emit ev h1.held h1.uo.glob h1.uo.users).conseq fun w2 ⟨hu, t⟩ =>
    ⟨t.held ▸ h1.held, h1.uo.rest t hu h1.uo.ownFree, htouch h1.uo.glob h1.conns t⟩

end Rx.CRef
