import RxVerif.Theorems.C03RefGStatic
import RxVerif.Theorems.C03
/-
C03-REF, take_until: model A's `oTakeUntil` (Machine/Lib.lean, transliterating src/operators/take_until.rs) over
two plain hot subjects (0 = source, 1 = trigger) REFINES the pure history machine `Comb.takeUntil`.
-/
namespace Rx.CRef.TakeUntil
open Rx.Sim Rx.Ref Rx.Comb Rx.CRef Rx.GRef

def sc : Sctl := ⟨0, 4, 5, 4⟩

/-- take_until.rs:33-60: the trigger's observer is created first (serial 0, observer 1), then the source's
    (serial 1, observer 2) -/
def lay : GLay :=
  GLay.std 2 (rev 2) (fun i x => if i = 0 then sc.sinkNext x else sc.sinkCompleteForce)
    (fun i e => if i = 0 then sc.sinkError e else .done) fun i => if i = 0 then sc.sinkCompleteForce else .done

theorem lay_ok : lay.Ok := GLay.std_ok (rev_rev 2)

def sim : StaticSim lay takeUntil.step where
  ok := lay_ok
  ctl c := c
  fr _ := ⟨.unit, 2, 3⟩
  dead c p h := if_neg (by rw [show c.isLive p.1 = false from h]; decide)
  body c i ev out w _ hi hlv h := by
    have hi : i < 2 := hi
    have ok := lay_ok
    refine WP.conseq ?_ fun _ q => ⟨q, trivial⟩
    rcases (by omega : i = 0 ∨ i = 1) with e | e <;> subst e <;> cases ev <;>
      simp only [takeUntil.step, Ctl.isLive, hlv, ↓reduceIte, beq_self_eq_true, show ((1 : Nat) == 0) = false from rfl,
        Bool.false_eq_true, List.append_nil]
    · exact h.sinkNext ok _
    · exact h.sinkError ok _
    · exact h.sinkCompleteForce ok
    · exact h.sinkCompleteForce ok
    · exact WP.done h
    · exact WP.done h

/-- two plain subjects; test user 0 subscribes to `s0.take_until(s1)`; then the history -/
def prog (H : History) : Prog :=
  subjsNew 2 fun sjs =>
    .obsvNew (oTakeUntil (sjs.getD 0 default).observable (sjs.getD 1 default).observable) fun id =>
    .userSub id noReact (drive sjs H)

/-- the closures by serial (0 = the trigger's observer): `take_until_refines` restates the two nested `new_observer` of
    `oTakeUntil` as `newObservers sc 2 mk`, the form `wp_prepare` takes -/
def mk : Nat → (Nat → Data → Prog) × (Nat → Nat → Prog) × (Nat → Prog) := fun m =>
  if m = 0 then (fun _ _ => sc.sinkCompleteForce, fun _ _ => .done, fun _ => .done)
  else (fun _ x => sc.sinkNext x, fun _ e => sc.sinkError e, fun _ => sc.sinkCompleteForce)

def theObsv : Nat → Prog := oTakeUntil (sjOf 0).observable (sjOf 1).observable

/-- For EVERY history over the two subjects the program ends, for all sufficient fuel,
    with `status = ok`, no guard held, the user's log equal to the output of `Comb.takeUntil`, and subject `i`
    holding one observer iff `i` is in the machine's final `live` set. -/
theorem take_until_refines (H : History) :
    ∃ n0, ∀ fuel, n0 ≤ fuel →
      Agrees 2 (run fuel [prog H] {}) (finalFrom takeUntil.step (Ctl.init 2) H).live (takeUntil.run 2 H) := by
  refine sim.refines (fun sjs => oTakeUntil (sjs.getD 0 default).observable (sjs.getD 1 default).observable) H
    (Ctl.init 2) trivial ?_
  show WP (theObsv 0) (startWorld 2 theObsv) (SRel lay (Ctl.init 2) ⟨.unit, 2, 3⟩ [])
  simp only [theObsv, oTakeUntil]
  refine wp_sctlNew_start ?_
  show WP (newObservers sc 2 mk fun os =>
    (sjOf 1).observable.sub (os.getD 0 0) ;; (sjOf 0).observable.sub (os.getD 1 0)) _ _
  refine wp_prepare lay_ok (GLay.std_std (rev_rev 2) fun _ => rev_lt) mk (two_cases rfl rfl)
    (rel_ctlWorld lay_ok (fun _ => rfl) [] _) fun w1 h1 =>
    WP.seq ?_
  have hnd : (Ctl.init 2).live.Nodup := by decide
  refine (subscribe_static lay_ok h1 hnd (j := 1) (by decide) rfl rfl).conseq fun w2 h2 => ?_
  refine (subscribe_static lay_ok h2 hnd (j := 0) (by decide) rfl rfl).conseq fun w3 h3 => ?_
  exact ⟨_, h3, Static.of_on hnd (by decide)⟩

theorem take_until_machine_spec (H : History) (hwf : WellFormed 2 H) :
    ∃ n0, ∀ fuel, n0 ≤ fuel → (run fuel [prog H] {}).status = .ok ∧
      logOf (run fuel [prog H] {}) 0 = takeUntilSpec H :=
  machine_spec_of (take_until_refines H) (take_until_spec 2 H hwf)

def demo : History :=
  [(0, .next (.int 1)), (0, .next (.int 2)), (1, .next (.int 0)), (0, .next (.int 3)), (1, .complete), (0, .complete)]

theorem demo_run : (run 2000 [prog demo] {}).status = .ok ∧
    logOf (run 2000 [prog demo] {}) 0 = [.next (.int 1), .next (.int 2), .complete] := by
  decide +kernel

example : (run 2000 [prog demo] {}).status = .ok := demo_run.1
example : logOf (run 2000 [prog demo] {}) 0 = [.next (.int 1), .next (.int 2), .complete] := demo_run.2
example : takeUntil.run 2 demo = [.next (.int 1), .next (.int 2), .complete] := by decide +kernel
example : (List.range 2).map (regCount (run 2000 [prog (demo.take 2)] {})) = [1, 1] ∧
    (List.range 2).map (regCount (run 2000 [prog demo] {})) = [0, 0] ∧
    (finalFrom takeUntil.step (Ctl.init 2) demo).live = [] := by decide +kernel
example : WellFormed 2 demo := by decide
example : logOf (run 2000 [prog demo] {}) 0 = takeUntilSpec demo := demo_run.2.trans (by decide +kernel)

#print axioms take_until_refines
#print axioms take_until_machine_spec

end Rx.CRef.TakeUntil
