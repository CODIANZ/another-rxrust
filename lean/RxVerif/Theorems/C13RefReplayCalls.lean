import RxVerif.Theorems.C13RefReplayUser
/-
C13-REF, replay: `subscribe` assembled, the whole program, the end-to-end theorem.
-/
namespace Rx.CRef
open Rx.Sim Rx.SubjM Rx.Ref Rx.RefR

theorem onSubscribe_sub_or (k : ConnM.Kind) (src : ConnM.Src) (st : ConnM.State) (l : Option Nat) :
    (ConnM.onSubscribe k src st l).sub = st.sub ∨ (∃ script, src = .cold script) ∧ st.connecting = false := by
  unfold ConnM.onSubscribe
  split
  · next h =>
    cases src with
    | hot => exact .inl rfl
    | cold script => exact .inr ⟨⟨script, rfl⟩, h.2⟩
  · exact .inl rfl

/-- the state when `on_subscribe(len)` is reached inside `subscribe n` -/
def regState (st : ConnM.State) (n : Nat) : ConnM.State :=
  { st with sub := { st.sub with serial := st.sub.serial + 1
                                 observers := st.sub.observers ++ [(st.sub.serial + 1, n)]
                                 obs := upd st.sub.obs n (regRec (st.sub.serial + 1)) } }

/-- what the hand-over works with: the history is the snapshot taken BEFORE the hook ran -/
def pendOf (st : ConnM.State) : Pending :=
  { fresh := true, len := some (st.sub.observers.length + 1), history := st.sub.items }

theorem stepRp_subscribe (src : ConnM.Src) (st : ConnM.State) (n : Nat) (hu : (st.sub.obs n).seen = false) :
    ConnM.step .replay src st (.subscribe n) =
      let st2 := ConnM.onSubscribe .replay src (regState st n) (some (st.sub.observers.length + 1))
      let b := subscribeB .replay st2.sub n (pendOf st)
      ConnM.onUnsubscribe { st2 with sub := b.1 } b.2 := by
  simp [ConnM.step, ConnM.Kind.counts, ConnM.Kind.subj, subscribeA, hu, register, regRec, regState, pendOf]

/-- `subscribe` of a test user up to the return of the `on_subscribe` hook (replay_subject.rs:46-69, 85-93; subject.rs:61-92);
    what follows (`hk`) starts from the relation for the state after the hook, with the new subscription still
    pending and its `sbsc` not stored -/
theorem subscribeFrontR {src L cobs cacs armed w st} (h : RelR src L cobs cacs armed none none [] w st)
    {Q : World → Prop}
    (hk : ∀ w2 cobs' cacs' armed',
      RelR src (L.reg w) cobs' cacs' armed' (some L.roots.length) (some L.roots.length) [] w2
        (ConnM.onSubscribe .replay src (regState st L.roots.length) (some (st.sub.observers.length + 1))) →
      WP ((forEach st.sub.items fun x => .obsNext (rootAt (L.reg w).roots L.roots.length) x .done) ;;
          termProgR st.sub.wasError st.sub.wasCompleted (rootAt (L.reg w).roots L.roots.length)) w2 (fun w3 =>
        WP (storeProgR (rootAt (L.reg w).roots L.roots.length) (rootAt (L.reg w).fwds L.roots.length)
            (rootAt (L.reg w).sbs L.roots.length)) w3 (fun w4 =>
          WP (.userReady L.roots.length .done) w4 Q))) :
    WP (.userSub 1 noReact .done) w Q := by
  have U : UsersR .. := h.users
  have X : RcPart .. := h.own
  have h9 : 9 < w.cells.length := lt_of_getElem?_some X.cellN
  refine wp_userSub X.obsvS ?_
  unfold RSubj.observable
  simp only [rR, Sp]
  refine wp_cellNew ?_
  refine wp_obsSetOnUnsub X.held ?_
  dsimp only [World.setObs]
  rw [modify_app0]
  simp only [List.modify_cons, ↓reduceIte]
  generalize hrh : (Prog.cellRead w.cells.length false fun h => subUnsub h) = rh
  -- model A reads `was_error` / `was_completed` here, with `items`, before the hook; replay_subject.rs:72-73 reads
  -- them after it: NOTE in C13RefAll's header
  refine wp_cellRead X.held ?_
  refine wp_cellRead X.held ?_
  refine wp_cellRead X.held ?_
  rw [get_app_lt _ _ _ (by omega), get_app_lt _ _ _ (by omega), get_app_lt _ _ _ (by omega),
    show w.cells[4]? = _ from U.store.cellI, show w.cells[5]? = _ from U.store.cellE,
    show w.cells[6]? = _ from U.store.cellC]
  simp only [Option.getD_some, Data.toList_ofList, toBool_bool]
  unfold subscribeWith
  refine wp_obsNew ?_
  simp only [List.length_append, List.length_cons, List.length_nil, List.append_assoc, List.cons_append,
    List.nil_append, Nat.zero_add]
  refine WP.seq ?_
  refine wp_obsIsSub (by dsimp only; rw [get_app_ge _ _ 1]; rfl) ?_
  refine WP.seq ?_
  refine wp_obsIsSub (by dsimp only; rw [get_app_ge _ _ 1]; rfl) ?_
  refine observable_pre (sj := ⟨2, 3, 2, 3⟩) (serial := st.sub.serial) (obsl := mapL L st.sub.observers)
    (SlotReads.of_nil X.held) (by dsimp only; rw [get_app_ge _ _ 1]; rfl) rfl (by decide)
    (by dsimp only; rw [get_app_lt _ _ _ (by omega)]; exact U.up.cellS)
    (by dsimp only; rw [get_app_lt _ _ _ (by omega)]; exact U.up.cellO)
    (RefU.keys_map (Λ := L.lay none) U.up.keys) ?_
  dsimp only [subWorld, World.setObs]
  rw [modify_app _ _ 1]
  subst hrh
  have hlen : (mapL L st.sub.observers).length = st.sub.observers.length := by simp [mapL]
  rw [hlen]
  refine (RcInv.onSubCall .replay rfl h.reg _).conseq ?_
  rintro w2 ⟨c, ca, a, h2⟩
  rw [U.up.nUsers]
  have := hk _ c ca a h2
  rwa [L.reg_root, LayR.reg_fwd w U.lay.lenF, LayR.reg_sb w U.lay.lenS] at this

/-- nothing has been called yet, or the one connect has been made (`ConnM.Busy`) -/
def Fresh (st : ConnM.State) : Prop := st = ConnM.init ∨ ConnM.Busy st

theorem Fresh.step {src : ConnM.Src} {st : ConnM.State} (h : Fresh st) (c : ConnM.Call) :
    Fresh (ConnM.step .replay src st c) := by
  rcases h with rfl | h
  · cases hc : ConnM.isSubscribe c with
    | false => exact Or.inl (ConnM.step_init rfl src c hc)
    | true =>
      cases c with
      | subscribe o => exact Or.inr (ConnM.first_busy rfl src o)
      | _ => cases hc
  · exact Or.inr (h.step rfl src c)

/-- `RelR` between two calls, with the layout hidden -/
def SimR0 (src : ConnM.Src) (n : Nat) (w : World) (st : ConnM.State) : Prop :=
  ∃ L cobs cacs armed, L.roots.length = n ∧ RelR src L cobs cacs armed none none [] w st

/-- `subscribe` of a test user: unless the hook connected a cold source it left the ReplaySubject alone, and the
    ordinary hand-over follows; otherwise the script has reached the new subscriber live -/
theorem subscribeR_spec {src L cobs cacs armed w st} (h : RelR src L cobs cacs armed none none [] w st)
    (hrc : Fresh st) :
    WP (.userSub 1 noReact .done) w (fun w' =>
      SimR0 src (L.roots.length + 1) w' (ConnM.step .replay src st (.subscribe L.roots.length))) := by
  have U : UsersR .. := h.users
  rw [stepRp_subscribe _ _ _ (U.up.unseen_seen (Nat.le_refl _))]
  refine subscribeFrontR h fun w2 cobs' cacs' armed' h2 => ?_
  dsimp only
  rcases onSubscribe_sub_or .replay src (regState st L.roots.length) (some (st.sub.observers.length + 1)) with
    hsub | ⟨⟨script, rfl⟩, hc⟩
  · have T := subscribeTailR_spec (some (st.sub.observers.length + 1)) h2 (s1 := st.sub.serial + 1)
      (by rw [hsub]; simp [upd, regState])
    rw [hsub] at T ⊢
    exact T.conseq fun _ T3 => T3.conseq fun _ T4 => T4.conseq fun _ ⟨L', a, hl, h5⟩ =>
      ⟨L', _, _, a, by rw [hl]; simp [LayR.reg], h5⟩
  · have hst : st = ConnM.init := hrc.resolve_right fun b => by
      rw [show (regState st L.roots.length).connecting = st.connecting from rfl, b.connecting] at hc; cases hc
    have hobs : st.sub.observers = [] := hst ▸ rfl
    have hi : st.sub.items = [] := hst ▸ rfl
    have hwe : st.sub.wasError = none := hst ▸ rfl
    have hwc : st.sub.wasCompleted = false := hst ▸ rfl
    have hI := FoldInv.onSubscribe (n := L.roots.length) (s1 := st.sub.serial + 1) script
      (st := regState st L.roots.length) (some (st.sub.observers.length + 1))
      ⟨fun _ => ⟨by simp [regState, upd, regRec], by simp [regState, hobs], hwe, hwc⟩⟩
    -- the snapshot taken before the hook is empty, no terminal was stored then: nothing is replayed
    have T := storeR_spec h2
    rw [← hI.subscribeB (some (st.sub.observers.length + 1))] at T
    simp only [pendOf, hi, hwe, hwc]
    exact WP.seq (WP.done (WP.done (T.conseq fun _ T4 => T4.conseq fun _ ⟨a, h5⟩ =>
      ⟨_, _, _, a, by simp [LayR.store, LayR.reg], h5⟩)))

/-- `(subject a plain) (conn x replay (ref a))` then the calls (Machine/Case.lean `stepProg`) -/
def progRp (cs : List ConnM.Call) : Prog :=
  subjNew fun H => .obsvNew H.observable fun hid => subjNew fun S =>
  .cellNew .lnil fun it => .cellNew .lnil fun we => .cellNew (.bool false) fun wc =>
  .cellNew (.bool false) fun c => .cellNew .lnil fun sb => .cellNew (.bool false) fun cn =>
  .obsvNew (RSubj.observable ⟨S, it, we, wc⟩) fun sid =>
  refCountHooks ⟨c, sb, cn⟩ (fun o => .obsvSub hid o .done) S.onSub S.onUnsub
    (fun x => RSubj.next ⟨S, it, we, wc⟩ x) (fun e => RSubj.error ⟨S, it, we, wc⟩ e)
    (RSubj.complete ⟨S, it, we, wc⟩) ;;
  forEach cs (callCG H sid)

/-- `(conn x replay (cold 0 ev…))` then the calls (the first Subject is never used) -/
def progRpc (script : List Ev) (cs : List ConnM.Call) : Prog :=
  subjNew fun _ => .obsvNew (coldSrc script) fun hid => subjNew fun S =>
  .cellNew .lnil fun it => .cellNew .lnil fun we => .cellNew (.bool false) fun wc =>
  .cellNew (.bool false) fun c => .cellNew .lnil fun sb => .cellNew (.bool false) fun cn =>
  .obsvNew (RSubj.observable ⟨S, it, we, wc⟩) fun sid =>
  refCountHooks ⟨c, sb, cn⟩ (fun o => .obsvSub hid o .done) S.onSub S.onUnsub
    (fun x => RSubj.next ⟨S, it, we, wc⟩ x) (fun e => RSubj.error ⟨S, it, we, wc⟩ e)
    (RSubj.complete ⟨S, it, we, wc⟩) ;;
  forEach cs (callCcG sid)

/-- between two calls the state is `Fresh` as well: a hook that still has to connect (`connecting = false`) then finds
    `ConnM.init`, i.e. nothing has reached the ReplaySubject before the first subscriber connects -/
def SimR (src : ConnM.Src) (n : Nat) (w : World) (st : ConnM.State) : Prop := SimR0 src n w st ∧ Fresh st

theorem callR_spec {src} {call : ConnM.Call → Prog} (hcall : ∀ c, call c = callsOf src .done .done c) {n w st}
    (c : ConnM.Call) (h : SimR src n w st) (hc : wfC n [c] = true) :
    WP (call c) w (fun w' => SimR src (n + subsC [c]) w' (ConnM.step .replay src st c)) := by
  obtain ⟨⟨L, cobs, cacs, armed, rfl, h⟩, hrc⟩ := h
  refine (callsOf_spec hcall c hc ⟨_, _, _, _, rfl, h⟩ (subscribeR_spec h hrc)
    (fun u => (unsubscribeR_spec h u).conseq fun w' ⟨a', h'⟩ => ⟨_, _, _, a', rfl, h'⟩)
    (WP.done ⟨_, _, _, _, rfl, h⟩) (WP.done ⟨_, _, _, _, rfl, h⟩)
    fun e ev => by
      subst e
      exact (RcInv.hotEmit .replay rfl h ev).conseq fun w' h' => ⟨_, _, _, _, rfl, h'⟩).conseq
    fun _ h' => ⟨h', hrc.step c⟩

/-- the world after the allocations and the two `slotSet`s of `progRp` / `progRpc` -/
def w0R (src : ConnM.Src) : World :=
  w0 src [.lnil, .int 0, .lnil, .lnil, .bool false, .bool false, .lnil, .bool false]
    [some (onSubHook rcR srcC fnR feR fcR), some (onUnsubHook rcR)] [rR.observable]

theorem relR_init (src : ConnM.Src) : RelR src ⟨[], [], [], []⟩ [] [] [] none none [] (w0R src) ConnM.init :=
  Inv.init src _ _ _ rfl (UsersR.init rfl rfl rfl rfl rfl rfl rfl) ⟨rfl, rfl, rfl, rfl, rfl, rfl, rfl, nofun⟩ (rcR_KRL _)

theorem progRp_spec (cs : List ConnM.Call) (hwf : wfC 0 cs = true) :
    WP (progRp cs) {} (fun w' => SimR .hot (0 + subsC cs) w' (ConnM.run .replay .hot cs)) :=
  -- 20 steps: 16 allocations (two `subjNew` of two cells and two slots each, two `obsvNew`, the six cells), then
  -- `;;`, the two `slotSet`s of `refCountHooks` and its `.done`
  wp_steps 20 (forEach cs (callCG Hp 1)) (w0R .hot) (fun _ _ => rfl)
    (calls_sim (callR_spec fun c => by cases c <;> rfl) cs ⟨⟨_, _, _, _, rfl, relR_init .hot⟩, Or.inl rfl⟩ hwf)

theorem progRpc_spec (script : List Ev) (cs : List ConnM.Call) (hwf : wfC 0 cs = true) :
    WP (progRpc script cs) {} (fun w' =>
      SimR (.cold script) (0 + subsC cs) w' (ConnM.run .replay (.cold script) cs)) :=
  wp_steps 20 (forEach cs (callCcG 1)) (w0R (.cold script)) (fun _ _ => rfl)
    (calls_sim (callR_spec fun c => by cases c <;> rfl) cs
      ⟨⟨_, _, _, _, rfl, relR_init (.cold script)⟩, Or.inl rfl⟩ hwf)

def FinalRp (cs : List ConnM.Call) (w : World) : Prop := ∃ n0, ∀ fuel, n0 ≤ fuel → run fuel [progRp cs] {} = w

def FinalRpc (script : List Ev) (cs : List ConnM.Call) (w : World) : Prop :=
  ∃ n0, ∀ fuel, n0 ≤ fuel → run fuel [progRpc script cs] {} = w

theorem FinalRp.unique {cs w w'} (h : FinalRp cs w) (h' : FinalRp cs w') : w = w' := FinalOf.unique h h'

theorem FinalRpc.unique {script cs w w'} (h : FinalRpc script cs w) (h' : FinalRpc script cs w') : w = w' :=
  FinalOf.unique h h'

theorem replayConn_refines (cs : List ConnM.Call) (hwf : wfC 0 cs = true) :
    ∃ w, FinalRp cs w ∧ AgreesC w (ConnM.run .replay .hot cs) := by
  obtain ⟨w, hf, ⟨_, _, _, _, _, h⟩, _⟩ := refines_of (progRp_spec cs hwf)
  exact ⟨w, hf, AgreesC.of_parts h.glob (RcPart.held h.own) (.of_up (UsersR.up h.users)) h.conns rfl rfl⟩

theorem replayConn_refines_cold (script : List Ev) (cs : List ConnM.Call) (hwf : wfC 0 cs = true) :
    ∃ w, FinalRpc script cs w ∧ AgreesCold w (ConnM.run .replay (.cold script) cs) := by
  obtain ⟨w, hf, ⟨_, _, _, _, _, h⟩, _⟩ := refines_of (progRpc_spec script cs hwf)
  exact ⟨w, hf, AgreesCold.of_parts h.glob (RcPart.held h.own) (.of_up (UsersR.up h.users)) h.conns⟩

#print axioms replayConn_refines
#print axioms replayConn_refines_cold

end Rx.CRef
