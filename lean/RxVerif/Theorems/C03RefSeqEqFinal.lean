import RxVerif.Theorems.C03RefSeqEqPath
import RxVerif.Theorems.C03RefSeqEqSetup
import RxVerif.Theorems.C03RefSequenceEqual
/-
C03-REF, sequence_equal (what the files `C03RefSeqEq*` are for: header of C03RefSequenceEqual.lean and DESIGN §10.9):
the whole program, and the refinement theorem.
-/
namespace Rx.SeqRef
open Rx.Sim Rx.Ref Rx.Comb Rx.CRef Rx.CRef.SequenceEqual

theorem QRel.agrees {k : Nat} {s : Over} {out : List Ev} {w : World} (h : QRel k s out w) :
    Agrees k w s.z.ctl.live out := by
  obtain ⟨σ, g, ho, hc⟩ := h
  refine ⟨g.status, g.held, by rw [g.log, ho], ?_⟩
  intro i hi
  have hO := (g.chains i hi).subjO
  simp only [CRef.regCount, hO, Option.getD_some, amapLen_encMap]
  rcases hc with ⟨R, qs, rfl, c⟩ | ⟨d, c⟩
  · show _ = if R.contains i then 1 else 0
    cases hR : R.contains i
    · rw [c.chD i hi hR]; rfl
    · rw [c.chL i hi hR]; rfl
  · rw [d.live, c i hi]; rfl

theorem srcs_eq (n : Nat) :
    oWithEnd ((sjs (n + 1)).headD default).observable :: ((sjs (n + 1)).tail.map Subj.observable).map oWithEnd
      = (List.range (n + 1)).map fun i => oWithEnd (sjOf i).observable := by
  have := Merge.srcs_eq n
  have h2 := congrArg (List.map oWithEnd) this
  simp only [List.map_cons] at h2
  rw [h2, List.range_eq_range', List.map_map]; rfl

/-- the world after the outer controller's stage, seen from `zip` -/
theorem preZip_of_stage {k : Nat} {W w1 : World}
    (hc : W.cells.length = 2 * k) (hs : W.slots.length = 2 * k)
    (ho : W.obs = [⟨some (.user 0), some (.user 0), some (.user 0), none⟩])
    (hu : W.users = [⟨0, noReact, false, true⟩]) (hst : W.status = .ok) (hh : W.held = []) (ht : W.trace = [])
    (hf : ∀ j, j < k → W.cells[2 * j]? = some .lnil ∧ W.cells[2 * j + 1]? = some (.int 0) ∧
      W.slots[2 * j]? = some none ∧ W.slots[2 * j + 1]? = some none)
    (h1 : StagePost0 W w1 0 (scO k).finalize (outerObs k none)) : PreZip k w1 := by
  have hol : W.obs.length = 1 := by rw [ho]; rfl
  exact
  { status := h1.status.trans hst, held := h1.held.trans hh
    user := ⟨_, by rw [h1.users, hu]; rfl, rfl⟩
    trace := h1.trace.trans ht
    cLen := by rw [h1.cellsLen, hc]
    sLen := by rw [h1.slotsLen, hs]
    oLen := by rw [h1.obsLen, hol]
    root := by rw [h1.obsS _ (by rw [ho]; rfl)]; rfl
    o1 := by have := h1.obsNew; rwa [hol] at this
    oS := by have := h1.cSer; rwa [hc] at this
    oM := by have := h1.cMap; rwa [hc, hol] at this
    oF := by have := h1.slotNew; rwa [hs] at this
    sfresh := fun j hj =>
      let ⟨a, b, c, d⟩ := hf j hj
      ⟨(h1.cellsOld _ (getElem?_lt a)).trans a, (h1.cellsOld _ (getElem?_lt b)).trans b,
        (h1.slotsOld _ (getElem?_lt c)).trans c, (h1.slotsOld _ (getElem?_lt d)).trans d⟩ }

/-- set-up (`wp_stage0`, `zip_stage`, `setup_final`), then the history entry by entry (`drive_seq`) -/
theorem prog_spec (n : Nat) (H : History) :
    WP (SequenceEqual.prog n H) {}
      (QRel (n + 1) (finalFrom sequenceEqual.step (Over.init (n + 1)) H) (sequenceEqual.run (n + 1) H)) := by
  refine wp_harness (O := fun sjs => oSequenceEqual (sjs.headD default).observable (sjs.tail.map Subj.observable)) ?_
  simp only [oSequenceEqual, fwdOp]
  have hc : (subjCells (n + 1)).length = 2 * (n + 1) := subjCells_length _
  have hs : (List.replicate (2 * (n + 1)) (none : Option (Data → Prog))).length = 2 * (n + 1) := List.length_replicate
  refine wp_stage0 hc hs (O := 1) rfl 0 _ _ _ (fun _ o => (oZip _ _).sub o) rfl
    (x := ⟨some (.user 0), some (.user 0), some (.user 0), none⟩) rfl rfl ?_
  intro w1 h1
  have hp : PreZip (n + 1) w1 := by
    refine preZip_of_stage (k := n + 1) hc hs rfl rfl rfl rfl rfl ?_ h1
    · intro j hj
      refine ⟨subjCells_even _ _ hj, subjCells_odd _ _ hj, ?_, ?_⟩
      · show (List.replicate (2 * (n + 1)) none)[2 * j]? = _
        rw [List.getElem?_replicate, if_pos (by omega)]
      · show (List.replicate (2 * (n + 1)) none)[2 * j + 1]? = _
        rw [List.getElem?_replicate, if_pos (by omega)]
  have hz := zip_stage hp _ _ (by simp [sjs]) (srcs_eq n)
  exact hz.conseq fun w2 h2 => drive_seq H _ [] _ (setup_final (Nat.succ_pos n) h2)

/-- **C03-REF, sequence_equal.**  For EVERY history the sequence_equal program (subject -> `with_end` -> zip ->
    comparison, a tree of `2 * n + 4` controllers for `n + 1` sources) ends, for all sufficient fuel, with
    `status = ok`, no guard held, the user's log equal to the output of `Comb.sequenceEqual`, and subject `i` holding
    one observer iff `i` is in the final `live` set of the machine's zip. -/
theorem sequence_equal_refines (n : Nat) (H : History) :
    ∃ n0, ∀ fuel, n0 ≤ fuel →
      Agrees (n + 1) (run fuel [SequenceEqual.prog n H] {})
        (finalFrom sequenceEqual.step (Over.init (n + 1)) H).z.ctl.live (sequenceEqual.run (n + 1) H) :=
  ((prog_spec n H).conseq fun _ h => h.agrees).run_all

/-- the C03 list specification transported to model A -/
theorem sequence_equal_machine_spec (n : Nat) (H : History) (hwf : WellFormed (n + 1) H) :
    ∃ n0, ∀ fuel, n0 ≤ fuel → (run fuel [SequenceEqual.prog n H] {}).status = .ok ∧
      logOf (run fuel [SequenceEqual.prog n H] {}) 0 = sequenceEqualSpec (n + 1) H :=
  machine_spec_of (sequence_equal_refines n H) (sequence_equal_spec (n + 1) (by omega) H hwf)

/-! non-vacuity: `h1` is well-formed and the program's log on it is the list specification (the histories `h1 .. h4`
    with all their prefixes are evaluated in C03RefSequenceEqual.lean) -/
example : WellFormed 2 SequenceEqual.h1 := by decide
example : logOf (run 20000 [SequenceEqual.prog 1 SequenceEqual.h1] {}) 0 = sequenceEqualSpec 2 SequenceEqual.h1 := by
  decide +kernel

#print axioms sequence_equal_refines
#print axioms sequence_equal_machine_spec

end Rx.SeqRef
