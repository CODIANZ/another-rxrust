/-
C09 — observe_on / subscribe_on hand events to the scheduler: none lost, none reordered.
Theorems about the transition systems of `RxVerif/Conc/Handoff.lean`, for ALL scripts and ALL interleavings.

Both models run the same code of the crate on the subscription: `sctl.sink_next / sink_error / sink_complete`
(stream_controller.rs 98-129), `finalize` (146-159) and `Observer::unsubscribe` (observer.rs 53-61).  observe_on's worker
runs `sink_*` as the task it took from the channel, subscribe_on's worker from inside the source; the unsubscriber is the
same thread in both.  So the proof has one protocol and two drivers.

* The protocol: `Sub Q` is the part of a state this code works on (`Q`: what the channel holds), `Sub.sink` / `Sub.uns` /
  `Sub.fin` are the code, and `SubInv` is its annotation in the style of Owicki and Gries: `Flags` (what holds of the
  shared flags at all times), what each thread knows at each of its program points (`KAss` for the worker inside
  `sink_*`, `UAss` for the unsubscriber) and the clauses about the ghost log (`Log`).  `SubInv.of_sink` / `SubInv.of_uns`:
  a step re-establishes the stepping thread's assertion at the new program point; the other thread's assertion survives
  because the flags only ever move one way (`KAss.mono`, `UAss.mono`).  `Sub.Frame` says what such a step does to the
  fields the rest of a model reads.
* A driver: the lens `State.sub` / `State.put`, the program point `WPc.k` inside the protocol, and the agreement lemmas
  `wrk_sink` / `uns_sub`: a step of the model at one of these program points is a step of the protocol on `s.sub` and
  leaves the rest of `s` alone.  What a model adds of its own (observe_on: the source thread `SAss` and the channel
  `Glob`; subscribe_on: the subscription task `XAss`, `Glob`) is carried across a protocol step by `Inv.frame`.
  A model's own steps (`inv_src`, the top of observe_on's loop in `inv_wrk`, subscribe_on's `inv_own`) hardly touch the
  subscription and are proved arm by arm.  Everything else is read off `Inv`.

The protocol has no `finLock`: its `lock` step always passes, so it has more runs than either model, and what holds of
it holds of them.  Nothing here is proved about `finalize` being exclusive, and nothing needs it.
-/
import RxVerif.Conc.Handoff

namespace Rx.Handoff

/-- case analysis on one step of a thread: one goal per enabled micro-step, the successor state an explicit record -/
macro "thread_cases " h:ident : tactic => `(tactic| (
  simp only [srcStep, wrkStep, unsStep, finW, finU, finEnabled, finEffect, finNext] at $h:ident
  repeat' (split at $h:ident)
  all_goals (first | (cases $h:ident; done) | (simp only [Option.some.injEq] at $h:ident; subst $h:ident))))

theorem Ev.isTerminal_eq (e : Ev) : e.isTerminal = (e.isErr || e.isCompl) := by
  cases e <;> rfl

theorem Ev.not_both (e : Ev) (h : e.isErr = true) : e.isCompl = false := by
  cases e <;> simp_all [Ev.isErr, Ev.isCompl]

theorem pre_snoc {l m : List Ev} (a : Ev) (h : l <+: m) : l <+: m ++ [a] :=
  h.trans (List.prefix_append _ _)

theorem pre_of_snoc_eq {l m : List Ev} {a : Ev} (h : l ++ [a] = m) : l <+: m := h ▸ List.prefix_append _ _

theorem pre_of_eq {l m : List Ev} (h : l = m) : l <+: m := h ▸ List.prefix_refl _

/-- a terminal event can only be the last one -/
def wf : List Ev → Bool
  | [] => true
  | [_] => true
  | e :: rest => !e.isTerminal && wf rest

theorem wf_tail {e : Ev} {rest : List Ev} (h : wf (e :: rest) = true) : wf rest = true := by
  cases rest with
  | nil => rfl
  | cons a l => simp [wf] at h; exact h.2

theorem wf_term {e : Ev} {rest : List Ev} (h : wf (e :: rest) = true) (ht : e.isTerminal = true) : rest = [] := by
  cases rest with
  | nil => rfl
  | cons a l => simp [wf, ht] at h

theorem wf_events (sc : Script) : wf sc.events = true := by
  obtain ⟨items, term⟩ := sc
  induction items with
  | nil => cases term <;> rfl
  | cons a l ih =>
    simp only [Script.events, List.map_cons, List.cons_append] at ih ⊢
    generalize List.map Ev.next l ++ term.events = r at ih
    cases r with
    | nil => rfl
    | cons b r => simp [wf, Ev.isTerminal, ih]

theorem prefix_wf_term {l m : List Ev} (hp : l <+: m) (hw : wf m = true) (ht : ∃ e ∈ l, e.isTerminal = true) :
    l = m := by
  induction l generalizing m with
  | nil => simp at ht
  | cons a l ih =>
    cases m with
    | nil => simp at hp
    | cons b m =>
      obtain ⟨rfl, hp'⟩ := List.cons_prefix_cons.mp hp
      by_cases hta : a.isTerminal = true
      · have := wf_term hw hta
        subst this
        simp at hp'
        simp [hp']
      · have : ∃ e ∈ l, e.isTerminal = true := by
          obtain ⟨e, he, het⟩ := ht
          rcases List.mem_cons.mp he with rfl | he
          · exact absurd het hta
          · exact ⟨e, he, het⟩
        rw [ih hp' (wf_tail hw) this]

def entryOk : Nat × LEv → Bool
  | (t, .cbStart _) | (t, .cbReturn _) => t == workerT
  | (t, .post _) => t == srcT
  | _ => true

theorem log_who {log : List (Nat × LEv)} (h : ∀ x ∈ log, entryOk x = true) :
    (∀ t e, ((t, LEv.cbStart e) ∈ log ∨ (t, LEv.cbReturn e) ∈ log) → t = workerT ∧ t ≠ srcT) ∧
    (∀ t e, (t, LEv.post e) ∈ log → t = srcT) := by
  refine ⟨fun t e ht => ?_, fun t e ht => by simpa [entryOk] using h _ ht⟩
  have : t = workerT := by rcases ht with ht | ht <;> simpa [entryOk] using h _ ht
  subst this
  exact ⟨rfl, by decide⟩

/-- the flags of a subscription (the same fields in both models) -/
structure Ctl where
  (sNext sErr sCompl abort onFin claimed termStarted termReturned unsubBegan unsubEarly unsubReturned lateCb : Bool)

structure Flags (c : Ctl) : Prop where
  slots : c.sNext = true → c.sErr = true ∧ c.sCompl = true
  onfin : c.onFin = false → c.abort = true
  claimed : c.claimed = true → c.sNext = false
  fresh : c.unsubBegan = false → c.claimed = false → c.sNext = true
  abortwhy : c.abort = true → c.termReturned = true ∨ c.unsubBegan = true
  tstart : c.termStarted = true → c.claimed = true
  tret : c.termReturned = true → c.termStarted = true
  ubn : c.unsubBegan = true → c.sNext = false
  early : c.unsubBegan = true → c.unsubEarly = false → c.termStarted = true
  late : c.lateCb = false

/-- the subscription ended in one of the two ways after which `finalize` runs -/
abbrev Ctl.ended (c : Ctl) : Prop := c.termReturned = true ∨ c.unsubBegan = true

/-- the unsubscriber has executed its first clear -/
def UPc.began : UPc → Bool
  | .idle | .c0 | .done => false
  | _ => true

/-- the unsubscriber has passed `f.call(())` in `finalize` -/
def UPc.stopped : UPc → Bool
  | .fin .unlock | .ret => true
  | _ => false

/-- `nu`: the configuration has no unsubscriber -/
def UAss (nu : Prop) (c : Ctl) : UPc → Prop
  | .idle | .c0 => ¬nu ∧ c.unsubBegan = false ∧ c.unsubReturned = false
  | .c1 => ¬nu ∧ c.unsubBegan = true ∧ c.unsubReturned = false
  | .c2 => ¬nu ∧ c.unsubBegan = true ∧ c.unsubReturned = false ∧ c.sErr = false
  | .onUnsub => ¬nu ∧ c.unsubBegan = true ∧ c.unsubReturned = false ∧ c.sErr = false ∧ c.sCompl = false
  | .fin f => ¬nu ∧ c.unsubBegan = true ∧ c.unsubReturned = false ∧ c.sErr = false ∧ c.sCompl = false ∧
      f ≠ .nested ∧ (f = .unlock → c.abort = true)
  | .ret => ¬nu ∧ c.unsubBegan = true ∧ c.unsubReturned = false ∧ c.sErr = false ∧ c.sCompl = false ∧ c.abort = true
  | .done => c.unsubBegan = c.unsubReturned ∧ (nu → c.unsubReturned = false ∧ c.unsubEarly = false) ∧
      (c.unsubReturned = true → c.abort = true ∧ c.sErr = false ∧ c.sCompl = false)

/-- what the worker may do to the flags, as far as the unsubscriber's assertions are concerned -/
abbrev Ctl.wle (c c' : Ctl) : Prop :=
  c'.unsubBegan = c.unsubBegan ∧ c'.unsubReturned = c.unsubReturned ∧ (c'.sErr = true → c.sErr = true) ∧
    (c'.sCompl = true → c.sCompl = true) ∧ (c.abort = true → c'.abort = true)

theorem UAss.mono {nu : Prop} {c c' : Ctl} {p : UPc} (h : UAss nu c p) (hc : c.wle c') (he : c'.unsubEarly = c.unsubEarly) :
    UAss nu c' p := by
  obtain ⟨h1, h2, h3, h4, h5⟩ := hc
  cases p <;> simp only [UAss] at h ⊢ <;> grind

theorem UAss.began {nu : Prop} {c : Ctl} {p : UPc} (h : UAss nu c p) : c.unsubBegan = (p.began || c.unsubReturned) := by
  cases p <;> simp_all [UAss, UPc.began]

theorem UAss.returned {nu : Prop} {c : Ctl} {p : UPc} (h : UAss nu c p) (hr : c.unsubReturned = true) :
    p = .done ∧ c.unsubBegan = true ∧ c.abort = true ∧ c.sErr = false ∧ c.sCompl = false := by
  cases p <;> simp_all [UAss]

theorem UAss.cleared {nu : Prop} {c : Ctl} {p : UPc} (h : UAss nu c p) (hp : p.began = true) :
    (p ≠ .c1 → c.sErr = false) ∧ (p ≠ .c1 → p ≠ .c2 → c.sCompl = false) := by
  cases p <;> simp_all [UAss, UPc.began]

theorem UAss.stopped {nu : Prop} {c : Ctl} {p : UPc} (h : UAss nu c p) (hp : p.stopped = true) : c.abort = true := by
  cases p with
  | fin f => cases f <;> simp_all [UAss, UPc.stopped]
  | _ => simp_all [UAss, UPc.stopped]

theorem UAss.nonest {nu : Prop} {c : Ctl} {p : UPc} (h : UAss nu c p) : p ≠ .fin .nested := by
  rintro rfl
  exact h.2.2.2.2.2.1 rfl

/-- without an unsubscriber thread nothing ever counts as an early unsubscribe -/
theorem UAss.nounsub {nu : Prop} {c : Ctl} {p : UPc} (h : UAss nu c p) (hn : nu) :
    p = .done ∧ c.unsubBegan = false ∧ c.unsubEarly = false ∧ c.unsubReturned = false := by
  cases p <;> simp_all [UAss]

/-- what the unsubscriber may do to the flags, as far as the worker's assertions are concerned -/
abbrev Ctl.ule (c c' : Ctl) : Prop :=
  c'.claimed = c.claimed ∧ c'.termStarted = c.termStarted ∧ c'.termReturned = c.termReturned ∧
    (c'.sNext = true → c.sNext = true) ∧ (c.unsubBegan = true → c'.unsubBegan = true) ∧
    (c'.unsubBegan = false → c'.sErr = c.sErr ∧ c'.sCompl = c.sCompl) ∧ (c.abort = true → c'.abort = true)

theorem Flags.quiet {c : Ctl} (h : Flags c) (ht : c.termStarted = false) (hu : c.unsubEarly = false) :
    c.unsubBegan = false ∧ c.abort = false ∧ ((c.claimed = true → c.ended) → c.claimed = false ∧ c.sNext = true) := by
  have := h.early
  have := h.tret
  have := h.abortwhy
  have := h.fresh
  grind

theorem Flags.aborted {c : Ctl} (h : Flags c) (ha : c.abort = true) : c.ended ∧ c.sNext = false := by
  refine ⟨h.abortwhy ha, ?_⟩
  rcases h.abortwhy ha with h' | h'
  · exact h.claimed (h.tstart (h.tret h'))
  · exact h.ubn h'

/-- delivered vs. handed to the worker: while the worker holds no task … -/
abbrev Dlv0 (sNext : Bool) (d t : List Ev) : Prop := d <+: t ∧ (sNext = true → d = t)

/-- … and while it holds the task for `e` and has not decided yet whether the callback will run -/
abbrev Dlv1 (sNext : Bool) (d t : List Ev) (e : Ev) : Prop := d <+: t ∧ (sNext = true → d ++ [e] = t)

structure Log (c : Ctl) (d : List Ev) (log : List (Nat × LEv)) : Prop where
  dlog : d = cbStarts log
  lwho : ∀ x ∈ log, entryOk x = true
  lstop : ∀ t, (t, LEv.stop) ∈ log → c.abort = true
  tdeliv : c.termStarted = true → ∃ e ∈ d, e.isTerminal = true

/-- program counter inside `sctl.sink_next / sink_error / sink_complete`; `out`: returned to the caller -/
inductive KPc where
  | chk0 | chk1 | chk2 | fetch | remove | claim | clrOther | takeOwn | cbN | inCbN | cbT | inCbT
  | fin (f : FPc)
  | out

/-- the fields of a state that this code reads and writes; `Q`: what the channel holds (`stop` below is what
`scheduler.abort()` does to it) -/
structure Sub (Q : Type) extends Ctl where
  (upNext upErr upCompl unsc curLate : Bool)
  wcur : Ev
  d : List Ev
  log : List (Nat × LEv)
  queue : Q

def KPc.ofFin : Option FPc → KPc
  | some f => .fin f
  | none => .out

def UPc.ofFin : Option FPc → UPc
  | some f => .fin f
  | none => .ret

namespace Sub
variable {Q : Type} (stop : Bool → Q → Q)

def finEffect (t : Nat) (b : Sub Q) : FPc → Sub Q
  | .up0 => { b with upNext := false }
  | .up1 => { b with upErr := false }
  | .up2 => { b with upCompl := false }
  | .clear => { b with unsc := false }
  | .stop => { b with queue := stop b.onFin b.queue
                      abort := b.abort || b.onFin
                      onFin := false
                      log := if b.onFin then (t, .stop) :: b.log else b.log }
  | _ => b

def finNext (b : Sub Q) : FPc → Option FPc
  | .iter => some (if b.unsc then .up0 else .clear)
  | .up0 => some .up1
  | .up1 => some .up2
  | .up2 => some .clear
  | .clear => some .chk
  | .chk => some (if b.sNext then .nested else .lock)
  | .lock => some .stop
  | .stop => some .unlock
  | .unlock => none
  | .nested => some .nested

/-- one micro-step of `finalize` by thread `t`: the new state, and where `finalize` goes on (`none`: it returns) -/
def fin (t : Nat) (b : Sub Q) : FPc → Option (Sub Q × Option FPc)
  | .nested => none
  | f => some (b.finEffect stop t f, b.finNext f)

def sink (b : Sub Q) : KPc → Kind → Option (Sub Q × KPc)
  | .chk0, .chk => some (b, if b.sNext then .chk1 else .fin .iter)
  | .chk1, .chk => some (b, if b.sErr then .chk2 else .fin .iter)
  | .chk2, .chk =>
    some (b, if b.sCompl then (match b.wcur with
                               | .next _ => .fetch
                               | .error _ => .claim
                               | .complete => .remove) else .fin .iter)
  | .fetch, .fetch => some (b, if b.sNext then .cbN else .out)
  | .remove, .remove => some ({ b with unsc := false }, .claim)
  | .claim, .claim =>
    some ({ b with sNext := false, claimed := b.claimed || b.sNext }, if b.sNext then .clrOther else .fin .iter)
  | .clrOther, .clrOther =>
    some ({ b with sCompl := b.sCompl && !b.wcur.isErr, sErr := b.sErr && !b.wcur.isCompl }, .takeOwn)
  | .takeOwn, .takeOwn =>
    some ({ b with sErr := b.sErr && !b.wcur.isErr, sCompl := b.sCompl && !b.wcur.isCompl },
      if (b.wcur.isErr && b.sErr) || (b.wcur.isCompl && b.sCompl) then .cbT else .fin .iter)
  | .cbN, .cbStart =>
    some ({ b with d := b.d ++ [b.wcur], lateCb := b.lateCb || b.curLate, log := (workerT, .cbStart b.wcur) :: b.log },
      .inCbN)
  | .inCbN, .cbReturn => some ({ b with log := (workerT, .cbReturn b.wcur) :: b.log }, .out)
  | .cbT, .cbStart =>
    some ({ b with d := b.d ++ [b.wcur], lateCb := b.lateCb || b.curLate, termStarted := true
                   log := (workerT, .cbStart b.wcur) :: b.log }, .inCbT)
  | .inCbT, .cbReturn =>
    some ({ b with termReturned := true, log := (workerT, .cbReturn b.wcur) :: b.log }, .fin .iter)
  | .fin f, k => if k = f.kind then (b.fin stop workerT f).map fun x => (x.1, .ofFin x.2) else none
  | _, _ => none

def uns (b : Sub Q) : UPc → Kind → Option (Sub Q × UPc)
  | .idle, .unsubCall => some (b, .c0)
  | .c0, .clr => some ({ b with sNext := false, unsubBegan := true, unsubEarly := !b.termStarted }, .c1)
  | .c1, .clr => some ({ b with sErr := false }, .c2)
  | .c2, .clr => some ({ b with sCompl := false }, .onUnsub)
  | .onUnsub, .onUnsub => some (b, .fin .iter)
  | .fin f, k => if k = f.kind then (b.fin stop unsubT f).map fun x => (x.1, .ofFin x.2) else none
  | .ret, .unsubRet => some ({ b with unsubReturned := true, log := (unsubT, .unsubRet) :: b.log }, .done)
  | _, _ => none

end Sub

def KPc.open : KPc → Nat
  | .inCbN | .inCbT => 1
  | _ => 0

/-- what the worker knows inside `sink_*`: `d` delivered, `t` handed to it, `e` the event in hand, `l` = `curLate` -/
def KAss (c : Ctl) (d t : List Ev) (e : Ev) (l : Bool) : KPc → Prop
  | .out | .inCbN => Dlv0 c.sNext d t ∧ (c.claimed = true → c.ended)
  | .chk0 | .chk1 | .chk2 | .fetch => Dlv1 c.sNext d t e ∧ (c.claimed = true → c.ended)
  | .remove | .claim => Dlv1 c.sNext d t e ∧ (c.claimed = true → c.ended) ∧ e.isTerminal = true
  | .clrOther => d ++ [e] = t ∧ l = false ∧ c.sNext = false ∧ c.claimed = true ∧ e.isTerminal = true ∧
      (c.unsubBegan = false → c.sErr = true ∧ c.sCompl = true)
  | .takeOwn => d ++ [e] = t ∧ l = false ∧ c.sNext = false ∧ c.claimed = true ∧ e.isTerminal = true ∧
      (c.unsubBegan = false → ((e.isErr && c.sErr) || (e.isCompl && c.sCompl)) = true)
  | .cbN => d ++ [e] = t ∧ l = false ∧ (c.claimed = true → c.ended)
  | .cbT => d ++ [e] = t ∧ l = false ∧ c.sNext = false ∧ c.claimed = true ∧ e.isTerminal = true
  | .inCbT => d <+: t ∧ c.sNext = false ∧ c.claimed = true ∧ e.isTerminal = true ∧ c.termStarted = true
  | .fin f => d <+: t ∧ c.sNext = false ∧ c.ended ∧ f ≠ .nested

theorem KAss.mono {c c' : Ctl} {d t : List Ev} {e : Ev} {l : Bool} {p : KPc} (h : KAss c d t e l p) (hc : c.ule c') :
    KAss c' d t e l p := by
  obtain ⟨h1, h2, h3, h4, h5, h6, h7⟩ := hc
  cases p <;> simp only [KAss] at h ⊢ <;> grind

namespace Flags
variable {c : Ctl} (h : Flags c)
include h

theorem claim : Flags { c with sNext := false, claimed := c.claimed || c.sNext } := by
  cases h; constructor <;> grind

/-- the terminal slots may change freely once `fn_next` is gone -/
theorem slots' (hn : c.sNext = false) (x y : Bool) : Flags { c with sErr := x, sCompl := y } :=
  { h with slots := fun hs => nomatch hn.symm.trans hs }

theorem cbN {l : Bool} (hl : l = false) : Flags { c with lateCb := c.lateCb || l } :=
  { h with late := by rw [h.late, hl]; rfl }

theorem cbT {l : Bool} (hl : l = false) (hc : c.claimed = true) :
    Flags { c with lateCb := c.lateCb || l, termStarted := true } :=
  { h with late := by rw [h.late, hl]; rfl, tstart := fun _ => hc, early := fun _ _ => rfl, tret := fun _ => rfl }

theorem retT (hs : c.termStarted = true) : Flags { c with termReturned := true } :=
  { h with tret := fun _ => hs, abortwhy := fun _ => .inl rfl }

/-- after `f.call(())` in `finalize` the scheduler is stopped, whether or not this call did it -/
theorem stopped : (c.abort || c.onFin) = true := by
  cases ho : c.onFin
  · rw [h.onfin ho]; rfl
  · exact Bool.or_true _

theorem stop (he : c.ended) : Flags { c with abort := c.abort || c.onFin, onFin := false } :=
  { h with onfin := fun _ => h.stopped, abortwhy := fun _ => he }

theorem begin : Flags { c with sNext := false, unsubBegan := true, unsubEarly := !c.termStarted } := by
  cases h; constructor <;> grind

theorem returned : Flags { c with unsubReturned := true } := { h with }

end Flags

/-- what a step of the subscription's code does to the fields the rest of a model reads -/
structure Sub.Frame {Q : Type} (stop : Bool → Q → Q) (b b' : Sub Q) : Prop where
  cur : b'.wcur = b.wcur ∧ b'.curLate = b.curLate
  mono : (b.unsubBegan = true → b'.unsubBegan = true) ∧ (b.claimed = true → b'.claimed = true) ∧
    (b.abort = true → b'.abort = true) ∧ (b'.sNext = true → b.sNext = true)
  up : (b'.upNext = b.upNext ∧ b'.upErr = b.upErr ∧ b'.upCompl = b.upCompl) ∨
    (b'.sNext = false ∧ (b'.unsubBegan = true ∨ b'.claimed = true) ∧ (b'.upNext = true → b.upNext = true) ∧
      (b'.upErr = true → b.upErr = true) ∧ (b'.upCompl = true → b.upCompl = true))
  chan : b'.queue = b.queue ∧ b'.abort = b.abort ∨
    b'.queue = stop b.onFin b.queue ∧ b'.abort = (b.abort || b.onFin)

/-- the annotation of the subscription: `t` what has been handed to `sink_*` so far, `p` / `u` where the worker and the
unsubscriber stand, `nu`: the configuration has no unsubscriber -/
structure SubInv {Q : Type} (nu : Prop) (b : Sub Q) (t : List Ev) (p : KPc) (u : UPc) : Prop where
  flags : Flags b.toCtl
  uns : UAss nu b.toCtl u
  wrk : KAss b.toCtl b.d t b.wcur b.curLate p
  late : b.curLate = true → b.unsubReturned = true
  log : Log b.toCtl b.d b.log
  lopen : openCbs b.log = p.open

theorem Flags.begun_or_claimed {c : Ctl} (h : Flags c) (he : c.ended) : c.unsubBegan = true ∨ c.claimed = true :=
  he.symm.imp_right fun hr => h.tstart (h.tret hr)

namespace Sub
variable {Q : Type} {stop : Bool → Q → Q} {b b' : Sub Q}

/-- a step that leaves alone all that `Frame` speaks of -/
theorem Frame.of_same
    (h : (b'.wcur, b'.curLate, b'.unsubBegan, b'.claimed, b'.abort, b'.sNext, b'.upNext, b'.upErr, b'.upCompl,
        b'.queue) =
      (b.wcur, b.curLate, b.unsubBegan, b.claimed, b.abort, b.sNext, b.upNext, b.upErr, b.upCompl, b.queue)) :
    Frame stop b b' := by
  simp only [Prod.mk.injEq] at h
  obtain ⟨h1, h2, h3, h4, h5, h6, h7, h8, h9, h10⟩ := h
  exact ⟨⟨h1, h2⟩, ⟨fun x => h3.trans x, fun x => h4.trans x, fun x => h5.trans x, fun x => h6.symm.trans x⟩,
    .inl ⟨h7, h8, h9⟩, .inl ⟨h10, h5⟩⟩

/-- what one micro-step of `finalize` at `f` does; `f'`: where it goes on -/
structure FinOk (stop : Bool → Q → Q) (b b' : Sub Q) (f : FPc) (f' : Option FPc) : Prop where
  flags : Flags b'.toCtl
  log : Log b'.toCtl b'.d b'.log
  lopen : openCbs b'.log = openCbs b.log
  d : b'.d = b.d
  ctl : b'.toCtl = b.toCtl ∨ b'.toCtl = { b.toCtl with abort := b.abort || b.onFin, onFin := false }
  next : ∀ g, f' = some g → g ≠ .nested ∧ (g = .unlock → b'.abort = true)
  ret : f' = none → f = .unlock
  frame : Frame stop b b'

/-- a micro-step of `finalize`, by either thread, once the subscription has ended -/
theorem fin_ok {i : Nat} {f : FPc} {f' : Option FPc} (hf : b.fin stop i f = some (b', f'))
    (hF : Flags b.toCtl) (he : b.toCtl.ended) (hn : b.sNext = false) (hL : Log b.toCtl b.d b.log) :
    FinOk stop b b' f f' := by
  cases f <;> cases hf
  case stop =>
    refine ⟨hF.stop he, ?_, ?_, rfl, .inr rfl, ?_, nofun,
      ⟨⟨rfl, rfl⟩, ⟨id, id, fun h => ?_, id⟩, .inl ⟨rfl, rfl, rfl⟩, .inr ⟨rfl, rfl⟩⟩⟩
    · obtain ⟨l1, l2, l3, l4⟩ := hL
      dsimp only [finEffect]
      constructor <;> grind [cbStarts, entryOk]
    · dsimp only [finEffect]; grind [openCbs]
    · rintro g ⟨⟩
      exact ⟨nofun, fun _ => hF.stopped⟩
    · show (b.abort || b.onFin) = true
      rw [h]; rfl
  case iter =>
    refine ⟨hF, hL, rfl, rfl, .inl rfl, ?_, nofun, .of_same rfl⟩
    rintro g ⟨⟩
    exact ⟨by split <;> nofun, by split <;> nofun⟩
  case chk =>
    refine ⟨hF, hL, rfl, rfl, .inl rfl, ?_, nofun, .of_same rfl⟩
    rintro g ⟨⟩
    rw [if_neg (by rw [hn]; nofun)]
    exact ⟨nofun, nofun⟩
  case up0 =>   -- the upstream is unsubscribed only after the subscription has ended
    exact ⟨hF, hL, rfl, rfl, .inl rfl, by rintro g ⟨⟩; exact ⟨nofun, nofun⟩, nofun,
      ⟨⟨rfl, rfl⟩, ⟨id, id, id, id⟩, .inr ⟨hn, hF.begun_or_claimed he, nofun, id, id⟩,
        .inl ⟨rfl, rfl⟩⟩⟩
  case up1 =>
    exact ⟨hF, hL, rfl, rfl, .inl rfl, by rintro g ⟨⟩; exact ⟨nofun, nofun⟩, nofun,
      ⟨⟨rfl, rfl⟩, ⟨id, id, id, id⟩, .inr ⟨hn, hF.begun_or_claimed he, id, nofun, id⟩,
        .inl ⟨rfl, rfl⟩⟩⟩
  case up2 =>
    exact ⟨hF, hL, rfl, rfl, .inl rfl, by rintro g ⟨⟩; exact ⟨nofun, nofun⟩, nofun,
      ⟨⟨rfl, rfl⟩, ⟨id, id, id, id⟩, .inr ⟨hn, hF.begun_or_claimed he, id, id, nofun⟩,
        .inl ⟨rfl, rfl⟩⟩⟩
  case unlock => exact ⟨hF, hL, rfl, rfl, .inl rfl, nofun, fun _ => rfl, .of_same rfl⟩
  case clear | lock =>
    exact ⟨hF, hL, rfl, rfl, .inl rfl, by rintro g ⟨⟩; exact ⟨nofun, nofun⟩, nofun, .of_same rfl⟩

end Sub

/-- `fn_next` is gone and the worker has not claimed it: the unsubscriber has cleared it -/
theorem Flags.begun {c : Ctl} (h : Flags c) (hc : c.claimed = false) (hn : c.sNext = false) : c.unsubBegan = true := by
  cases hb : c.unsubBegan
  · exact nomatch hn.symm.trans (h.fresh hb hc)
  · rfl

theorem Flags.gone {c : Ctl} (h : Flags c) (hn : c.sNext = false) (hc : c.claimed = true → c.ended) : c.ended := by
  cases hk : c.claimed
  · exact .inr (h.begun hk hn)
  · exact hc hk

theorem Flags.noNext {c : Ctl} (h : Flags c) (hs : ¬(c.sErr = true ∧ c.sCompl = true)) : c.sNext = false :=
  Bool.eq_false_iff.2 fun hn => hs (h.slots hn)

namespace Log
variable {c c' : Ctl} {d : List Ev} {log : List (Nat × LEv)} (h : Log c d log)
include h

/-- an entry that is neither a callback start nor a stop -/
theorem push {x : Nat × LEv} (hx : entryOk x = true) (hd : cbStarts (x :: log) = cbStarts log)
    (hs : ∀ i, x ≠ (i, .stop)) (ha : c.abort = true → c'.abort = true) (ht : c'.termStarted = c.termStarted) :
    Log c' d (x :: log) where
  dlog := h.dlog.trans hd.symm
  lwho := List.forall_mem_cons.2 ⟨hx, h.lwho⟩
  lstop i hi := ha (h.lstop i ((List.mem_cons.1 hi).resolve_left fun e => hs i e.symm))
  tdeliv hts := h.tdeliv (ht ▸ hts)

theorem ctl (ha : c.abort = true → c'.abort = true) (ht : c'.termStarted = c.termStarted) : Log c' d log :=
  ⟨h.dlog, h.lwho, fun i hi => ha (h.lstop i hi), fun hts => h.tdeliv (ht ▸ hts)⟩

theorem cbStart (e : Ev) (ha : c.abort = true → c'.abort = true)
    (ht : c'.termStarted = true → c.termStarted = true ∨ e.isTerminal = true) :
    Log c' (d ++ [e]) ((workerT, .cbStart e) :: log) where
  dlog := congrArg (· ++ [e]) h.dlog
  lwho := List.forall_mem_cons.2 ⟨rfl, h.lwho⟩
  lstop i hi := ha (h.lstop i ((List.mem_cons.1 hi).resolve_left nofun))
  tdeliv hts := (ht hts).elim
    (fun h' => (h.tdeliv h').imp fun _ hx => ⟨List.mem_append_left _ hx.1, hx.2⟩)
    fun h' => ⟨e, List.mem_append_right _ (List.mem_singleton_self e), h'⟩

end Log

theorem SubInv.notLate {Q nu} {b : Sub Q} {t p u} (h : SubInv nu b t p u) (hn : b.sNext = true) : b.curLate = false :=
  Bool.eq_false_iff.2 fun hl => nomatch hn.symm.trans (h.flags.ubn (h.uns.returned (h.late hl)).2.1)

/-- clearing the other terminal slot (`x`, `y`: `fn_error`, `fn_complete` before) leaves the own one -/
theorem Ev.own_clr {e : Ev} {x y : Bool} (ht : e.isTerminal = true) (hx : x = true) (hy : y = true) :
    ((e.isErr && (x && !e.isCompl)) || (e.isCompl && (y && !e.isErr))) = true := by
  subst hx hy
  cases e <;> first | rfl | cases ht

/-- one case per arm of `Sub.sink`, in the order of its `match`: `h_i` is the i-th arm, named beside it (so in
`SubInv.of_uns` for `Sub.uns`, and in `sink_frame`, `uns_frame`, `sink_und` below) -/
theorem SubInv.of_sink {Q : Type} {stop : Bool → Q → Q} {nu : Prop} {b b' : Sub Q} {t : List Ev} {p p' : KPc}
    {u : UPc} {k : Kind} (h : SubInv nu b t p u) (hs : b.sink stop p k = some (b', p')) : SubInv nu b' t p' u := by
  have hw := h.wrk
  have hF := h.flags
  unfold Sub.sink at hs
  split at hs
  case h_1 =>   -- chk0
    cases hs
    refine { h with wrk := ?_, lopen := by split <;> exact h.lopen }
    split
    · exact hw
    · exact ⟨hw.1.1, Bool.eq_false_iff.2 ‹_›, hF.gone (Bool.eq_false_iff.2 ‹_›) hw.2, nofun⟩
  case h_2 =>   -- chk1
    cases hs
    refine { h with wrk := ?_, lopen := by split <;> exact h.lopen }
    split
    · exact hw
    · have hn := hF.noNext fun hh => ‹¬_› hh.1
      exact ⟨hw.1.1, hn, hF.gone hn hw.2, nofun⟩
  case h_3 =>   -- chk2
    cases hs
    refine { h with wrk := ?_, lopen := by (repeat' split) <;> exact h.lopen }
    split
    · split
      · exact hw
      · exact ⟨hw.1, hw.2, by rw [‹b.wcur = _›]; rfl⟩
      · exact ⟨hw.1, hw.2, by rw [‹b.wcur = _›]; rfl⟩
    · have hn := hF.noNext fun hh => ‹¬_› hh.2
      exact ⟨hw.1.1, hn, hF.gone hn hw.2, nofun⟩
  case h_4 =>   -- fetch
    cases hs
    refine { h with wrk := ?_, lopen := by split <;> exact h.lopen }
    split
    · exact ⟨hw.1.2 ‹_›, h.notLate ‹_›, hw.2⟩
    · exact ⟨⟨hw.1.1, fun hn => absurd hn ‹_›⟩, hw.2⟩
  case h_5 =>   -- remove
    cases hs
    exact { h with }
  case h_6 =>   -- claim
    cases hs
    refine { h with flags := hF.claim, uns := h.uns.mono ⟨rfl, rfl, id, id, id⟩ rfl, log := h.log.ctl id rfl,
                    wrk := ?_, lopen := by split <;> exact h.lopen }
    split
    · refine ⟨hw.1.2 ‹_›, h.notLate ‹_›, rfl, ?_, hw.2.2, fun _ => hF.slots ‹_›⟩
      show (b.claimed || b.sNext) = true
      rw [‹b.sNext = true›, Bool.or_true]
    · exact ⟨hw.1.1, rfl, hF.gone (Bool.eq_false_iff.2 ‹_›) hw.2.1, nofun⟩
  case h_7 =>   -- clrOther
    cases hs
    exact { h with flags := hF.slots' hw.2.2.1 _ _, log := h.log.ctl id rfl,
                   uns := h.uns.mono ⟨rfl, rfl, fun hh => (Bool.and_eq_true_iff.1 hh).1,
                     fun hh => (Bool.and_eq_true_iff.1 hh).1, id⟩ rfl,
                   wrk := ⟨hw.1, hw.2.1, hw.2.2.1, hw.2.2.2.1, hw.2.2.2.2.1, fun hb =>
                     Ev.own_clr hw.2.2.2.2.1 (hw.2.2.2.2.2 hb).1 (hw.2.2.2.2.2 hb).2⟩ }
  case h_8 =>   -- takeOwn
    cases hs
    refine { h with flags := hF.slots' hw.2.2.1 _ _, log := h.log.ctl id rfl,
                    uns := h.uns.mono ⟨rfl, rfl, fun hh => (Bool.and_eq_true_iff.1 hh).1,
                      fun hh => (Bool.and_eq_true_iff.1 hh).1, id⟩ rfl,
                    wrk := ?_, lopen := by split <;> exact h.lopen }
    split
    · exact ⟨hw.1, hw.2.1, hw.2.2.1, hw.2.2.2.1, hw.2.2.2.2.1⟩
    · refine ⟨pre_of_snoc_eq hw.1, hw.2.2.1, .inr ?_, nofun⟩
      cases hb : b.unsubBegan
      · exact absurd (hw.2.2.2.2.2 hb) ‹_›
      · rfl
  case h_9 =>   -- cbN
    cases hs
    exact { h with flags := hF.cbN hw.2.1, uns := h.uns.mono ⟨rfl, rfl, id, id, id⟩ rfl,
                   wrk := ⟨⟨pre_of_eq hw.1, fun _ => hw.1⟩, hw.2.2⟩, log := h.log.cbStart _ id .inl,
                   lopen := congrArg (· + 1) h.lopen }
  case h_10 =>   -- inCbN
    cases hs
    exact { h with log := h.log.push rfl rfl nofun id rfl, lopen := congrArg (· - 1) h.lopen }
  case h_11 =>   -- cbT
    cases hs
    exact { h with flags := hF.cbT hw.2.1 hw.2.2.2.1, uns := h.uns.mono ⟨rfl, rfl, id, id, id⟩ rfl,
                   wrk := ⟨pre_of_eq hw.1, hw.2.2.1, hw.2.2.2.1, hw.2.2.2.2, rfl⟩,
                   log := h.log.cbStart _ id fun _ => .inr hw.2.2.2.2, lopen := congrArg (· + 1) h.lopen }
  case h_12 =>   -- inCbT
    cases hs
    exact { h with flags := hF.retT hw.2.2.2.2, uns := h.uns.mono ⟨rfl, rfl, id, id, id⟩ rfl,
                   wrk := ⟨hw.1, hw.2.1, .inl rfl, nofun⟩, log := h.log.push rfl rfl nofun id rfl,
                   lopen := congrArg (· - 1) h.lopen }
  case h_13 f _ =>   -- finalize
    split at hs
    · obtain ⟨⟨b1, f'⟩, hf, he⟩ := Option.map_eq_some_iff.1 hs
      cases he
      obtain ⟨h1, h2, h3, h4, h5, h6, -, hfr⟩ := Sub.fin_ok hf hF hw.2.2.1 hw.2.1 h.log
      have hc : b.toCtl.wle b1.toCtl ∧ b1.unsubEarly = b.unsubEarly ∧ b1.sNext = b.sNext ∧
          (b.toCtl.ended → b1.toCtl.ended) ∧ b1.unsubReturned = b.unsubReturned := by
        rcases h5 with e | e <;> rw [e]
        · exact ⟨⟨rfl, rfl, id, id, id⟩, rfl, rfl, id, rfl⟩
        · exact ⟨⟨rfl, rfl, id, id, fun ha => show (b.abort || b.onFin) = true by rw [ha]; rfl⟩, rfl, rfl, id,
            rfl⟩
      have hn := hc.2.2.1.trans hw.2.1
      refine ⟨h1, h.uns.mono hc.1 hc.2.1, ?_, fun hl => hc.2.2.2.2 ▸ h.late (hfr.cur.2 ▸ hl), h2, ?_⟩
      · cases f'
        · exact ⟨⟨h4 ▸ hw.1, fun hh => nomatch hn.symm.trans hh⟩, fun _ => hc.2.2.2.1 hw.2.2.1⟩
        · exact ⟨h4 ▸ hw.1, hn, hc.2.2.2.1 hw.2.2.1, (h6 _ rfl).1⟩
      · rw [h3, h.lopen]
        cases f' <;> rfl
    · cases hs
  case h_14 => cases hs

theorem SubInv.of_uns {Q : Type} {stop : Bool → Q → Q} {nu : Prop} {b b' : Sub Q} {t : List Ev} {p : KPc} {u u' : UPc}
    {k : Kind} (h : SubInv nu b t p u) (hs : b.uns stop u k = some (b', u')) : SubInv nu b' t p u' := by
  have hu := h.uns
  have hF := h.flags
  unfold Sub.uns at hs
  split at hs
  case h_1 => cases hs; exact { h with uns := hu }
  case h_2 =>   -- c0
    cases hs
    exact { h with flags := hF.begin, uns := ⟨hu.1, rfl, hu.2.2⟩, log := h.log.ctl id rfl,
                   wrk := h.wrk.mono ⟨rfl, rfl, rfl, nofun, fun _ => rfl, nofun, id⟩ }
  case h_3 =>   -- c1
    cases hs
    exact { h with flags := hF.slots' (hF.ubn hu.2.1) _ _, uns := ⟨hu.1, hu.2.1, hu.2.2, rfl⟩,
                   log := h.log.ctl id rfl,
                   wrk := h.wrk.mono ⟨rfl, rfl, rfl, id, id, fun hb => Bool.noConfusion (hu.2.1.symm.trans hb), id⟩ }
  case h_4 =>   -- c2
    cases hs
    exact { h with flags := hF.slots' (hF.ubn hu.2.1) _ _, uns := ⟨hu.1, hu.2.1, hu.2.2.1, hu.2.2.2, rfl⟩,
                   log := h.log.ctl id rfl,
                   wrk := h.wrk.mono ⟨rfl, rfl, rfl, id, id, fun hb => Bool.noConfusion (hu.2.1.symm.trans hb), id⟩ }
  case h_5 =>   -- onUnsub
    cases hs
    exact { h with uns := ⟨hu.1, hu.2.1, hu.2.2.1, hu.2.2.2.1, hu.2.2.2.2, nofun, nofun⟩ }
  case h_6 f _ =>   -- finalize
    split at hs
    · obtain ⟨⟨b1, f'⟩, hf, he⟩ := Option.map_eq_some_iff.1 hs
      cases he
      obtain ⟨h1, h2, h3, h4, h5, h6, h7, hfr⟩ := Sub.fin_ok hf hF (.inr hu.2.1) (hF.ubn hu.2.1) h.log
      have hc : b.toCtl.ule b1.toCtl ∧ b1.unsubBegan = b.unsubBegan ∧ b1.unsubReturned = b.unsubReturned ∧
          b1.sErr = b.sErr ∧ b1.sCompl = b.sCompl ∧ (b.abort = true → b1.abort = true) := by
        have ha : b.abort = true → (b.abort || b.onFin) = true := fun ha => by rw [ha]; rfl
        rcases h5 with e | e <;> rw [e]
        · exact ⟨⟨rfl, rfl, rfl, id, id, fun _ => ⟨rfl, rfl⟩, id⟩, rfl, rfl, rfl, rfl, id⟩
        · exact ⟨⟨rfl, rfl, rfl, id, id, fun _ => ⟨rfl, rfl⟩, ha⟩, rfl, rfl, rfl, rfl, ha⟩
      obtain ⟨hc1, hc2, hc3, hc4, hc5, hc6⟩ := hc
      refine ⟨h1, ?_, h4 ▸ hfr.cur.1 ▸ hfr.cur.2 ▸ h.wrk.mono hc1, fun hl => hc3 ▸ h.late (hfr.cur.2 ▸ hl),
        h2, h3.trans h.lopen⟩
      cases f'
      · exact ⟨hu.1, hc2.trans hu.2.1, hc3.trans hu.2.2.1, hc4.trans hu.2.2.2.1, hc5.trans hu.2.2.2.2.1,
          hc6 (hu.2.2.2.2.2.2 (h7 rfl))⟩
      · exact ⟨hu.1, hc2.trans hu.2.1, hc3.trans hu.2.2.1, hc4.trans hu.2.2.2.1, hc5.trans hu.2.2.2.2.1,
          (h6 _ rfl).1, (h6 _ rfl).2⟩
    · cases hs
  case h_7 =>   -- ret
    cases hs
    exact { h with flags := hF.returned, uns := ⟨hu.2.1, fun hn => absurd hn hu.1,
                     fun _ => ⟨hu.2.2.2.2.2, hu.2.2.2.1, hu.2.2.2.2.1⟩⟩,
                   wrk := h.wrk.mono ⟨rfl, rfl, rfl, id, id, fun _ => ⟨rfl, rfl⟩, id⟩, late := fun _ => rfl,
                   log := h.log.push rfl rfl nofun id rfl }
  case h_8 => cases hs

namespace Sub
variable {Q : Type} {stop : Bool → Q → Q} {nu : Prop} {b b' : Sub Q} {t : List Ev} {p p' : KPc} {u u' : UPc}
  {k : Kind}

theorem sink_frame (h : SubInv nu b t p u) (hs : b.sink stop p k = some (b', p')) : Frame stop b b' := by
  unfold Sub.sink at hs
  split at hs
  case h_6 =>   -- claim
    cases hs
    exact ⟨⟨rfl, rfl⟩, ⟨id, fun hc => show (b.claimed || b.sNext) = true by rw [hc]; rfl, id, nofun⟩,
      .inl ⟨rfl, rfl, rfl⟩, .inl ⟨rfl, rfl⟩⟩
  case h_13 =>   -- finalize
    split at hs
    · obtain ⟨⟨b1, f'⟩, hf, he⟩ := Option.map_eq_some_iff.1 hs
      cases he
      exact (fin_ok hf h.flags h.wrk.2.2.1 h.wrk.2.1 h.log).frame
    · cases hs
  all_goals cases hs <;> exact .of_same rfl

theorem uns_frame (h : SubInv nu b t p u) (hs : b.uns stop u k = some (b', u')) : Frame stop b b' := by
  unfold Sub.uns at hs
  split at hs
  case h_2 =>   -- c0
    cases hs
    exact ⟨⟨rfl, rfl⟩, ⟨fun _ => rfl, id, id, nofun⟩, .inl ⟨rfl, rfl, rfl⟩, .inl ⟨rfl, rfl⟩⟩
  case h_6 =>   -- finalize
    split at hs
    · obtain ⟨⟨b1, f'⟩, hf, he⟩ := Option.map_eq_some_iff.1 hs
      cases he
      exact (fin_ok hf h.flags (.inr h.uns.2.1) (h.flags.ubn h.uns.2.1) h.log).frame
    · cases hs
  all_goals cases hs <;> exact .of_same rfl

end Sub

/-- `sink_*` has not yet decided whether a callback will run -/
def KPc.und : KPc → Bool
  | .chk0 | .chk1 | .chk2 | .remove | .claim => true
  | _ => false

/-- once `sink_*` has decided, `fn_next` is gone or the event is an item -/
theorem Sub.sink_und {Q : Type} {stop : Bool → Q → Q} {b b' : Sub Q} {p p' : KPc} {k : Kind} (hF : Flags b.toCtl)
    (hs : b.sink stop p k = some (b', p')) (hp : p.und = true) (hp' : p'.und = false) :
    b'.sNext = false ∨ b.wcur.isTerminal = false := by
  unfold Sub.sink at hs
  split at hs
  case h_1 =>
    cases hs
    split at hp'
    · cases hp'
    · exact .inl (Bool.eq_false_iff.2 ‹_›)
  case h_2 =>
    cases hs
    split at hp'
    · cases hp'
    · exact .inl (hF.noNext fun hh => ‹¬_› hh.1)
  case h_3 =>
    cases hs
    split at hp'
    · split at hp'
      · exact .inr (by rw [‹b.wcur = _›]; rfl)
      · cases hp'
      · cases hp'
    · exact .inl (hF.noNext fun hh => ‹¬_› hh.2)
  case h_5 => cases hs; cases hp'
  case h_6 => cases hs; exact .inl rfl
  all_goals first | cases hp | cases hs

/-- the unsubscriber neither claims nor delivers -/
theorem Sub.uns_same {Q : Type} {stop : Bool → Q → Q} {b b' : Sub Q} {u u' : UPc} {k : Kind}
    (hs : b.uns stop u k = some (b', u')) : b'.claimed = b.claimed ∧ b'.d = b.d := by
  unfold Sub.uns at hs
  split at hs
  case h_6 =>
    split at hs
    · obtain ⟨⟨b1, f'⟩, hf, he⟩ := Option.map_eq_some_iff.1 hs
      cases he
      unfold Sub.fin at hf
      split at hf
      · cases hf
      · cases hf
        rename_i f _ _ _
        cases f <;> exact ⟨rfl, rfl⟩
    · cases hs
  all_goals cases hs <;> exact ⟨rfl, rfl⟩

theorem KPc.open_le (p : KPc) : p.open ≤ 1 := by
  cases p <;> first | exact Nat.le_refl 1 | exact Nat.zero_le 1

namespace SubInv
variable {Q : Type} {nu : Prop} {b : Sub Q} {t : List Ev} {p : KPc} {u : UPc} (h : SubInv nu b t p u)
include h

theorem dlv : b.d <+: t := by
  have hw := h.wrk
  cases p <;> simp only [KAss] at hw <;> grind

/-- callbacks run on the worker, one at a time; only thread 0 posts -/
theorem on_worker :
    (∀ i e, ((i, LEv.cbStart e) ∈ b.log ∨ (i, LEv.cbReturn e) ∈ b.log) → i = workerT ∧ i ≠ srcT) ∧
    (∀ i e, (i, LEv.post e) ∈ b.log → i = srcT) ∧ openCbs b.log ≤ 1 :=
  ⟨(log_who h.log.lwho).1, (log_who h.log.lwho).2, h.lopen ▸ p.open_le⟩

theorem abort_after_end : (∀ i, (i, LEv.stop) ∈ b.log → b.abort = true) ∧
    (b.abort = true → (b.termReturned = true ∨ b.unsubBegan = true) ∧ b.sNext = false) :=
  ⟨h.log.lstop, h.flags.aborted⟩

theorem after_unsub : b.lateCb = false ∧
    (b.unsubReturned = true → b.abort = true ∧ b.sNext = false ∧ b.sErr = false ∧ b.sCompl = false) := by
  refine ⟨h.flags.late, fun hr => ?_⟩
  obtain ⟨-, hb, ha, he, hc⟩ := h.uns.returned hr
  exact ⟨ha, h.flags.ubn hb, he, hc⟩

theorem never_nested : p ≠ .fin .nested ∧ u ≠ .fin .nested :=
  ⟨fun hp => (hp ▸ h.wrk : KAss _ _ _ _ _ (.fin .nested)).2.2.2 rfl, h.uns.nonest⟩

end SubInv

/-- `scheduler.abort()` on the channel of observe_on; `f`: `on_finalize` still held it -/
abbrev stopQ (f : Bool) (q : List Ev) : List Ev := if f then [] else q

/-- the subscription inside a state of observe_on, and a state with its subscription replaced -/
abbrev State.sub (s : State) : Sub (List Ev) :=
  { sNext := s.sNext, sErr := s.sErr, sCompl := s.sCompl, abort := s.abort, onFin := s.onFin, claimed := s.claimed,
    termStarted := s.termStarted, termReturned := s.termReturned, unsubBegan := s.unsubBegan,
    unsubEarly := s.unsubEarly, unsubReturned := s.unsubReturned, lateCb := s.lateCb, upNext := s.upNext,
    upErr := s.upErr, upCompl := s.upCompl, unsc := s.unsc, curLate := s.curLate, wcur := s.wcur, d := s.delivered,
    log := s.log, queue := s.queue }

abbrev State.put (s : State) (b : Sub (List Ev)) : State :=
  { s with sNext := b.sNext, sErr := b.sErr, sCompl := b.sCompl, abort := b.abort, onFin := b.onFin
           claimed := b.claimed, termStarted := b.termStarted, termReturned := b.termReturned
           unsubBegan := b.unsubBegan, unsubEarly := b.unsubEarly, unsubReturned := b.unsubReturned
           lateCb := b.lateCb, upNext := b.upNext, upErr := b.upErr, upCompl := b.upCompl, unsc := b.unsc
           curLate := b.curLate, wcur := b.wcur, delivered := b.d, log := b.log, queue := b.queue }

/-- where the worker stands in the subscription's code; at the top of its loop it is outside -/
def WPc.k : WPc → KPc
  | .take | .done => .out
  | .chk0 => .chk0 | .chk1 => .chk1 | .chk2 => .chk2 | .fetch => .fetch | .remove => .remove | .claim => .claim
  | .clrOther => .clrOther | .takeOwn => .takeOwn | .cbN => .cbN | .inCbN => .inCbN | .cbT => .cbT
  | .inCbT => .inCbT | .fin f => .fin f

/-- a step of the worker is a step of the task it holds, or one at the top of the loop; every arm agrees by `rfl` -/
theorem wrk_sink {s s' : State} {k : Kind} (hs : wrkStep s k = some s') :
    (∃ b p' w fl, s.sub.sink stopQ s.wpc.k k = some (b, p') ∧ s' = { s.put b with wpc := w, finLock := fl } ∧
      w.k = p' ∧ w ≠ .done) ∨ s.wpc = .take := by
  unfold wrkStep finW finEnabled finEffect finNext at hs
  dsimp only at hs
  split at hs
  -- the arms are NOT split on the `if`s inside the new state (they must still match those of `Sub.sink`);
  -- only an arm that can fail (`take`, `exit`, `lock`) is split further
  all_goals first
    | (injection hs with hs; subst hs)
    | ((repeat' (split at hs)) <;> first | cases hs | (injection hs with hs; subst hs))
  -- `w.k = p'`: a literal, one test (`apply_ite`), or chk2's test and dispatch on the event
  all_goals first
    | exact .inr ‹_›
    | exact .inl ⟨_, _, _, _, by rw [‹s.wpc = _›]; rfl, rfl,
        by first | rfl | exact apply_ite WPc.k .. | (dsimp only [State.sub]; (repeat' split) <;> first | rfl | grind),
        by intro h; (repeat' (split at h)) <;> cases h⟩

theorem uns_sub {s s' : State} {k : Kind} (hs : unsStep s k = some s') :
    ∃ b u' fl, s.sub.uns stopQ s.upc k = some (b, u') ∧ s' = { s.put b with upc := u', finLock := fl } := by
  unfold unsStep finU finEnabled finEffect finNext at hs
  dsimp only at hs
  split at hs
  all_goals first
    | (injection hs with hs; subst hs)
    | ((repeat' (split at hs)) <;> first | cases hs | (injection hs with hs; subst hs))
  all_goals exact ⟨_, _, _, by rw [‹s.upc = _›]; rfl, rfl⟩

/-- `p` posted, `n` consumed, `todo` the rest of the script, `e` the event it is emitting.  `w` = the script is well-formed
(`wf cfg.script = true` in `Inv`); what it guards holds only then: a terminal is the last event (`todo = []`), and as
long as the subscription has not ended the slots of the observer the source emits into are intact, so that all that
is consumed gets posted -/
def SAss (w : Prop) (c : Ctl) (upNext upErr upCompl : Bool) (p n todo : List Ev) (e : Ev) : SPc → Prop
  | .idle => p <+: n ∧ (upNext = true → p = n) ∧ (w → c.unsubBegan = false → c.claimed = false → p = n)
  | .clrOther => p ++ [e] = n ∧ upNext = false ∧ e.isTerminal = true ∧ (w → todo = [] ∧
      (c.unsubBegan = false → c.claimed = false → upErr = true ∧ upCompl = true))
  | .takeOwn => p ++ [e] = n ∧ upNext = false ∧ (w → todo = [] ∧
      (c.unsubBegan = false → c.claimed = false → ((e.isErr && upErr) || (e.isCompl && upCompl)) = true))
  | .post => p ++ [e] = n

/-- the lists, and what does not depend on a program point -/
structure Glob (cfg : Config) (c : Ctl) (upNext upErr upCompl : Bool)
    (todo consumed posted taken queue : List Ev) : Prop where
  script : cfg.script = consumed ++ todo
  chan : taken <+: posted ∧ (c.abort = false → posted = taken ++ queue)
  wftodo : wf cfg.script = true → wf todo = true
  upfresh : wf cfg.script = true → c.unsubBegan = false → c.claimed = false → todo ≠ [] →
    upNext = true ∧ upErr = true ∧ upCompl = true

/-- the worker has no assertions of its own: outside `sink_*` it is at the top of its loop (`KAss … .out`) -/
structure Inv (cfg : Config) (s : State) : Prop where
  sub : SubInv (cfg.hasUnsub = false) s.sub s.taken s.wpc.k s.upc
  done : s.wpc = .done → s.abort = true
  src : SAss (wf cfg.script = true) s.sub.toCtl s.upNext s.upErr s.upCompl s.posted s.consumed s.todo s.scur s.spc
  glob : Glob cfg s.sub.toCtl s.upNext s.upErr s.upCompl s.todo s.consumed s.posted s.taken s.queue

theorem SAss.mono {w : Prop} {c c' : Ctl} {u1 u2 u3 v1 v2 v3 : Bool} {p n todo : List Ev} {e : Ev} {q : SPc}
    (h : SAss w c u1 u2 u3 p n todo e q)
    (hc : (v1 = true → u1 = true) ∧ (c'.unsubBegan = false → c'.claimed = false →
      c.unsubBegan = false ∧ c.claimed = false ∧ v2 = u2 ∧ v3 = u3)) : SAss w c' v1 v2 v3 p n todo e q := by
  cases q <;> simp only [SAss] at h ⊢ <;> grind

/-- the source's assertion and the lists survive a step of the subscription's code -/
theorem Inv.frame {cfg : Config} {s : State} {b : Sub (List Ev)} (h : Inv cfg s) (hf : Sub.Frame stopQ s.sub b) :
    SAss (wf cfg.script = true) b.toCtl b.upNext b.upErr b.upCompl s.posted s.consumed s.todo s.scur s.spc ∧
    Glob cfg b.toCtl b.upNext b.upErr b.upCompl s.todo s.consumed s.posted s.taken b.queue := by
  obtain ⟨-, ⟨m1, m2, m3, -⟩, hu, hq⟩ := hf
  obtain ⟨g1, g2, g3, g4⟩ := h.glob
  have hb : b.unsubBegan = false → s.unsubBegan = false := fun hb => by cases hs : s.unsubBegan <;> simp_all
  have hc : b.claimed = false → s.claimed = false := fun hb => by cases hs : s.claimed <;> simp_all
  refine ⟨h.src.mono ?_, g1, ⟨g2.1, fun ha => ?_⟩, g3, fun hw h1 h2 h3 => ?_⟩
  · rcases hu with ⟨e1, e2, e3⟩ | ⟨-, e0, e1, -⟩
    · exact ⟨fun hv => e1.symm.trans hv, fun h1 h2 => ⟨hb h1, hc h2, e2, e3⟩⟩
    · exact ⟨e1, fun h1 h2 => by simp_all⟩
  · rcases hq with ⟨e1, e2⟩ | ⟨e1, e2⟩
    · rw [e1]; exact g2.2 (e2 ▸ ha)
    · rw [e2, Bool.or_eq_false_iff] at ha
      have ho : s.onFin = false := ha.2
      rw [e1]
      show s.posted = s.taken ++ (if s.onFin = true then [] else s.queue)
      rw [ho]
      exact g2.2 ha.1
  · rcases hu with ⟨e1, e2, e3⟩ | ⟨-, e0, -⟩
    · rw [e1, e2, e3]; exact g4 hw (hb h1) (hc h2) h3
    · simp_all

theorem inv_init (cfg : Config) : Inv cfg (init cfg) where
  sub := { flags := by constructor <;> simp [init]
           uns := by cases h : cfg.hasUnsub <;> simp [init, h, UAss]
           wrk := by simp [init, KAss, WPc.k, Dlv0]
           late := nofun
           log := by constructor <;> simp [init, cbStarts]
           lopen := rfl }
  done := nofun
  src := by simp [init, SAss]
  glob := by constructor <;> cases h : cfg.hasUnsub <;> simp [init, h]

theorem inv_wrk {cfg : Config} {s s' : State} {k : Kind} (h : Inv cfg s) (hs : wrkStep s k = some s') :
    Inv cfg s' := by
  rcases wrk_sink hs with ⟨b, p', w, fl, hk, rfl, rfl, hd⟩ | ht
  · have hf := h.frame (Sub.sink_frame h.sub hk)
    exact ⟨h.sub.of_sink hk, fun e => absurd e hd, hf.1, hf.2⟩
  · -- at the top of the loop: `take` or `exit`
    have hsub := h.sub
    rw [ht] at hsub
    have hw := hsub.wrk
    unfold wrkStep at hs
    rw [ht] at hs
    repeat' (split at hs)
    all_goals first | (cases ‹WPc.take = _›; done) | cases hs | (injection hs with hs; subst hs)
    · -- take
      have ha : s.abort = false := Bool.eq_false_iff.2 ‹_›
      refine ⟨{ hsub with wrk := ⟨⟨pre_snoc _ hw.1.1, fun hn => by rw [hw.1.2 hn]⟩, hw.2⟩, late := id,
                          log := hsub.log.push rfl rfl nofun id rfl }, nofun, h.src, { h.glob with chan := ?_ }⟩
      have := h.glob.chan.2 ha
      rw [‹s.queue = _›] at this
      exact ⟨this ▸ ⟨_, (List.append_assoc ..).trans rfl⟩, fun _ => by rw [this, List.append_assoc]; rfl⟩
    · -- exit
      exact ⟨hsub, fun _ => ‹_›, h.src, h.glob⟩

theorem inv_uns {cfg : Config} {s s' : State} {k : Kind} (h : Inv cfg s) (hs : unsStep s k = some s') :
    Inv cfg s' := by
  obtain ⟨b, u', fl, hk, rfl⟩ := uns_sub hs
  have hf := h.frame (Sub.uns_frame h.sub hk)
  exact ⟨h.sub.of_uns hk, fun e => (Sub.uns_frame h.sub hk).mono.2.2.1 (h.done e), hf.1, hf.2⟩

/-- the source thread: `Observer::next/error/complete` on the observer handed to it, then `post`.  It touches the
subscription only by its log entries; one case per arm of `srcStep` -/
theorem inv_src {cfg : Config} {s s' : State} {k : Kind} (h : Inv cfg s) (hs : srcStep s k = some s') :
    Inv cfg s' := by
  have hsr := h.src
  obtain ⟨g1, g2, g3, g4⟩ := h.glob
  unfold srcStep at hs
  generalize s.spc = q at hs hsr
  split at hs
  case h_1 =>   -- emit
    split at hs
    next => cases hs
    next e rest he =>
    cases hs
    have hne : s.todo ≠ [] := by rw [he]; nofun
    have hg : Glob cfg _ (s.upNext && !e.isTerminal) _ _ rest (s.consumed ++ [e]) _ _ _ :=
      { chan := g2, script := by rw [g1, he, List.append_assoc]; rfl, wftodo := fun hw => wf_tail (he ▸ g3 hw),
        upfresh := fun hw hb hc hr => by
          -- more to come after `e`: it is an item
          have ht : e.isTerminal = false := Bool.eq_false_iff.2 fun ht => hr (wf_term (he ▸ g3 hw) ht)
          obtain ⟨u1, u2, u3⟩ := g4 hw hb hc hne
          exact ⟨by rw [u1, ht]; rfl, u2, u3⟩ }
    split
    · have hp : s.posted ++ [e] = s.consumed ++ [e] := congrArg (· ++ [e]) (hsr.2.1 ‹_›)
      split
      · have ht : e.isTerminal = true := ‹_›
        exact { h with sub := { h.sub with }, glob := hg,
                       src := ⟨hp, by rw [ht]; exact Bool.and_false _, ht,
                         fun hw => ⟨wf_term (he ▸ g3 hw) ht, fun hb hc => (g4 hw hb hc hne).2⟩⟩ }
      · exact { h with sub := { h.sub with }, src := hp, glob := hg }
    · -- the observer has no `fn_next` any more: the event is dropped, which a well-formed script excludes while
      -- the subscription lives
      exact { h with sub := { h.sub with log := h.sub.log.push rfl rfl nofun id rfl }, glob := hg,
                     src := ⟨pre_snoc _ hsr.1, fun hn => absurd (Bool.and_eq_true_iff.1 hn).1 ‹_›,
                       fun hw hb hc => absurd (g4 hw hb hc hne).1 ‹_›⟩ }
  case h_2 =>   -- clrOther
    cases hs
    -- a terminal is being emitted: a well-formed script has nothing left, so `upfresh` holds for want of a `todo`
    exact { h with sub := { h.sub with },
                   src := ⟨hsr.1, hsr.2.1, fun hw => ⟨(hsr.2.2.2 hw).1, fun hb hc =>
                     Ev.own_clr hsr.2.2.1 ((hsr.2.2.2 hw).2 hb hc).1 ((hsr.2.2.2 hw).2 hb hc).2⟩⟩,
                   glob := { h.glob with upfresh := fun hw _ _ hr => absurd (hsr.2.2.2 hw).1 hr } }
  case h_3 =>   -- takeOwn
    cases hs
    have hg : Glob cfg _ s.upNext (s.upErr && !s.scur.isErr) (s.upCompl && !s.scur.isCompl) _ _ _ _ _ :=
      { h.glob with upfresh := fun hw _ _ hr => absurd (hsr.2.2 hw).1 hr }
    split
    · exact { h with sub := { h.sub with }, src := hsr.1, glob := hg }
    · exact { h with sub := { h.sub with log := h.sub.log.push rfl rfl nofun id rfl }, glob := hg,
                     src := ⟨pre_of_snoc_eq hsr.1, fun hn => (nomatch hsr.2.1.symm.trans hn),
                       fun hw hb hc => absurd ((hsr.2.2 hw).2 hb hc) ‹_›⟩ }
  case h_4 =>   -- post
    cases hs
    exact { h with sub := { h.sub with log := h.sub.log.push rfl rfl nofun id rfl },
                   src := ⟨pre_of_eq hsr, fun _ => hsr, fun _ _ _ => hsr⟩,
                   glob := { h.glob with chan := ⟨pre_snoc _ g2.1, fun ha => by rw [g2.2 ha, List.append_assoc]⟩ } }
  case h_5 => cases hs

theorem inv_reachable {cfg : Config} {s : State} (h : Reachable cfg s) : Inv cfg s := by
  induction h with
  | init => exact inv_init cfg
  | step _ hs ih =>
    unfold step at hs
    split at hs
    · exact inv_src ih hs
    · exact inv_wrk ih hs
    · exact inv_uns ih hs
    · cases hs

/-- the worker is inside the terminal delivery after a successful claim -/
def WPc.claiming : WPc → Bool
  | .clrOther | .takeOwn | .cbT | .inCbT => true
  | _ => false

def WPc.inFin : WPc → Bool
  | .fin _ => true
  | _ => false

/-- the worker holds a task and has not yet decided whether the callback will run -/
def WPc.pre : WPc → Bool
  | .chk0 | .chk1 | .chk2 | .fetch | .remove | .claim => true
  | _ => false

/-- the worker is committed to run the callback of the task it holds (function fetched / `fn_next` claimed) -/
def WPc.com : WPc → Bool
  | .clrOther | .takeOwn | .cbN | .cbT => true
  | _ => false

section
variable {c : Ctl} {d t : List Ev} {e : Ev} {l : Bool} {p : WPc} (h : KAss c d t e l p.k)
include h

theorem KAss.claiming (hp : p.claiming = true) :
    c.sNext = false ∧ c.claimed = true ∧ e.isTerminal = true := by
  cases p <;> first | (cases hp; done) | (simp only [WPc.k, KAss] at h; grind)

theorem KAss.inFin (hp : p.inFin = true) :
    c.sNext = false ∧ c.ended := by
  cases p <;> first | (cases hp; done) | exact ⟨h.2.1, h.2.2.1⟩

theorem KAss.pre (hp : p.pre = true) :
    d <+: t ∧ (c.sNext = true → d ++ [e] = t) := by
  cases p <;> first | (cases hp; done) | exact h.1

theorem KAss.com (hp : p.com = true) :
    d ++ [e] = t := by
  cases p <;> first | (cases hp; done) | exact h.1

theorem KAss.oth (hp : p.pre = false)
    (hc : p.com = false) : d <+: t ∧ (c.sNext = true → d = t) := by
  cases p <;> first | (cases hp; done) | (cases hc; done) | (simp only [WPc.k, KAss] at h; grind)

end

/-- what the annotation says of the subscriber's slots at the program points of the worker and the unsubscriber, in
terms of the model's state alone (read off by `Inv.invSa`) -/
structure InvSa (s : State) : Prop where
  slots : s.sNext = true → s.sErr = true ∧ s.sCompl = true
  wclaim : s.wpc.claiming = true → s.sNext = false
  wterm : (s.wpc.claiming = true ∨ s.wpc = .claim ∨ s.wpc = .remove) → s.wcur.isTerminal = true
  ubegan : s.unsubBegan = (s.upc.began || s.unsubReturned)
  uret : s.unsubReturned = true → s.upc = .done
  uc1 : s.upc.began = true → s.sNext = false
  uc2 : (s.upc.began = true ∧ s.upc ≠ .c1) → s.sErr = false
  uc3 : (s.upc.began = true ∧ s.upc ≠ .c1 ∧ s.upc ≠ .c2) → s.sCompl = false
  wfin : s.wpc.inFin = true → s.sNext = false
  onfin : s.onFin = false → s.abort = true
  claimed : s.claimed = true → s.sNext = false
  fresh : (s.unsubBegan = false ∧ s.claimed = false) → s.sNext = true
  own1 : (s.unsubBegan = false ∧ s.wpc = .clrOther) → s.sErr = true ∧ s.sCompl = true
  own2 : (s.unsubBegan = false ∧ s.wpc = .takeOwn) → s.ownS s.wcur = true

theorem Inv.invSa {cfg : Config} {s : State} (h : Inv cfg s) : InvSa s where
  slots := h.sub.flags.slots
  wclaim hp := (h.sub.wrk.claiming hp).1
  wterm hp := by
    rcases hp with hp | hp | hp
    · exact (h.sub.wrk.claiming hp).2.2
    · exact (hp ▸ h.sub.wrk : KAss _ _ _ _ _ .claim).2.2
    · exact (hp ▸ h.sub.wrk : KAss _ _ _ _ _ .remove).2.2
  ubegan := h.sub.uns.began
  uret hr := (h.sub.uns.returned hr).1
  uc1 hp := h.sub.flags.ubn (by rw [h.sub.uns.began, hp]; rfl)
  uc2 hp := (h.sub.uns.cleared hp.1).1 hp.2
  uc3 hp := (h.sub.uns.cleared hp.1).2 hp.2.1 hp.2.2
  wfin hp := (h.sub.wrk.inFin hp).1
  onfin := h.sub.flags.onfin
  claimed := h.sub.flags.claimed
  fresh hp := h.sub.flags.fresh hp.1 hp.2
  own1 hp := (hp.2 ▸ h.sub.wrk : KAss _ _ _ _ _ .clrOther).2.2.2.2.2 hp.1
  own2 hp := by
    have := (hp.2 ▸ h.sub.wrk : KAss _ _ _ _ _ .takeOwn).2.2.2.2.2 hp.1
    exact this

/-- delivered ≤ taken ≤ posted ≤ consumed ≤ script (prefix order) -/
structure InvP (cfg : Config) (s : State) : Prop where
  script : cfg.script = s.consumed ++ s.todo
  sbusy : s.spc ≠ .idle → s.posted ++ [s.scur] = s.consumed
  sidle : s.spc = .idle → s.posted <+: s.consumed ∧ (s.upNext = true → s.posted = s.consumed)
  sterm : (s.spc = .clrOther ∨ s.spc = .takeOwn) → s.upNext = false
  chan : s.taken <+: s.posted ∧ (s.abort = false → s.posted = s.taken ++ s.queue)
  wpre : s.wpc.pre = true → s.delivered <+: s.taken ∧ (s.sNext = true → s.delivered ++ [s.wcur] = s.taken)
  wcom : s.wpc.com = true → s.delivered ++ [s.wcur] = s.taken
  woth : (s.wpc.pre = false ∧ s.wpc.com = false) →
    s.delivered <+: s.taken ∧ (s.sNext = true → s.delivered = s.taken)

theorem SAss.posted {w : Prop} {c : Ctl} {u1 u2 u3 : Bool} {p n todo : List Ev} {e : Ev} {q : SPc}
    (h : SAss w c u1 u2 u3 p n todo e q) :
    (q ≠ .idle → p ++ [e] = n) ∧ (q = .idle → p <+: n ∧ (u1 = true → p = n)) ∧
      ((q = .clrOther ∨ q = .takeOwn) → u1 = false) := by
  cases q <;> simp only [SAss] at h <;> grind

theorem Inv.invP {cfg : Config} {s : State} (h : Inv cfg s) : InvP cfg s where
  script := h.glob.script
  sbusy := h.src.posted.1
  sidle := h.src.posted.2.1
  sterm := h.src.posted.2.2
  chan := h.glob.chan
  wpre := h.sub.wrk.pre
  wcom := h.sub.wrk.com
  woth hp := h.sub.wrk.oth hp.1 hp.2

theorem invSa_reachable {cfg : Config} {s : State} (h : Reachable cfg s) : InvSa s := (inv_reachable h).invSa

theorem invP_reachable {cfg : Config} {s : State} (h : Reachable cfg s) : InvP cfg s := (inv_reachable h).invP

/-- **C09 / observe_on, safety.**  In every reachable state, for every script and every interleaving:
the events whose subscriber callback has started are a prefix of the script the source emits (same order, no gaps,
no duplicates); every callback start/return was performed by the worker thread, which is not the thread on which
the source posts; and at most one callback is open (this holds for every reachable state, i.e. for every prefix
of every history: callbacks never overlap). -/
theorem observe_on_prefix {cfg : Config} {s : State} (h : Reachable cfg s) :
    cbStarts s.log <+: cfg.script ∧
    (∀ t e, ((t, LEv.cbStart e) ∈ s.log ∨ (t, LEv.cbReturn e) ∈ s.log) → t = workerT ∧ t ≠ srcT) ∧
    (∀ t e, (t, LEv.post e) ∈ s.log → t = srcT) ∧
    openCbs s.log ≤ 1 := by
  have hi := inv_reachable h
  refine ⟨?_, hi.sub.on_worker⟩
  have h2 : s.posted <+: s.consumed := by
    by_cases hq : s.spc = .idle
    · exact (hi.src.posted.2.1 hq).1
    · exact pre_of_snoc_eq (hi.src.posted.1 hq)
  rw [← hi.sub.log.dlog, hi.glob.script]
  exact hi.sub.dlv.trans (hi.glob.chan.1.trans (h2.trans (List.prefix_append _ _)))

/-- a callback starts only when no callback is open -/
theorem cb_start_when_none_open {cfg : Config} {s s' : State} {l : Label} {t : Nat} {e : Ev}
    (h : Reachable cfg s) (hs : step s l = some s') (hl : s'.log = (t, LEv.cbStart e) :: s.log) :
    openCbs s.log = 0 := by
  have := (observe_on_prefix (.step h hs)).2.2.2
  rw [hl] at this
  simp only [openCbs] at this
  omega

/-- `observe_on_exact` for any script in which only the last event may be terminal -/
theorem observe_on_exact_wf {cfg : Config} {s : State} (hw : wf cfg.script = true)
    (h : Reachable cfg s) (hu : s.unsubEarly = false) (hq : s.quiescent) :
    cbStarts s.log = cfg.script := by
  have hi := inv_reachable h
  obtain ⟨q1, q2, q3⟩ := hq
  by_cases hts : s.termStarted = true
  · exact prefix_wf_term (observe_on_prefix h).1 hw (hi.sub.log.dlog ▸ hi.sub.log.tdeliv hts)
  · -- nothing has ended: the worker is parked, has never claimed, and every list equals the next one
    obtain ⟨hub, hab, hcs⟩ := hi.sub.flags.quiet (Bool.eq_false_iff.2 hts) hu
    have hwp : s.wpc = .take ∧ s.queue = [] := by
      rcases q3 with q3 | ⟨q3, q4, -⟩
      · exact absurd ((hi.done q3).symm.trans hab) (by decide)
      · exact ⟨q3, q4⟩
    have hw0 : KAss _ _ _ _ _ .out := (hwp.1 ▸ hi.sub.wrk : KAss _ _ _ _ _ WPc.take.k)
    obtain ⟨hcl, hsn⟩ := hcs hw0.2
    have e1 := (q2 ▸ hi.src : SAss _ _ _ _ _ _ _ _ _ .idle).2.2 hw hub hcl
    rw [← hi.sub.log.dlog, hi.glob.script, q1, hw0.1.2 hsn, ← e1, hi.glob.chan.2 hab, hwp.2]
    simp

/-- **C09 / observe_on, nothing lost.**  Well-formed script (items, then at most one terminal).  If no
unsubscribe began before a terminal callback had started (in particular: if there is no unsubscriber), then in every
state where the source has finished its script and the worker has exited or is parked on the empty queue, the
delivered events are exactly the script: nothing lost, nothing reordered, terminal last. -/
theorem observe_on_exact {sc : Script} {cfg : Config} {s : State} (hsc : cfg.script = sc.events)
    (h : Reachable cfg s) (hu : s.unsubEarly = false) (hq : s.quiescent) :
    cbStarts s.log = cfg.script :=
  observe_on_exact_wf (hsc ▸ wf_events sc) h hu hq

/-- … in particular without any unsubscriber -/
theorem observe_on_exact_no_unsub {sc : Script} {cfg : Config} {s : State} (hsc : cfg.script = sc.events)
    (hu : cfg.hasUnsub = false) (h : Reachable cfg s) (hq : s.quiescent) :
    cbStarts s.log = sc.events :=
  hsc ▸ observe_on_exact hsc h ((inv_reachable h).sub.uns.nounsub hu).2.2.1 hq

/-- **C09 / abort only after the end.**  `scheduler.abort()` (= `stop`: clear the queue, set `abort`) has been
executed only if a terminal callback has RETURNED or the unsubscriber has cleared the subscriber's `fn_next`; in
both cases `fn_next` is gone, so no item discarded by `stop` could have been delivered anyway. -/
theorem abort_only_after_end {cfg : Config} {s : State} (h : Reachable cfg s) :
    (∀ t, (t, LEv.stop) ∈ s.log → s.abort = true) ∧
    (s.abort = true → (s.termReturned = true ∨ s.unsubBegan = true) ∧ s.sNext = false) :=
  (inv_reachable h).sub.abort_after_end

theorem take_stopped {s : State} (ha : s.abort = true) : step s ⟨workerT, .take⟩ = none := by
  show wrkStep s .take = none
  unfold wrkStep
  split <;> first | contradiction | rfl | exact if_pos ha

/-- **C09 / nothing after unsubscribe.**  No callback ever starts for a task that the worker took after
`unsubscribe()` had returned; in fact after `unsubscribe()` returned `abort` is set and the subscriber's slots are
empty, so the worker takes no task at all any more (whatever the source still posts stays in the queue). -/
theorem after_unsub_nothing {cfg : Config} {s : State} (h : Reachable cfg s) :
    s.lateCb = false ∧
    (s.unsubReturned = true →
      s.abort = true ∧ s.sNext = false ∧ s.sErr = false ∧ s.sCompl = false ∧
      step s ⟨workerT, .take⟩ = none) := by
  have hu := (inv_reachable h).sub.after_unsub
  exact ⟨hu.1, fun hr => ⟨(hu.2 hr).1, (hu.2 hr).2.1, (hu.2 hr).2.2.1, (hu.2 hr).2.2.2, take_stopped (hu.2 hr).1⟩⟩

/-- the nested `subscriber.unsubscribe()` inside `finalize` (stream_controller.rs 151-153) is never executed:
whenever `finalize` runs, `fn_next` of the subscriber is already empty -/
theorem finalize_never_nested {cfg : Config} {s : State} (h : Reachable cfg s) :
    s.wpc ≠ .fin .nested ∧ s.upc ≠ .fin .nested :=
  ⟨fun hp => (inv_reachable h).sub.never_nested.1 (by rw [hp]; rfl), (inv_reachable h).sub.never_nested.2⟩

/-! ## Stacking: `observe_on(..).observe_on(..)`

Composition of the single-stage theorems.  Stage 2's source is stage 1's subscriber: the callbacks of stage 1 are,
by `observe_on_prefix`, a sequential (never overlapping) emission on one thread (worker 1) of the list
`cbStarts s1.log`; this is exactly what the source thread of the stage-2 system is: one thread emitting a script.
So stage 2 is an instance of the same transition system with `script := cbStarts s1.log`.  That no unsubscribe of stage 1
is early is a hypothesis (`u1`), not derived: an unsubscribe of stage 1 issued by stage 2's `finalize` is an
unsubscriber of stage 1; without a user unsubscribe it happens only after the stage-2 terminal callback, hence after
the stage-1 terminal callback started. -/

theorem observe_on_twice_prefix {c1 c2 : Config} {s1 s2 : State} (h1 : Reachable c1 s1) (h2 : Reachable c2 s2)
    (hc : c2.script = cbStarts s1.log) :
    cbStarts s2.log <+: c1.script ∧ openCbs s2.log ≤ 1 ∧
    (∀ t e, ((t, LEv.cbStart e) ∈ s2.log ∨ (t, LEv.cbReturn e) ∈ s2.log) → t = workerT) := by
  have p1 := observe_on_prefix h1
  have p2 := observe_on_prefix h2
  exact ⟨(hc ▸ p2.1).trans p1.1, p2.2.2.2, fun t e ht => (p2.2.1 t e ht).1⟩

theorem observe_on_twice_exact {sc : Script} {c1 c2 : Config} {s1 s2 : State} (hsc : c1.script = sc.events)
    (h1 : Reachable c1 s1) (h2 : Reachable c2 s2) (hc : c2.script = cbStarts s1.log)
    (u1 : s1.unsubEarly = false) (u2 : s2.unsubEarly = false) (q1 : s1.quiescent) (q2 : s2.quiescent) :
    cbStarts s2.log = sc.events := by
  have e1 := observe_on_exact hsc h1 u1 q1
  have hsc2 : c2.script = sc.events := by rw [hc, e1, hsc]
  rw [observe_on_exact hsc2 h2 u2 q2, hsc2]

def exCfg : Config := { script := (Script.mk [.int 1] .complete).events, hasUnsub := false }

/-- a complete run: item posted, delivered; `complete` posted, delivered; `finalize` → `stop`; worker exits -/
def exRun : List Label := mk
  [(0, .emit), (0, .post), (1, .take), (1, .chk), (1, .chk), (1, .chk), (1, .fetch), (1, .cbStart), (1, .cbReturn),
   (0, .emit), (0, .clrOther), (0, .takeOwn), (0, .post), (1, .take), (1, .chk), (1, .chk), (1, .chk), (1, .remove),
   (1, .claim), (1, .clrOther), (1, .takeOwn), (1, .cbStart), (1, .cbReturn), (1, .fIter), (1, .fClear), (1, .fChk),
   (1, .fLock), (1, .fStop), (1, .fUnlock), (1, .exit)]

def exState : State := (replay exCfg exRun).getD default

theorem exState_reachable : Reachable exCfg exState := reachable_of_replay (ls := exRun) rfl

/-- hypotheses of `observe_on_prefix` / `observe_on_exact` are satisfiable by a non-trivial run -/
example : Reachable exCfg exState ∧ exState.quiescent ∧ exState.unsubEarly = false ∧
    cbStarts exState.log = [.next (.int 1), .complete] ∧ exState.abort = true ∧ exState.termReturned = true :=
  ⟨exState_reachable, by decide⟩

/-- the worker parked on the empty queue (script without terminal) -/
def exCfg2 : Config := { script := (Script.mk [.int 1, .int 2] .none).events, hasUnsub := false }
def exRun2 : List Label := mk
  [(0, .emit), (0, .post), (0, .emit), (0, .post), (1, .take), (1, .chk), (1, .chk), (1, .chk), (1, .fetch),
   (1, .cbStart), (1, .cbReturn), (1, .take), (1, .chk), (1, .chk), (1, .chk), (1, .fetch), (1, .cbStart),
   (1, .cbReturn)]
def exState2 : State := (replay exCfg2 exRun2).getD default
example : Reachable exCfg2 exState2 ∧ exState2.quiescent ∧ exState2.abort = false ∧
    cbStarts exState2.log = [.next (.int 1), .next (.int 2)] :=
  ⟨reachable_of_replay (ls := exRun2) rfl, by decide⟩

/-- a run with an unsubscriber: the item is taken, its function fetched, then `unsubscribe()` runs to completion
(`abort` set, slots cleared), and the already fetched callback still starts AFTER `unsubscribe()` returned — the
reason why `after_unsub_nothing` speaks about tasks TAKEN after the return.  The second item is posted into the
stopped queue and never taken. -/
def exCfg3 : Config := { script := (Script.mk [.int 1, .int 2] .complete).events, hasUnsub := true }
def exRun3 : List Label := mk
  [(0, .emit), (0, .post), (1, .take), (1, .chk), (1, .chk), (1, .chk), (1, .fetch),
   (2, .unsubCall), (2, .clr), (2, .clr), (2, .clr), (2, .onUnsub), (2, .fIter), (0, .emit), (2, .fUp), (2, .fUp),
   (2, .fUp), (2, .fClear), (2, .fChk), (2, .fLock), (2, .fStop), (2, .fUnlock), (2, .unsubRet),
   (1, .cbStart), (0, .post), (1, .cbReturn), (0, .emit), (1, .exit)]
def exState3 : State := (replay exCfg3 exRun3).getD default
example : Reachable exCfg3 exState3 ∧ exState3.unsubReturned = true ∧ exState3.abort = true ∧
    exState3.log.head? = some (srcT, .drop .complete) ∧ exState3.queue = [.next (.int 2)] ∧
    cbStarts exState3.log = [.next (.int 1)] ∧ exState3.lateCb = false ∧ exState3.wpc = .done :=
  ⟨reachable_of_replay (ls := exRun3) rfl, by decide⟩

/-- **The literal reading "stop only after the unsubscriber cleared the (three) slots" is FALSE of the code**:
after the unsubscriber cleared only `fn_next`, the worker's `fn_next.clear_if_available()` fails, it runs `finalize`
and stops the scheduler while `fn_error` and `fn_complete` of the subscriber are still present and no terminal
callback ran.  (Harmless: `fn_next` is gone, nothing can be delivered any more — `abort_only_after_end`.) -/
def exCfg4 : Config := { script := (Script.mk [] (.error 7)).events, hasUnsub := true }
def exRun4 : List Label := mk
  [(0, .emit), (0, .clrOther), (0, .takeOwn), (0, .post), (1, .take), (1, .chk), (1, .chk), (1, .chk),
   (2, .unsubCall), (2, .clr), (1, .claim), (1, .fIter), (1, .fUp), (1, .fUp), (1, .fUp), (1, .fClear), (1, .fChk),
   (1, .fLock), (1, .fStop)]
def exState4 : State := (replay exCfg4 exRun4).getD default
theorem stop_before_all_slots_cleared :
    Reachable exCfg4 exState4 ∧ exState4.abort = true ∧ exState4.termStarted = false ∧
    exState4.sErr = true ∧ exState4.sCompl = true ∧ exState4.upc = .c1 :=
  ⟨reachable_of_replay (ls := exRun4) rfl, by decide⟩

/-- two stacked stages, both quiescent: hypotheses of `observe_on_twice_exact` are satisfiable -/
example : Reachable exCfg exState ∧ Reachable { exCfg with script := cbStarts exState.log } exState ∧
    exState.quiescent ∧ exState.unsubEarly = false :=
  ⟨exState_reachable, reachable_of_replay (ls := exRun) rfl, by decide⟩

end Rx.Handoff

namespace Rx.Handoff.SubOn

macro "so_cases " h:ident : tactic => `(tactic| (
  simp only [srcStep, wrkStep, unsStep, finW, finU, finEnabled, finEffect, finNext] at $h:ident
  repeat' (split at $h:ident)
  all_goals (first | (cases $h:ident; done) | (simp only [Option.some.injEq] at $h:ident; subst $h:ident))))

/-- `scheduler.abort()` on the channel of subscribe_on (it holds the one subscription task, or nothing) -/
abbrev stopB (f q : Bool) : Bool := q && !f

/-- the subscription inside a state of subscribe_on, and a state with its subscription replaced -/
abbrev State.sub (s : State) : Sub Bool :=
  { sNext := s.sNext, sErr := s.sErr, sCompl := s.sCompl, abort := s.abort, onFin := s.onFin, claimed := s.claimed,
    termStarted := s.termStarted, termReturned := s.termReturned, unsubBegan := s.unsubBegan,
    unsubEarly := s.unsubEarly, unsubReturned := s.unsubReturned, lateCb := s.lateCb, upNext := s.upNext,
    upErr := s.upErr, upCompl := s.upCompl, unsc := s.unsc, curLate := s.curLate, wcur := s.wcur, d := s.delivered,
    log := s.log, queue := s.queued }

abbrev State.put (s : State) (b : Sub Bool) : State :=
  { s with sNext := b.sNext, sErr := b.sErr, sCompl := b.sCompl, abort := b.abort, onFin := b.onFin
           claimed := b.claimed, termStarted := b.termStarted, termReturned := b.termReturned
           unsubBegan := b.unsubBegan, unsubEarly := b.unsubEarly, unsubReturned := b.unsubReturned
           lateCb := b.lateCb, upNext := b.upNext, upErr := b.upErr, upCompl := b.upCompl, unsc := b.unsc
           curLate := b.curLate, wcur := b.wcur, delivered := b.d, log := b.log, queued := b.queue }

/-- where the worker stands in `sink_*`; the source's own emission steps count as "about to enter", all else as
outside -/
def WPc.k : WPc → KPc
  | .chk0 | .uClrOther | .uTakeOwn => .chk0
  | .chk1 => .chk1 | .chk2 => .chk2 | .fetch => .fetch | .remove => .remove | .claim => .claim
  | .clrOther => .clrOther | .takeOwn => .takeOwn | .cbN => .cbN | .inCbN => .inCbN | .cbT => .cbT
  | .inCbT => .inCbT | .fin f => .fin f
  | _ => .out

/-- the worker is inside `sink_*` / `finalize` -/
def WPc.sinking : WPc → Bool
  | .chk0 | .chk1 | .chk2 | .fetch | .remove | .claim | .clrOther | .takeOwn | .cbN | .inCbN | .cbT | .inCbT
  | .fin _ => true
  | _ => false

/-- … or has just returned from there into the source -/
def WPc.sunk : WPc → Bool
  | .src => true
  | p => p.sinking

theorem WPc.sunk_iff {w : WPc} (h : w.sunk = true) : w.sinking = true ∨ w = .src := by
  cases w <;> first | exact .inl rfl | exact .inr rfl | cases h

/-- a step of the worker inside `sink_*` is a step of the subscription's code; it stays there or returns into the
source (proof as for observe_on) -/
theorem wrk_sink {s s' : State} {k : Kind} (hs : wrkStep s k = some s') :
    (∃ b p' w fl, s.sub.sink stopB s.wpc.k k = some (b, p') ∧ s' = { s.put b with wpc := w, finLock := fl } ∧
      w.k = p' ∧ s.wpc.sinking = true ∧ w.sunk = true) ∨ s.wpc.sinking = false := by
  unfold wrkStep finW finEnabled finEffect finNext at hs
  dsimp only at hs
  split at hs
  all_goals first
    | (injection hs with hs; subst hs)
    | ((repeat' (split at hs)) <;> first | cases hs | (injection hs with hs; subst hs))
  all_goals first
    | exact .inr (by rw [‹s.wpc = _›]; rfl)
    | exact .inl ⟨_, _, _, _, by rw [‹s.wpc = _›]; rfl, rfl,
        by first | rfl | exact apply_ite WPc.k .. | (dsimp only [State.sub]; (repeat' split) <;> first | rfl | grind),
        by rw [‹s.wpc = _›]; rfl, by (repeat' split) <;> rfl⟩

theorem uns_sub {s s' : State} {k : Kind} (hs : unsStep s k = some s') :
    ∃ b u' fl, s.sub.uns stopB s.upc k = some (b, u') ∧ s' = { s.put b with upc := u', finLock := fl } := by
  unfold unsStep finU finEnabled finEffect finNext at hs
  dsimp only at hs
  split at hs
  all_goals first
    | (injection hs with hs; subst hs)
    | ((repeat' (split at hs)) <;> first | cases hs | (injection hs with hs; subst hs))
  all_goals exact ⟨_, _, _, by rw [‹s.upc = _›]; rfl, rfl⟩

def WPc.claiming : WPc → Bool
  | .clrOther | .takeOwn | .cbT | .inCbT => true
  | _ => false

def WPc.inFin : WPc → Bool
  | .fin _ => true
  | _ => false

def WPc.pre : WPc → Bool
  | .uClrOther | .uTakeOwn | .chk0 | .chk1 | .chk2 | .fetch | .remove | .claim => true
  | _ => false

def WPc.com : WPc → Bool
  | .clrOther | .takeOwn | .cbN | .cbT => true
  | _ => false

/-- the worker is at the top of the `scheduling` loop or has left it -/
def WPc.idle : WPc → Bool
  | .take | .done => true
  | _ => false

/-- the fields the worker's own assertions speak about -/
structure Wv where
  c : Ctl
  (upNext upErr upCompl taskDone skipped lateAttach : Bool)
  (delivered consumed todo : List Ev)
  wcur : Ev

abbrev State.wv (s : State) : Wv :=
  ⟨s.sub.toCtl, s.upNext, s.upErr, s.upCompl, s.taskDone, s.skipped, s.lateAttach, s.delivered, s.consumed, s.todo,
    s.wcur⟩

/-- nothing has happened yet: the source has not been entered -/
abbrev Wv.pre (v : Wv) : Prop :=
  v.c.claimed = false ∧ v.consumed = [] ∧ v.delivered = [] ∧
    (v.c.unsubBegan = false → v.upNext = true ∧ v.upErr = true ∧ v.upCompl = true)

abbrev Wv.upAny (v : Wv) : Prop := v.upNext = false ∨ v.upErr = false ∨ v.upCompl = false

/-- a slot of the observer handed to the source is gone only after the subscriber's `fn_next` is gone -/
abbrev Wv.upGone (v : Wv) : Prop := v.upAny → v.c.sNext = false

abbrev Wv.idle (v : Wv) : Prop :=
  (v.taskDone = false → v.pre ∧ v.lateAttach = false) ∧ (v.taskDone = true → v.todo = [] ∨ v.skipped = true) ∧
    (v.lateAttach = true → v.skipped = true ∧ v.consumed = [] ∧ v.delivered = [])

/-- before the source runs, a slot of the fresh observer can be gone only because the subscription was unsubscribed … -/
theorem Wv.pre.begun {v : Wv} (h : v.pre) (hu : v.upAny) : v.c.unsubBegan = true := by
  cases hb : v.c.unsubBegan
  · obtain ⟨h1, h2, h3⟩ := h.2.2.2 hb
    rcases hu with hu | hu | hu
    · exact nomatch hu.symm.trans h1
    · exact nomatch hu.symm.trans h2
    · exact nomatch hu.symm.trans h3
  · rfl

/-- … and from then on `pre` says nothing of these slots -/
theorem Wv.pre.slots {v : Wv} (h : v.pre) (hb : v.c.unsubBegan = true) (x y z : Bool) :
    ({ v with upNext := x, upErr := y, upCompl := z } : Wv).pre :=
  ⟨h.1, h.2.1, h.2.2.1, fun hn => nomatch hb.symm.trans hn⟩

/-- what the worker knows besides `KAss`: about the subscription task, the fresh observer and the late attach.  Inside
`sink_*` (last line) a slot of the fresh observer may be gone while `fn_next` is there only if the source itself took it
for the terminal event that `sink_*` has not decided yet. -/
def XAss (v : Wv) : WPc → Prop
  | .take => v.idle
  | .done => v.idle ∧ v.c.abort = true
  | .newObs | .rchk1 | .rchk2 | .sub1 | .sub2 => v.pre ∧ v.lateAttach = false
  | .rchk0 => v.pre
  | .rrem | .ruc0 => v.pre ∧ v.c.sNext = false ∧ v.c.unsubBegan = true
  | .ruc1 | .ruc2 => v.pre ∧ v.c.sNext = false ∧ v.c.unsubBegan = true ∧ v.upNext = false
  | .sub0 => v.pre ∧ (v.lateAttach = true → v.upNext = false)
  | .src => v.upGone ∧ v.lateAttach = false
  | .uClrOther => v.lateAttach = false ∧ v.wcur.isTerminal = true ∧
      ((v.upErr = false ∨ v.upCompl = false) → v.c.sNext = false)
  | .uTakeOwn => v.lateAttach = false ∧ v.wcur.isTerminal = true ∧
      (((v.wcur.isErr && v.upErr) || (v.wcur.isCompl && v.upCompl)) = false → v.c.sNext = false)
  | p => v.lateAttach = false ∧ (v.upAny → v.c.sNext = false ∨ (v.wcur.isTerminal = true ∧ p.k.und = true))

/-- the subscribing thread, and what does not depend on a program point -/
structure Glob (cfg : Config) (c : Ctl) (posted queued taskDone lateAttach skipped : Bool)
    (todo consumed : List Ev) : Prop where
  nopost : posted = false → queued = false ∧ taskDone = false
  queued : queued = true → taskDone = false
  lateub : lateAttach = true → c.unsubBegan = true
  skipub : skipped = true → c.unsubBegan = true
  script : cfg.script = consumed ++ todo

/-- while the task runs, the clauses about the channel hold whatever `taskDone` is -/
theorem Glob.running {cfg : Config} {c : Ctl} {posted queued taskDone lateAttach skipped d k : Bool}
    {todo consumed : List Ev} (g : Glob cfg c posted queued taskDone lateAttach skipped todo consumed)
    (hr : queued = false ∧ posted = true) (hk : k = true → c.unsubBegan = true) :
    Glob cfg c posted queued d lateAttach k todo consumed :=
  { g with nopost := fun h => (nomatch hr.2.symm.trans h), queued := fun h => (nomatch hr.1.symm.trans h),
           skipub := hk }

structure Inv (cfg : Config) (s : State) : Prop where
  sub : SubInv (cfg.hasUnsub = false) s.sub s.consumed s.wpc.k s.upc
  own : XAss s.wv s.wpc
  run : s.wpc.idle = false → s.queued = false ∧ s.posted = true ∧ s.taskDone = false
  glob : Glob cfg s.sub.toCtl s.posted s.queued s.taskDone s.lateAttach s.skipped s.todo s.consumed

/-- the unsubscriber cannot falsify what the worker knows of its own: it moves the flags one way, and clears the slots
of the observer handed to the source only after it has cleared the subscriber's `fn_next` -/
theorem XAss.mono {v v' : Wv} {p : WPc} (h : XAss v p)
    (hc : (v'.c.sNext = true → v.c.sNext = true) ∧ (v.c.unsubBegan = true → v'.c.unsubBegan = true) ∧
      (v.c.abort = true → v'.c.abort = true) ∧ v'.c.claimed = v.c.claimed ∧
      (v'.upNext = v.upNext ∧ v'.upErr = v.upErr ∧ v'.upCompl = v.upCompl ∨ v'.c.sNext = false ∧
        (v'.c.unsubBegan = true ∨ v'.c.claimed = true) ∧ (v'.upNext = true → v.upNext = true)))
    (hv : v' = { v with c := v'.c, upNext := v'.upNext, upErr := v'.upErr, upCompl := v'.upCompl }) : XAss v' p := by
  obtain ⟨h1, h2, h3, h4, hu⟩ := hc
  rw [hv]
  cases p <;>
    simp only [XAss] at h ⊢ <;> grind

theorem inv_init (cfg : Config) : Inv cfg (init cfg) where
  sub := { flags := by constructor <;> simp [init]
           uns := by cases h : cfg.hasUnsub <;> simp [init, h, UAss]
           wrk := by simp [init, KAss, WPc.k, Dlv0]
           late := nofun
           log := by constructor <;> simp [init, cbStarts]
           lopen := rfl }
  own := by simp [init, XAss, Wv.idle, Wv.pre]
  run := by simp [init, WPc.idle]
  glob := by constructor <;> cases h : cfg.hasUnsub <;> simp [init, h]

theorem XAss.sinking {v : Wv} {p : WPc} (hp : p.sinking = true) :
    XAss v p ↔
      v.lateAttach = false ∧ (v.upAny → v.c.sNext = false ∨ (v.wcur.isTerminal = true ∧ p.k.und = true)) := by
  cases p <;> first | (cases hp; done) | exact Iff.rfl

/-- what the worker knows of its own survives a step inside `sink_*`, also the one that returns into the source -/
theorem XAss.of_sink {s : State} {b' : Sub Bool} {p' : KPc} {k : Kind} {w : WPc} (h : XAss s.wv s.wpc)
    (hF : Flags s.sub.toCtl) (hk : s.sub.sink stopB s.wpc.k k = some (b', p')) (hf : Sub.Frame stopB s.sub b')
    (hp : s.wpc.sinking = true) (hw : w.sinking = true ∨ w = .src) (hwk : w.k = p') {fl : Bool} :
    XAss ({ s.put b' with wpc := w, finLock := fl } : State).wv w := by
  obtain ⟨hl, hg⟩ := (XAss.sinking hp).1 h
  have hd := Sub.sink_und hF hk
  rw [← hwk] at hd
  obtain ⟨⟨hcur, -⟩, ⟨-, -, -, hn⟩, hu, -⟩ := hf
  have key : ({ s.put b' with wpc := w, finLock := fl } : State).wv.upAny →
      b'.sNext = false ∨ (s.wcur.isTerminal = true ∧ w.k.und = true) := by
    intro ha
    rcases hu with ⟨e1, e2, e3⟩ | ⟨e0, -⟩
    · have ha' : s.wv.upAny := by
        rcases ha with ha | ha | ha
        · exact .inl (e1.symm.trans ha)
        · exact .inr (.inl (e2.symm.trans ha))
        · exact .inr (.inr (e3.symm.trans ha))
      rcases hg ha' with hs | ⟨ht, hu⟩
      · exact .inl (Bool.eq_false_iff.2 fun hh => nomatch hs.symm.trans (hn hh))
      · cases hwu : w.k.und
        · exact (hd hu hwu).imp_right fun hh => Bool.noConfusion (ht.symm.trans hh)
        · exact .inr ⟨ht, rfl⟩
    · exact .inl e0
  rcases hw with hw | rfl
  · exact (XAss.sinking hw).2
      ⟨hl, fun ha => (key ha).imp_right fun hh => ⟨(congrArg Ev.isTerminal hcur).trans hh.1, hh.2⟩⟩
  · exact ⟨fun ha => (key ha).resolve_right fun hh => Bool.noConfusion hh.2, hl⟩

/-- the subscribing thread's clauses survive a step of the subscription's code -/
theorem Inv.frame {cfg : Config} {s : State} {b : Sub Bool} (h : Inv cfg s) (hf : Sub.Frame stopB s.sub b) :
    (s.queued = false → b.queue = false) ∧
    Glob cfg b.toCtl s.posted b.queue s.taskDone s.lateAttach s.skipped s.todo s.consumed := by
  obtain ⟨-, ⟨m1, -, -, -⟩, -, hq⟩ := hf
  obtain ⟨g1, g2, g3, g4, g5⟩ := h.glob
  have hq' : b.queue = true → s.queued = true := by
    rcases hq with ⟨e, -⟩ | ⟨e, -⟩ <;> rw [e]
    · exact id
    · exact fun hh => (Bool.and_eq_true_iff.1 hh).1
  have hq0 : s.queued = false → b.queue = false := fun h0 =>
    Bool.eq_false_iff.2 fun hh => nomatch h0.symm.trans (hq' hh)
  exact ⟨hq0, fun hp => ⟨hq0 (g1 hp).1, (g1 hp).2⟩, fun hh => g2 (hq' hh), fun hl => m1 (g3 hl),
    fun hk => m1 (g4 hk), g5⟩

/-- `inner_subscribe` finds a slot of the fresh observer gone (`x` is the slot it read): the task returns without
running the source -/
theorem Inv.skip {cfg : Config} {s : State} {x : Bool}
    (hsub : SubInv (cfg.hasUnsub = false) s.sub s.consumed .out s.upc) (hp : s.wv.pre)
    (hr : s.queued = false ∧ s.posted = true)
    (g : Glob cfg s.sub.toCtl s.posted s.queued s.taskDone s.lateAttach s.skipped s.todo s.consumed)
    (hx : x = false) (hu : s.wv.upAny) : Inv cfg { s with wpc := .take, taskDone := !x, skipped := !x } := by
  subst hx
  exact { sub := { hsub with }, run := nofun, glob := g.running hr fun _ => hp.begun hu,
          own := ⟨nofun, fun _ => .inr rfl, fun _ => ⟨rfl, hp.2.1, hp.2.2.1⟩⟩ }

/-- the worker's own code: the `scheduling` loop, `new_observer` with its re-check, `inner_subscribe`, the source.  None
of it touches the flags or `delivered`; one case per arm of `wrkStep`, in the order of its `match`, named beside it -/
theorem inv_own {cfg : Config} {s s' : State} {k : Kind} (h : Inv cfg s) (hs : wrkStep s k = some s')
    (hown : s.wpc.sinking = false) : Inv cfg s' := by
  have hsub := h.sub
  have hx := h.own
  have hr := h.run
  have hF := h.sub.flags
  obtain ⟨g1, g2, g3, g4, g5⟩ := h.glob
  unfold wrkStep at hs
  generalize s.wpc = p at hs hsub hx hr hown
  split at hs
  case h_1 =>   -- take
    split at hs
    · cases hs
    split at hs <;> cases hs
    have hq : s.queued = true := ‹_›
    have hp : s.posted = true := by
      cases hp : s.posted
      · exact nomatch hq.symm.trans (g1 hp).1
      · rfl
    exact { sub := { hsub with }, own := hx.1 (g2 hq), run := fun _ => ⟨rfl, hp, g2 hq⟩,
            glob := { h.glob with nopost := fun h0 => ⟨rfl, (g1 h0).2⟩, queued := nofun } }
  case h_2 =>   -- exit
    split at hs <;> cases hs
    exact { h with sub := { hsub with }, own := ⟨hx, ‹_›⟩, run := nofun }
  case h_3 =>   -- newObs
    cases hs
    exact { sub := { hsub with }, own := hx.1, run := fun _ => hr rfl, glob := { h.glob with lateub := id } }
  case h_4 =>   -- rchk0
    cases hs
    split
    · -- `fn_next` is still there, so no unsubscribe had begun when the upstream was registered
      have hl : s.lateAttach = false :=
        Bool.eq_false_iff.2 fun hl => nomatch (‹s.sNext = true›).symm.trans (hF.ubn (g3 hl))
      exact { h with sub := { hsub with }, own := ⟨hx, hl⟩, run := fun _ => hr rfl }
    · have hn : s.sNext = false := Bool.eq_false_iff.2 ‹_›
      exact { h with sub := { hsub with }, own := ⟨hx, hn, hF.begun hx.1 hn⟩, run := fun _ => hr rfl }
  case h_5 =>   -- rchk1
    cases hs
    split
    · exact { h with sub := { hsub with }, own := hx, run := fun _ => hr rfl }
    · have hn := hF.noNext fun hh => ‹¬_› hh.1
      exact { h with sub := { hsub with }, own := ⟨hx.1, hn, hF.begun hx.1.1 hn⟩, run := fun _ => hr rfl }
  case h_6 =>   -- rchk2
    cases hs
    split
    · exact { h with sub := { hsub with }, own := ⟨hx.1, fun hl => nomatch hx.2.symm.trans hl⟩,
                     run := fun _ => hr rfl }
    · have hn := hF.noNext fun hh => ‹¬_› hh.2
      exact { h with sub := { hsub with }, own := ⟨hx.1, hn, hF.begun hx.1.1 hn⟩, run := fun _ => hr rfl }
  case h_7 =>   -- rrem
    cases hs
    exact { h with sub := { hsub with }, own := hx, run := fun _ => hr rfl }
  case h_8 =>   -- ruc0
    cases hs
    exact { h with sub := { hsub with }, own := ⟨hx.1.slots hx.2.2 _ _ _, hx.2.1, hx.2.2, rfl⟩,
                   run := fun _ => hr rfl }
  case h_9 =>   -- ruc1
    cases hs
    exact { h with sub := { hsub with }, own := ⟨hx.1.slots hx.2.2.1 _ _ _, hx.2.1, hx.2.2.1, hx.2.2.2⟩,
                   run := fun _ => hr rfl }
  case h_10 =>   -- ruc2
    cases hs
    exact { h with sub := { hsub with }, own := ⟨hx.1.slots hx.2.2.1 _ _ _, fun _ => hx.2.2.2⟩,
                   run := fun _ => hr rfl }
  case h_11 =>   -- sub0
    cases hs
    obtain ⟨r1, r2, -⟩ := hr rfl
    split
    · have hu : (!s.upNext) = false := by rw [‹s.upNext = true›]; rfl
      have hl : s.lateAttach = false :=
        Bool.eq_false_iff.2 fun hl => nomatch (‹s.upNext = true›).symm.trans (hx.2 hl)
      exact { sub := { hsub with }, own := ⟨hx.1, hl⟩, run := fun _ => ⟨r1, r2, hu⟩,
              glob := h.glob.running ⟨r1, r2⟩ fun hk => nomatch hu.symm.trans hk }
    · have hu : s.upNext = false := Bool.eq_false_iff.2 ‹_›
      exact Inv.skip hsub hx.1 ⟨r1, r2⟩ h.glob hu (.inl hu)
  case h_12 =>   -- sub1
    cases hs
    obtain ⟨r1, r2, -⟩ := hr rfl
    split
    · have hu : (!s.upErr) = false := by rw [‹s.upErr = true›]; rfl
      exact { sub := { hsub with }, own := hx, run := fun _ => ⟨r1, r2, hu⟩,
              glob := h.glob.running ⟨r1, r2⟩ fun hk => nomatch hu.symm.trans hk }
    · have hu : s.upErr = false := Bool.eq_false_iff.2 ‹_›
      exact Inv.skip hsub hx.1 ⟨r1, r2⟩ h.glob hu (.inr (.inl hu))
  case h_13 =>   -- sub2
    cases hs
    obtain ⟨r1, r2, -⟩ := hr rfl
    split
    · -- the source is entered: a slot of the fresh observer is gone only after an unsubscribe
      have hu : (!s.upCompl) = false := by rw [‹s.upCompl = true›]; rfl
      exact { sub := { hsub with }, own := ⟨fun ha => hF.ubn (hx.1.begun ha), hx.2⟩, run := fun _ => ⟨r1, r2, hu⟩,
              glob := h.glob.running ⟨r1, r2⟩ fun hk => nomatch hu.symm.trans hk }
    · have hu : s.upCompl = false := Bool.eq_false_iff.2 ‹_›
      exact Inv.skip hsub hx.1 ⟨r1, r2⟩ h.glob hu (.inr (.inr hu))
  case h_14 =>   -- src: the source returns
    split at hs <;> cases hs
    obtain ⟨r1, r2, -⟩ := hr rfl
    exact { sub := { hsub with }, own := ⟨nofun, fun _ => .inl ‹_›, fun hl => nomatch hx.2.symm.trans hl⟩,
            run := nofun, glob := h.glob.running ⟨r1, r2⟩ g4 }
  case h_15 =>   -- src: the source emits
    split at hs
    next => cases hs
    next e rest he =>
    cases hs
    have hw := hsub.wrk
    have hg : Glob cfg _ _ _ _ _ _ rest (s.consumed ++ [e]) :=
      { h.glob with script := by rw [g5, he, List.append_assoc]; rfl }
    split
    · -- the fresh observer takes the event: the worker enters `sink_*` with one more event handed to it
      have hk : Dlv1 s.sNext s.delivered (s.consumed ++ [e]) e :=
        ⟨pre_snoc _ hw.1.1, fun hn => congrArg (· ++ [e]) (hw.1.2 hn)⟩
      split
      · exact { sub := { hsub with wrk := ⟨hk, hw.2⟩, late := id }, own := ⟨hx.2, ‹_›, fun hh => hx.1 (.inr hh)⟩,
                run := fun _ => hr rfl, glob := hg }
      · have hu : (s.upNext && !e.isTerminal) = s.upNext := by
          rw [show e.isTerminal = false from Bool.eq_false_iff.2 ‹_›]; exact Bool.and_true _
        exact { sub := { hsub with wrk := ⟨hk, hw.2⟩, late := id }, run := fun _ => hr rfl, glob := hg,
                own := ⟨hx.2, fun ha => .inl (hx.1 (ha.imp_left fun h1 => hu.symm.trans h1))⟩ }
    · -- it drops the event: `fn_next` of the subscriber is gone too
      have hn : s.sNext = false := hx.1 (.inl (Bool.eq_false_iff.2 ‹_›))
      exact { sub := { hsub with wrk := ⟨⟨pre_snoc _ hw.1.1, fun hh => nomatch hn.symm.trans hh⟩, hw.2⟩, late := id,
                                 log := hsub.log.push rfl rfl nofun id rfl },
              own := ⟨fun _ => hn, hx.2⟩, run := fun _ => hr rfl, glob := hg }
  case h_16 =>   -- uClrOther
    cases hs
    refine { h with sub := { hsub with }, own := ⟨hx.1, hx.2.1, fun ho => hx.2.2 ?_⟩, run := fun _ => hr rfl }
    -- were both terminal slots there, the own one would survive the clear
    cases he : s.upErr
    · exact .inl he
    cases hc : s.upCompl
    · exact .inr hc
    exact nomatch (Ev.own_clr hx.2.1 he hc).symm.trans ho
  case h_17 =>   -- uTakeOwn
    cases hs
    have hw := hsub.wrk
    split
    · exact { h with sub := { hsub with }, own := ⟨hx.1, fun _ => .inr ⟨hx.2.1, rfl⟩⟩, run := fun _ => hr rfl }
    · -- its own slot is gone: it drops the terminal event, and `fn_next` of the subscriber is gone too
      have hn : s.sNext = false := hx.2.2 (Bool.eq_false_iff.2 ‹_›)
      exact { h with sub := { hsub with wrk := ⟨⟨hw.1.1, fun hh => nomatch hn.symm.trans hh⟩, hw.2⟩,
                                        log := hsub.log.push rfl rfl nofun id rfl },
                     own := ⟨fun _ => hn, hx.1⟩, run := fun _ => hr rfl }
  case h_39 => cases hs
  all_goals cases hown   -- the arms of `sink_*` and `finalize`

theorem inv_wrk {cfg : Config} {s s' : State} {k : Kind} (h : Inv cfg s) (hs : wrkStep s k = some s') :
    Inv cfg s' := by
  rcases wrk_sink hs with ⟨b, p', w, fl, hk, rfl, rfl, hp, hw⟩ | hown
  · have hf := Sub.sink_frame h.sub hk
    have hi : s.wpc.idle = false := by cases hw : s.wpc <;> first | rfl | (rw [hw] at hp; cases hp)
    exact ⟨h.sub.of_sink hk, h.own.of_sink h.sub.flags hk hf hp (WPc.sunk_iff hw) rfl,
      fun _ => ⟨(h.frame hf).1 (h.run hi).1, (h.run hi).2⟩, (h.frame hf).2⟩
  · exact inv_own h hs hown

theorem inv_uns {cfg : Config} {s s' : State} {k : Kind} (h : Inv cfg s) (hs : unsStep s k = some s') :
    Inv cfg s' := by
  obtain ⟨b, u', fl, hk, rfl⟩ := uns_sub hs
  have hf := Sub.uns_frame h.sub hk
  obtain ⟨hc, hd⟩ := Sub.uns_same hk
  refine ⟨h.sub.of_uns hk, h.own.mono ⟨hf.mono.2.2.2, hf.mono.1, hf.mono.2.2.1, hc, ?_⟩ ?_,
    fun hi => ⟨(h.frame hf).1 (h.run hi).1, (h.run hi).2⟩, (h.frame hf).2⟩
  · exact hf.up.imp_right fun hh => ⟨hh.1, hh.2.1, hh.2.2.1⟩
  · show (⟨_, _, _, _, _, _, _, b.d, _, _, b.wcur⟩ : Wv) = ⟨_, _, _, _, _, _, _, s.delivered, _, _, s.wcur⟩
    rw [hd, hf.cur.1]

theorem inv_src {cfg : Config} {s s' : State} {k : Kind} (h : Inv cfg s) (hs : srcStep s k = some s') :
    Inv cfg s' := by
  unfold srcStep at hs
  split at hs
  · cases hs
    have hp : s.posted = false := ‹_›
    -- nothing posted yet: the worker is still at the top of its loop
    exact { h with sub := { h.sub with log := h.sub.log.push rfl rfl nofun id rfl },
                   run := fun hi => (nomatch hp.symm.trans (h.run hi).2.1),
                   glob := { h.glob with nopost := nofun, queued := fun _ => (h.glob.nopost hp).2 } }
  · cases hs

theorem inv_reachable {cfg : Config} {s : State} (h : Reachable cfg s) : Inv cfg s := by
  induction h with
  | init => exact inv_init cfg
  | step _ hs ih =>
    unfold step at hs
    split at hs
    · exact inv_src ih hs
    · exact inv_wrk ih hs
    · exact inv_uns ih hs
    · cases hs

section
variable {v : Wv} {l : Bool} {p : WPc} (h : KAss v.c v.delivered v.consumed v.wcur l p.k)
include h

theorem KAss.always (hx : XAss v p) : (v.c.claimed = true → v.c.ended ∨ p.claiming = true) ∧
    (v.lateAttach = true → v.consumed = [] ∧ v.delivered = [] ∧ p ≠ .src) := by
  cases p <;> simp only [WPc.k, KAss, XAss] at h hx <;> grind [WPc.claiming]

theorem KAss.claiming (hp : p.claiming = true) :
    v.c.sNext = false ∧ v.c.claimed = true ∧ v.wcur.isTerminal = true := by
  cases p <;> first | (cases hp; done) | (simp only [WPc.k, KAss] at h; grind)

theorem KAss.inFin (hp : p.inFin = true) : v.c.sNext = false ∧ v.c.ended := by
  cases p <;> first | (cases hp; done) | exact ⟨h.2.1, h.2.2.1⟩

theorem KAss.pre (hp : p.pre = true) :
    v.delivered <+: v.consumed ∧ (v.c.sNext = true → v.delivered ++ [v.wcur] = v.consumed) := by
  cases p <;> first | (cases hp; done) | exact h.1

theorem KAss.com (hp : p.com = true) :
    v.delivered ++ [v.wcur] = v.consumed ∧ l = false := by
  cases p <;> first | (cases hp; done) | exact ⟨h.1, h.2.1⟩

theorem KAss.oth (hp : p.pre = false) (hc : p.com = false) :
    v.delivered <+: v.consumed ∧ (v.c.sNext = true → v.delivered = v.consumed) := by
  cases p <;> first | (cases hp; done) | (cases hc; done) |
    (simp only [WPc.k, KAss] at h; grind)

theorem KAss.idle (hx : XAss v p) (hp : p.idle = true) :
    (Dlv0 v.c.sNext v.delivered v.consumed ∧ (v.c.claimed = true → v.c.ended)) ∧ v.idle := by
  cases p <;> first | (cases hp; done) | exact ⟨h, hx⟩ | exact ⟨h, hx.1⟩

end

/-- as `Handoff.InvSa`; the source's own terminal steps are the worker's here -/
structure InvSa (s : State) : Prop where
  slots : s.sNext = true → s.sErr = true ∧ s.sCompl = true
  wclaim : s.wpc.claiming = true → s.sNext = false
  wterm : (s.wpc.claiming = true ∨ s.wpc = .claim ∨ s.wpc = .remove ∨ s.wpc = .uClrOther ∨ s.wpc = .uTakeOwn) →
    s.wcur.isTerminal = true
  ubegan : s.unsubBegan = (s.upc.began || s.unsubReturned)
  uret : s.unsubReturned = true → s.upc = .done
  uc1 : s.upc.began = true → s.sNext = false
  uc2 : (s.upc.began = true ∧ s.upc ≠ .c1) → s.sErr = false
  uc3 : (s.upc.began = true ∧ s.upc ≠ .c1 ∧ s.upc ≠ .c2) → s.sCompl = false
  wfin : s.wpc.inFin = true → s.sNext = false
  onfin : s.onFin = false → s.abort = true
  claimed : s.claimed = true → s.sNext = false
  fresh : (s.unsubBegan = false ∧ s.claimed = false) → s.sNext = true
  own1 : (s.unsubBegan = false ∧ s.wpc = .clrOther) → s.sErr = true ∧ s.sCompl = true
  own2 : (s.unsubBegan = false ∧ s.wpc = .takeOwn) → s.ownS s.wcur = true

/-- what the annotation says of the ghost flags, in terms of the model's state alone: why the subscription ended and
the scheduler was stopped, no nested `finalize`, nothing delivered late (read off by `Inv.invSb`) -/
structure InvSb (s : State) : Prop where
  first : s.claimed = true → s.termReturned = true ∨ s.unsubBegan = true ∨ s.wpc.claiming = true
  finwhy : s.wpc.inFin = true → s.termReturned = true ∨ s.unsubBegan = true
  abortwhy : s.abort = true → s.termReturned = true ∨ s.unsubBegan = true
  tstart : s.termStarted = true → s.claimed = true
  tret : s.termReturned = true → s.termStarted = true
  ustop : (s.upc.stopped = true ∨ s.unsubReturned = true) → s.abort = true
  wdone : s.wpc = .done → s.abort = true
  nonest : s.wpc ≠ .fin .nested ∧ s.upc ≠ .fin .nested
  wclaimed : s.wpc.claiming = true → s.claimed = true
  wincbt : s.wpc = .inCbT → s.termStarted = true
  ubn : s.unsubBegan = true → s.sNext = false
  udone : s.unsubReturned = true → s.sErr = false ∧ s.sCompl = false
  late1 : s.curLate = true → s.unsubReturned = true
  late2 : (s.curLate = true ∧ (s.wpc = .cbN ∨ s.wpc = .cbT ∨ s.wpc = .clrOther ∨ s.wpc = .takeOwn)) → False
  late3 : s.lateCb = false

def InvS (s : State) : Prop := InvSa s ∧ InvSb s

theorem Inv.invSa {cfg : Config} {s : State} (h : Inv cfg s) : InvSa s where
  slots := h.sub.flags.slots
  wclaim hp := (KAss.claiming (v := s.wv) h.sub.wrk hp).1
  wterm hp := by
    rcases hp with hp | hp | hp | hp | hp
    · exact (KAss.claiming (v := s.wv) h.sub.wrk hp).2.2
    · exact (hp ▸ h.sub.wrk : KAss _ _ _ _ _ .claim).2.2
    · exact (hp ▸ h.sub.wrk : KAss _ _ _ _ _ .remove).2.2
    · exact (hp ▸ h.own : XAss _ .uClrOther).2.1
    · exact (hp ▸ h.own : XAss _ .uTakeOwn).2.1
  ubegan := h.sub.uns.began
  uret hr := (h.sub.uns.returned hr).1
  uc1 hp := h.sub.flags.ubn (by rw [h.sub.uns.began, hp]; rfl)
  uc2 hp := (h.sub.uns.cleared hp.1).1 hp.2
  uc3 hp := (h.sub.uns.cleared hp.1).2 hp.2.1 hp.2.2
  wfin hp := (KAss.inFin (v := s.wv) h.sub.wrk hp).1
  onfin := h.sub.flags.onfin
  claimed := h.sub.flags.claimed
  fresh hp := h.sub.flags.fresh hp.1 hp.2
  own1 hp := (hp.2 ▸ h.sub.wrk : KAss _ _ _ _ _ .clrOther).2.2.2.2.2 hp.1
  own2 hp := by
    have := (hp.2 ▸ h.sub.wrk : KAss _ _ _ _ _ .takeOwn).2.2.2.2.2 hp.1
    exact this

theorem Inv.invSb {cfg : Config} {s : State} (h : Inv cfg s) : InvSb s where
  first hc := or_assoc.1 ((KAss.always (v := s.wv) h.sub.wrk h.own).1 hc)
  finwhy hp := (KAss.inFin (v := s.wv) h.sub.wrk hp).2
  abortwhy := h.sub.flags.abortwhy
  tstart := h.sub.flags.tstart
  tret := h.sub.flags.tret
  ustop hp := hp.elim h.sub.uns.stopped fun hr => (h.sub.uns.returned hr).2.2.1
  wdone hp := (hp ▸ h.own : XAss _ .done).2
  nonest := ⟨fun hp => (hp ▸ h.sub.wrk : KAss _ _ _ _ _ (.fin .nested)).2.2.2 rfl, h.sub.uns.nonest⟩
  wclaimed hp := (KAss.claiming (v := s.wv) h.sub.wrk hp).2.1
  wincbt hp := (hp ▸ h.sub.wrk : KAss _ _ _ _ _ .inCbT).2.2.2.2
  ubn := h.sub.flags.ubn
  udone hr := (h.sub.uns.returned hr).2.2.2
  late1 := h.sub.late
  late2 := by
    rintro ⟨hc, hp | hp | hp | hp⟩ <;> have := (KAss.com (v := s.wv) h.sub.wrk (by rw [hp]; rfl)).2 <;> simp_all
  late3 := h.sub.flags.late

/-- delivered ≤ consumed ≤ script (prefix order) -/
structure InvP (cfg : Config) (s : State) : Prop where
  script : cfg.script = s.consumed ++ s.todo
  wpre : s.wpc.pre = true → s.delivered <+: s.consumed ∧ (s.sNext = true → s.delivered ++ [s.wcur] = s.consumed)
  wcom : s.wpc.com = true → s.delivered ++ [s.wcur] = s.consumed
  woth : (s.wpc.pre = false ∧ s.wpc.com = false) →
    s.delivered <+: s.consumed ∧ (s.sNext = true → s.delivered = s.consumed)

theorem Inv.invP {cfg : Config} {s : State} (h : Inv cfg s) : InvP cfg s where
  script := h.glob.script
  wpre := KAss.pre (v := s.wv) h.sub.wrk
  wcom hp := (KAss.com (v := s.wv) h.sub.wrk hp).1
  woth hp := KAss.oth (v := s.wv) h.sub.wrk hp.1 hp.2

theorem invS_reachable {cfg : Config} {s : State} (h : Reachable cfg s) : InvS s :=
  ⟨(inv_reachable h).invSa, (inv_reachable h).invSb⟩

theorem invP_reachable {cfg : Config} {s : State} (h : Reachable cfg s) : InvP cfg s := (inv_reachable h).invP

/-- the source is driven by the worker only: a step of thread 0 (the subscribing thread) or of the unsubscriber
never starts an emission and never delivers -/
theorem emissions_only_on_worker {s s' : State} {k : Kind} (hs : srcStep s k = some s' ∨ unsStep s k = some s') :
    s'.todo = s.todo ∧ s'.consumed = s.consumed ∧ s'.delivered = s.delivered ∧ cbStarts s'.log = cbStarts s.log := by
  rcases hs with hs | hs
  · unfold srcStep at hs
    split at hs
    · injection hs with hs
      subst hs
      exact ⟨rfl, rfl, rfl, rfl⟩
    · cases hs
  · unfold unsStep finU finEnabled finEffect finNext at hs
    dsimp only at hs
    repeat' (split at hs)
    all_goals (first | (injection hs with hs; subst hs; exact ⟨rfl, rfl, rfl, rfl⟩) | cases hs)

/-- **C09 / subscribe_on, safety.**  In every reachable state: the delivered events are a prefix of the source's
script; every callback start/return is performed by the worker thread, which is not the subscribing thread (the
only thing thread 0 does is `post`); callbacks never overlap. -/
theorem subscribe_on_runs_on_worker {cfg : Config} {s : State} (h : Reachable cfg s) :
    cbStarts s.log <+: cfg.script ∧
    (∀ t e, ((t, LEv.cbStart e) ∈ s.log ∨ (t, LEv.cbReturn e) ∈ s.log) → t = workerT ∧ t ≠ srcT) ∧
    (∀ t e, (t, LEv.post e) ∈ s.log → t = srcT) ∧
    openCbs s.log ≤ 1 := by
  have hi := inv_reachable h
  refine ⟨?_, hi.sub.on_worker⟩
  rw [← hi.sub.log.dlog, hi.glob.script]
  exact hi.sub.dlv.trans (List.prefix_append _ _)

/-- `subscribe_on_exact` for any script in which only the last event may be terminal -/
theorem subscribe_on_exact_wf {cfg : Config} {s : State} (hw : wf cfg.script = true)
    (h : Reachable cfg s) (hu : s.unsubEarly = false) (hd : s.taskDone = true) :
    cbStarts s.log = cfg.script := by
  have hi := inv_reachable h
  by_cases hts : s.termStarted = true
  · exact prefix_wf_term (subscribe_on_runs_on_worker h).1 hw (hi.sub.log.dlog ▸ hi.sub.log.tdeliv hts)
  · obtain ⟨hub, -, hcs⟩ := hi.sub.flags.quiet (Bool.eq_false_iff.2 hts) hu
    have hp : s.wpc.idle = true := by
      cases hp : s.wpc.idle
      · exact absurd ((hi.run hp).2.2.symm.trans hd) (by decide)
      · rfl
    obtain ⟨⟨⟨-, hd0⟩, hF⟩, -, hdone, -⟩ := KAss.idle (v := s.wv) hi.sub.wrk hi.own hp
    have htodo : s.todo = [] :=
      (hdone hd).resolve_right fun hk => absurd ((hi.glob.skipub hk).symm.trans hub) (by decide)
    have e3 : s.delivered = s.consumed := hd0 (hcs hF).2
    rw [← hi.sub.log.dlog, hi.glob.script, htodo]
    show s.delivered = _
    rw [e3]
    simp

/-- **C09 / subscribe_on, nothing lost.**  Well-formed script; no unsubscribe began before a terminal callback had
started (in particular: no unsubscriber).  Once the subscription task has returned on the worker, the delivered
events are exactly the script. -/
theorem subscribe_on_exact {sc : Script} {cfg : Config} {s : State} (hsc : cfg.script = sc.events)
    (h : Reachable cfg s) (hu : s.unsubEarly = false) (hd : s.taskDone = true) :
    cbStarts s.log = cfg.script :=
  subscribe_on_exact_wf (hsc ▸ wf_events sc) h hu hd

theorem subscribe_on_exact_no_unsub {sc : Script} {cfg : Config} {s : State} (hsc : cfg.script = sc.events)
    (hu : cfg.hasUnsub = false) (h : Reachable cfg s) (hd : s.taskDone = true) :
    cbStarts s.log = sc.events :=
  hsc ▸ subscribe_on_exact hsc h ((inv_reachable h).sub.uns.nounsub hu).2.2.1 hd

/-- `stop` only after a terminal callback returned or after the unsubscriber cleared `fn_next` -/
theorem subscribe_on_abort_only_after_end {cfg : Config} {s : State} (h : Reachable cfg s) :
    (∀ t, (t, LEv.stop) ∈ s.log → s.abort = true) ∧
    (s.abort = true → (s.termReturned = true ∨ s.unsubBegan = true) ∧ s.sNext = false) :=
  (inv_reachable h).sub.abort_after_end

theorem take_stopped {s : State} (ha : s.abort = true) : step s ⟨workerT, .take⟩ = none := by
  show wrkStep s .take = none
  unfold wrkStep
  split <;> first | contradiction | rfl | exact if_pos ha

/-- no callback starts for an event whose emission the source started after `unsubscribe()` had returned; after
the return `abort` is set, the subscriber's slots are empty and the (not yet taken) subscription task is never taken -/
theorem subscribe_on_after_unsub_nothing {cfg : Config} {s : State} (h : Reachable cfg s) :
    s.lateCb = false ∧
    (s.unsubReturned = true →
      s.abort = true ∧ s.sNext = false ∧ s.sErr = false ∧ s.sCompl = false ∧
      step s ⟨workerT, .take⟩ = none) := by
  have hu := (inv_reachable h).sub.after_unsub
  exact ⟨hu.1, fun hr => ⟨(hu.2 hr).1, (hu.2 hr).2.1, (hu.2 hr).2.2.1, (hu.2 hr).2.2.2, take_stopped (hu.2 hr).1⟩⟩

theorem subscribe_on_finalize_never_nested {cfg : Config} {s : State} (h : Reachable cfg s) :
    s.wpc ≠ .fin .nested ∧ s.upc ≠ .fin .nested :=
  (inv_reachable h).invSb.nonest

/-- **C09 / subscribe_on, late attach (stream_controller.rs 81-94).**  If the unsubscriber had already cleared the
subscriber's `fn_next` (in particular: if `unsubscribe()` had already returned) when the subscription task registered
the upstream in `new_observer`, the source is never started: nothing is ever consumed from the script, nothing is
delivered, and the worker never stands inside the source.  (`new_observer`'s re-check of the subscriber is what makes this
true: without it `finalize` has already walked the table, the fresh observer would stay subscribed and a synchronous
source would run to its end on the worker.) -/
theorem subscribe_on_late_attach_never_starts {cfg : Config} {s : State} (h : Reachable cfg s)
    (hl : s.lateAttach = true) :
    s.consumed = [] ∧ s.delivered = [] ∧ cbStarts s.log = [] ∧ s.wpc ≠ .src := by
  have hi := inv_reachable h
  obtain ⟨hc, hd, hp⟩ := (KAss.always (v := s.wv) hi.sub.wrk hi.own).2 hl
  exact ⟨hc, hd, hi.sub.log.dlog ▸ hd, hp⟩

/-- the registration step of the task (`.newObs`) sets `lateAttach` to `unsubBegan`; so once `unsubscribe()` has returned
(which it cannot without having begun, `InvSa.ubegan`) the task can only go the late way -/
theorem late_attach_of_unsub_returned {s s' : State} (hS : InvS s) (hr : s.unsubReturned = true)
    (hs : wrkStep s .task = some s') (hw : s.wpc = .newObs) : s'.lateAttach = true := by
  have hb : s.unsubBegan = true := by rw [hS.1.ubegan, hr]; simp
  simp only [wrkStep, hw] at hs
  simp only [Option.some.injEq] at hs
  subst hs
  exact hb

def exCfg : Config := { script := (Script.mk [.int 1] (.error 3)).events, hasUnsub := false }

def exRun : List Label := mk
  [(0, .post), (1, .take), (1, .task), (1, .chk), (1, .chk), (1, .chk), (1, .chk), (1, .chk), (1, .chk),
   (1, .emit), (1, .chk), (1, .chk), (1, .chk), (1, .fetch), (1, .cbStart), (1, .cbReturn),
   (1, .emit), (1, .clrOther), (1, .takeOwn), (1, .chk), (1, .chk), (1, .chk), (1, .claim), (1, .clrOther),
   (1, .takeOwn), (1, .cbStart), (1, .cbReturn), (1, .fIter), (1, .fUp), (1, .fUp), (1, .fUp), (1, .fClear),
   (1, .fChk), (1, .fLock), (1, .fStop), (1, .fUnlock), (1, .task), (1, .exit)]

def exState : State := (replay exCfg exRun).getD default

example : Reachable exCfg exState ∧ exState.taskDone = true ∧ exState.unsubEarly = false ∧
    cbStarts exState.log = [.next (.int 1), .error 3] ∧ exState.wpc = .done :=
  ⟨reachable_of_replay (ls := exRun) rfl, by decide⟩

/-- unsubscribe before the worker takes the subscription task: the source is never subscribed -/
def exCfg2 : Config := { script := (Script.mk [.int 1] .complete).events, hasUnsub := true }
def exRun2 : List Label := mk
  [(0, .post), (2, .unsubCall), (2, .clr), (2, .clr), (2, .clr), (2, .onUnsub), (2, .fIter), (2, .fClear), (2, .fChk),
   (2, .fLock), (2, .fStop), (2, .fUnlock), (2, .unsubRet), (1, .exit)]
def exState2 : State := (replay exCfg2 exRun2).getD default
example : Reachable exCfg2 exState2 ∧ exState2.unsubReturned = true ∧ exState2.queued = false ∧
    exState2.consumed = [] ∧ exState2.wpc = .done :=
  ⟨reachable_of_replay (ls := exRun2) rfl, by decide⟩

/-- witness: the unsubscriber clears `fn_next` between the worker's `take` and `new_observer`; the re-check fails, the
entry is removed, the fresh observer is unsubscribed, `inner_subscribe` skips the source -/
def exCfg3 : Config := { script := (Script.mk [.int 1] .complete).events, hasUnsub := true }
def exRun3 : List Label := mk
  [(0, .post), (1, .take), (2, .unsubCall), (2, .clr), (1, .task), (1, .chk), (1, .remove), (1, .fUp), (1, .fUp),
   (1, .fUp), (1, .chk), (2, .clr), (2, .clr), (2, .onUnsub), (2, .fIter), (2, .fClear), (2, .fChk), (2, .fLock),
   (2, .fStop), (2, .fUnlock), (2, .unsubRet), (1, .exit)]
def exState3 : State := (replay exCfg3 exRun3).getD default
example : Reachable exCfg3 exState3 ∧ exState3.lateAttach = true ∧ exState3.skipped = true ∧
    exState3.consumed = [] ∧ exState3.taskDone = true ∧ exState3.wpc = .done ∧ exState3.unsubReturned = true :=
  ⟨reachable_of_replay (ls := exRun3) rfl, by decide⟩

end Rx.Handoff.SubOn

#print axioms Rx.Handoff.observe_on_prefix
#print axioms Rx.Handoff.cb_start_when_none_open
#print axioms Rx.Handoff.observe_on_exact
#print axioms Rx.Handoff.observe_on_exact_no_unsub
#print axioms Rx.Handoff.abort_only_after_end
#print axioms Rx.Handoff.after_unsub_nothing
#print axioms Rx.Handoff.finalize_never_nested
#print axioms Rx.Handoff.stop_before_all_slots_cleared
#print axioms Rx.Handoff.observe_on_twice_prefix
#print axioms Rx.Handoff.observe_on_twice_exact
#print axioms Rx.Handoff.SubOn.emissions_only_on_worker
#print axioms Rx.Handoff.SubOn.subscribe_on_runs_on_worker
#print axioms Rx.Handoff.SubOn.subscribe_on_exact
#print axioms Rx.Handoff.SubOn.subscribe_on_exact_no_unsub
#print axioms Rx.Handoff.SubOn.subscribe_on_abort_only_after_end
#print axioms Rx.Handoff.SubOn.subscribe_on_after_unsub_nothing
#print axioms Rx.Handoff.SubOn.subscribe_on_finalize_never_nested
#print axioms Rx.Handoff.SubOn.subscribe_on_late_attach_never_starts
#print axioms Rx.Handoff.SubOn.late_attach_of_unsub_returned
