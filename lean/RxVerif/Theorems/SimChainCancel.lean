import RxVerif.Theorems.SimChainStage
/-
SIM for chains (pure side): the cancellation cascade (C06 for chains).  For kernels that abort first
(`Kernel.AbortsFirst`, true of every kernel of Kernel/Basic.lean) the flat chain machine keeps, between
source events:   observer `j` dead  ⟹  observer `j+1` dead   (all the way up to the source's observer: `chainFlat_cascade`).

Invariant (stage `j < n`), read upwards: while observer `j+1` is alive, stage `j` has not let go of it — its
serial is still registered, the teardown of observer `j` has not been taken, and observer `j` is alive.
The last part is broken only between a terminal delivered into observer `j` and the `finalize` that follows;
the indices where that is so are collected in `B`.
-/
namespace Rx.Chain
open Rx.Sim

/-- stage `j` holds on to its upstream observer as long as that is alive; `B`: where observer `j` may be dead -/
def Ok (B : Nat → Prop) (j : Nat) (x : CSt) : Prop :=
  x.sub (j + 1) = true → x.rg j = true ∧ x.ar j = true ∧ (x.sub j = true ∨ B j)

def HB (n : Nat) (B : Nat → Prop) (x : CSt) : Prop := ∀ j, j < n → Ok B j x

def HBup (n : Nat) (B : Nat → Prop) (k : Nat) (x : CSt) : Prop := ∀ j, k ≤ j → j < n → Ok B j x

theorem Ok.dead {B : Nat → Prop} {j : Nat} {x : CSt} (h : x.sub (j + 1) = false) : Ok B j x :=
  fun e => by rw [h] at e; cases e

theorem Ok.dead_of_rg {B : Nat → Prop} {j : Nat} {x : CSt} (g : Ok B j x) (hr : x.rg j = false) :
    x.sub (j + 1) = false := by
  cases hs : x.sub (j + 1)
  · rfl
  · rw [(g hs).1] at hr; cases hr

theorem Ok.dead_of_ar {B : Nat → Prop} {j : Nat} {x : CSt} (g : Ok B j x) (ha : x.ar j = false) :
    x.sub (j + 1) = false := by
  cases hs : x.sub (j + 1)
  · rfl
  · rw [(g hs).2.1] at ha; cases ha

theorem HB.weaken {n : Nat} {B B' : Nat → Prop} {x : CSt} (h : HB n B x) (hb : ∀ j, B j → B' j) : HB n B' x :=
  fun j hj e => ⟨(h j hj e).1, (h j hj e).2.1, (h j hj e).2.2.imp id (hb j)⟩

def SameAbove (j : Nat) (y x : CSt) : Prop :=
  ∀ a, j < a → y.sub a = x.sub a ∧ y.ar a = x.ar a ∧ y.rg a = x.rg a

theorem SameAbove.ok {B : Nat → Prop} {j k : Nat} {y x : CSt} (h : SameAbove j y x) (hk : j < k)
    (g : Ok B k x) : Ok B k y := by
  unfold Ok; rw [(h k hk).1, (h k hk).2.1, (h k hk).2.2, (h (k + 1) (by omega)).1]; exact g

theorem clear_above (j : Nat) (x : CSt) : SameAbove j (x.clear j) x := by
  intro a ha; have : a ≠ j := by omega
  simp [this]

theorem unreg_above (j : Nat) (x : CSt) : SameAbove j (x.unreg j) x := by
  intro a ha; have : a ≠ j := by omega
  simp [this]

theorem finTail_above (j : Nat) (y : CSt) : SameAbove j (finTail j y) y := by
  intro a ha; have : a ≠ j := by omega
  unfold finTail; split <;> simp [this]

theorem Ok.below {B : Nat → Prop} {i k : Nat} {y x : CSt} (hk : LoEqM i y x)
    (hm : x.sub i = false → y.sub i = false) (hki : k < i) (g : Ok B k x) : Ok B k y := by
  intro e
  have hx : x.sub (k + 1) = true := by
    rcases Nat.lt_or_ge (k + 1) i with hlt | hge
    · rw [← hk.sub _ hlt]; exact e
    · have : k + 1 = i := by omega
      cases hx : x.sub (k + 1)
      · rw [this] at hx e; rw [hm hx] at e; cases e
      · rfl
  rw [hk.rg k hki, hk.ar k hki, hk.sub k hki]; exact g hx

theorem HB.parts {n i : Nat} {B : Nat → Prop} {x y : CSt} (h : HB n B x) (hk : LoEqM i y x)
    (hm : x.sub i = false → y.sub i = false) (hd : y.sub (i + 1) = false) (hup : HBup n B (i + 1) y) :
    HB n B y := by
  intro k hkn
  rcases Nat.lt_trichotomy k i with hlt | heq | hgt
  · exact (h k hkn).below hk hm hlt
  · subst heq; exact Ok.dead hd
  · exact hup k hgt hkn

section cascade
variable {n : Nat} {B : Nat → Prop}

theorem finF_ok {j : Nat} {up : CSt → CSt} (hup : ∀ x, HBup n B (j + 1) x → HBup n B (j + 1) (up x))
    (hd : ∀ x, (up x).sub (j + 1) = false) {x : CSt} (h : HBup n B (j + 1) x)
    (hj : x.rg j = false → x.sub (j + 1) = false) :
    (finF up j x).sub (j + 1) = false ∧ HBup n B (j + 1) (finF up j x) := by
  rw [finF_tail]
  have hmid : (if x.rg j then up x else x).sub (j + 1) = false ∧ HBup n B (j + 1) (if x.rg j then up x else x) := by
    cases hr : x.rg j
    · exact ⟨hj hr, h⟩
    · exact ⟨hd x, hup x h⟩
  have ha := finTail_above j (if x.rg j then up x else x)
  exact ⟨(ha (j + 1) (Nat.lt_succ_self _)).1.trans hmid.1, fun k hk hkn => ha.ok hk (hmid.2 k hk hkn)⟩

theorem unsubO_ok : ∀ (f j : Nat) (x : CSt), j + f = n → HBup n B j x → HBup n B j (unsubO f j x) := by
  intro f
  induction f with
  | zero => intro j x hj _ k hk hkn; omega
  | succ f ih =>
    intro j x hj h
    have hx := h j (Nat.le_refl _) (by omega)
    have h1 : HBup n B (j + 1) (x.clear j) := fun k hk hkn => (clear_above j x).ok hk (h k (by omega) hkn)
    have hc : (x.clear j).sub (j + 1) = x.sub (j + 1) := ((clear_above j x) (j + 1) (Nat.lt_succ_self _)).1
    have hd : (unsubO (f + 1) j x).sub (j + 1) = false ∧ HBup n B (j + 1) (unsubO (f + 1) j x) := by
      simp only [unsubO]
      cases har : x.ar j with
      | true =>
        exact finF_ok (fun x hx => ih (j + 1) x (by omega) hx) (unsubO_sub_self f (j + 1)) h1
          fun hr => hc.trans (hx.dead_of_rg hr)
      | false => exact ⟨hc.trans (hx.dead_of_ar har), h1⟩
    intro k hk hkn
    rcases Nat.lt_or_ge j k with hlt | hge
    · exact hd.2 k hlt hkn
    · have : k = j := by omega
      subst this; exact Ok.dead hd.1

/-- `finalize` of stage `i` closes the exception at `i` -/
theorem finC_HB {i : Nat} {x : CSt} (hi : i < n) (h : HB n (fun j => B j ∨ j = i) x) : HB n B (finC n i x) := by
  have hf := finF_ok (up := upO n i) (fun x hx => unsubO_ok _ _ x (by omega) hx) (unsubO_sub_self _ _)
    (fun k _ hkn => h k hkn) (h i hi).dead_of_rg
  have h' := h.parts (finC_keep n i x) ((fr_finC n i x).mono i) hf.1 hf.2
  intro k hk e
  refine ⟨(h' k hk e).1, (h' k hk e).2.1, ?_⟩
  rcases (h' k hk e).2.2 with hs | hb | rfl
  · exact Or.inl hs
  · exact Or.inr hb
  · rw [show (finC n k x).sub (k + 1) = false from hf.1] at e; cases e

end cascade

section stage
variable {n i : Nat} {B : Nat → Prop}

theorem unreg_HB {x : CSt} (h : HB n B x) (hs : x.sub (i + 1) = false) : HB n B (x.unreg i) := by
  intro j hj
  by_cases e : j = i
  · subst e; exact Ok.dead hs
  · intro e1
    have := h j hj e1
    simpa [e] using this

theorem abort_HB {x : CSt} (hi : i < n) (h : HB n B x) :
    HB n B (actC n dn i .abortSelf x) ∧ (actC n dn i .abortSelf x).sub (i + 1) = false := by
  simp only [actC]
  cases hr : x.rg i with
  | true =>
    simp only [↓reduceIte]
    have hd := unsubO_sub_self (n - (i + 1)) (i + 1) (x.unreg i)
    refine ⟨h.parts ((upO_keep n i _).mono.trans (keep_unreg x (Nat.le_refl i)))
      ((fr_unsubO _ _ (x.unreg i)).mono i) hd
      (unsubO_ok _ _ _ (by omega) fun k hk hkn => (unreg_above i x).ok hk (h k hkn)), hd⟩
  | false =>
    exact ⟨unreg_HB h ((h i hi).dead_of_rg hr), (h i hi).dead_of_rg hr⟩

variable {ks : Nat → DK}

/-- a delivery into observer `i` keeps the invariant, except at `i` when it was a terminal -/
def DnHB (n : Nat) (ks : Nat → DK) (i : Nat) : Prop :=
  ∀ ev B x, HB n B x → HB n (fun j => B j ∨ (ev.isTerminal = true ∧ j = i)) (deliver n ks i ev x)

theorem sinkNext_HB (hi : i < n) (hd : DnHB n ks i) (d : Data) {x : CSt} (h : HB n B x) :
    HB n B (sinkNextC n (deliver n ks i) i d x) := by
  simp only [sinkNextC]; split
  · exact (hd (.next d) B x h).weaken fun j hj => hj.elim id fun hj => by cases hj.1
  · exact finC_HB hi (h.weaken fun j hj => Or.inl hj)

theorem emitAll_HB (hi : i < n) (hd : DnHB n ks i) (ds : List Data) : ∀ {x : CSt}, HB n B x →
    HB n B (emitAllC n (deliver n ks i) i ds x) := by
  induction ds with
  | nil => intro x h; exact h
  | cons d ds ih =>
    intro x h
    simp only [emitAllC]; split
    · exact ih (sinkNext_HB hi hd d h)
    · exact h

theorem act_HB (hi : i < n) (hd : DnHB n ks i) (a : Act) {x : CSt} (h : HB n B x)
    (hc : a = .complete → x.sub (i + 1) = false) : HB n B (actC n (deliver n ks i) i a x) := by
  have term : ∀ {ev : Ev} {y : CSt}, HB n (fun j => B j ∨ (ev.isTerminal = true ∧ j = i)) y →
      HB n B (finC n i y) := fun hy => finC_HB hi (hy.weaken fun j hj => hj.imp id And.right)
  have fin : HB n B (finC n i x) := finC_HB hi (h.weaken fun j hj => Or.inl hj)
  cases a with
  | emit d => exact sinkNext_HB hi hd d h
  | emitAll ds => exact emitAll_HB hi hd ds h
  | fail e =>
    simp only [actC]; split
    · exact term (hd (.error e) B x h)
    · exact fin
  | complete =>
    -- `unreg` keeps `HB` only over a dead observer `i+1` (`hc`): this is what `AbortsFirst` is needed for
    simp only [actC]; split
    · exact term (hd .complete B _ (unreg_HB h (hc rfl)))
    · exact fin
  | abortSelf => exact (abort_HB hi h).1
  | finalize => exact fin

theorem okActs_true (as : List Act) : okActs true as = true := by
  induction as with
  | nil => rfl
  | cons a as ih => cases a <;> simp [okActs, ih]

/-- `ab`: observer `i+1` is dead: the stage has called `upstream_abort_observe`, or (`deliver_HB`) handles a terminal -/
theorem acts_HB (hi : i < n) (hd : DnHB n ks i) (as : List Act) :
    ∀ (ab : Bool) {x : CSt}, okActs ab as = true → (ab = true → x.sub (i + 1) = false) → HB n B x →
      HB n B (actsC n (deliver n ks i) i as x) := by
  induction as with
  | nil => intro ab x _ _ h; exact h
  | cons a as ih =>
    intro ab x hok hab h
    obtain ⟨hc, ab', hok', hab'⟩ := okActs_cons hok
    refine ih ab' hok' (fun e => ?_) (act_HB hi hd a h fun e => hab (hc.resolve_left fun ne => ne e))
    rcases hab' e with e | rfl
    · exact (fr_actC (fr_deliver n ks i) a x).mono _ (hab e)
    · exact (abort_HB hi h).2

end stage

/-- every stage's `on_next` aborts before it completes -/
def AFks (ks : Nat → DK) : Prop := ∀ j st x, okActs false ((ks j).onNext st x).2 = true

theorem got_HB {n : Nat} {B : Nat → Prop} {x : CSt} (i : Nat) (ev : Ev) (h : HB n B x) :
    HB n (fun j => B j ∨ (ev.isTerminal = true ∧ j = i)) (got x i ev) := by
  intro j hj e
  have hx : x.sub (j + 1) = true := by
    cases hx : x.sub (j + 1)
    · rw [(fr_got i ev x).mono _ hx] at e; cases e
    · rfl
  refine ⟨(h j hj hx).1, (h j hj hx).2.1, ?_⟩
  rcases (h j hj hx).2.2 with hs | hb
  · by_cases e1 : j = i
    · subst e1
      cases ht : ev.isTerminal
      · left; rw [got_sub_self, ht, hs]; rfl
      · exact Or.inr (Or.inr ⟨rfl, rfl⟩)
    · left; rw [got_sub_ne x ev e1]; exact hs
  · exact Or.inr (Or.inl hb)

theorem deliver_HB (n : Nat) (ks : Nat → DK) (haf : AFks ks) : ∀ i, i ≤ n → DnHB n ks i := by
  intro i
  induction i with
  | zero =>
    intro _ ev B x h
    rw [deliver_zero]; split
    · exact got_HB 0 ev h
    · exact h.weaken fun j hj => Or.inl hj
  | succ i ih =>
    intro hi ev B x h
    rw [deliver_succ]; split
    · have hok : okActs ev.isTerminal ((ks i).handle (x.st i) ev).2 = true := by
        cases ev
        · exact haf i _ _
        · exact okActs_true _
        · exact okActs_true _
      have hg : ev.isTerminal = true → (got x (i + 1) ev).sub (i + 1) = false :=
        fun ht => by rw [got_sub_self, ht]; rfl
      exact acts_HB (x := { got x (i + 1) ev with st := upd x.st i ((ks i).handle (x.st i) ev).1 })
        (by omega) (ih (by omega)) _ _ hok hg (got_HB (i + 1) ev h)
    · exact h.weaken fun j hj => Or.inl hj

-- `· = n` is empty on `HB`'s range `j < n`; it only takes up `DnHB`'s exception at the source's observer `i = n`
theorem pf_HB (n : Nat) (ks : Nat → DK) (haf : AFks ks) (l : List Ev) : ∀ (x : CSt),
    HB n (fun j => j = n) x → HB n (fun j => j = n) (pf n ks n l x) := by
  induction l with
  | nil => intro x h; exact h
  | cons e l ih =>
    intro x h
    rw [pf_cons]
    split
    · exact ih _ ((deliver_HB n ks haf n (Nat.le_refl _) e _ x h).weaken fun j hj => hj.elim id And.right)
    · exact ih _ h

theorem init_HB (n : Nat) (ks : Nat → DK) : HB n (fun j => j = n) (CSt.init n ks) :=
  fun j hj _ => ⟨rfl, by simp [CSt.init, hj], Or.inl rfl⟩

/-- between source events: a dead observer anywhere in the chain means the source's observer is dead -/
theorem dead_up {n : Nat} {x : CSt} (h : HB n (fun j => j = n) x) : ∀ (d j : Nat), j + d = n →
    x.sub j = false → x.sub n = false := by
  intro d
  induction d with
  | zero => intro j hj hs; have : j = n := by omega
            subst this; exact hs
  | succ d ih =>
    intro j hj hs
    refine ih (j + 1) (by omega) ?_
    cases hs1 : x.sub (j + 1)
    · rfl
    · rcases (h j (by omega) hs1).2.2 with h1 | h1
      · rw [hs] at h1; cases h1
      · omega

def AllAF (Ks : List AnyKernel) : Prop := ∀ A ∈ Ks, Kernel.AbortsFirst A.K

theorem afks_of (Ks : List AnyKernel) (h : AllAF Ks) : AFks (ksOf Ks) := by
  intro j st x
  simp only [ksOf]
  split
  · rename_i A hA
    exact h A (List.mem_reverse.mp (List.mem_of_getElem? hA)) _ _
  · rfl

/-- C06 for chains (pure form): in the final state of the flat chain machine, a dead observer anywhere
    in the chain implies that the source's observer is dead -/
theorem chainFlat_cascade (Ks : List AnyKernel) (hA : AllAF Ks) (s : Stream) (j : Nat) (hj : j ≤ Ks.length)
    (hd : (chainFlat Ks s).sub j = false) : (chainFlat Ks s).sub Ks.length = false := by
  have h : HB Ks.length (fun j => j = Ks.length) (chainFlat Ks s) := by
    unfold chainFlat
    rw [scriptC_eq_pf]
    exact pf_HB _ _ (afks_of Ks hA) _ _ (init_HB _ _)
  exact dead_up h (Ks.length - j) j (by omega) hd

/-- a source that delivers its own terminal finds its observer dead afterwards (any kernels) -/
theorem chainFlat_source_terminal (Ks : List AnyKernel) (s : Stream) (hs : s.2 ≠ .silent) :
    (chainFlat Ks s).sub Ks.length = false := by
  unfold chainFlat
  rw [scriptC_eq_pf]
  obtain ⟨xs, e⟩ := s
  have key : ∀ (ev : Ev) (x : CSt), ev.isTerminal = true →
      (pf Ks.length (ksOf Ks) Ks.length [ev] x).sub Ks.length = false := by
    intro ev x ht
    rw [pf_cons, pf_nil]; split
    · exact deliver_terminal _ _ _ _ ht
    · exact Bool.eq_false_iff.2 ‹_›
  cases e with
  | silent => exact absurd rfl hs
  | complete => simp only [Stream.toEvs, Ending.toEvs, pf_append]; exact key _ _ rfl
  | error e => simp only [Stream.toEvs, Ending.toEvs, pf_append]; exact key _ _ rfl

end Rx.Chain
