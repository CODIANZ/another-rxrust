import RxVerif.Theorems.SimChainRep
/-
SIM for chains (machine side): every primitive the StreamController code performs, as a WP rule on `CRep`.
-/
namespace Rx.Chain
open Rx.Sim Rx.Ref

section prims
variable {ly : Lay} {m : Nat} {x : CSt} {H : List (LockId × Bool)} {w : World} {Q : World → Prop}

theorem obsAt_isSub (x : CSt) (j : Nat) : (ly.obsAt x j).isSub = x.sub j := by
  unfold Lay.obsAt; cases x.sub j <;> rfl

theorem CRep.isSub {j : Nat} (h : CRep ly m x H w) (hj : j ≤ m) :
    (w.obs[ly.L + j]?).map Obs.isSub = some (x.sub j) := by
  rw [h.obs j hj, Option.map_some, obsAt_isSub]

theorem obsAt_next_none {x : CSt} {j : Nat} (h : x.sub j = false) : (ly.obsAt x j).next = none := by
  simp [Lay.obsAt, h]

theorem c_isSub {j : Nat} {k : Bool → Prog} (h : CRep ly m x H w) (hj : j ≤ m)
    (hk : WP (k (x.sub j)) w Q) : WP (.obsIsSub (ly.L + j) k) w Q :=
  wp_obsIsSub (h.obs j hj) (by rwa [obsAt_isSub])

theorem c_ev_dead {j : Nat} {ev : Ev} {k : Prog} (h : CRep ly m x H w) (hj : j ≤ m)
    (hs : x.sub j = false) (hk : WP k w Q) : WP (evProg ev (ly.L + j) k) w Q :=
  wp_ev_dead (h.obs j hj) (obsAt_next_none hs) hk

/-- the subscriber records an event (trace only) -/
theorem CRep.emitEv (h : CRep ly m x H w) (ev : Ev) :
    CRep ly m { x with out := x.out ++ [ev] } H (w.emit (.ev ly.sU ev)) :=
  { h with
    log := by rw [logOf_emit_same, h.log]
    others := fun s' hs => by rw [logOf_emit_other _ _ _ _ (Ne.symm hs)]; exact h.others s' hs }

/-- clearing the three callbacks of observer `j` -/
theorem CRep.clearObs (h : CRep ly m x H w) (j : Nat) :
    CRep ly m { x with sub := upd x.sub j false } H (w.setObs (ly.L + j) Obs.cleared) := by
  refine h.setObs j _ (upd x.sub j false) x.ar ?_ ?_ h.arTop
  · simp only [Lay.obsAt, Lay.td, upd_same]
    cases x.sub j <;> rfl
  · intro k hk
    simp only [Lay.obsAt, Lay.td, upd_other _ _ hk]

theorem obsAt_live {x : CSt} {j : Nat} (h : x.sub j = true) :
    ly.obsAt x j = ⟨some (ly.hdlN j), some (ly.hdlE j), some (ly.hdlC j), ly.td x j⟩ := by
  simp [Lay.obsAt, h]

/-- what a delivery does to observer `j`'s callbacks -/
theorem CRep.got (h : CRep ly m x H w) {j : Nat} (ev : Ev) :
    CRep ly m (got x j ev) H (if ev.isTerminal then w.setObs (ly.L + j) Obs.cleared else w) := by
  unfold Chain.got
  cases ev.isTerminal
  · exact h
  · exact h.clearObs j

theorem c_ev0 {ev : Ev} {k : Prog} (h : CRep ly m x H w) (hs : x.sub 0 = true)
    (hk : ∀ w', CRep ly m { got x 0 ev with out := x.out ++ [ev] } H w' → WP k w' Q) :
    WP (evProg ev (ly.L + 0) k) w Q := by
  obtain ⟨u, hu, hre⟩ := h.user
  refine wp_ev_user ((h.obs 0 (Nat.zero_le _)).trans (congrArg _ (obsAt_live hs))) rfl rfl rfl hu hre (hk _ ?_)
  unfold World.deliverTo Chain.got
  cases ev.isTerminal
  · exact h.emitEv ev
  · exact (h.clearObs 0).emitEv ev

theorem c_evS {j : Nat} {ev : Ev} {k : Prog} (h : CRep ly m x H w) (hj : j + 1 ≤ m)
    (hs : x.sub (j + 1) = true)
    (hk : ∀ w', CRep ly m (got x (j + 1) ev) H w' →
      WP (codeBody ev (ly.hn j) (ly.he j) (ly.hc j)) w' fun w1 => WP k w1 Q) :
    WP (evProg ev (ly.L + (j + 1)) k) w Q :=
  wp_ev_code ((h.obs (j + 1) hj).trans (congrArg _ (obsAt_live hs))) rfl rfl rfl (hk _ (h.got ev))

theorem obsAt_onUnsub (x : CSt) (j : Nat) : (ly.obsAt x j).onUnsub = ly.td x j := by
  unfold Lay.obsAt; cases x.sub j <;> rfl

theorem CRep.unsubObs (h : CRep ly m x H w) (j : Nat) :
    CRep ly m (x.clear j) H (w.setObs (ly.L + j) fun o => { o.cleared with onUnsub := none }) := by
  refine h.setObs j _ (upd x.sub j false) (upd x.ar j false) ?_ ?_ ?_
  · simp only [Lay.obsAt, Lay.td, upd_same]
    cases x.sub j <;> rfl
  · intro k hk
    simp only [Lay.obsAt, Lay.td, upd_other _ _ hk]
  · rw [upd_apply]; split
    · rfl
    · exact h.arTop

/-- `unsubscribe`: slots cleared, the teardown (if still there) is taken and run -/
theorem c_unsub {j : Nat} {k : Prog} (h : CRep ly m x H w) (hj : j ≤ m)
    (hk : ∀ w', CRep ly m (x.clear j) H w' →
      if x.ar j then WP (ly.sc j).finalize w' (fun w1 => WP k w1 Q) else WP k w' Q) :
    WP (.obsUnsub (ly.L + j) k) w Q := by
  have hk' := hk _ (h.unsubObs j)
  have ht := obsAt_onUnsub (ly := ly) x j
  cases har : x.ar j <;> simp only [Lay.td, har, Bool.false_eq_true, ↓reduceIte] at hk' ht
  · exact wp_obsUnsub_none (h.obs j hj) ht hk'
  · exact wp_obsUnsub_some (h.obs j hj) ht hk'

def NoConf (H : List (LockId × Bool)) (l : LockId) (wr : Bool) : Prop :=
  (H.any fun (l', w') => l' == l && (wr || w')) = false

theorem CRep.conflicts {l : LockId} {wr : Bool} (h : CRep ly m x H w) (hc : NoConf H l wr) :
    w.conflicts l wr = false := by
  simp only [World.conflicts, h.held]; exact hc

/-- `g`: the access goes through a guard the caller already holds -/
theorem CRep.guarded {c : Nat} {g wr : Bool} (h : CRep ly m x H w) (hg : g = true ∨ NoConf H (.cell c) wr) :
    (!g && w.conflicts (.cell c) wr) = false := by
  rcases hg with rfl | hg
  · rfl
  · rw [h.conflicts hg]; exact Bool.and_false _

theorem c_cellRead {c : Nat} {d : Data} {g : Bool} {k : Data → Prog} (h : CRep ly m x H w)
    (hd : w.cells[c]? = some d) (hg : g = true ∨ NoConf H (.cell c) false) (hk : WP (k d) w Q) :
    WP (.cellRead c g k) w Q :=
  wp_cellRead' (h.guarded hg) (by rwa [hd])

theorem c_cellWrite {c : Nat} {d : Data} {g : Bool} {k : Prog} (h : CRep ly m x H w)
    (hg : g = true ∨ NoConf H (.cell c) true) (hk : WP k { w with cells := w.cells.set c d } Q) :
    WP (.cellWrite c g d k) w Q :=
  wp_cellWrite' (h.guarded hg) hk

theorem CRep.setMap {j : Nat} (h : CRep ly m x H w) (rg' : Bool) :
    CRep ly m { x with rg := upd x.rg j rg' } H
      { w with cells := w.cells.set (ly.c0 + 3 * j + 1) (ly.mapD j rg') } :=
  { h with
    map := fun k hk => by
      show (w.cells.set _ _)[_]? = some (ly.mapD k (upd x.rg j rg' k))
      by_cases e : k = j
      · subst e; rw [List.getElem?_set_self (lt_of_getElem? (h.map k hk)), upd_same]
      · rw [List.getElem?_set_ne (by omega), upd_other _ _ e]; exact h.map k hk
    cst := fun k hk => by
      show (w.cells.set _ _)[_]? = _
      rw [List.getElem?_set_ne (by omega)]; exact h.cst k hk }

theorem CRep.setSt {j : Nat} (h : CRep ly m x H w) (d : Data) :
    CRep ly m { x with st := upd x.st j d } H { w with cells := w.cells.set (ly.c0 + 3 * j + 2) d } :=
  { h with
    map := fun k hk => by
      show (w.cells.set _ _)[_]? = _
      rw [List.getElem?_set_ne (by omega)]; exact h.map k hk
    cst := fun k hk => by
      show (w.cells.set _ _)[_]? = some (upd x.st j d k)
      by_cases e : k = j
      · subst e; rw [List.getElem?_set_self (lt_of_getElem? (h.cst k hk)), upd_same]
      · rw [List.getElem?_set_ne (by omega), upd_other _ _ e]; exact h.cst k hk }

/-- the only write to an unscribers map once the chain is built empties it -/
theorem c_clearMap {j : Nat} {g : Bool} {k : Prog} (h : CRep ly m x H w)
    (hg : g = true ∨ NoConf H (.cell (ly.c0 + 3 * j + 1)) true)
    (hk : ∀ w', CRep ly m (x.unreg j) H w' → WP k w' Q) :
    WP (.cellWrite (ly.c0 + 3 * j + 1) g (ly.mapD j false) k) w Q :=
  c_cellWrite h hg (hk _ (h.setMap false))

theorem c_writeSt {j : Nat} {d : Data} {k : Prog} (h : CRep ly m x H w)
    (hg : NoConf H (.cell (ly.c0 + 3 * j + 2)) true)
    (hk : ∀ w', CRep ly m { x with st := upd x.st j d } H w' → WP k w' Q) :
    WP (.cellWrite (ly.c0 + 3 * j + 2) false d k) w Q :=
  c_cellWrite h (Or.inr hg) (hk _ (h.setSt d))

theorem c_lockAcq {l : LockId} {wr : Bool} {k : Prog} (h : CRep ly m x H w) (hc : NoConf H l wr)
    (hk : ∀ w', CRep ly m x ((l, wr) :: H) w' → WP k w' Q) : WP (.lockAcq l wr k) w Q := by
  have hrep : CRep ly m x ((l, wr) :: H) { w with held := (l, wr) :: w.held } := by
    have := h.setHeld ((l, wr) :: w.held); rwa [h.held] at this ⊢
  exact wp_lockAcq (h.conflicts hc) (hk _ hrep)

theorem c_lockRel {l : LockId} {wr : Bool} {k : Prog} (h : CRep ly m x ((l, wr) :: H) w)
    (hk : ∀ w', CRep ly m x H w' → WP k w' Q) : WP (.lockRel l k) w Q := by
  refine wp_lockRel (hk _ ?_)
  rw [release_head w l wr H h.held]
  exact h.setHeld H

theorem c_probe {t : Nat} {d : Data} {k : Prog} (h : CRep ly m x H w)
    (hk : ∀ w', CRep ly m x H w' → WP k w' Q) : WP (.probe t d k) w Q := by
  have hrep : CRep ly m x H (w.emit (.probe t d)) :=
    { h with
      log := by rw [logOf_emit_probe]; exact h.log
      others := fun s' hs => by rw [logOf_emit_probe]; exact h.others s' hs }
  exact wp_probe (hk _ hrep)

end prims

end Rx.Chain
