import RxVerif.Theorems.C02b
/-
C02, the forwarding and the stopping operators: map, identity, ignore_elements, filter, skip, skip_while,
distinct_until_changed, skip_last (through `Accum`, see C02b.lean), take_last (`feed_emits`) and take, take_while (a
lemma about `Kernel.feed` from an arbitrary counter, which determines the COMPLETE run record).  The C06 companions
(`<op>_feed_cancels`: a downstream terminal produced by `onNext` always comes with the upstream cancelled) are read
off the same facts; of these operators only take and take_while ever produce one.
-/
namespace Rx.C02
open Rx Rx.C02b

theorem run_eq {σ} (K : Kernel σ) (s : Stream) :
    K.run s = (K.runFull s).out := rfl

theorem feed_nil {σ} (K : Kernel σ) (st : σ) (r : KRun) : K.feed st r [] = (st, r) := rfl

theorem acts_nil (r : KRun) : r.acts [] = r := rfl

theorem toEvs_mk (l : List Data) (e : Ending) : Stream.toEvs (l, e) = l.map .next ++ e.toEvs := rfl

theorem kMap_accum (f : Fn) : Accum (kMap f) (fun _ _ => ()) (fun _ x => [f.app x]) fun _ => [] :=
  ⟨fun _ _ => rfl, fun _ => rfl, fun _ _ => rfl⟩

theorem map_spec (f : Fn) (s : Stream) : (kMap f).run s = (Spec.map f s).toEvs := by
  rw [(kMap_accum f).run_fwd, outs_pure]; rfl

theorem map_feed_cancels (f : Fn) (xs : List Data) :
    ((kMap f).feed (kMap f).init {} xs).2.alive = false → ((kMap f).feed (kMap f).init {} xs).2.cancelled = true :=
  feed_emits_cancels (kMap_accum f).next xs

example : (kMap .inc).run ([.int 1, .int 2], .error 3) = [.next (.int 2), .next (.int 3), .error 3] := by decide
example : (Spec.map .inc ([.int 1, .int 2], .error 3)).toEvs = [.next (.int 2), .next (.int 3), .error 3] := by decide
example : ((kMap .inc).runFull ([.int 1], .error 3)).alive = false := by decide

theorem kId_accum : Accum kId (fun _ _ => ()) (fun _ x => [x]) fun _ => [] :=
  ⟨fun _ _ => rfl, fun _ => rfl, fun _ _ => rfl⟩

theorem id_spec (s : Stream) : kId.run s = s.toEvs := by
  rw [kId_accum.run_fwd, outs_pure, List.map_id']

theorem id_feed_cancels (xs : List Data) :
    (kId.feed kId.init {} xs).2.alive = false → (kId.feed kId.init {} xs).2.cancelled = true :=
  feed_emits_cancels kId_accum.next xs

example : kId.run ([.int 1, .int 2], .complete) = Stream.toEvs ([.int 1, .int 2], .complete) := by decide
example : (kId.runFull ([.int 1], .complete)).alive = false := by decide

theorem kIgnoreElements_accum : Accum kIgnoreElements (fun _ _ => ()) (fun _ _ => []) fun _ => [] :=
  ⟨fun _ _ => rfl, fun _ => rfl, fun _ _ => rfl⟩

theorem ignoreElements_spec (s : Stream) :
    kIgnoreElements.run s = (Spec.ignoreElements s).toEvs := by
  rw [kIgnoreElements_accum.run_fwd, outs_silent]; rfl

theorem ignoreElements_feed_cancels (xs : List Data) :
    (kIgnoreElements.feed kIgnoreElements.init {} xs).2.alive = false → (kIgnoreElements.feed kIgnoreElements.init {} xs).2.cancelled = true :=
  feed_emits_cancels kIgnoreElements_accum.next xs

example : kIgnoreElements.run ([.int 1, .int 2], .error 5) = [.error 5] := by decide
example : (Spec.ignoreElements ([.int 1, .int 2], .error 5)).toEvs = [.error 5] := by decide
example : (kIgnoreElements.runFull ([.int 1], .complete)).alive = false := by decide

theorem kFilter_accum (p : Pred) :
    Accum (kFilter p) (fun _ _ => ()) (fun _ x => if p.app x then [x] else []) fun _ => [] :=
  ⟨fun _ x => by simp only [kFilter]; split <;> rfl, fun _ => rfl, fun _ _ => rfl⟩

theorem filter_outs (p : Pred) (xs : List Data) :
    outs (fun _ _ => ()) (fun _ x => if p.app x then [x] else []) () xs = xs.filter p.app := by
  induction xs with
  | nil => rfl
  | cons x xs ih => simp only [outs, ih, List.filter_cons]; split <;> rfl

theorem filter_spec (p : Pred) (s : Stream) : (kFilter p).run s = (Spec.filter p s).toEvs := by
  rw [(kFilter_accum p).run_fwd, filter_outs]; rfl

theorem filter_feed_cancels (p : Pred) (xs : List Data) :
    ((kFilter p).feed (kFilter p).init {} xs).2.alive = false → ((kFilter p).feed (kFilter p).init {} xs).2.cancelled = true :=
  feed_emits_cancels (kFilter_accum p).next xs

example : (kFilter .even).run ([.int 1, .int 2, .int 4], .complete) = [.next (.int 2), .next (.int 4), .complete] := by decide
example : (Spec.filter .even ([.int 1, .int 2, .int 4], .complete)).toEvs = [.next (.int 2), .next (.int 4), .complete] := by decide
example : ((kFilter .even).runFull ([.int 1], .complete)).alive = false := by decide

theorem kSkip_accum (n : Nat) :
    Accum (kSkip n) (fun k _ => k + 1) (fun k x => if k ≥ n then [x] else []) fun _ => [] :=
  ⟨fun _ x => by simp only [kSkip]; split <;> rfl, fun _ => rfl, fun _ _ => rfl⟩

theorem skip_outs (n : Nat) (xs : List Data) : ∀ k,
    outs (fun k _ => k + 1) (fun k x => if k ≥ n then [x] else []) k xs = xs.drop (n - k) := by
  induction xs with
  | nil => intro k; simp [outs]
  | cons x xs ih =>
    intro k
    simp only [outs, ih]
    by_cases hk : k ≥ n
    · simp [hk, Nat.sub_eq_zero_of_le hk, Nat.sub_eq_zero_of_le (Nat.le_succ_of_le hk)]
    · rw [if_neg hk, show n - k = n - (k + 1) + 1 by omega]; rfl

theorem skip_spec (n : Nat) (s : Stream) : (kSkip n).run s = (Spec.skip n s).toEvs := by
  rw [(kSkip_accum n).run_fwd, skip_outs]; rfl

theorem skip_feed_cancels (n : Nat) (xs : List Data) :
    ((kSkip n).feed (kSkip n).init {} xs).2.alive = false → ((kSkip n).feed (kSkip n).init {} xs).2.cancelled = true :=
  feed_emits_cancels (kSkip_accum n).next xs

example : (kSkip 2).run ([.int 1, .int 2, .int 3], .complete) = [.next (.int 3), .complete] := by decide
example : (Spec.skip 2 ([.int 1, .int 2, .int 3], .complete)).toEvs = [.next (.int 3), .complete] := by decide
example : ((kSkip 2).runFull ([.int 1], .error 0)).alive = false := by decide

theorem kSkipWhile_accum (p : Pred) :
    Accum (kSkipWhile p) (fun b x => b && p.app x) (fun b x => if b && p.app x then [] else [x]) fun _ => [] :=
  ⟨fun b x => by simp only [kSkipWhile]; split <;> simp_all, fun _ => rfl, fun _ _ => rfl⟩

theorem skipWhile_outs (p : Pred) (xs : List Data) : ∀ b,
    outs (fun b x => b && p.app x) (fun b x => if b && p.app x then [] else [x]) b xs
      = if b then xs.dropWhile p.app else xs := by
  induction xs with
  | nil => intro b; simp [outs]
  | cons x xs ih =>
    intro b
    simp only [outs, ih, List.dropWhile_cons]
    cases b <;> cases p.app x <;> simp

theorem skipWhile_spec (p : Pred) (s : Stream) :
    (kSkipWhile p).run s = (Spec.skipWhile p s).toEvs := by
  rw [(kSkipWhile_accum p).run_fwd, skipWhile_outs]; rfl

theorem skipWhile_feed_cancels (p : Pred) (xs : List Data) :
    ((kSkipWhile p).feed (kSkipWhile p).init {} xs).2.alive = false → ((kSkipWhile p).feed (kSkipWhile p).init {} xs).2.cancelled = true :=
  feed_emits_cancels (kSkipWhile_accum p).next xs

example : (kSkipWhile (.lt 2)).run ([.int 1, .int 2, .int 1], .complete)
    = [.next (.int 2), .next (.int 1), .complete] := by decide
example : (Spec.skipWhile (.lt 2) ([.int 1, .int 2, .int 1], .complete)).toEvs
    = [.next (.int 2), .next (.int 1), .complete] := by decide
example : ((kSkipWhile (.lt 2)).runFull ([.int 1], .error 0)).alive = false := by decide

/-- the kernel remembers the last item seen (equal to the one it keeps when nothing is emitted) -/
theorem kDistinct_accum :
    Accum kDistinct (fun _ x => some x) (fun last x => if last = some x then [] else [x]) fun _ => [] :=
  ⟨fun last x => by cases last <;> simp only [kDistinct] <;> split <;> simp_all, fun _ => rfl, fun _ _ => rfl⟩

theorem distinct_outs (xs : List Data) : ∀ y,
    y :: outs (fun _ x => some x) (fun last x => if last = some x then [] else [x]) (some y) xs
      = Spec.dedup (y :: xs) := by
  induction xs with
  | nil => intro y; rfl
  | cons x xs ih =>
    intro y
    simp only [outs, Spec.dedup, ← ih, Option.some.injEq]
    split <;> simp_all

theorem distinct_spec (s : Stream) : kDistinct.run s = (Spec.distinctUntilChanged s).toEvs := by
  rw [kDistinct_accum.run_fwd, Spec.distinctUntilChanged]
  cases s.1 with
  | nil => rfl
  | cons x xs => exact congrArg (fun l => Stream.toEvs (l, s.2)) (distinct_outs xs x)

theorem distinct_feed_cancels (xs : List Data) :
    (kDistinct.feed kDistinct.init {} xs).2.alive = false → (kDistinct.feed kDistinct.init {} xs).2.cancelled = true :=
  feed_emits_cancels kDistinct_accum.next xs

example : kDistinct.run ([.int 1, .int 1, .int 2, .int 1], .complete)
    = [.next (.int 1), .next (.int 2), .next (.int 1), .complete] := by decide
example : (Spec.distinctUntilChanged ([.int 1, .int 1, .int 2, .int 1], .complete)).toEvs
    = [.next (.int 1), .next (.int 2), .next (.int 1), .complete] := by decide
example : (kDistinct.runFull ([.int 1], .error 0)).alive = false := by decide

theorem take_onNext (n k : Nat) (x : Data) :
    (kTake n).onNext k x
      = (k + 1, (if k < n then [.emit x] else []) ++
                (if k + 1 ≥ n then [.abortSelf, .complete, .finalize] else [])) := rfl

/-- (`n ≤ k` is reached only by `take 0`: then the first item completes) -/
theorem take_feed (n : Nat) (xs : List Data) : ∀ (k : Nat) (g : Bool) (out : List Ev),
    ((kTake n).feed k (live g out) xs).2 =
      if xs ≠ [] ∧ n ≤ k + xs.length then stopped (out ++ (xs.take (n - k)).map .next ++ [.complete])
      else live g (out ++ xs.map .next) := by
  induction xs with
  | nil => intro k g out; simp [C02b.feed_nil]
  | cons x xs ih =>
    intro k g out
    rw [feed_cons_live, take_onNext]
    by_cases h1 : k + 1 ≥ n
    · have hc : n ≤ k + (xs.length + 1) := by omega
      by_cases h0 : k < n
      · simp [h0, h1, hc, show n - k = 1 by omega, feed_cancelled, stopped]
      · simp [h0, h1, hc, show n - k = 0 by omega, feed_cancelled, stopped]
    · simp only [show k < n by omega, h1, if_true, if_false, List.append_nil, acts_cons, C02b.acts_nil, act_emit_live, ih]
      rw [show n - k = n - (k + 1) + 1 by omega, List.take_succ_cons]
      by_cases hx : xs = []
      · subst hx; simp; omega
      · simp [hx, Nat.add_assoc, Nat.add_comm 1]

theorem take_runFull_stop (n : Nat) (s : Stream) (h1 : s.1 ≠ []) (h2 : n ≤ s.1.length) :
    (kTake n).runFull s = stopped ((s.1.take n).map .next ++ [.complete]) := by
  have := take_feed n s.1 0 true []
  rw [if_pos ⟨h1, by omega⟩] at this
  show (kTake n).finish _ ((kTake n).feed 0 _ _).2 _ = _
  rw [this]
  exact finish_cancelled _ _ _ _ rfl

theorem take_spec (n : Nat) (s : Stream) : (kTake n).run s = (Spec.take n s).toEvs := by
  obtain ⟨xs, e⟩ := s
  show ((kTake n).finish _ ((kTake n).feed 0 _ xs).2 e).out = _
  rw [take_feed]
  split
  · rename_i h
    rw [finish_cancelled _ _ _ _ rfl]
    by_cases hn : n = 0 <;> simp_all [Spec.take, C02b.toEvs_mk, Ending.toEvs]
  · rename_i h
    rw [finish_default _ _ _ _ _ rfl (fun _ => rfl)]
    cases xs with
    | nil => by_cases hn : n = 0 <;> simp [Spec.take, C02b.toEvs_mk, hn]
    | cons x xs =>
      have hl : ¬ n ≤ xs.length + 1 := by simpa using h
      simp [Spec.take, C02b.toEvs_mk, hl, show n ≠ 0 by omega]

/-- C06: when `take` completes from inside `on_next`, the upstream has been unsubscribed -/
theorem take_cancels (n : Nat) (s : Stream) (h1 : s.1 ≠ []) (h2 : n ≤ s.1.length) :
    ((kTake n).runFull s).cancelled = true := by
  rw [take_runFull_stop n s h1 h2]

theorem take_feed_cancels (n : Nat) (xs : List Data) :
    ((kTake n).feed (kTake n).init {} xs).2.alive = false → ((kTake n).feed (kTake n).init {} xs).2.cancelled = true := by
  rw [show ({} : KRun) = live true [] from rfl, take_feed]
  split <;> simp

example : (kTake 2).run ([.int 1, .int 2, .int 3], .error 9) = [.next (.int 1), .next (.int 2), .complete] := by decide
example : (Spec.take 2 ([.int 1, .int 2, .int 3], .error 9)).toEvs = [.next (.int 1), .next (.int 2), .complete] := by decide
example : (kTake 0).run ([.int 1], .silent) = [.complete] ∧ (Spec.take 0 ([.int 1], .silent)).toEvs = [.complete] := by decide
example : (kTake 3).run ([.int 1], .silent) = [.next (.int 1)] := by decide
example : ([Data.int 1, .int 2] ≠ []) ∧ 2 ≤ [Data.int 1, .int 2].length ∧
    ((kTake 2).runFull ([.int 1, .int 2], .silent)).cancelled = true := by decide

theorem takeWhile_feed (p : Pred) (xs : List Data) : ∀ (g : Bool) (out : List Ev),
    (kTakeWhile p).feed () (live g out) xs
      = ((), if xs.all p.app then live g (out ++ xs.map .next)
             else stopped (out ++ (xs.takeWhile p.app).map .next ++ [.complete])) := by
  induction xs with
  | nil => intro g out; simp [C02b.feed_nil]
  | cons x xs ih =>
    intro g out
    have h : (kTakeWhile p).onNext () x = ((), if p.app x then [.emit x] else [.abortSelf, .complete]) := rfl
    rw [feed_cons_live, h]
    by_cases hp : p.app x = true
    · by_cases ha : xs.all p.app = true <;> simp [hp, ih, ha]
    · simp [hp, feed_cancelled, stopped]

theorem takeWhile_spec (p : Pred) (s : Stream) :
    (kTakeWhile p).run s = (Spec.takeWhile p s).toEvs := by
  rw [run_eq_finish, takeWhile_feed, Spec.takeWhile]
  split
  · exact finish_default _ _ _ _ _ rfl fun _ => rfl
  · rw [finish_cancelled _ _ _ _ rfl]; simp [C02b.toEvs_mk, Ending.toEvs]

/-- C06: when `take_while` completes from inside `on_next`, the upstream has been unsubscribed -/
theorem takeWhile_cancels (p : Pred) (s : Stream) (h : ¬ s.1.all p.app = true) :
    ((kTakeWhile p).runFull s).cancelled = true := by
  rw [runFull_eq, takeWhile_feed, if_neg h, finish_cancelled _ _ _ _ rfl]

theorem takeWhile_feed_cancels (p : Pred) (xs : List Data) :
    ((kTakeWhile p).feed (kTakeWhile p).init {} xs).2.alive = false → ((kTakeWhile p).feed (kTakeWhile p).init {} xs).2.cancelled = true := by
  rw [show ({} : KRun) = live true [] from rfl, takeWhile_feed]
  split <;> simp

example : (kTakeWhile (.lt 2)).run ([.int 1, .int 2, .int 1], .error 4) = [.next (.int 1), .complete] := by decide
example : (Spec.takeWhile (.lt 2) ([.int 1, .int 2, .int 1], .error 4)).toEvs = [.next (.int 1), .complete] := by decide
example : ¬ ([Data.int 1, .int 2].all (Pred.lt 2).app = true) ∧
    ((kTakeWhile (.lt 2)).runFull ([.int 1, .int 2], .silent)).cancelled = true := by decide

/-! ### take_last / skip_last: the bounded queue -/

def pushQ (n : Nat) (q : List Data) (x : Data) : List Data :=
  if (q ++ [x]).length > n then (q ++ [x]).drop 1 else q ++ [x]

def popQ (n : Nat) (q : List Data) (x : Data) : List Data :=
  if (q ++ [x]).length > n then (q ++ [x]).head?.toList else []

theorem pushQ_eq (n : Nat) (q : List Data) (x : Data) (hq : q.length ≤ n) :
    pushQ n q x = (q ++ [x]).drop (q.length + 1 - n) ∧ popQ n q x = (q ++ [x]).take (q.length + 1 - n) := by
  unfold pushQ popQ
  by_cases h : (q ++ [x]).length > n
  · have : q.length + 1 - n = 1 := by simp at h; omega
    rw [if_pos h, if_pos h, this]
    cases q <;> simp
  · have : q.length + 1 - n = 0 := by simp at h; omega
    rw [if_neg h, if_neg h, this]; simp

theorem queue_push (n : Nat) (q xs : List Data) (x : Data) (hq : q.length ≤ n) :
    (pushQ n q x).length ≤ n ∧
    (pushQ n q x ++ xs).drop ((pushQ n q x ++ xs).length - n) = (q ++ x :: xs).drop ((q ++ x :: xs).length - n) ∧
    popQ n q x ++ (pushQ n q x ++ xs).take ((pushQ n q x ++ xs).length - n)
      = (q ++ x :: xs).take ((q ++ x :: xs).length - n) := by
  rw [(pushQ_eq n q x hq).1, (pushQ_eq n q x hq).2]
  have hd : q.length + 1 - n ≤ (q ++ [x]).length := by simp
  have e1 : q ++ x :: xs = q ++ [x] ++ xs := by simp
  rw [← List.drop_append_of_le_length hd, e1, ← List.take_append_of_le_length (l₂ := xs) hd]
  generalize hL : q ++ [x] ++ xs = L
  have hlen : L.length = q.length + 1 + xs.length := by simp [← hL]; omega
  refine ⟨by simp; omega, ?_, ?_⟩
  · rw [List.drop_drop]; congr 1; simp; omega
  · rw [← List.take_add]; congr 1; simp; omega

theorem queue_feed (n : Nat) (xs : List Data) : ∀ q : List Data, q.length ≤ n →
    xs.foldl (pushQ n) q = (q ++ xs).drop ((q ++ xs).length - n) ∧
    outs (pushQ n) (popQ n) q xs = (q ++ xs).take ((q ++ xs).length - n) := by
  induction xs with
  | nil => intro q hq; simp [outs, Nat.sub_eq_zero_of_le hq]
  | cons x xs ih =>
    intro q hq
    obtain ⟨h1, h2, h3⟩ := queue_push n q xs x hq
    obtain ⟨i1, i2⟩ := ih _ h1
    exact ⟨by rw [List.foldl_cons, i1, h2], by rw [outs, i2, h3]⟩

-- the right side in the shape `feed_emits` asks for
theorem kTakeLast_onNext (n : Nat) (q : List Data) (x : Data) :
    (kTakeLast n).onNext q x = (pushQ n q x, ([] : List Data).map .emit) := rfl

theorem takeLast_spec (n : Nat) (s : Stream) : (kTakeLast n).run s = (Spec.takeLast n s).toEvs := by
  obtain ⟨xs, e⟩ := s
  rw [run_eq_finish, feed_emits (kTakeLast_onNext n), outs_silent]
  have := (queue_feed n xs [] (Nat.zero_le n)).1
  cases e <;> simp_all [Kernel.finish, kTakeLast, Spec.takeLast, C02b.toEvs_mk, Ending.toEvs]

theorem takeLast_feed_cancels (n : Nat) (xs : List Data) :
    ((kTakeLast n).feed (kTakeLast n).init {} xs).2.alive = false → ((kTakeLast n).feed (kTakeLast n).init {} xs).2.cancelled = true :=
  feed_emits_cancels (kTakeLast_onNext n) xs

example : (kTakeLast 2).run ([.int 1, .int 2, .int 3], .complete) = [.next (.int 2), .next (.int 3), .complete] := by decide
example : (Spec.takeLast 2 ([.int 1, .int 2, .int 3], .complete)).toEvs = [.next (.int 2), .next (.int 3), .complete] := by decide
example : (kTakeLast 2).run ([.int 1, .int 2, .int 3], .error 1) = [.error 1] := by decide
example : ((kTakeLast 2).runFull ([.int 1], .complete)).alive = false := by decide

theorem kSkipLast_accum (n : Nat) : Accum (kSkipLast n) (pushQ n) (popQ n) fun _ => [] :=
  ⟨fun q x => by
    simp only [kSkipLast, pushQ, popQ]
    split
    · cases (q ++ [x]).head? <;> rfl
    · rfl, fun _ => rfl, fun _ _ => rfl⟩

theorem skipLast_spec (n : Nat) (s : Stream) : (kSkipLast n).run s = (Spec.skipLast n s).toEvs := by
  rw [(kSkipLast_accum n).run_fwd, (queue_feed n s.1 (kSkipLast n).init (Nat.zero_le n)).2]; rfl

theorem skipLast_feed_cancels (n : Nat) (xs : List Data) :
    ((kSkipLast n).feed (kSkipLast n).init {} xs).2.alive = false → ((kSkipLast n).feed (kSkipLast n).init {} xs).2.cancelled = true :=
  feed_emits_cancels (kSkipLast_accum n).next xs

example : (kSkipLast 2).run ([.int 1, .int 2, .int 3], .error 1) = [.next (.int 1), .error 1] := by decide
example : (Spec.skipLast 2 ([.int 1, .int 2, .int 3], .error 1)).toEvs = [.next (.int 1), .error 1] := by decide
example : ((kSkipLast 2).runFull ([.int 1], .complete)).alive = false := by decide

-- the premise of `take_feed_cancels` can hold
example : ((kTake 1).feed (kTake 1).init {} [.int 1, .int 2]).2.alive = false := by decide

#print axioms take_spec
#print axioms skip_spec
#print axioms map_spec
#print axioms filter_spec
#print axioms takeWhile_spec
#print axioms skipWhile_spec
#print axioms takeLast_spec
#print axioms skipLast_spec
#print axioms distinct_spec
#print axioms ignoreElements_spec
#print axioms id_spec
#print axioms take_cancels
#print axioms takeWhile_cancels
#print axioms take_feed_cancels
#print axioms takeWhile_feed_cancels

end Rx.C02
