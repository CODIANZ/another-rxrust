import RxVerif.Theorems.C03RefGSetup
import RxVerif.Theorems.C03RefCtl
/-
C03-REF (general form): operators with a fixed set of sources.  Entity `e` is the inner observer of subject
`e`; a call on subject `j` reaches exactly entity `j`, if it is live.  Such an operator supplies its layout, what its
closures do (`body` below) and that its subscribe function establishes `SRel`; the refinement theorem follows
(`StaticSim.refines`).  The second half is the set-up shared by these subscribe functions: `newObservers`, then
`subscribeAll`, establish `SRel` (`wp_setup`).
-/
namespace Rx.GRef
open Rx.Sim Rx.Ref Rx.Comb Rx.CRef

variable {L : GLay} {E : Ent} {hl : List (LockId × Bool)} {c : Ctl} {x : Fr} {out : List Ev} {w : World}

/-- entity `e` observes subject `e`; live entities are registered there; no duplicates -/
structure Static (E : Ent) (c : Ctl) (n : Nat) : Prop where
  nodup : c.live.Nodup
  sub : ∀ e, e < n → E.sub e = e
  on : ∀ e ∈ c.live, e < n ∧ E.mode e = .on

theorem Static.mono {n : Nat} {c' : Ctl} (h : Static E c n) (hs : c'.live.Sublist c.live) : Static E c' n :=
  ⟨h.nodup.sublist hs, h.sub, fun e he => h.on e (hs.subset he)⟩

theorem filter_beq_nodup {j : Nat} : ∀ {l : List Nat}, l.Nodup → l.filter (· == j) = if l.contains j then [j] else []
  | [], _ => rfl
  | a :: l, hnd => by
    rw [List.nodup_cons] at hnd
    simp only [List.filter_cons, List.contains_cons]
    by_cases q : a = j
    · subst q
      have : l.filter (· == a) = [] := by
        rw [List.filter_eq_nil_iff]; intro b hb; simp only [beq_iff_eq]; intro r; exact hnd.1 (r ▸ hb)
      simp [this]
    · have h1 : (a == j) = false := by rw [beq_eq_false_iff_ne]; exact q
      have h2 : (j == a) = false := by rw [beq_eq_false_iff_ne]; exact fun r => q r.symm
      simp only [h1, h2, Bool.false_or, Bool.false_eq_true, ↓reduceIte]
      exact filter_beq_nodup hnd.2

theorem Static.inMap_eq {n : Nat} (h : Static E c n) {j : Nat} :
    inMap E c j = if c.live.contains j then [j] else [] := by
  rw [← filter_beq_nodup h.nodup]
  apply List.filter_congr
  intro e he
  obtain ⟨h1, h2⟩ := h.on e he
  rw [h.sub e h1, h2]; simp [Mode.isOn]

theorem Static.pend {n : Nat} {c' : Ctl} (h : Static E c n) {j : Nat} (hs : c'.live.Sublist c.live)
    (hj : c'.live.contains j = false) : Static (E.pendAll j) c' n := by
  refine ⟨h.nodup.sublist hs, h.sub, fun e he => ?_⟩
  obtain ⟨h1, h2⟩ := h.on e (hs.subset he)
  refine ⟨h1, ?_⟩
  have hne : e ≠ j := by
    intro q; subst q
    have : c'.live.contains e = true := by simpa using he
    rw [hj] at this; cases this
  simp only [Ent.pendAll, h.sub e h1, hne, false_and, ↓reduceIte, h2]

/-- `Rel` for some attachment that is `Static`.  The attachment moves with the calls (a terminal broadcast puts the
    observers it has not reached yet to `pend`), so the relation an operator works with hides it. -/
def SRel (L : GLay) (c : Ctl) (x : Fr) (out : List Ev) (w : World) : Prop :=
  ∃ E, Rel L E [] c x out w ∧ Static E c L.k

theorem SRel.lift {p : Prog} {c' : Ctl} {x' : Fr} {out' : List Ev} (h : SRel L c x out w) (hle : Le c' c)
    (hp : ∀ E, Rel L E [] c x out w → WP p w (Rel L E [] c' x' out')) : WP p w (SRel L c' x' out') := by
  obtain ⟨E, hr, hs⟩ := h
  exact (hp E hr).conseq fun _ h2 => ⟨E, h2, hs.mono hle.live⟩

theorem SRel.sinkNext (ok : L.Ok) (h : SRel L c x out w) (d : Data) :
    WP (L.sc.sinkNext d) w (SRel L (c.sinkNext d).1 x (out ++ (c.sinkNext d).2)) :=
  h.lift (sinkNext_le c d) fun _ hr => sinkNext_spec ok hr d

theorem SRel.sinkError (ok : L.Ok) (h : SRel L c x out w) (e : Nat) :
    WP (L.sc.sinkError e) w (SRel L (c.sinkError e).1 x (out ++ (c.sinkError e).2)) :=
  h.lift (sinkError_le c e) fun _ hr => sinkError_spec ok hr e

theorem SRel.sinkComplete (ok : L.Ok) (h : SRel L c x out w) (i : Nat) :
    WP (L.sc.sinkComplete (L.ser i)) w (SRel L (c.sinkComplete i).1 x (out ++ (c.sinkComplete i).2)) :=
  h.lift (sinkComplete_le c i) fun _ hr => sinkComplete_spec ok hr i

theorem SRel.sinkCompleteForce (ok : L.Ok) (h : SRel L c x out w) :
    WP L.sc.sinkCompleteForce w (SRel L c.sinkCompleteForce.1 x (out ++ c.sinkCompleteForce.2)) :=
  h.lift (sinkForce_le c) fun _ hr => sinkCompleteForce_spec ok hr

theorem SRel.abort (ok : L.Ok) (h : SRel L c x out w) (i : Nat) :
    WP (L.sc.abortObserve (L.ser i)) w (SRel L (c.abort i) x out) :=
  h.lift (abort_le c i) fun _ hr => abort_spec ok hr i

theorem SRel.held (h : SRel L c x out w) : w.held = [] := h.elim fun _ hr => hr.1.held

theorem SRel.xc_some (h : SRel L c x out w) (hx : x.x ≠ .unit) : w.cells[L.cx]? = some x.x :=
  h.elim fun _ hr => GRef.xc_some hr.1 hx

theorem SRel.setX (ok : L.Ok) (h : SRel L c x out w) (hx : x.x ≠ .unit) (x' : Data) :
    SRel L c { x with x := x' } out { w with cells := w.cells.set L.cx x' } :=
  h.elim fun E hr => ⟨E, hr.1.setX ok hx x', hr.2⟩

theorem SRel.agrees (h : SRel L c x out w) : Agrees L.k w c.live out := by
  obtain ⟨E, hr, hs⟩ := h
  refine ⟨hr.status, hr.held, hr.log, fun i hi => ?_⟩
  rw [hr.regCount hi, hs.inMap_eq]
  split <;> rfl

/-- a call on subject `j`: ignored if `j` has no live observer; else (a terminal having taken the callbacks of inner
    observer `j`) what is left to do is the closure of `j` -/
theorem SRel.call (ok : L.Ok) (h : SRel L c x out w) {j : Nat} (hj : j < L.k) (ev : Ev) {Q : World → Prop}
    (hdead : c.live.contains j = false → ∀ w1, SRel L c x out w1 → Q w1)
    (hlive : c.live.contains j = true → ∀ w1, SRel L (if ev.isTerminal then c.kill j else c) x out w1 →
      WP (codeBody ev (L.hn j) (L.he j) (L.hc j)) w1 Q) :
    WP (evCall (sjOf j) ev) w Q := by
  obtain ⟨E, h, hs⟩ := h
  refine subj_call ok h hj ev fun w1 h1 => ?_
  rw [hs.inMap_eq]
  cases hlv : c.live.contains j with
  | false =>
    simp only [Bool.false_eq_true, ↓reduceIte, bcast_nil]
    refine WP.done (hdead hlv w1 ⟨_, h1, ?_⟩)
    cases ev.isTerminal with
    | false => exact hs
    | true => exact hs.pend (List.Sublist.refl _) hlv
  | true =>
    simp only [↓reduceIte, bcast_cons, bcast_nil]
    apply WP.seq
    have hkj : (c.kill j).live.contains j = false := by
      simp only [Ctl.kill]; rw [contains_filter_ne]; simp
    cases ht : ev.isTerminal with
    | false =>
      simp only [ht, Bool.false_eq_true, ↓reduceIte] at h1 hlive
      refine deliver_live ok h1 hlv ev (by rw [ht]; intro q; cases q) fun w2 h2 => ?_
      simp only [ht, Bool.false_eq_true, ↓reduceIte] at h2
      exact (hlive hlv w2 ⟨_, h2, hs⟩).conseq fun w3 q => WP.done (WP.done q)
    | true =>
      simp only [ht, ↓reduceIte] at h1 hlive
      refine deliver_live ok h1 hlv ev ?_ fun w2 h2 => ?_
      · intro _
        obtain ⟨q1, q2⟩ := hs.on j (by simpa using hlv)
        simp [Ent.pendAll, hs.sub j q1, q2]
      · simp only [ht, ↓reduceIte] at h2
        exact (hlive hlv w2 ⟨_, h2, hs.pend (kill_le c j).live hkj⟩).conseq fun w3 q => WP.done (WP.done q)

theorem static_call (ok : L.Ok) (h : Rel L E [] c x out w) (hs : Static E c L.k) {j : Nat} (hj : j < L.k) (ev : Ev)
    {Q : World → Prop}
    (hdead : c.live.contains j = false → ∀ E1 w1, Rel L E1 [] c x out w1 → Static E1 c L.k → Q w1)
    (hlive : c.live.contains j = true → ∀ E1 w1,
      Rel L E1 [] (if ev.isTerminal then c.kill j else c) x out w1 →
      Static E1 (if ev.isTerminal then c.kill j else c) L.k →
      WP (codeBody ev (L.hn j) (L.he j) (L.hc j)) w1 Q) :
    WP (evCall (sjOf j) ev) w Q :=
  SRel.call ok ⟨E, h, hs⟩ hj ev (fun hlv w1 ⟨E1, h1, hs1⟩ => hdead hlv E1 w1 h1 hs1)
    fun hlv w1 ⟨E1, h1, hs1⟩ => hlive hlv E1 w1 h1 hs1

theorem SRel.newSource (ok : L.Ok) (h : SRel L c x out w) (ha : c.alive = true) {j : Nat} (hj : j < L.k)
    (hnk : known c j = false) (hs : L.ser j = x.sv) (ho : L.ob j = x.no)
    (n : Nat → Data → Prog) (e : Nat → Nat → Prog) (cc : Nat → Prog)
    (hcode : fullObs L j none = ⟨some (.code (n x.sv)), some (.code (e x.sv)), some (.code (cc x.sv)), none⟩) :
    WP (L.sc.newObserver n e cc fun ob => (sjOf j).observable.sub ob) w
      (SRel L (c.addObserver j) { x with sv := x.sv + 1, no := x.no + 1 } out) := by
  obtain ⟨E, hr, hst⟩ := h
  have hnl : ∀ a ∈ c.live, a ≠ j := by
    intro a ha q; subst q
    have : c.live.contains a = true := by simpa using ha
    rw [(known_false hnk).1] at this; cases this
  refine (newEntity_spec ok hr ha hj hnk hs ho n e cc hcode).conseq fun w2 h2 => ⟨_, h2, ?_, fun a ha => ?_, fun a ha => ?_⟩
  · show (c.live ++ [j]).Nodup
    rw [List.nodup_append]
    exact ⟨hst.nodup, List.pairwise_singleton _ _, fun a ha b hb => by
      rw [List.mem_singleton.1 hb]; exact hnl a ha⟩
  · show fupd E.sub j j a = a
    by_cases q : a = j
    · rw [q, fupd_same]
    · rw [fupd_other _ _ q]; exact hst.sub a ha
  · simp only [Ctl.addObserver, List.mem_append, List.mem_singleton] at ha
    show a < L.k ∧ fupd (fupd E.mode j .fresh) j .on a = .on
    rcases ha with q | q
    · rw [fupd_other _ _ (hnl a q), fupd_other _ _ (hnl a q)]; exact hst.on a q
    · rw [q, fupd_same]; exact ⟨hj, rfl⟩

/-- What the proof for an operator with a fixed set of sources supplies: how the state of its pure machine determines
    the controller state and the operator's cell (`fr`), an invariant of the pure machine, that a source without live
    observer is ignored, and that the closures of a live inner observer do what `step` says. -/
structure StaticSim (L : GLay) {σ : Type} (step : σ → Nat × Ev → σ × List Ev) where
  ok : L.Ok
  ctl : σ → Ctl
  fr : σ → Fr
  Inv : σ → Prop := fun _ => True
  dead : ∀ s p, (ctl s).isLive p.1 = false → step s p = (s, [])
  body : ∀ s i ev out w, Inv s → i < L.k → (ctl s).live.contains i = true →
    SRel L (if ev.isTerminal then (ctl s).kill i else ctl s) (fr s) out w →
    WP (codeBody ev (L.hn i) (L.he i) (L.hc i)) w fun w' =>
      SRel L (ctl (step s (i, ev)).1) (fr (step s (i, ev)).1) (out ++ (step s (i, ev)).2) w' ∧ Inv (step s (i, ev)).1

section sim
variable {σ : Type} {step : σ → Nat × Ev → σ × List Ev} (S : StaticSim L step)

def StaticSim.R (s : σ) (out : List Ev) (w : World) : Prop := SRel L (S.ctl s) (S.fr s) out w ∧ S.Inv s

theorem StaticSim.step_spec (s : σ) (out : List Ev) (w : World) (p : Nat × Ev) (h : S.R s out w) :
    WP (callOf (sjs L.k) p) w (S.R (step s p).1 (out ++ (step s p).2)) := by
  obtain ⟨i, ev⟩ := p
  have hd : (S.ctl s).live.contains i = false → ∀ w1, SRel L (S.ctl s) (S.fr s) out w1 →
      S.R (step s (i, ev)).1 (out ++ (step s (i, ev)).2) w1 := by
    intro hlv w1 h1
    rw [S.dead s (i, ev) hlv, List.append_nil]
    exact ⟨h1, h.2⟩
  rcases Nat.lt_or_ge i L.k with hi | hi
  · rw [callOf_lt hi]
    exact h.1.call S.ok hi ev hd fun hlv w1 h1 => S.body s i ev out w1 h.2 hi hlv h1
  · rw [callOf_ge hi]
    refine WP.done (hd ?_ w h.1)
    obtain ⟨E, _, hs⟩ := h.1
    cases q : (S.ctl s).live.contains i with
    | false => rfl
    | true => have := (hs.on i (by simpa using q)).1; omega

/-- For EVERY history the test program ends, for all sufficient fuel, with `status = ok`, no guard held, the user's
    log equal to the output of the pure machine, and subject `i` holding one observer iff `i` is in the machine's
    final `live` set — provided the operator's subscribe function establishes the relation (`hsub`). -/
theorem StaticSim.refines (O : List Subj → Obsv) (H : History) (init : σ) (hinv : S.Inv init)
    (hsub : WP (O (sjs L.k) 0) (startWorld L.k (O (sjs L.k))) (SRel L (S.ctl init) (S.fr init) [])) :
    ∃ n0, ∀ fuel, n0 ≤ fuel →
      Agrees L.k (run fuel [harness L.k O H] {}) (S.ctl (finalFrom step init H)).live (runFrom step init H) := by
  refine WP.run_all (Q := fun w => Agrees L.k w (S.ctl (finalFrom step init H)).live (runFrom step init H)) ?_
  exact (harness_spec S.step_spec O H init (hsub.conseq fun _ ⟨E, hr, hs⟩ =>
    ⟨⟨E, hr.setUser _ fun _ => rfl, hs⟩, hinv⟩)).conseq fun _ h => h.1.agrees

end sim

/-- entity `e` observes subject `e` and is registered there (under key 1) iff `on e` -/
def Ent.static (on : Nat → Bool) : Ent :=
  ⟨id, fun _ => 1, fun e => if on e then .on else .fresh, fun j => if on j then 1 else 0⟩

theorem inMap_static (on : Nat → Bool) (c : Ctl) (j : Nat) :
    inMap (Ent.static on) c j = c.live.filter fun e => e == j && on e := by
  apply List.filter_congr
  intro e _
  simp only [Ent.static, id]
  cases on e <;> rfl

theorem Static.of_on {on : Nat → Bool} {n : Nat} (hnd : c.live.Nodup) (h : ∀ e ∈ c.live, e < n ∧ on e = true) :
    Static (Ent.static on) c n :=
  ⟨hnd, fun _ _ => rfl, fun e he => ⟨(h e he).1, by show (if on e then Mode.on else .fresh) = .on; rw [(h e he).2]; rfl⟩⟩

theorem Ent.static_activate {on : Nat → Bool} {j : Nat} (h : on j = false) :
    (Ent.static on).activate j j = Ent.static (fupd on j true) := by
  simp only [Ent.static, Ent.activate, h, Bool.false_eq_true, ↓reduceIte, Nat.zero_add, Ent.mk.injEq, true_and]
  refine ⟨?_, ?_, ?_⟩ <;> funext i <;> simp only [fupd] <;> split <;> simp

theorem Ent.static_attach (e : Nat) : (Ent.static fun _ => false).attach e e = Ent.static fun _ => false := by
  simp only [Ent.static, Ent.attach, Ent.mk.injEq, and_true, true_and]
  refine ⟨funext fun i => ?_, funext fun i => ?_⟩ <;> by_cases q : i = e <;> simp [fupd, q]

/-- `new_observer` × `m`, one `newObserver_spec` each: the observers with serials below `m` are created, not yet
    subscribed -/
theorem wp_prepare_upto (ok : L.Ok) (std : L.Std)
    (mk : Nat → (Nat → Data → Prog) × (Nat → Nat → Prog) × (Nat → Prog))
    (hcode : ∀ e, e < L.k → codeObs (mk (L.ser e)) (L.ser e) = fullObs L e none) {xx : Data} :
    ∀ m, m ≤ L.k → ∀ {w : World} {K : List Nat → Prog} {Q : World → Prop},
    Rel L (Ent.static fun _ => false) [] ⟨true, [], []⟩ ⟨xx, 0, 1⟩ [] w →
    (∀ w1, Rel L (Ent.static fun _ => false) [] ⟨true, (List.range m).map L.ser, (List.range m).map L.ser⟩
        ⟨xx, m, 1 + m⟩ [] w1 → WP (K ((List.range m).map (1 + ·))) w1 Q) →
    WP (newObservers L.sc m mk K) w Q
  | 0, _, w, _, _, h, hk => hk w h
  | m + 1, hm, w, K, Q, h, hk => by
    have hlt : m < L.k := hm
    simp only [newObservers]
    refine wp_prepare_upto ok std mk hcode m (by omega) h fun w1 h1 => ?_
    have hn : L.ser m ∉ (List.range m).map L.ser := fun q => by
      obtain ⟨a, ha, e⟩ := List.mem_map.1 q
      exact Nat.lt_irrefl _ (inj_of_inv std.ser _ _ e ▸ List.mem_range.1 ha)
    have hc := hcode (L.ser m) (std.serLt m hlt)
    rw [std.ser] at hc
    have e1 : (List.range (m + 1)).map L.ser = (List.range m).map L.ser ++ [L.ser m] := by
      rw [List.range_succ, List.map_append]; rfl
    have e2 : (List.range (m + 1)).map (1 + ·) = (List.range m).map (1 + ·) ++ [L.ob (L.ser m)] := by
      rw [List.range_succ, List.map_append, std.ob, std.ser]; rfl
    refine newObserver_spec ok h1 rfl (e := L.ser m) (j := L.ser m) (std.serLt m hlt) (known_eq_false hn hn)
      (std.ser m) (by rw [std.ob, std.ser]) _ _ _ hc.symm _ fun w2 h2 => ?_
    rw [← e2]
    refine hk w2 ?_
    rw [e1, ← Ent.static_attach (L.ser m)]; exact h2

theorem two_cases {P : Nat → Prop} (h0 : P 0) (h1 : P 1) : ∀ j, j < 2 → P j := by
  intro j hj
  rcases (by omega : j = 0 ∨ j = 1) with e | e <;> subst e <;> assumption

/-- the observers were created in the order of their serials, `Ctl.init` lists them by source: `Rel.perm` -/
theorem wp_prepare (ok : L.Ok) (std : L.Std)
    (mk : Nat → (Nat → Data → Prog) × (Nat → Nat → Prog) × (Nat → Prog))
    (hcode : ∀ e, e < L.k → codeObs (mk (L.ser e)) (L.ser e) = fullObs L e none) {xx : Data}
    (h : Rel L (Ent.static fun _ => false) [] ⟨true, [], []⟩ ⟨xx, 0, 1⟩ [] w) {K : List Nat → Prog} {Q : World → Prop}
    (hk : ∀ w1, Rel L (Ent.static fun _ => false) [] (Ctl.init L.k) ⟨xx, L.k, 1 + L.k⟩ [] w1 →
      WP (K ((List.range L.k).map (1 + ·))) w1 Q) :
    WP (newObservers L.sc L.k mk K) w Q := by
  refine wp_prepare_upto ok std mk hcode L.k (Nat.le_refl _) h fun w1 h1 => hk w1 ?_
  have hr : ∀ e, e ∈ List.range L.k ↔ e ∈ (List.range L.k).map L.ser := fun e => by
    simp only [List.mem_map, List.mem_range]
    exact ⟨fun he => ⟨L.ser e, std.serLt e he, std.ser e⟩, fun ⟨a, ha, q⟩ => q ▸ std.serLt a ha⟩
  have hin : ∀ c j, inMap (Ent.static fun _ => false) c j = [] := fun c j => by rw [inMap_static]; simp
  refine h1.perm (Ctl.init L.k) rfl hr (fun e => ?_) fun j _ => by rw [hin, hin]
  rw [Bool.eq_iff_iff]; simpa [Ctl.init] using hr e

theorem subscribe_static (ok : L.Ok) {on : Nat → Bool} (h : Rel L (Ent.static on) [] c x out w) (hnd : c.live.Nodup)
    {j : Nat} (hj : j < L.k) (hoff : on j = false) (hlv : c.live.contains j = true) :
    WP ((sjOf j).observable.sub (L.ob j)) w (Rel L (Ent.static (fupd on j true)) [] c x out) := by
  rw [← Ent.static_activate hoff]
  refine subscribe_ent ok h hj rfl (by show (if on j then Mode.on else .fresh) = .fresh; rw [hoff]; rfl) hlv ?_
  rw [Ent.static_activate hoff, inMap_static, inMap_static]
  have e1 : (c.live.filter fun e => e == j && on e) = [] := by
    rw [List.filter_eq_nil_iff]; intro e _ q
    simp only [Bool.and_eq_true, beq_iff_eq] at q
    rw [q.1, hoff] at q; exact Bool.noConfusion q.2
  have e2 : (c.live.filter fun e => e == j && fupd on j true e) = c.live.filter (· == j) := by
    apply List.filter_congr; intro e _
    by_cases q : e = j
    · subst q; simp [fupd]
    · simp [q]
  rw [e1, e2, filter_beq_nodup hnd, hlv]; rfl

theorem subscribeAll_static (ok : L.Ok) (hnd : c.live.Nodup) : ∀ (l : List Nat) (on : Nat → Bool) (w : World),
    l.Nodup → (∀ j ∈ l, j < L.k ∧ on j = false ∧ c.live.contains j = true) → Rel L (Ent.static on) [] c x out w →
    WP (subscribeAll (l.map fun j => ((sjOf j).observable, L.ob j))) w
      (Rel L (Ent.static fun i => on i || l.contains i) [] c x out)
  | [], on, w, _, _, h => by
    simp only [List.contains_nil, Bool.or_false]
    exact WP.done h
  | j :: rest, on, w, hl, hall, h => by
    rw [List.nodup_cons] at hl
    obtain ⟨hj, hoff, hlv⟩ := hall j (by simp)
    simp only [List.map_cons, subscribeAll]
    apply WP.seq
    refine (subscribe_static ok h hnd hj hoff hlv).conseq fun w1 h1 => ?_
    refine (subscribeAll_static ok hnd rest _ w1 hl.2 (fun i hi => ?_) h1).conseq fun w2 h2 => ?_
    · obtain ⟨q1, q2, q3⟩ := hall i (by simp [hi])
      exact ⟨q1, by rw [fupd_other _ _ (fun q => hl.1 (by rw [← q]; exact hi))]; exact q2, q3⟩
    · have e : (fun i => fupd on j true i || rest.contains i) = fun i => on i || (j :: rest).contains i := by
        funext i
        by_cases q : i = j
        · subst q; simp [fupd]
        · simp [fupd, q]
      rw [← e]; exact h2

/-- `hK`: the operator's code after `newObservers`, with the observers as `newObservers` hands them on
    (`range.map (1 + ·)`) and the sources as `sjs` lists them (`range' 0 k`, the form `wp_subjsNew` yields) -/
theorem wp_setup (ok : L.Ok) (std : L.Std)
    (mk : Nat → (Nat → Data → Prog) × (Nat → Nat → Prog) × (Nat → Prog))
    (hcode : ∀ e, e < L.k → codeObs (mk (L.ser e)) (L.ser e) = fullObs L e none) {xx : Data}
    (h : Rel L (Ent.static fun _ => false) [] ⟨true, [], []⟩ ⟨xx, 0, 1⟩ [] w) {K : List Nat → Prog}
    (hK : K ((List.range L.k).map (1 + ·)) =
      subscribeAll ((List.range' 0 L.k).map fun j => ((sjOf j).observable, L.ob j))) :
    WP (newObservers L.sc L.k mk K) w (SRel L (Ctl.init L.k) ⟨xx, L.k, 1 + L.k⟩ []) := by
  have hnd : (Ctl.init L.k).live.Nodup := List.nodup_range
  have hm : ∀ j, j ∈ List.range' 0 L.k ↔ j < L.k := fun j => by simp [List.mem_range']
  refine wp_prepare ok std mk hcode h fun w1 h1 => ?_
  rw [hK]
  refine (subscribeAll_static ok hnd _ _ w1 (List.nodup_range' (step := 1)) (fun j hj => ?_) h1).conseq fun w2 h2 => ?_
  · have := (hm j).1 hj
    exact ⟨this, rfl, by simpa [Ctl.init] using this⟩
  · refine ⟨_, h2, Static.of_on hnd fun e he => ?_⟩
    have he' : e < L.k := by simpa [Ctl.init] using he
    exact ⟨he', by simpa using (hm e).2 he'⟩

theorem rel_ctlWorld {k : Nat} {ser : Nat → Nat} {hn : Nat → Data → Prog} {he : Nat → Nat → Prog} {hc : Nat → Prog}
    (ok : (GLay.std k ser hn he hc).Ok) (hcnt : ∀ j, E.cnt j = 0) (extra : List Data) (f : Nat → Prog) :
    Rel (GLay.std k ser hn he hc) E [] ⟨true, [], []⟩ ⟨extra[0]?.getD .unit, 0, 1⟩ [] (ctlWorld k extra f) := by
  generalize hL : GLay.std k ser hn he hc = L at ok ⊢
  have hk : L.k = k := by rw [← hL]; rfl
  have hcs : L.cs = 2 * L.k := by rw [← hL]; rfl
  have hcm : L.cm = 2 * L.k + 1 := by rw [← hL]; rfl
  have hcx : L.cx = 2 * L.k + 2 := by rw [← hL]; rfl
  have hfin : L.fin = 2 * L.k := by rw [← hL]; rfl
  rw [← hk]
  have h := rel_init (L := L) (E := E) (w := ctlWorld L.k extra f) ok hcnt rfl rfl
    (by simp only [ctlWorld, rootObs, GLay.sc, hcs, hcm, hfin]; rfl) ⟨_, rfl, rfl⟩
    (fun j hj => by
      simp only [ctlWorld, List.append_assoc]
      rw [List.getElem?_append_left (by rw [subjCells_length]; omega)]; exact subjCells_even L.k j hj)
    (fun j hj => by
      simp only [ctlWorld, List.append_assoc]
      rw [List.getElem?_append_left (by rw [subjCells_length]; omega)]; exact subjCells_odd L.k j hj)
    (by
      simp only [ctlWorld, List.append_assoc, hcs]
      rw [List.getElem?_append_right (by rw [subjCells_length]; omega), subjCells_length]; simp)
    (by
      simp only [ctlWorld, List.append_assoc, hcm]
      rw [List.getElem?_append_right (by rw [subjCells_length]; omega), subjCells_length]; simp [encMap_nil])
    (fun j hj => by
      simp only [ctlWorld]; rw [List.getElem?_append_left (by simpa using hj)]; simp [hj])
    (by simp only [ctlWorld, hfin]; rw [List.getElem?_append_right (by simp)]; simp) rfl
  have hx : (ctlWorld L.k extra f).cells[L.cx]?.getD .unit = extra[0]?.getD .unit := by
    rw [hcx, ← ctlWorld_extra L.k extra f 0]
  rw [hx] at h; exact h

end Rx.GRef
