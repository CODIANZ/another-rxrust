import RxVerif.Theorems.C10RefReplay
/-
C10-REF, BehaviorSubject — model A's `BSubj` macros (`Machine/Subjects.lean`, transliterating
src/subjects/behavior_subject.rs on top of `Subj`) refine `SubjM` with kind `.behavior v`.

World layout of `progB`.  Fixed: cells 0,1 = Subject.observers / serial, 2 = last_item, 3 = last_error.
A `subscribe` that finds a stored terminal only hands it over: it allocates the root observer and nothing else.
A `subscribe` that registers allocates root observer, forwarder, `sbsc` cell and the armed flag of the live
`Subscription`.  So the layout is described by the list `L : List Bool` ("subscription u registered"):
with `k u` = number of registrations among subscriptions `< u`,
  root observer of u = `u + k u`, its forwarder = `u + k u + 1`, `sbsc` = cell `4 + 2 k u`, armed flag = `5 + 2 k u`.
`RelB L` is the users' part `RefU.UP` at that layout (`layB L`) and the BehaviorSubject's two cells, in a world that
holds nothing else (`RelB.up`, `RelB.mk'`, `RelB.of_up`).
-/
namespace Rx.RefB
open Rx.Sim Rx.SubjM Rx.Ref Rx.RefR

def kOf (L : List Bool) (u : Nat) : Nat := (L.take u).count true

theorem kOf_zero (L : List Bool) : kOf L 0 = 0 := by simp [kOf]

theorem kOf_succ (L : List Bool) (u : Nat) :
    kOf L (u + 1) = kOf L u + (match L[u]? with | some true => 1 | _ => 0) := by
  unfold kOf
  rw [List.take_add_one]
  cases h : L[u]? with
  | none => simp
  | some b => cases b <;> simp

theorem kOf_mono (L : List Bool) {u u' : Nat} (h : u ≤ u') : kOf L u ≤ kOf L u' := by
  induction u' with
  | zero => have : u = 0 := by omega
            subst this; exact Nat.le_refl _
  | succ k ih =>
    rcases Nat.lt_or_ge u (k + 1) with hlt | hge
    · have := ih (by omega)
      rw [kOf_succ]; omega
    · have : u = k + 1 := by omega
      subst this; exact Nat.le_refl _

theorem kOf_strict (L : List Bool) {u u' : Nat} (h : u < u') (hr : L[u]? = some true) : kOf L u + 1 ≤ kOf L u' := by
  have h1 : kOf L (u + 1) = kOf L u + 1 := by rw [kOf_succ, hr]
  have h2 := kOf_mono L (show u + 1 ≤ u' by omega)
  omega

theorem kOf_append_le (L : List Bool) (b : Bool) {u : Nat} (h : u ≤ L.length) : kOf (L ++ [b]) u = kOf L u := by
  unfold kOf; rw [List.take_append_of_le_length h]

theorem kOf_append_last (L : List Bool) (b : Bool) :
    kOf (L ++ [b]) (L.length + 1) = kOf L L.length + (if b then 1 else 0) := by
  rw [kOf_succ, kOf_append_le _ _ (Nat.le_refl _)]
  cases b <;> simp

/-- two different subscriptions use different observers and cells -/
theorem lay_lt (L : List Bool) {u u' : Nat} (h : u < u') :
    kOf L u ≤ kOf L u' ∧ (L[u]? = some true → kOf L u + 1 ≤ kOf L u') :=
  ⟨kOf_mono L (by omega), fun hr => kOf_strict L h hr⟩

def b0 : BSubj := ⟨sj0, 2, 3⟩

@[simp] theorem b0_lastItem : b0.lastItem = 2 := rfl
@[simp] theorem b0_lastError : b0.lastError = 3 := rfl
@[simp] theorem b0_inner : b0.inner = sj0 := rfl

def rootHookB (c : Nat) : Prog := .cellRead c false fun h => subUnsub h

def rootOfB (L : List Bool) (u : Nat) (r : ObsSt) : Obs :=
  ⟨cbN r.alive u, cbE r.alive u, cbC r.alive u, if r.hook then some (rootHookB (4 + 2 * kOf L u)) else none⟩

def fwdOfB (L : List Bool) (u : Nat) (r : ObsSt) : Obs :=
  ⟨if r.inAlive then some (.code fun x => .obsNext (u + kOf L u) x .done) else none,
   if r.inAlive then some (.code fun e => .obsError (u + kOf L u) e .done) else none,
   if r.inAlive then some (.code (.obsComplete (u + kOf L u) .done)) else none,
   r.inHook.map fun s => hookProg sj0 (s : Int)⟩

def handleB (L : List Bool) (u : Nat) : Data :=
  .pair (.int ((u + kOf L u + 1 : Nat) : Int)) (.int ((5 + 2 * kOf L u : Nat) : Int))

structure UserOkB (L : List Bool) (w : World) (u : Nat) (r : ObsSt) : Prop where
  user : ∃ a, w.users[u]? = some ⟨u + kOf L u, noReact, true, a⟩ ∧ (r.hook = true → a = true)
  root : w.obs[u + kOf L u]? = some (rootOfB L u r)
  reg : L[u]? = some true →
    w.obs[u + kOf L u + 1]? = some (fwdOfB L u r) ∧ w.cells[4 + 2 * kOf L u]? = some (handleB L u) ∧
    w.cells[5 + 2 * kOf L u]? = some (.bool r.armed)
  unreg : L[u]? = some false → r.hook = false
  log : logOf w u = r.log
  seen : r.seen = true
  dead : r.hook = false → r.alive = false

def mapB (L : List Bool) (l : List (Nat × Nat)) : List (Nat × Nat) := l.map fun p => (p.1, p.2 + kOf L p.2 + 1)

structure RelB (L : List Bool) (w : World) (st : State) : Prop where
  status : w.status = .ok
  held : w.held = []
  cellO : w.cells[0]? = some (encMap (mapB L st.observers))
  cellS : w.cells[1]? = some (.int st.serial)
  cellI : w.cells[2]? = some (Data.optEnc st.lastItem)
  cellE : w.cells[3]? = some (Data.optEnc (st.lastError.map fun (e : Nat) => Data.int (e : Int)))
  nCells : w.cells.length = 4 + 2 * kOf L L.length
  slotA : w.slots[0]? = some none
  slotB : w.slots[1]? = some none
  obsv : w.obsvs[0]? = some b0.observable
  nUsers : w.users.length = L.length
  nObs : w.obs.length = L.length + kOf L L.length
  users : ∀ u, u < L.length → UserOkB L w u (st.obs u)
  unseen : ∀ u, L.length ≤ u → st.obs u = {}
  quiet : ∀ u, L.length ≤ u → logOf w u = []
  keys : ∀ p ∈ st.observers, p.1 ≤ st.serial
  regd : ∀ p ∈ st.observers, L[p.2]? = some true

theorem RelB.lt_of_reg {L : List Bool} {u : Nat} (h : L[u]? = some true) : u < L.length := by
  rcases Nat.lt_or_ge u L.length with hlt | hge
  · exact hlt
  · rw [List.getElem?_eq_none hge] at h; cases h

section
open Rx.RefU Rx.CRef

def layB (L : List Bool) : RefU.Layout :=
  { dir := false, root := fun u => u + kOf L u, reg := fun u => L[u]? = some true, arm := fun u => L[u]? = some true,
    fwd := fun u => u + kOf L u + 1, sb := fun u => 4 + 2 * kOf L u, ac := fun u => 5 + 2 * kOf L u, armReg := id }

theorem sepB (L : List Bool) : RefU.Sep sj0 (layB L) L.length where
  ne := by decide
  obs := fun {u u'} _ _ e => by
    simp only [layB]
    rcases Nat.lt_or_gt_of_ne e with hlt | hgt
    · have A := lay_lt L hlt
      exact ⟨by omega, fun _ => by omega, fun _ _ => by omega⟩
    · have B := lay_lt L hgt
      exact ⟨by omega, fun hr => by have := B.2 hr; omega, fun _ hr => by have := B.2 hr; omega⟩
  cells := fun {u u'} _ _ e hr hr' => by
    simp only [layB]
    rcases Nat.lt_or_gt_of_ne e with hlt | hgt
    · have := (lay_lt L hlt).2 hr
      exact ⟨by omega, fun _ => by omega⟩
    · have := (lay_lt L hgt).2 hr'
      exact ⟨by omega, fun _ => by omega⟩
  sbs := fun {u u'} _ _ e hr hr' => by
    simp only [layB]
    rcases Nat.lt_or_gt_of_ne e with hlt | hgt
    · have := (lay_lt L hlt).2 hr; omega
    · have := (lay_lt L hgt).2 hr'; omega
  self := fun _ _ => ⟨by simp only [layB]; omega, by show 4 + _ ≠ 0; omega,
    fun _ => ⟨by simp only [layB]; omega, by show 5 + _ ≠ 0; omega, by show 5 + _ ≠ 1; omega⟩⟩
  sbS := fun _ _ => by show 4 + _ ≠ 1; omega
  dirNoReg := nofun

theorem extB (L : List Bool) (b : Bool) : Ext (layB L) (layB (L ++ [b])) (· < L.length) where
  dir := rfl
  root := fun u hu => by simp only [layB, kOf_append_le L b (Nat.le_of_lt hu)]
  reg := fun u hu => by show (L ++ [b])[u]? = _ ↔ _; rw [get_app_lt L [b] u hu]; exact Iff.rfl
  arm := fun u hu => by show (L ++ [b])[u]? = _ ↔ _; rw [get_app_lt L [b] u hu]; exact Iff.rfl
  fwd := fun u hu _ => by simp only [layB, kOf_append_le L b (Nat.le_of_lt hu)]
  sb := fun u hu _ => by simp only [layB, kOf_append_le L b (Nat.le_of_lt hu)]
  ac := fun u hu _ => by simp only [layB, kOf_append_le L b (Nat.le_of_lt hu)]

variable {L : List Bool} {w : World} {st : State}

theorem RelB.up (h : RelB L w st) : UPs sj0 (layB L) False L.length none w st :=
  { cellO := h.cellO, cellS := h.cellS, nUsers := h.nUsers
    users := fun u hu =>
      have U := h.users u hu
      { user := let ⟨a, h1, h2⟩ := U.user; ⟨true, a, h1, fun _ => rfl, h2, False.elim⟩
        root := U.root, fwd := fun hr => (U.reg hr).1, stored := fun hr => (U.reg hr).2
        unstored := fun hr hn => absurd hr hn
        unreg := fun hn => U.unreg (by
          obtain ⟨b, hb⟩ : ∃ b, L[u]? = some b := ⟨L[u], List.getElem?_eq_getElem hu⟩
          cases b with
          | true => exact absurd hb hn
          | false => exact hb)
        log := U.log, seen := U.seen, dead := U.dead }
    unseen := h.unseen, quiet := h.quiet, keys := h.keys, regd := fun p hp _ => h.regd p hp }

/-- a closed world: the users' part, the BehaviorSubject's two cells, and nothing else -/
theorem RelB.mk' {L' : List Bool} {w' : World} {st' : State} (h : RelB L w st)
    (hs : w'.status = w.status) (hh : w'.held = w.held) (hsl : w'.slots = w.slots) (hv : w'.obsvs = w.obsvs)
    (hc : w'.cells.length = 4 + 2 * kOf L' L'.length) (ho : w'.obs.length = L'.length + kOf L' L'.length)
    (U : UPs sj0 (layB L') False L'.length none w' st') (hI : w'.cells[2]? = some (Data.optEnc st'.lastItem))
    (hE : w'.cells[3]? = some (Data.optEnc (st'.lastError.map fun (e : Nat) => Data.int (e : Int)))) :
    RelB L' w' st' :=
  { status := hs ▸ h.status, held := hh ▸ h.held, cellO := U.cellO, cellS := U.cellS, cellI := hI, cellE := hE
    nCells := hc, slotA := hsl ▸ h.slotA, slotB := hsl ▸ h.slotB, obsv := hv ▸ h.obsv, nUsers := U.nUsers, nObs := ho
    users := fun u hu =>
      have V := U.users u hu
      ⟨let ⟨_, a, h1, hrd, h2, _⟩ := V.user; ⟨a, hrd nofun ▸ h1, h2⟩, V.root, fun hr => ⟨V.fwd hr, V.stored hr⟩,
        fun hf => V.unreg (by show ¬ L'[u]? = some true; rw [hf]; simp), V.log, V.seen, V.dead⟩
    unseen := U.unseen, quiet := U.quiet, keys := U.keys, regd := fun p hp => U.regd p hp rfl }

theorem K_free {i : Nat} (h : (layB L).K sj0 L.length i) : i ≠ 2 ∧ i ≠ 3 := by
  rcases h with e | e | ⟨u, _, ⟨_, e⟩ | ⟨_, e⟩⟩
  · change i = 0 at e; omega
  · change i = 1 at e; omega
  · change i = 4 + 2 * _ at e; omega
  · change i = 5 + 2 * _ at e; omega

/-- what a closed world knows beyond the users' part survives an edit of the users' and the subject's objects -/
theorem RelB.of_up {w' : World} {st' : State} (h : RelB L w st) {J K : Nat → Prop} (e : Edit J K w w')
    (U : UPs sj0 (layB L) False L.length none w' st') (hI : w'.cells[2]? = some (Data.optEnc st'.lastItem))
    (hE : w'.cells[3]? = some (Data.optEnc (st'.lastError.map fun (e : Nat) => Data.int (e : Int)))) : RelB L w' st' :=
  h.mk' e.status e.held e.slots e.obsvs (e.cellsLen ▸ h.nCells) (e.obsLen ▸ h.nObs) U hI hE

theorem keys_mapB {L : List Bool} {l : List (Nat × Nat)} {s : Nat} (h : ∀ p ∈ l, p.1 ≤ s) :
    ∀ p ∈ mapB L l, p.1 ≤ s :=
  RefU.keys_map (Λ := layB L) h

theorem mapB_append (L : List Bool) (b : Bool) (l : List (Nat × Nat)) (hl : ∀ p ∈ l, L[p.2]? = some true) :
    mapB (L ++ [b]) l = mapB L l := by
  unfold mapB
  apply List.map_congr_left
  intro p hp
  rw [kOf_append_le _ _ (Nat.le_of_lt (RelB.lt_of_reg (hl p hp)))]

theorem length_snoc (L : List Bool) (b : Bool) : (L ++ [b]).length = L.length + 1 := by simp

/-- a `subscribe` that found a stored terminal: one observer (already ended), one user, one event -/
theorem RelB.extendUnreg (h : RelB L w st) (t : Ev) :
    RelB (L ++ [false])
      ({ w with
        obs := w.obs ++ [(⟨none, none, none, none⟩ : Obs)]
        users := (w.users ++ [(⟨w.obs.length, noReact, false, true⟩ : User)]).modify w.users.length
          fun u => { u with ready := true }
        trace := w.trace ++ [Rec.ev w.users.length t] } : World)
      { st with obs := upd st.obs L.length { seen := true, log := [t] } } := by
  refine h.mk' rfl rfl rfl rfl (by rw [length_snoc, kOf_append_last]; exact h.nCells)
    (by rw [length_snoc, kOf_append_last]; simp [h.nObs]; omega) ?_ h.cellI h.cellE
  rw [length_snoc]
  exact h.up.extend (sepB L) (extB L false) (rF := { seen := true, log := [t] }) (a := true) (fw := []) (nc := [])
    (by simp only [layB, kOf_append_le L false (Nat.le_refl _), h.nObs]) rfl
    (by show List.modify _ _ _ = _; rw [modify_app0]; rfl)
    (by show w.cells = (w.cells.set 1 _).set 0 (encMap (mapB _ _)) ++ []
        rw [List.append_nil, set_self h.cellS, mapB_append L false _ h.regd, set_self h.cellO])
    (by rw [h.nUsers]; rfl) (fun hr => by simp [layB] at hr) (fun _ => rfl) ⟨fun _ => rfl, False.elim⟩ rfl (fun _ => rfl)
    h.keys (fun p hp _ => ((extB L false).reg _ (RelB.lt_of_reg (h.regd p hp))).2 (h.regd p hp))

/-- a `subscribe` that registers: root observer, forwarder, `sbsc`, armed flag, the latest value recorded -/
theorem RelB.extendReg (h : RelB L w st) (w' : World) (rF : ObsSt)
    (hstatus : w'.status = w.status) (hheld : w'.held = w.held) (hslots : w'.slots = w.slots)
    (hobsvs : w'.obsvs = w.obsvs)
    (hobs : w'.obs = w.obs ++ [rootOfB (L ++ [true]) L.length rF, fwdOfB (L ++ [true]) L.length rF])
    (husers : w'.users = w.users ++ [⟨w.obs.length, noReact, true, true⟩])
    (hcells : w'.cells = (w.cells.set 1 (.int ((st.serial + 1 : Nat) : Int))).set 0
        (encMap (mapB (L ++ [true]) (st.observers ++ [(st.serial + 1, L.length)]))) ++
      [handleB (L ++ [true]) L.length, .bool rF.armed])
    (htrace : w'.trace = w.trace ++ rF.log.map (Rec.ev L.length))
    (hseen : rF.seen = true) (hdead : rF.hook = false → rF.alive = false) :
    RelB (L ++ [true]) w'
      { st with serial := st.serial + 1, observers := st.observers ++ [(st.serial + 1, L.length)],
                obs := upd st.obs L.length rF } := by
  have hk : kOf (L ++ [true]) L.length = kOf L L.length := kOf_append_le _ _ (Nat.le_refl _)
  have U := h.up.extend (sepB L) (extB L true) (rF := rF) (s' := st.serial + 1) (a := true)
    (by simp only [layB, hk, h.nObs]) hobs husers hcells htrace
    (fun _ => ⟨by simp [layB], by simp only [layB, hk, h.nObs], by simp only [layB, hk, h.nCells],
      by simp only [layB, hk, h.nCells]; omega, rfl, rfl⟩)
    (fun hn => absurd (by simp [layB]) hn) ⟨fun _ => rfl, False.elim⟩ hseen hdead
    (fun p hp => by
      rcases List.mem_append.1 hp with hp | hp
      · have := h.keys p hp; omega
      · simp at hp; subst hp; exact Nat.le_refl _)
    (fun p hp _ => by
      rcases List.mem_append.1 hp with hp | hp
      · exact ((extB L true).reg _ (RelB.lt_of_reg (h.regd p hp))).2 (h.regd p hp)
      · simp at hp; subst hp; simp [layB])
  rw [← length_snoc L true] at U
  have old : ∀ {i : Nat} {x : Data}, 2 ≤ i → w.cells[i]? = some x → w'.cells[i]? = some x := fun h2 hx => by
    rw [hcells]
    exact getElem?_append_some (by rw [set_get_other _ (by omega), set_get_other _ (by omega)]; exact hx)
  exact h.mk' hstatus hheld hslots hobsvs (by rw [hcells, length_snoc, kOf_append_last]; simp [h.nCells]; omega)
    (by rw [hobs, length_snoc, kOf_append_last]; simp [h.nObs]; omega) U (old (by decide) h.cellI)
    (old (by decide) h.cellE)

end

/-- the record of a subscriber that joined a BehaviorSubject holding `v` -/
def liveRecB (serial : Nat) (v : Data) : ObsSt :=
  { seen := true, alive := true, log := [.next v], hook := true, inAlive := true, inHook := some (serial + 1), armed := true }

/-- `SubjM.step (.behavior i) _ (.subscribe n)` for an unused id (`step_subscribe_unseen`), by what is stored -/
theorem stepB_sub_err (i : Data) (st : State) (n : Nat) (hu : (st.obs n).seen = false) {e : Nat}
    (hle : st.lastError = some e) :
    step (.behavior i) st (.subscribe n) = { st with obs := upd st.obs n { seen := true, log := [.error e] } } := by
  rw [step_subscribe_unseen _ rfl st n hu]; simp [entry, hle]

theorem stepB_sub_done (i : Data) (st : State) (n : Nat) (hu : (st.obs n).seen = false)
    (hle : st.lastError = none) (hli : st.lastItem = none) :
    step (.behavior i) st (.subscribe n) = { st with obs := upd st.obs n { seen := true, log := [.complete] } } := by
  rw [step_subscribe_unseen _ rfl st n hu]; simp [entry, hle, hli]

theorem stepB_sub_live (i : Data) (st : State) (n : Nat) (hu : (st.obs n).seen = false) {v : Data}
    (hle : st.lastError = none) (hli : st.lastItem = some v) :
    step (.behavior i) st (.subscribe n) =
      { st with
        serial := st.serial + 1
        observers := st.observers ++ [(st.serial + 1, n)]
        obs := upd st.obs n (liveRecB st.serial v) } := by
  rw [step_subscribe_unseen _ rfl st n hu]; simp [entry, hle, hli, register, newcomer, liveRecB, Kind.isPlain, Kind.isReplay]

theorem subscribeB_spec {L w st} (i : Data) (h : RelB L w st) :
    WP (.userSub 0 noReact .done) w
      (fun w' => ∃ b, RelB (L ++ [b]) w' (step (.behavior i) st (.subscribe L.length))) := by
  have hu : (st.obs L.length).seen = false := by rw [h.unseen _ (Nat.le_refl _)]
  generalize hstF : step (.behavior i) st (.subscribe L.length) = stF
  refine wp_userSub h.obsv ?_
  unfold BSubj.observable
  simp only [b0_lastItem, b0_lastError, b0_inner]
  refine wp_cellRead h.held ?_
  refine wp_cellRead h.held ?_
  dsimp only
  rw [h.cellI, h.cellE]
  simp only [Option.getD_some]
  have huser : (w.users ++ [(⟨w.obs.length, noReact, false, true⟩ : User)])[w.users.length]? = some _ := get_app0 ..
  cases hle : st.lastError with
  | some e =>
    rw [stepB_sub_err i st _ hu hle] at hstF
    subst hstF
    simp only [Option.map_some, Data.optEnc, Data.optDec, toNat_int]
    exact wp_ev_fresh (ev := .error e) huser rfl (WP.done (wp_userReady (WP.done ⟨false, h.extendUnreg (.error e)⟩)))
  | none =>
    cases hli : st.lastItem with
    | none =>
      rw [stepB_sub_done i st _ hu hle hli] at hstF
      subst hstF
      simp only [Option.map_none, Data.optEnc, Data.optDec]
      exact wp_ev_fresh (ev := .complete) huser rfl (WP.done (wp_userReady (WP.done ⟨false, h.extendUnreg .complete⟩)))
    | some v =>
      rw [stepB_sub_live i st _ hu hle hli] at hstF
      subst hstF
      simp only [Option.map_none, Data.optEnc, Data.optDec]
      refine wp_ev_fresh (ev := .next v) huser rfl ?_
      simp only [Ev.isTerminal, Bool.false_eq_true, ↓reduceIte]
      refine wp_obsIsSub (get_app0 ..) ?_
      simp only [Obs.isSub, Option.isSome_some, Bool.and_self, Bool.not_true, Bool.false_eq_true, ↓reduceIte]
      refine wp_cellNew ?_
      dsimp only
      refine wp_obsSetOnUnsub h.held ?_
      dsimp only [World.setObs]
      rw [modify_app0]
      simp only [List.modify_cons, ↓reduceIte]
      generalize hrh : (Prog.cellRead w.cells.length false fun h => subUnsub h) = rh
      unfold subscribeWith
      refine wp_obsNew ?_
      dsimp only
      simp only [List.length_append, List.length_cons, List.length_nil, List.append_assoc, List.cons_append,
        List.nil_append, Nat.zero_add]
      refine WP.seq ?_
      simp only [Obsv.sub]
      refine wp_obsIsSub (by dsimp only; rw [get_app_ge _ _ 1]; rfl) ?_
      simp only [Obs.isSub, Option.isSome_some, Bool.and_self, ↓reduceIte]
      have hcl : 4 ≤ w.cells.length := by rw [h.nCells]; omega
      refine observable_spec (sj := sj0) (serial := st.serial) (obsl := mapB L st.observers) h.held
        (by dsimp only; rw [get_app_ge _ _ 1]; rfl) rfl (by decide)
        (getElem?_append_some h.cellS) (getElem?_append_some h.cellO) (keys_mapB h.keys) h.slotA ?_
      dsimp only [subWorld, World.setObs, sj0_serial, sj0_observers]
      rw [modify_app _ _ 1]
      simp only [List.modify_cons, ↓reduceIte, Nat.reduceEqDiff, Nat.add_one_sub_one]
      rw [set_app_lt _ _ _ _ (by omega), set_app_lt _ _ _ _ (by simp; omega)]
      refine wp_cellNew ?_
      dsimp only
      simp only [List.length_append, List.length_set, List.length_cons, List.length_nil, Nat.zero_add]
      refine wp_cellWrite h.held ?_
      dsimp only
      rw [List.append_assoc, set_app_at _ _ _ 0 _ (by simp)]
      simp only [List.cons_append, List.nil_append, List.set_cons_zero]
      refine WP.done (wp_userReady (WP.done ?_))
      dsimp only [World.setUser]
      rw [modify_app0]
      simp only [List.modify_cons, ↓reduceIte]
      subst hrh
      have hkl : kOf (L ++ [true]) L.length = kOf L L.length := kOf_append_le _ _ (Nat.le_refl _)
      refine ⟨true, ?_⟩
      refine RelB.extendReg h _ (liveRecB st.serial v) (by rfl) (by rfl) (by rfl) (by rfl) ?_ rfl ?_ ?_ rfl
        (by simp [liveRecB])
      · dsimp only
        rw [h.nObs, h.nUsers, h.nCells]
        simp [rootOfB, fwdOfB, liveRecB, hkl, cbN, cbE, cbC, rootHookB]
      · dsimp only
        have hm : mapB (L ++ [true]) (st.observers ++ [(st.serial + 1, L.length)]) =
            mapB L st.observers ++ [(st.serial + 1, L.length + kOf L L.length + 1)] := by
          have := mapB_append L true _ h.regd
          simp only [mapB, List.map_append, List.map_cons, List.map_nil, hkl] at this ⊢
          rw [this]
        rw [h.nObs, h.nCells, hm]
        simp [handleB, liveRecB, hkl]
        omega
      · dsimp only; rw [h.nUsers]; simp [liveRecB]

def callProgB (b : BSubj) (id : Nat) : Call → Prog
  | .subscribe _ => .userSub id noReact .done
  | .unsubscribe o => .userUnsub o .done
  | .next v => b.next v
  | .error e => b.error e
  | .complete => b.complete

open Rx.RefU Rx.CRef in
theorem callB_spec (i : Data) (h : RelB L w st) (c : Call) (hc : wfFrom L.length [c] = true) :
    WP (callProgB b0 0 c) w
      (fun w' => ∃ L', L'.length = L.length + subs [c] ∧ RelB L' w' (step (.behavior i) st c)) := by
  have hh : SlotReads w.held := .of_nil h.held
  -- `d` is written to the store cell `c`; then the broadcast
  have em : ∀ (ev : Ev) (c : Nat) (d : Data), (c = 2 ∨ c = 3) →
      (w.cells.set c d)[2]? = some (Data.optEnc (emit (.behavior i) st ev).lastItem) →
      (w.cells.set c d)[3]? =
        some (Data.optEnc ((emit (.behavior i) st ev).lastError.map fun (e : Nat) => Data.int (e : Int))) →
      WP (.cellWrite c false d (evCall sj0 ev)) w fun w' =>
        ∃ L', L'.length = L.length ∧ RelB L' w' (emit (.behavior i) st ev) := by
    intro ev c d hc h2 h3
    refine (recordBroadcast (sepB L) hh h.up (k := .behavior i) rfl ev
      (fun p hp hge => absurd (RelB.lt_of_reg (h.regd p hp)) (Nat.not_lt.2 hge)) d
      fun hk => by have := K_free hk; omega).conseq fun w' ⟨U, t⟩ => ⟨L, rfl, ?_⟩
    exact h.of_up (K := fun _ => True)
      (.ofTouch ((touch_setCell w c d trivial).trans (t.mono (fun _ a => a) fun _ _ => trivial))) U
      ((t.cells 2 (show 2 ≠ 0 by decide)).trans h2) ((t.cells 3 (show 3 ≠ 0 by decide)).trans h3)
  cases c with
  | subscribe o =>
    have : o = L.length := by simpa [wfFrom] using hc
    subst this
    refine (subscribeB_spec i h).conseq ?_
    rintro w' ⟨b, hb⟩
    exact ⟨L ++ [b], by simp [subs, isSubscribe, List.filter], hb⟩
  | unsubscribe o =>
    refine RefU.unsubscribe (sepB L) hh h.up (k := .behavior i) rfl o nofun fun w' U e _ => ?_
    have hm := unsubscribeN_mem (.behavior i) st o
    simp only [SubjM.mem, Prod.mk.injEq] at hm
    have h' : RelB L w' (unsubscribeN (.behavior i) st o).1 :=
      h.of_up e U (by rw [hm.1, e.cells 2 fun k => (K_free k).1 rfl]; exact h.cellI)
        (by rw [hm.2.1, e.cells 3 fun k => (K_free k).2 rfl]; exact h.cellE)
    exact hookCall_none h'.held h'.slotB _ ⟨L, rfl, h'⟩
  | next v => exact em (.next v) 2 _ (.inl rfl) (set_get_same _ h.cellI) ((set_get_other _ (by decide)).trans h.cellE)
  | error e => exact em (.error e) 3 _ (.inr rfl) ((set_get_other _ (by decide)).trans h.cellI) (set_get_same _ h.cellE)
  | complete => exact em .complete 2 _ (.inl rfl) (set_get_same _ h.cellI) ((set_get_other _ (by decide)).trans h.cellE)

/-- allocate a `BehaviorSubject` holding `i` (behavior_subject.rs `new`: Subject, last_item = Some(i),
    last_error = None), make its observable, perform the calls in order -/
def progB (i : Data) (cs : List Call) : Prog :=
  subjNew fun sj => .cellNew (Data.optEnc (some i)) fun li => .cellNew .lnil fun le =>
    .obsvNew (BSubj.observable ⟨sj, li, le⟩) fun id => forEach cs (callProgB ⟨sj, li, le⟩ id)

theorem relB_init (i : Data) :
    RelB [] { cells := [.lnil, .int 0, Data.optEnc (some i), .lnil], slots := [none, none], obsvs := [b0.observable] }
      (init (.behavior i)) :=
  { status := rfl, held := rfl, cellO := rfl, cellS := rfl, cellI := rfl, cellE := rfl, nCells := rfl
    slotA := rfl, slotB := rfl, obsv := rfl, nUsers := rfl, nObs := rfl
    users := fun u hu => by simp at hu
    unseen := fun _ _ => rfl
    quiet := fun _ _ => rfl
    keys := fun p hp => by cases hp
    regd := fun p hp => by cases hp }

theorem progB_spec (i : Data) (cs : List Call) (hwf : wfFrom 0 cs = true) :
    WP (progB i cs) {} (fun w' => ∃ L, RelB L w' (SubjM.run (.behavior i) cs)) := by
  unfold progB subjNew
  refine wp_cellNew (wp_cellNew (wp_slotNew (wp_slotNew (wp_cellNew (wp_cellNew (wp_obsvNew ?_))))))
  refine (calls_gen (R := fun n w st => ∃ L : List Bool, L.length = n ∧ RelB L w st)
    (fun c ⟨L, hl, h⟩ hc => by subst hl; exact callB_spec i h c hc) cs ⟨[], rfl, relB_init i⟩ hwf).conseq ?_
  rintro w' ⟨L, _, h⟩
  exact ⟨L, h⟩

def FinalB (i : Data) (cs : List Call) (w : World) : Prop :=
  ∃ n0, ∀ fuel, n0 ≤ fuel → run fuel [progB i cs] {} = w

/-- what the differential test compares (`O=` is `mapCount`) -/
structure AgreesB (w : World) (st : State) : Prop where
  status : w.status = .ok
  held : w.held = []
  logs : ∀ u, logOf w u = SubjM.logOf st u
  count : mapCount w = (registered st).length
  alive : ∀ u, w.isSubOf u = aliveOf st u

theorem RelB.agrees {L w st} (h : RelB L w st) : AgreesB w st :=
  have ⟨a, _, c, d⟩ := RefU.UP.agrees h.up
  ⟨h.status, h.held, a, c, d⟩

/-- **C10-REF, BehaviorSubject.**  For every initial value and every call sequence whose `subscribe` calls are
    numbered in order, model A's program (allocate the behavior subject, perform the calls through the
    transliterated macros of `Machine/Subjects.lean`) terminates with `status = ok` and agrees with `SubjM`
    (kind `.behavior i`) on every user's log, on the size of the observer map and on who is still subscribed. -/
theorem behavior_refines (i : Data) (cs : List Call) (hwf : wfFrom 0 cs = true) :
    ∃ w, FinalB i cs w ∧ AgreesB w (SubjM.run (.behavior i) cs) :=
  refines_of ((progB_spec i cs hwf).conseq fun _ ⟨_, h⟩ => h.agrees)

theorem behavior_refines_fuel (i : Data) (cs : List Call) (hwf : wfFrom 0 cs = true) :
    ∃ n0, ∀ fuel, n0 ≤ fuel →
      (run fuel [progB i cs] {}).status = .ok ∧
      (∀ u, logOf (run fuel [progB i cs] {}) u = SubjM.logOf (SubjM.run (.behavior i) cs) u) ∧
      mapCount (run fuel [progB i cs] {}) = (registered (SubjM.run (.behavior i) cs)).length ∧
      (∀ u, (run fuel [progB i cs] {}).isSubOf u = aliveOf (SubjM.run (.behavior i) cs) u) :=
  eventually_imp (WP.run_all (progB_spec i cs hwf)) fun _ ⟨_, r⟩ =>
    let a := r.agrees; ⟨a.status, a.logs, a.count, a.alive⟩

theorem callB_run {L w st} (i : Data) (h : RelB L w st) (c : Call) (hc : wfFrom L.length [c] = true) :
    ∃ n0, ∀ fuel, n0 ≤ fuel →
      ∃ L', L'.length = L.length + subs [c] ∧ RelB L' (run fuel [callProgB b0 0 c] w) (step (.behavior i) st c) :=
  WP.run_all (callB_spec i h c hc)

/-- **`behavior_handover` on model A**: a new user of the machine's BehaviorSubject first records the stored error
    and nothing else, or — the last item having been emptied by `complete` — just `complete`, or else the latest
    value followed by exactly what a plain Subject gives an observer subscribed at that moment. -/
theorem machine_behavior_handover (i : Data) (pre post : List Call) (o : Nat)
    (hwf : wfFrom 0 (pre ++ .subscribe o :: post) = true) {w : World}
    (h : FinalB i (pre ++ .subscribe o :: post) w) :
    logOf w o =
      match storedError none pre with
      | some e => [.error e]
      | none =>
        match latestValue (some i) pre with
        | none => [.complete]
        | some v => .next v :: plainExpect o post := by
  rw [(FinalOf.sat h (behavior_refines _ _ hwf)).logs, behavior_handover i pre post o (wf_fresh pre post o hwf)]
  rw [plain_log_here]
  cases storedError none pre with
  | some e => rfl
  | none => cases latestValue (some i) pre <;> rfl

theorem machine_behavior_no_observer_after_terminal (i : Data) (cs : List Call) (c : Call) (ev : Ev)
    (hc : c.toEv? = some ev) (ht : ev.isTerminal = true) (hwf : wfFrom 0 (cs ++ [c]) = true) {w : World}
    (h : FinalB i (cs ++ [c]) w) : mapCount w = 0 := by
  have b := FinalOf.sat h (behavior_refines _ _ hwf)
  have := no_observer_after_terminal (.behavior i) cs c ev hc ht
  rw [← run_snoc] at this
  rw [b.count, this]; rfl

/-- as written (behavior_subject.rs:26-29) a `next` after `complete` brings the value back — on model A too -/
theorem machine_behavior_forgets_complete {w : World}
    (h : FinalB (.int 0) [.complete, .next (.int 5), .subscribe 0, .next (.int 6)] w) :
    logOf w 0 = [.next (.int 5), .next (.int 6)] := by
  rw [(FinalOf.sat h (behavior_refines _ _ (by decide))).logs]; exact behavior_forgets_complete

def demoB : List Call :=
  [.subscribe 0, .next (.int 1), .subscribe 1, .unsubscribe 0, .next (.int 2), .complete, .subscribe 2,
   .next (.int 3), .subscribe 3, .error 7, .subscribe 4, .unsubscribe 2]

example : wfFrom 0 demoB = true := by decide
theorem demoB_run : (run 2000 [progB (.int 0) demoB] {}).status = .ok ∧
    (List.range 5).map (logOf (run 2000 [progB (.int 0) demoB] {})) =
      (List.range 5).map (SubjM.logOf (SubjM.run (.behavior (.int 0)) demoB)) := by decide +kernel

example : (run 2000 [progB (.int 0) demoB] {}).status = .ok := demoB_run.1
example : (List.range 5).map (logOf (run 2000 [progB (.int 0) demoB] {})) =
    (List.range 5).map (SubjM.logOf (SubjM.run (.behavior (.int 0)) demoB)) := demoB_run.2
example : (List.range 5).map (SubjM.logOf (SubjM.run (.behavior (.int 0)) demoB)) =
    [[.next (.int 0), .next (.int 1)], [.next (.int 1), .next (.int 2), .complete], [.complete],
     [.next (.int 3), .error 7], [.error 7]] := by decide +kernel
example : mapCount (run 2000 [progB (.int 0) (demoB.take 5)] {}) = 1 ∧
    registered (SubjM.run (.behavior (.int 0)) (demoB.take 5)) = [1] := by decide +kernel
example : ∃ w L, FinalB (.int 9) [.subscribe 0, .complete, .subscribe 1, .unsubscribe 0] w ∧
    RelB L w (SubjM.run (.behavior (.int 9)) [.subscribe 0, .complete, .subscribe 1, .unsubscribe 0]) :=
  let ⟨w, hf, L, hrel⟩ := refines_of (progB_spec (.int 9) [.subscribe 0, .complete, .subscribe 1, .unsubscribe 0] (by decide))
  ⟨w, L, hf, hrel⟩

#print axioms behavior_refines
#print axioms behavior_refines_fuel
#print axioms callB_run
#print axioms machine_behavior_handover
#print axioms machine_behavior_no_observer_after_terminal
#print axioms machine_behavior_forgets_complete

end Rx.RefB
