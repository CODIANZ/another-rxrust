import RxVerif.Theorems.WP
/-
C06 / C17 — an upstream attached AFTER the subscription ended (src/internals/stream_controller.rs:88-94, the last branch of
`new_observer`, commit dfd0310; src/observable.rs:29 `inner_subscribe`, commit 655c427).

Whatever the operator is doing (flat_map attaching an inner source, retry / retry_when starting the next attempt,
on_error_resume_next subscribing the replacement, subscribe_on attaching its source from the worker thread): if the subscriber of
the controller is no longer subscribed when `new_observer` is called, the new observer is removed from the table again and
unsubscribed, and `inner_subscribe` does NOT start the source for it - for EVERY source program and all closures.
The harness reaches this branch with the `*_u` closures (a closure given to the operator that ends the subscription) and, across
threads, with the subscribe_on / unsubscribe race.
-/
namespace Rx.C06late
open Rx Rx.Sim

theorem noconf (w : World) (h : w.held = []) (l : LockId) (wr : Bool) : w.conflicts l wr = false :=
  Ref.noconf_of_held_nil h l wr

/-- what a late attach leaves behind, whatever the source is: nothing was delivered or recorded, no lock is held, every
    observer that existed is untouched, exactly one observer was added and it is not subscribed -/
structure Inert (w w' : World) : Prop where
  status : w'.status = w.status
  held : w'.held = []
  trace : w'.trace = w.trace
  users : w'.users = w.users
  slots : w'.slots = w.slots
  obsvs : w'.obsvs = w.obsvs
  old : ∀ i, i < w.obs.length → w'.obs[i]? = w.obs[i]?
  added : w'.obs.length = w.obs.length + 1
  dead : (w'.obs[w.obs.length]?.map Obs.isSub) = some false

/-- **late attach is inert**: the subscriber `sc.sub` is not subscribed ⇒ `new_observer` followed by `inner_subscribe` of ANY
    source program `src` runs none of it -/
theorem late_attach_inert (sc : Sctl) (n : Nat → Data → Prog) (e : Nat → Nat → Prog) (c : Nat → Prog) (src : Obsv)
    (w : World) (hh : w.held = []) (x : Obs) (hx : w.obs[sc.sub]? = some x) (hxs : x.isSub = false) :
    WP (sc.newObserver n e c (fun o => src.sub o)) w (Inert w) := by
  have hlt : sc.sub < w.obs.length := lt_of_getElem? hx
  unfold Sctl.newObserver Obsv.sub
  apply Ref.wp_cellRead (by exact hh)
  apply Ref.wp_cellWrite (by exact hh)
  apply Ref.wp_obsNew
  apply Ref.wp_cellRead (by exact hh)
  apply Ref.wp_cellWrite (by exact hh)
  -- the subscriber is gone: take the entry out again, unsubscribe the new observer
  apply Ref.wp_obsIsSub (x := x) (by show (w.obs ++ [_])[sc.sub]? = _; rwa [List.getElem?_append_left hlt])
  rw [hxs]
  apply Ref.wp_cellRead (by exact hh)
  apply Ref.wp_cellWrite (by exact hh)
  apply Ref.wp_obsUnsub_none (by show (w.obs ++ [_])[w.obs.length]? = _; exact List.getElem?_concat_length) rfl
  -- inner_subscribe: the observer is not subscribed, the source is not called
  have hdead : ∀ y : Obs, (List.modify (w.obs ++ [y]) w.obs.length
      fun x => { x.cleared with onUnsub := none })[w.obs.length]? = some ⟨none, none, none, none⟩ := by
    simp [Obs.cleared]
  apply Ref.wp_obsIsSub (hdead _)
  apply WP.done
  refine ⟨rfl, hh, rfl, rfl, rfl, rfl, fun i hi => ?_, ?_, ?_⟩
  · show (List.modify (w.obs ++ [_]) w.obs.length _)[i]? = _
    have : w.obs.length ≠ i := by omega
    simp [this, List.getElem?_append_left hi]
  · show (List.modify (w.obs ++ [_]) w.obs.length _).length = _
    simp
  · show Option.map _ (List.modify (w.obs ++ [_]) w.obs.length _)[w.obs.length]? = _
    rw [hdead]; rfl

end Rx.C06late

-- non-vacuity: a controller whose subscriber was unsubscribed; a late attach of `just(7)` delivers nothing
open Rx in
example :
    let p : Prog := .obsNew (fun _ => .probe 3 (.int 1) .done) (fun _ => .done) .done fun s =>
      sctlNew s fun sc => .obsUnsub s <|
      sc.newObserver (fun _ x => sc.sinkNext x) (fun _ e => sc.sinkError e) (fun ser => sc.sinkComplete ser) fun o =>
        Obsv.sub (fun s => .obsNext s (.int 7) (.obsComplete s .done)) o
    (run 200 [p] {}).trace = [] := by decide

#print axioms Rx.C06late.late_attach_inert
