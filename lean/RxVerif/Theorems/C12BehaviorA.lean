/-
Structural invariant `InvA` of the `BehaviorSubject` LTS (all reachable states, no restriction on the schedule): what
`C12SubjectA.lean` has for the plain `Subject` (owners, unique serials, the map against the inserted live observers); in
addition an observer's log starts with its hand-over (`HandFirst`), and an inserted observer whose `subscribe` has not
returned belongs to a thread at `s9` (`owner`).  `invA_thr`, `invA_upd`, `invA_set` re-establish `InvA` as there.
-/
import RxVerif.Conc.Behavior
import RxVerif.Theorems.C12Lists

namespace Rx.Conc.Behavior

/-- the observer whose forwarder the thread has inserted but whose `subscribe` call has not returned yet -/
def Pc.lateSub : Pc → Option Nat
  | .s9 o => some o
  | _ => none

theorem Pc.inSub_of_lateSub {pc : Pc} {o : Nat} (h : pc.lateSub = some o) : pc.inSub = true := by
  cases pc <;> cases h <;> rfl

def LocA (obs : Nat → Obs) (t : Nat) : Pc → Prop
  | .nxL _ _ snap => snap.Nodup ∧ ∀ o ∈ snap, (obs o).ins = true
  | .nxF _ _ o rest | .nxD _ _ o rest => (o :: rest).Nodup ∧ ∀ o' ∈ o :: rest, (obs o').ins = true
  | .s0 o | .s1 o =>
    (obs o).used = some t ∧ (obs o).ins = false ∧ (obs o).subDone = false ∧ (obs o).rlog = []
  | .s2 o x | .s3 o x | .s3d o x =>
    (obs o).used = some t ∧ (obs o).ins = false ∧ (obs o).subDone = false ∧ (obs o).rlog = [] ∧
    (obs o).hand = some x
  | .s4 o =>
    (obs o).used = some t ∧ (obs o).ins = false ∧ (obs o).subDone = false ∧
    ((obs o).fnNext = true → (obs o).rlog ≠ [])
  | .s5 o | .s6 o =>
    (obs o).used = some t ∧ (obs o).ins = false ∧ (obs o).subDone = false ∧ (obs o).rlog ≠ []
  | .s7 o | .s8 o =>
    (obs o).used = some t ∧ (obs o).ins = false ∧ (obs o).subDone = false ∧ (obs o).rlog ≠ [] ∧
    (obs o).fSer.isSome = true
  | .s9 o => (obs o).used = some t ∧ (obs o).ins = true ∧ (obs o).subDone = false
  | .u1 o | .u2 o | .u3 o | .u4 o | .u5 o | .u6 o | .u7 o | .u8 o | .u9 o | .u9r o | .u9c o | .u10 o =>
    (obs o).fnNext = false
  | _ => True

/-- `ob'` differs from `ob` in nothing `InvA` relates to other records or to threads -/
structure Keeps (ob ob' : Obs) : Prop where
  used : ob'.used = ob.used
  ins : ob'.ins = ob.ins
  fSer : ob'.fSer = ob.fSer
  subDone : ob'.subDone = ob.subDone
  fnNext : ob.fnNext = false → ob'.fnNext = false
  hand : ob'.hand = ob.hand
  rlog : ob.ins = false → ob'.rlog = ob.rlog

theorem Keeps.rfl {ob : Obs} : Keeps ob ob :=
  ⟨_root_.rfl, _root_.rfl, _root_.rfl, _root_.rfl, id, _root_.rfl, fun _ => _root_.rfl⟩

theorem LocA_mono {obs obs' : Nat → Obs} {t : Nat} {pc : Pc}
    (h1 : ∀ o, (obs o).ins = true → (obs' o).ins = true)
    (h2 : ∀ o, (obs o).used = some t → (obs o).subDone = false → Keeps (obs o) (obs' o))
    (h3 : ∀ o, (obs o).fnNext = false → (obs' o).fnNext = false)
    (h : LocA obs t pc) : LocA obs' t pc := by
  cases pc
  case idle | r0 | nx0 | u0 => trivial
  case nxL | nxF | nxD => exact ⟨h.1, fun o ho => h1 o (h.2 o ho)⟩
  case s0 o | s1 o =>
    have r := h2 o h.1 h.2.2.1
    exact ⟨r.used.trans h.1, r.ins.trans h.2.1, r.subDone.trans h.2.2.1, (r.rlog h.2.1).trans h.2.2.2⟩
  case s2 o _ | s3 o _ | s3d o _ =>
    have r := h2 o h.1 h.2.2.1
    exact ⟨r.used.trans h.1, r.ins.trans h.2.1, r.subDone.trans h.2.2.1, (r.rlog h.2.1).trans h.2.2.2.1,
      r.hand.trans h.2.2.2.2⟩
  case s4 o =>
    have r := h2 o h.1 h.2.2.1
    refine ⟨r.used.trans h.1, r.ins.trans h.2.1, r.subDone.trans h.2.2.1, fun hf => ?_⟩
    rw [r.rlog h.2.1]
    cases hf' : (obs o).fnNext
    · rw [h3 o hf'] at hf; cases hf
    · exact h.2.2.2 hf'
  case s5 o | s6 o =>
    have r := h2 o h.1 h.2.2.1
    exact ⟨r.used.trans h.1, r.ins.trans h.2.1, r.subDone.trans h.2.2.1, r.rlog h.2.1 ▸ h.2.2.2⟩
  case s7 o | s8 o =>
    have r := h2 o h.1 h.2.2.1
    exact ⟨r.used.trans h.1, r.ins.trans h.2.1, r.subDone.trans h.2.2.1, r.rlog h.2.1 ▸ h.2.2.2.1,
      r.fSer ▸ h.2.2.2.2⟩
  case s9 o =>
    have r := h2 o h.1 h.2.2; exact ⟨r.used.trans h.1, r.ins.trans h.2.1, r.subDone.trans h.2.2⟩
  all_goals exact h3 _ h

/-- the log of an observer starts with the hand-over, everything after it is a broadcast delivery -/
def HandFirst (ob : Obs) : Prop :=
  ob.rlog ≠ [] → ∃ x r, ob.hand = some x ∧ ob.rlog = r ++ [(none, 0, x)] ∧ ∀ e ∈ r, e.1.isSome = true

structure InvA (s : State) : Prop where
  loc : ∀ t : Nat, LocA s.obs t (s.threads t).pc
  mapSer : ∀ k o : Nat, (k, o) ∈ s.map → (s.obs o).fSer = some k ∧ (s.obs o).ins = true
  mapNodup : (s.map.map (·.2)).Nodup
  serLe : ∀ o k : Nat, (s.obs o).fSer = some k → k ≤ s.serial
  serInj : ∀ o o' k : Nat, (s.obs o).fSer = some k → (s.obs o').fSer = some k → o = o'
  live : ∀ o : Nat, (s.obs o).ins = true → (s.obs o).fnNext = true → o ∈ s.map.map (·.2)
  insLog : ∀ o : Nat, (s.obs o).ins = true → (s.obs o).rlog ≠ []
  logUsed : ∀ o : Nat, (s.obs o).rlog ≠ [] → (s.obs o).used.isSome = true
  handFirst : ∀ o : Nat, HandFirst (s.obs o)
  insUsed : ∀ o : Nat, (s.obs o).ins = true → (s.obs o).used.isSome = true
  subIns : ∀ o : Nat, (s.obs o).subDone = true → (s.obs o).ins = true
  fLive : ∀ o : Nat, (s.obs o).fFnNext = false → (s.obs o).fnNext = false
  owner : ∀ o ts : Nat, (s.obs o).used = some ts → (s.obs o).ins = true → (s.obs o).subDone = false →
    (s.threads ts).pc.lateSub = some o

theorem invA_init (progs : List (List Call)) (initial : Data) : InvA (init progs initial) := by
  constructor <;> simp [init, LocA, HandFirst]

theorem InvA.map {s : State} (h : InvA s) : MapInv Obs.fSer Obs.ins Obs.fnNext s.map s.obs s.serial :=
  ⟨h.mapSer, h.mapNodup, h.serLe, h.serInj, h.live⟩

structure ObsA (ob : Obs) : Prop where
  insLog : ob.ins = true → ob.rlog ≠ []
  logUsed : ob.rlog ≠ [] → ob.used.isSome = true
  handFirst : HandFirst ob
  insUsed : ob.ins = true → ob.used.isSome = true
  subIns : ob.subDone = true → ob.ins = true
  fLive : ob.fFnNext = false → ob.fnNext = false

theorem InvA.obsA {s : State} (h : InvA s) (o : Nat) : ObsA (s.obs o) :=
  ⟨h.insLog o, h.logUsed o, h.handFirst o, h.insUsed o, h.subIns o, h.fLive o⟩

theorem lateSub_setThr {s : State} {t ts o : Nat} {pc : Pc} (hpc : (s.threads t).pc = pc) {th' : Thread}
    (hown : pc.lateSub = some o → th'.pc.lateSub = some o) (h : (s.threads ts).pc.lateSub = some o) :
    (setAt s.threads t th' ts).pc.lateSub = some o :=
  setAt_ind (P := fun ts (th : Thread) => (s.threads ts).pc.lateSub = some o → th.pc.lateSub = some o)
    (fun hh => hown (hpc ▸ hh)) (fun _ _ hh => hh) ts h

theorem invA_thr {s : State} (h : InvA s) {t : Nat} {pc : Pc} (hpc : (s.threads t).pc = pc) {th' : Thread}
    {map' : List (Nat × Nat)} (hmap : MapInv Obs.fSer Obs.ins Obs.fnNext map' s.obs s.serial)
    (hl : LocA s.obs t th'.pc) (hown : ∀ o, pc.lateSub = some o → th'.pc.lateSub = some o) {last' : Data}
    {vals' : List Data} :
    InvA { s with map := map', last := last', vals := vals', threads := setAt s.threads t th' } :=
  { h with
    loc := setAt_ind (P := fun t' (th : Thread) => LocA s.obs t' th.pc) hl fun j _ => h.loc j
    mapSer := hmap.mapSer, mapNodup := hmap.mapNodup, live := hmap.live
    owner := fun o ts h1 h2 h3 => lateSub_setThr hpc (hown o) (h.owner o ts h1 h2 h3) }

/-- thread `t` moves and observer `o` gets the record `ob'`; the other threads do not notice as long as `o` is not an
observer they are subscribing -/
theorem invA_upd {s : State} (h : InvA s) {t : Nat} {pc : Pc} (hpc : (s.threads t).pc = pc) {th' : Thread} (o : Nat)
    {ob' : Obs} {map' : List (Nat × Nat)} {serial' : Nat}
    (hmap : MapInv Obs.fSer Obs.ins Obs.fnNext map' (setAt s.obs o ob') serial') (hA : ObsA ob')
    (hl : LocA (setAt s.obs o ob') t th'.pc)
    (hins : (s.obs o).ins = true → ob'.ins = true) (hfn : (s.obs o).fnNext = false → ob'.fnNext = false)
    (hoth : ∀ t', t' ≠ t → (s.obs o).used = some t' → (s.obs o).subDone = false → Keeps (s.obs o) ob')
    (hown : ∀ o', o' ≠ o → pc.lateSub = some o' → th'.pc.lateSub = some o')
    (hown' : ∀ ts, ob'.used = some ts → ob'.ins = true → ob'.subDone = false →
      (setAt s.threads t th' ts).pc.lateSub = some o) :
    InvA { s with obs := setAt s.obs o ob', map := map', serial := serial', threads := setAt s.threads t th' } := by
  have hobs : ∀ j, ObsA (setAt s.obs o ob' j) := setAt_ind (P := fun _ ob => ObsA ob) hA fun j _ => h.obsA j
  refine ⟨?_, hmap.mapSer, hmap.mapNodup, hmap.serLe, hmap.serInj, hmap.live, fun j => (hobs j).insLog,
    fun j => (hobs j).logUsed, fun j => (hobs j).handFirst, fun j => (hobs j).insUsed, fun j => (hobs j).subIns,
    fun j => (hobs j).fLive, fun o' ts => ?_⟩
  · refine setAt_ind (P := fun t' (th : Thread) => LocA (setAt s.obs o ob') t' th.pc) hl fun t' ht => ?_
    exact LocA_mono (setAt_rel (R := fun x y : Obs => x.ins = true → y.ins = true) (fun _ => id) hins)
      (setAt_rel (R := fun x y : Obs => x.used = some t' → x.subDone = false → Keeps x y) (fun _ _ _ => .rfl)
        (hoth t' ht))
      (setAt_rel (R := fun x y : Obs => x.fnNext = false → y.fnNext = false) (fun _ => id) hfn) (h.loc t')
  · exact setAt_ind (P := fun j (ob : Obs) => ob.used = some ts → ob.ins = true → ob.subDone = false →
        (setAt s.threads t th' ts).pc.lateSub = some j) (hown' ts)
      (fun j hj h1 h2 h3 => lateSub_setThr hpc (hown j hj) (h.owner j ts h1 h2 h3)) o'

theorem invA_set {s : State} (h : InvA s) {t : Nat} {pc : Pc} (hpc : (s.threads t).pc = pc) {th' : Thread} (o : Nat)
    {ob' : Obs} (k : Keeps (s.obs o) ob') (hA : ObsA ob') (hl : LocA s.obs t th'.pc)
    (hown : ∀ o, pc.lateSub = some o → th'.pc.lateSub = some o) :
    InvA { s with obs := setAt s.obs o ob', threads := setAt s.threads t th' } := by
  have kk := setAt_rel (R := Keeps) (fun _ => .rfl) k
  refine invA_upd h hpc o (h.map.set k.fSer k.ins fun hj => ?_) hA
    (LocA_mono (fun j hj => (kk j).ins.trans hj) (fun j _ _ => kk j) (fun j => (kk j).fnNext) hl)
    (fun hi => k.ins.trans hi) k.fnNext (fun _ _ _ _ => k)
    (fun _ _ => hown _)
    (fun ts h1 h2 h3 => lateSub_setThr hpc (hown o) (h.owner o ts (k.used ▸ h1) (k.ins ▸ h2) (k.subDone ▸ h3)))
  cases hf : (s.obs o).fnNext
  · rw [k.fnNext hf] at hj; cases hj
  · rfl

theorem stepT_of_step {s s' : State} {l : Label} (h : step s l = some s') : stepT s l.1 = some s' := by
  unfold step at h
  split at h
  · exact h
  · cases h

theorem invA_step {s s' : State} {t : Nat} (h : InvA s) (hs : stepT s t = some s') : InvA s' := by
  have hl := h.loc t
  have a := h.obsA
  cases hpc : (s.threads t).pc <;> rw [hpc] at hl <;> simp only [stepT, hpc, Option.some.injEq] at hs
  case r0 => subst hs; exact invA_thr h hpc h.map (by trivial) nofun
  case nx0 =>
    subst hs
    refine invA_thr h hpc h.map ?_ nofun
    exact ⟨h.mapNodup, fun _ => h.map.mem_ins⟩
  case s2 | u1 | u2 | u7 | u8 => subst hs; exact invA_thr h hpc h.map hl nofun
  case nxL k v snap =>
    cases snap <;> simp only [Option.some.injEq] at hs <;> subst hs
    · exact invA_thr h hpc h.map (by trivial) nofun
    · refine invA_thr h hpc h.map ?_ nofun
      split
      · exact hl
      · exact pending_tail hl
  case nxF =>
    subst hs
    refine invA_thr h hpc h.map ?_ nofun
    split
    · exact hl
    · exact pending_tail hl
  case s0 =>
    subst hs
    refine invA_thr h hpc h.map ?_ nofun
    split
    · exact hl
    · trivial
  case s3 =>
    subst hs
    refine invA_thr h hpc h.map ?_ nofun
    split
    · exact hl
    · rename_i hc; exact ⟨hl.1, hl.2.1, hl.2.2.1, fun hf => absurd hf hc⟩
  case s4 =>
    subst hs
    refine invA_thr h hpc h.map ?_ nofun
    split
    · rename_i hc; exact ⟨hl.1, hl.2.1, hl.2.2.1, hl.2.2.2 hc⟩
    · trivial
  case u3 | u4 | u9 =>
    subst hs
    refine invA_thr h hpc h.map ?_ nofun
    split <;> exact hl
  case u9r => subst hs; exact invA_thr h hpc (h.map.remove hl) hl nofun
  case nxD k v o rest =>
    subst hs
    have hi := hl.2 o List.mem_cons_self
    refine invA_set h hpc o ⟨rfl, rfl, rfl, rfl, id, rfl, fun hi' => by rw [hi] at hi'; cases hi'⟩
      { a o with insLog := fun _ => List.cons_ne_nil _ _, logUsed := fun _ => (a o).insUsed hi,
                 handFirst := fun _ => ?_ } (pending_tail hl) nofun
    obtain ⟨x, r, hx, hr, hall⟩ := (a o).handFirst ((a o).insLog hi)
    exact ⟨x, (some t, k, v) :: r, hx, congrArg (_ :: ·) hr, fun e he => (List.mem_cons.mp he).elim (· ▸ rfl) (hall e)⟩
  case s5 o | s7 o | u9c o =>
    subst hs; exact invA_set h hpc o ⟨rfl, rfl, rfl, rfl, id, rfl, fun _ => rfl⟩ { a o with } hl nofun
  case u5 o =>
    subst hs
    refine invA_set h hpc o ⟨rfl, rfl, rfl, rfl, id, rfl, fun _ => rfl⟩ { a o with } ?_ nofun
    split <;> exact hl
  case u6 o =>
    subst hs
    exact invA_set h hpc o ⟨rfl, rfl, rfl, rfl, id, rfl, fun _ => rfl⟩ { a o with fLive := fun _ => hl } hl nofun
  case u10 o =>
    subst hs; exact invA_set h hpc o ⟨rfl, rfl, rfl, rfl, id, rfl, fun _ => rfl⟩ { a o with } (by trivial) nofun
  -- the subscribing thread works on its own observer, which no other thread's facts mention
  case idle =>
    split at hs
    · cases hs
    · cases hs; exact invA_thr h hpc h.map (by trivial) nofun
    · split at hs
      · cases hs
      · rename_i o _ _ hu
        cases hs
        have hn : (s.obs o).used = none := by simpa using hu
        have hlog : (s.obs o).rlog = [] := by
          cases hr : (s.obs o).rlog
          · rfl
          · have := (a o).logUsed (by rw [hr]; exact List.cons_ne_nil _ _); rw [hn] at this; cases this
        have hi : (s.obs o).ins = false := by
          cases hi : (s.obs o).ins
          · rfl
          · exact absurd hlog ((a o).insLog hi)
        have hsd : (s.obs o).subDone = false := by
          cases hsd : (s.obs o).subDone
          · rfl
          · rw [(a o).subIns hsd] at hi; cases hi
        refine invA_upd h hpc o (h.map.set rfl rfl id) { a o with logUsed := fun _ => rfl, insUsed := fun _ => rfl } ?_
          id id (fun _ _ hu' => by rw [hn] at hu'; cases hu') nofun
          (fun _ _ hi' => by rw [hi] at hi'; cases hi')
        rw [LocA, setAt_same]; exact ⟨rfl, hi, hsd, hlog⟩
    · cases hs; exact invA_thr h hpc h.map (by trivial) nofun
  case s1 o =>
    subst hs
    refine invA_upd h hpc o (h.map.set rfl rfl id) { a o with handFirst := fun hne => absurd hl.2.2.2 hne } ?_ id id
      (fun _ ht => not_owner hl.1 ht)
      nofun (fun _ _ hi' => by rw [hl.2.1] at hi'; cases hi')
    rw [LocA, setAt_same]; exact ⟨hl.1, hl.2.1, hl.2.2.1, hl.2.2.2, rfl⟩
  case s3d o x =>
    subst hs
    refine invA_upd h hpc o (h.map.set rfl rfl id)
      { a o with insLog := fun _ => List.cons_ne_nil _ _, logUsed := fun _ => by rw [hl.1]; rfl,
                 handFirst := fun _ => ⟨x, [], hl.2.2.2.2, by rw [hl.2.2.2.1]; rfl, nofun⟩ } ?_ id id
      (fun _ ht => not_owner hl.1 ht)
      nofun (fun _ _ hi' => by rw [hl.2.1] at hi'; cases hi')
    rw [LocA, setAt_same]; exact ⟨hl.1, hl.2.1, hl.2.2.1, fun _ => List.cons_ne_nil _ _⟩
  case s6 o =>
    subst hs
    refine invA_upd h hpc o (h.map.fresh hl.2.1 rfl hl.2.1) { a o with } ?_ id id
      (fun _ ht => not_owner hl.1 ht)
      nofun (fun _ _ hi' => by rw [hl.2.1] at hi'; cases hi')
    rw [LocA, setAt_same]; exact ⟨hl.1, hl.2.1, hl.2.2.1, hl.2.2.2, rfl⟩
  case s8 o =>
    subst hs
    obtain ⟨k, hk⟩ := Option.isSome_iff_exists.mp hl.2.2.2.2
    rw [show (s.obs o).fSer.getD 0 = k by rw [hk]; rfl]
    refine invA_upd h hpc o (h.map.insert hk hl.2.1 rfl rfl)
      { a o with insLog := fun _ => hl.2.2.2.1, insUsed := fun _ => by rw [hl.1]; rfl, subIns := fun _ => rfl } ?_
      (fun _ => rfl) id (fun _ ht => not_owner hl.1 ht)
      nofun (fun ts hu' _ _ => ?_)
    · rw [LocA, setAt_same]; exact ⟨hl.1, rfl, hl.2.2.1⟩
    · cases Option.some.inj (hl.1.symm.trans hu'); rw [setAt_same]; rfl
  case s9 o =>
    subst hs
    exact invA_upd h hpc o (h.map.set rfl rfl id) { a o with subIns := fun _ => hl.2.1 } (by trivial) id id
      (fun _ ht => not_owner hl.1 ht)
      (fun _ ho' hh => absurd (Option.some.inj hh).symm ho')
      (fun _ _ _ hsd => by cases hsd)
  -- `fn_next` is cleared: what other threads know of this observer is at most that it is already cleared
  case u0 o =>
    subst hs
    exact invA_upd h hpc o (h.map.set rfl rfl nofun) { a o with fLive := fun _ => rfl } (by rw [LocA, setAt_same]) id
      (fun _ => rfl) (fun _ _ _ _ => ⟨rfl, rfl, rfl, rfl, fun _ => rfl, rfl, fun _ => rfl⟩)
      nofun
      (fun ts h1 h2 h3 => lateSub_setThr hpc nofun (h.owner o ts h1 h2 h3))

theorem invA_reachable {progs : List (List Call)} {initial : Data} {s : State} (h : Reachable progs initial s) :
    InvA s := by
  induction h with
  | init => exact invA_init progs initial
  | step _ hs ih => exact invA_step ih (stepT_of_step hs)

end Rx.Conc.Behavior
