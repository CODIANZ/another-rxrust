import RxVerif.Theorems.C10RefBase
import RxVerif.Kernel.Retry
/-
C04-REF: the representation predicate `Rep` tying a model-A world to the facts one subscription
through a StreamController with SEVERAL upstream observers depends on (root observer of the test subscriber,
the upstream observers `R+1 .. R+n` created by `new_observer`, the serial cell, the unscribers map, the flaky
source's counter cell, the on_finalize slot, the held guards, the subscriber's log), and how each world
update performed by an interpreter primitive transports it.
-/
namespace Rx.RetryRef
open Rx.Sim Rx.Ref

def noReact : Nat → Nat → Ev → Prog := fun _ _ _ => .done

/-- static configuration of one subscription -/
structure G where
  R : Nat        -- root observer of the test subscriber
  sU : Nat       -- id of the test subscriber
  cs : Nat       -- cell: serial counter
  cm : Nat       -- cell: unscribers map
  fin : Nat      -- slot: on_finalize
  cnt : Nat      -- cell: subscription counter of the flaky source (any other cell index if there is none)
  hn : Nat → Data → Prog      -- closures of the upstream observer with serial i
  he : Nat → Nat → Prog
  hc : Nat → Prog
  base : Nat → List Ev        -- logs of the other subscribers
  cvf : Nat → Option Data     -- content of the counter cell after k subscriptions to the source

def G.sc (g : G) : Sctl := ⟨g.R, g.cs, g.cm, g.fin⟩

structure G.Ok (g : G) : Prop where
  sm : g.cs ≠ g.cm
  ns : g.cnt ≠ g.cs
  nm : g.cnt ≠ g.cm

@[simp] theorem sc_sub (g : G) : g.sc.sub = g.R := rfl
@[simp] theorem sc_map (g : G) : g.sc.map = g.cm := rfl
@[simp] theorem sc_fin (g : G) : g.sc.fin = g.fin := rfl
@[simp] theorem sc_serial (g : G) : g.sc.serial = g.cs := rfl

/-- the root observer's teardown while it is armed (`ar`) -/
def onR (g : G) : Bool → Option Prog
  | true => some g.sc.finalize
  | false => none

def xR (g : G) : Bool → Bool → Obs
  | true, ar => ⟨some (.user g.sU), some (.user g.sU), some (.user g.sU), onR g ar⟩
  | false, ar => ⟨none, none, none, onR g ar⟩

def xU (g : G) (i : Nat) : Bool → Obs
  | true => ⟨some (.code (g.hn i)), some (.code (g.he i)), some (.code (g.hc i)), none⟩
  | false => ⟨none, none, none, none⟩

/-- observer id of the upstream observer with serial `i` -/
def G.up (g : G) (i : Nat) : Nat := g.R + 1 + i

def mapD (g : G) (reg : List Nat) : Data := encMap (reg.map fun i => (i, g.up i))

/-- `al`: root observer subscribed; `lv i`: upstream observer `i` subscribed; `n`: next serial;
    `reg`: registered serials in insertion order; `H`: guards held; `cv`: content of the counter cell;
    `out`: what the test subscriber has seen. -/
structure Rep (g : G) (al : Bool) (lv : Nat → Bool) (n : Nat) (reg : List Nat) (H : List (LockId × Bool))
    (cv : Option Data) (out : List Ev) (w : World) : Prop where
  status : w.status = .ok
  held : w.held = H
  obsR : ∃ ar, w.obs[g.R]? = some (xR g al ar)
  obsLen : w.obs.length = g.R + 1 + n
  obsU : ∀ i, i < n → w.obs[g.up i]? = some (xU g i (lv i))
  serial : w.cells[g.cs]? = some (.int n)
  map : w.cells[g.cm]? = some (mapD g reg)
  cnt : w.cells[g.cnt]? = cv
  slot : w.slots[g.fin]? = some none
  user : ∃ u, w.users[g.sU]? = some u ∧ u.react = noReact
  log : logOf w g.sU = out
  others : ∀ s', s' ≠ g.sU → logOf w s' = g.base s'

theorem up_ne_R (g : G) (i : Nat) : g.up i ≠ g.R := by unfold G.up; omega
theorem up_inj (g : G) {i j : Nat} (h : g.up i = g.up j) : i = j := by unfold G.up at h; omega

theorem xR_isSub (g : G) (al ar : Bool) : (xR g al ar).isSub = al := by cases al <;> rfl
theorem xU_isSub (g : G) (i : Nat) (b : Bool) : (xU g i b).isSub = b := by cases b <;> rfl
theorem xU_onUnsub (g : G) (i : Nat) (b : Bool) : (xU g i b).onUnsub = none := by cases b <;> rfl

section transport
variable {g : G} {al : Bool} {lv : Nat → Bool} {n : Nat} {reg : List Nat} {H : List (LockId × Bool)}
  {cv : Option Data} {out : List Ev} {w : World}

/-- replacing the root observer's record -/
theorem Rep.setR (h : Rep g al lv n reg H cv out w) (f : Obs → Obs) (al' : Bool)
    (hf : ∀ ar, ∃ ar', f (xR g al ar) = xR g al' ar') :
    Rep g al' lv n reg H cv out (w.setObs g.R f) :=
  { h with
    obsR := by
      obtain ⟨ar, hR⟩ := h.obsR
      obtain ⟨ar', e⟩ := hf ar
      exact ⟨ar', by rw [getElem?_setObs_same _ hR, e]⟩
    obsLen := by simp [World.setObs, h.obsLen]
    obsU := fun i hi => by rw [getElem?_setObs_other _ (Ne.symm (up_ne_R g i))]; exact h.obsU i hi }

/-- clearing upstream observer `i` (terminal delivery or `unsubscribe`) -/
theorem Rep.clearU (h : Rep g al lv n reg H cv out w) (i : Nat) (f : Obs → Obs)
    (hf : ∀ b, f (xU g i b) = xU g i false) :
    Rep g al (fun j => j != i && lv j) n reg H cv out (w.setObs (g.up i) f) :=
  { h with
    obsR := by
      obtain ⟨ar, hR⟩ := h.obsR
      exact ⟨ar, by rw [getElem?_setObs_other _ (up_ne_R g i)]; exact hR⟩
    obsLen := by simp [World.setObs, h.obsLen]
    obsU := fun j hj => by
      by_cases e : j = i
      · subst e
        rw [getElem?_setObs_same _ (h.obsU j hj), hf]; simp
      · have : g.up i ≠ g.up j := fun e' => e (up_inj g e').symm
        rw [getElem?_setObs_other _ this, h.obsU j hj]
        have : (j != i) = true := by simp [e]
        simp [this] }

theorem Rep.emitEv (h : Rep g al lv n reg H cv out w) (ev : Ev) :
    Rep g al lv n reg H cv (out ++ [ev]) (w.emit (.ev g.sU ev)) :=
  { h with
    log := by rw [logOf_emit_same, h.log]
    others := fun s' hs => by rw [logOf_emit_other _ _ _ _ (Ne.symm hs)]; exact h.others s' hs }

theorem Rep.probe (h : Rep g al lv n reg H cv out w) (t : Nat) (d : Data) :
    Rep g al lv n reg H cv out (w.emit (.probe t d)) :=
  { h with
    log := by rw [logOf_emit_probe]; exact h.log
    others := fun s' hs => by rw [logOf_emit_probe]; exact h.others s' hs }

theorem Rep.setHeld (h : Rep g al lv n reg H cv out w) (H' : List (LockId × Bool)) :
    Rep g al lv n reg H' cv out { w with held := H' } :=
  { h with held := rfl }

theorem Rep.setMap (ok : g.Ok) (h : Rep g al lv n reg H cv out w) (reg' : List Nat) :
    Rep g al lv n reg' H cv out { w with cells := w.cells.set g.cm (mapD g reg') } :=
  { h with
    serial := by
      show (w.cells.set g.cm _)[g.cs]? = _
      rw [set_get_other _ (Ne.symm ok.sm)]; exact h.serial
    map := by
      show (w.cells.set g.cm _)[g.cm]? = _
      exact set_get_same _ h.map
    cnt := by
      show (w.cells.set g.cm _)[g.cnt]? = _
      rw [set_get_other _ (Ne.symm ok.nm)]; exact h.cnt }

theorem Rep.setCnt (ok : g.Ok) {d0 : Data} (h : Rep g al lv n reg H (some d0) out w) (d : Data) :
    Rep g al lv n reg H (some d) out { w with cells := w.cells.set g.cnt d } :=
  { h with
    serial := by
      show (w.cells.set g.cnt _)[g.cs]? = _
      rw [set_get_other _ ok.ns]; exact h.serial
    map := by
      show (w.cells.set g.cnt _)[g.cm]? = _
      rw [set_get_other _ ok.nm]; exact h.map
    cnt := by
      show (w.cells.set g.cnt _)[g.cnt]? = _
      exact set_get_same _ h.cnt }

/-- the net effect of `new_observer`: serial bumped, observer appended, registered -/
theorem Rep.newObs (ok : g.Ok) (h : Rep g al lv n reg [] cv out w) :
    Rep g al (fun j => j == n || lv j) (n + 1) (reg ++ [n]) [] cv out
      { w with
        obs := w.obs ++ [xU g n true]
        cells := ((w.cells.set g.cs (.int ((n : Int) + 1))).set g.cm (mapD g (reg ++ [n]))) } :=
  { h with
    obsR := by
      obtain ⟨ar, hR⟩ := h.obsR
      exact ⟨ar, RefR.getElem?_append_some hR⟩
    obsLen := by simp [h.obsLen]; omega
    obsU := fun j hj => by
      show (w.obs ++ _)[g.up j]? = _
      by_cases e : j = n
      · subst e
        have : g.up j = w.obs.length := by rw [h.obsLen]; rfl
        rw [this]; simp
      · have hlt : j < n := by omega
        rw [RefR.getElem?_append_some (h.obsU j hlt)]
        have : (j == n) = false := by simp [e]
        simp [this]
    serial := by
      show ((w.cells.set g.cs _).set g.cm _)[g.cs]? = _
      rw [set_get_other _ (Ne.symm ok.sm)]; exact set_get_same _ h.serial
    map := by
      show ((w.cells.set g.cs _).set g.cm _)[g.cm]? = _
      apply set_get_same (x := mapD g reg)
      rw [set_get_other _ ok.sm]; exact h.map
    cnt := by
      show ((w.cells.set g.cs _).set g.cm _)[g.cnt]? = _
      rw [set_get_other _ (Ne.symm ok.nm), set_get_other _ (Ne.symm ok.ns)]; exact h.cnt }

end transport

theorem amapVals_mapD (g : G) (reg : List Nat) : amapVals (mapD g reg) = reg.map fun i => .int (g.up i) := by
  simp [mapD, amapVals_encMap, List.map_map, Function.comp_def]

theorem amapLen_mapD (g : G) (reg : List Nat) : amapLen (mapD g reg) = reg.length := by
  simp [mapD, amapLen_encMap]

theorem amapRemove_mapD (g : G) (reg : List Nat) (s : Nat) :
    amapRemove (mapD g reg) (s : Int) = mapD g (reg.filter (· != s)) := by
  simp only [mapD, amapRemove_encMap, List.filter_map, Function.comp_def]

theorem amapInsert_mapD (g : G) (reg : List Nat) (s : Nat) (hs : ∀ i ∈ reg, i ≠ s) :
    amapInsert (mapD g reg) (s : Int) (.int (g.up s)) = mapD g (reg ++ [s]) := by
  unfold mapD
  rw [amapInsert_encMap _ _ _ (by
    intro p hp
    obtain ⟨i, hi, rfl⟩ := List.mem_map.1 hp
    exact hs i hi)]
  simp

theorem amapGet_mapD (g : G) (reg : List Nat) (s : Nat) :
    amapGet (mapD g reg) (s : Int) = if s ∈ reg then some (.int (g.up s)) else none := by
  induction reg with
  | nil => simp [mapD, encMap, amapGet, Data.ofList, Data.toList]
  | cons a reg ih =>
    simp only [mapD, encMap, amapGet, List.map_cons, Data.toList_ofList, encPair] at ih ⊢
    by_cases e : a = s
    · subst e; simp
    · have e' : ¬ ((a : Int) = (s : Int)) := by omega
      have e2 : ¬ s = a := fun x => e x.symm
      have e3 : ((a : Int) == (s : Int)) = false := by simpa using e'
      simp only [List.find?_cons, e3, List.mem_cons, e2, false_or]
      exact ih

theorem wp_probe {w : World} {Q : World → Prop} {t : Nat} {d : Data} {k : Prog}
    (hk : WP k (w.emit (.probe t d)) Q) : WP (.probe t d k) w Q :=
  Ref.wp_probe hk

section rules
variable {g : G} {al : Bool} {lv : Nat → Bool} {n : Nat} {reg : List Nat} {H : List (LockId × Bool)}
  {cv : Option Data} {out : List Ev} {w : World} {Q : World → Prop}

theorem Rep.release (h : Rep g al lv n reg [(l, wr)] cv out w) : Rep g al lv n reg [] cv out (w.release l) :=
  release_head w l wr [] h.held ▸ h.setHeld []

theorem rep_isSubR {k : Bool → Prog} (h : Rep g al lv n reg H cv out w) (hk : WP (k al) w Q) :
    WP (.obsIsSub g.R k) w Q := by
  obtain ⟨ar, hR⟩ := h.obsR
  exact wp_obsIsSub hR (by rw [xR_isSub]; exact hk)

theorem rep_isSubU {k : Bool → Prog} (h : Rep g al lv n reg H cv out w) {i : Nat} (hi : i < n)
    (hk : WP (k (lv i)) w Q) : WP (.obsIsSub (g.up i) k) w Q :=
  wp_obsIsSub (h.obsU i hi) (by rw [xU_isSub]; exact hk)

/-- a delivery into the live root observer: the subscriber records it, its reaction does nothing -/
theorem rep_evR_alive {ev : Ev} {k : Prog} (h : Rep g true lv n reg H cv out w)
    (hk : ∀ w', Rep g (!ev.isTerminal) lv n reg H cv (out ++ [ev]) w' → WP k w' Q) :
    WP (evProg ev g.R k) w Q := by
  obtain ⟨ar, hR⟩ := h.obsR
  obtain ⟨u, hu, hre⟩ := h.user
  refine wp_ev_user hR rfl rfl rfl hu hre (hk _ ?_)
  unfold World.deliverTo
  cases ht : ev.isTerminal
  · simpa using h.emitEv ev
  · simp only [ite_true, Bool.not_true]
    exact (h.setR Obs.cleared false (fun ar' => ⟨ar', rfl⟩)).emitEv ev

theorem rep_evR_dead {ev : Ev} {k : Prog} (h : Rep g false lv n reg H cv out w) (hk : WP k w Q) :
    WP (evProg ev g.R k) w Q := by
  obtain ⟨ar, hR⟩ := h.obsR
  exact wp_ev_dead hR rfl hk

/-- `unsubscribe` on the root observer: slots cleared, the teardown (if still there) is taken and run -/
theorem rep_unsubR {k : Prog} (h : Rep g al lv n reg H cv out w)
    (hk1 : ∀ w', Rep g false lv n reg H cv out w' → WP g.sc.finalize w' fun w1 => WP k w1 Q)
    (hk0 : ∀ w', Rep g false lv n reg H cv out w' → WP k w' Q) :
    WP (.obsUnsub g.R k) w Q := by
  obtain ⟨ar, hR⟩ := h.obsR
  have hrep : Rep g false lv n reg H cv out (w.setObs g.R fun x => { x.cleared with onUnsub := none }) :=
    h.setR _ false (fun ar' => ⟨false, by cases al <;> rfl⟩)
  cases ar with
  | true => exact wp_obsUnsub_some hR (by cases al <;> rfl) (hk1 _ hrep)
  | false => exact wp_obsUnsub_none hR (by cases al <;> rfl) (hk0 _ hrep)

theorem rep_unsubU {k : Prog} (h : Rep g al lv n reg H cv out w) {i : Nat} (hi : i < n)
    (hk : ∀ w', Rep g al (fun j => j != i && lv j) n reg H cv out w' → WP k w' Q) :
    WP (.obsUnsub (g.up i) k) w Q :=
  wp_obsUnsub_none (h.obsU i hi) (xU_onUnsub g i _)
    (hk _ (h.clearU i _ (fun b => by cases b <;> rfl)))

/-- a delivery into a live upstream observer runs the closure for that event; a terminal takes the
    callbacks first -/
theorem rep_evU_live {ev : Ev} {k : Prog} (h : Rep g al lv n reg H cv out w) {i : Nat} (hi : i < n)
    (hl : lv i = true)
    (hk : ∀ w', Rep g al (fun j => (!ev.isTerminal || j != i) && lv j) n reg H cv out w' →
      WP (codeBody ev (g.hn i) (g.he i) (g.hc i)) w' fun w2 => WP k w2 Q) :
    WP (evProg ev (g.up i) k) w Q := by
  have hU := h.obsU i hi
  rw [hl] at hU
  refine wp_ev_code hU rfl rfl rfl (hk _ ?_)
  cases ht : ev.isTerminal
  · simpa using h
  · simpa using h.clearU i Obs.cleared (fun b => by cases b <;> rfl)

theorem rep_evU_dead {ev : Ev} {k : Prog} (h : Rep g al lv n reg H cv out w) {i : Nat} (hi : i < n)
    (hl : lv i = false) (hk : WP k w Q) : WP (evProg ev (g.up i) k) w Q := by
  have hU := h.obsU i hi
  rw [hl] at hU
  exact wp_ev_dead hU rfl hk

theorem rep_lockAcq {l : LockId} {wr : Bool} {k : Prog} (h : Rep g al lv n reg [] cv out w)
    (hk : ∀ w', Rep g al lv n reg [(l, wr)] cv out w' → WP k w' Q) : WP (.lockAcq l wr k) w Q :=
  wp_lockAcq (noconf_of_held_nil h.held l wr) (by rw [h.held]; exact hk _ (h.setHeld _))

theorem rep_lockRel {l : LockId} {wr : Bool} {k : Prog} (h : Rep g al lv n reg [(l, wr)] cv out w)
    (hk : ∀ w', Rep g al lv n reg [] cv out w' → WP k w' Q) : WP (.lockRel l k) w Q :=
  wp_lockRel (hk _ h.release)

/-- `gd`: the access goes through a guard that is held -/
theorem Rep.guarded {gd : Bool} (h : Rep g al lv n reg H cv out w) (hg : gd = true ∨ H = []) (c : Nat) (wr : Bool) :
    (!gd && w.conflicts (.cell c) wr) = false := by
  rcases hg with rfl | rfl
  · rfl
  · rw [noconf_of_held_nil h.held, Bool.and_false]

theorem rep_readMap {gd : Bool} {k : Data → Prog} (h : Rep g al lv n reg H cv out w) (hg : gd = true ∨ H = [])
    (hk : WP (k (mapD g reg)) w Q) : WP (.cellRead g.cm gd k) w Q :=
  wp_cellRead' (h.guarded hg _ _) (by rw [h.map]; exact hk)

theorem rep_writeMap (ok : g.Ok) {gd : Bool} {k : Prog} {reg' : List Nat} (h : Rep g al lv n reg H cv out w)
    (hg : gd = true ∨ H = [])
    (hk : ∀ w', Rep g al lv n reg' H cv out w' → WP k w' Q) : WP (.cellWrite g.cm gd (mapD g reg') k) w Q :=
  wp_cellWrite' (h.guarded hg _ _) (hk _ (h.setMap ok reg'))

theorem rep_readCnt {d : Data} {k : Data → Prog} (h : Rep g al lv n reg [] (some d) out w)
    (hk : WP (k d) w Q) : WP (.cellRead g.cnt false k) w Q := by
  have e : w.cells[g.cnt]?.getD .unit = d := by rw [h.cnt]; rfl
  exact wp_cellRead h.held (by rw [e]; exact hk)

theorem rep_writeCnt (ok : g.Ok) {d0 d : Data} {k : Prog} (h : Rep g al lv n reg [] (some d0) out w)
    (hk : ∀ w', Rep g al lv n reg [] (some d) out w' → WP k w' Q) : WP (.cellWrite g.cnt false d k) w Q :=
  wp_cellWrite h.held (hk _ (h.setCnt ok d))

theorem rep_slotCall {d : Data} {clear : Bool} {k : Prog} (h : Rep g al lv n reg H cv out w)
    (hk : WP k w Q) : WP (.slotCall g.fin d clear k) w Q :=
  wp_slotCall_none h.slot hk

theorem rep_probe {t : Nat} {d : Data} {k : Prog} (h : Rep g al lv n reg H cv out w)
    (hk : ∀ w', Rep g al lv n reg H cv out w' → WP k w' Q) : WP (.probe t d k) w Q :=
  wp_probe (hk _ (h.probe t d))

end rules
end Rx.RetryRef

#print axioms Rx.RetryRef.Rep.newObs
#print axioms Rx.RetryRef.rep_evU_live
