import RxVerif.Conc.Observer
import RxVerif.Theorems.ListFacts
/-
C19 (and the concurrent clause of C05) for the root `Observer` under concurrent callers:
invariants of the LTS `Rx.ConcObs.step` (RxVerif/Conc/Observer.lean) for every reachable state
(any number of threads, any calls, any interleaving), stated on the ghost log.
-/
namespace Rx.ConcObs

def Event.isTermStart : Event → Bool
  | .cbStart .error | .cbStart .complete => true
  | _ => false

/-- start of one of the subscriber's three callbacks -/
def Event.isUserCbStart : Event → Bool
  | .cbStart .next | .cbStart .error | .cbStart .complete => true
  | _ => false

def Event.isAcqWNext : Event → Bool
  | .acqW .next _ => true
  | _ => false

/-- events after which `fn_next` is certainly empty: any write-acquisition of `fn_next` (the claim of a terminal or
    the first clearing step of `unsubscribe`), start / return of a terminal callback, return of `unsubscribe` -/
def Event.closing : Event → Bool
  | .acqW .next _ => true
  | .cbStart .error | .cbStart .complete => true
  | .cbReturn .error | .cbReturn .complete => true
  | .callReturn .unsubscribe _ => true
  | _ => false

/-- events after which `is_subscribed()` must answer `false` -/
def Event.deadMark : Event → Bool
  | .acqW .next _ | .acqW .error _ | .acqW .complete _ => true
  | .cbStart .error | .cbStart .complete => true
  | .cbReturn .error | .cbReturn .complete => true
  | .callReturn .unsubscribe _ => true
  | .callReturn .isSubscribed (some false) => true
  | _ => false

theorem Event.closing_deadMark {e : Event} (h : e.closing = true) : e.deadMark = true := by
  cases e with
  | acqW sl f => cases sl <;> simp_all [Event.closing, Event.deadMark]
  | cbStart cb => cases cb <;> simp_all [Event.closing, Event.deadMark]
  | cbReturn cb => cases cb <;> simp_all [Event.closing, Event.deadMark]
  | callReturn op r => cases op <;> simp_all [Event.closing, Event.deadMark]
  | _ => simp_all [Event.closing]

theorem Event.termStart_closing {e : Event} (h : e.isTermStart = true) : e.closing = true := by
  cases e with
  | cbStart cb => cases cb <;> simp_all [Event.closing, Event.isTermStart]
  | _ => simp_all [Event.isTermStart]

theorem Event.acqWNext_closing {e : Event} (h : e.isAcqWNext = true) : e.closing = true := by
  cases e with
  | acqW sl f => cases sl <;> simp_all [Event.closing, Event.isAcqWNext]
  | _ => simp_all [Event.isAcqWNext]

/-- some closure slot is already empty -/
def Shared.dead (sh : Shared) : Prop := sh.sNext = false ∨ sh.sErr = false ∨ sh.sCompl = false

def Shared.noRefill (sh sh' : Shared) : Prop :=
  (sh.sNext = false → sh'.sNext = false) ∧ (sh.sErr = false → sh'.sErr = false) ∧
  (sh.sCompl = false → sh'.sCompl = false)

theorem getElem?_snoc_cases {α} {l : List α} {x e : α} {m : Nat} (h : (l ++ [x])[m]? = some e) :
    (m < l.length ∧ l[m]? = some e) ∨ (m = l.length ∧ e = x) := by
  rcases Nat.lt_trichotomy m l.length with hlt | rfl | hgt
  · rw [List.getElem?_append_left hlt] at h; exact .inl ⟨hlt, h⟩
  · rw [List.getElem?_concat_length] at h; exact .inr ⟨rfl, (Option.some.inj h).symm⟩
  · rw [List.getElem?_eq_none (by simp only [List.length_append, List.length_singleton]; omega)] at h; cases h

theorem mem_snoc_cases {α} {l : List α} {x e : α} (h : e ∈ l ++ [x]) : e ∈ l ∨ e = x := by
  simpa using h

theorem getElem?_of_snoc_lt {α} {l : List α} {x e : α} {m : Nat} (hm : m < l.length) (h : (l ++ [x])[m]? = some e) :
    l[m]? = some e :=
  (List.getElem?_append_left hm).symm.trans h

/-- what one step does to the stepping thread, the shared memory and the log (`n` = old log length) -/
def Tr (sh : Shared) (n : Nat) (th : Thread) (sh' : Shared) (th' : Thread) (ev : Event) : Prop :=
  (th.pc = .idle ∧ sh' = sh ∧ th'.pc = th'.op.entry ∧ th'.cid = n ∧ ev = .callStart th'.op) ∨
  (th.pc ≠ .idle ∧ th'.op = th.op ∧ th'.cid = th.cid ∧ ∃ k, micro sh th.pc th.op = some (k, sh', th'.pc, ev))

def State.next (s : State) (i : Nat) (sh' : Shared) (th' : Thread) (ev : Event) : State :=
  { sh := sh', threads := s.threads.set i th', log := s.log ++ [⟨i, th'.cid, ev⟩] }

theorem step_shape {s s' : State} {l : Label} (h : step s l = some s') :
    ∃ th th' sh' ev, s.threads[l.tid]? = some th ∧ Tr s.sh s.log.length th sh' th' ev ∧
      s' = s.next l.tid sh' th' ev := by
  unfold step at h
  cases hth : s.threads[l.tid]? with
  | none => simp [hth] at h
  | some th =>
    simp only [hth] at h
    split at h
    · rename_i hidle
      split at h
      · rename_i op _
        simp only [Option.some.injEq] at h
        exact ⟨th, ⟨op.entry, op, s.log.length⟩, s.sh, .callStart op, rfl, Or.inl ⟨hidle, rfl, rfl, rfl, rfl⟩, h.symm⟩
      · simp at h
    · rename_i hne
      split at h
      · simp at h
      · rename_i k sh' pc' ev hm
        split at h
        · simp only [Option.some.injEq] at h
          exact ⟨th, { th with pc := pc' }, sh', ev, rfl, Or.inr ⟨hne, rfl, rfl, k, hm⟩, h.symm⟩
        · simp at h

/-- claimed `fn_next` (found it present), terminal callback not started yet -/
def Pc.pre : Pc → Bool
  | .t1 | .t2 | .t3 => true
  | _ => false

/-- this thread itself has emptied `fn_next` during the current call (a terminal that has reached `.ret` is left out) -/
def Pc.gone (pc : Pc) (op : Op) : Bool :=
  match pc with
  | .t1 | .t2 | .t3 | .t4 | .u1 | .u2 | .u3 | .u4 | .u5 | .u6 | .u7 | .u8 => true
  | .ret _ => decide (op = .unsubscribe)
  | _ => false

/-- found `fn_next` present during the current call and has not started its callback yet -/
def Pc.fetched : Pc → Bool
  | .n1 | .t1 | .t2 | .t3 => true
  | _ => false

/-- first micro-step of the call not taken yet -/
def Pc.fresh : Pc → Bool
  | .n0 | .t0 | .u0 | .i0 => true
  | _ => false

/-- inside a `next`, terminal or `is_subscribed` call and not yet at `.ret` -/
def Pc.notU : Pc → Bool
  | .n0 | .n1 | .n2 | .t0 | .t1 | .t2 | .t3 | .t4 | .i0 | .i1 | .i2 => true
  | _ => false

/-- what an `is_subscribed` call that started in a dead state knows -/
def isubLate (sh : Shared) : Pc → Prop
  | .i1 => sh.sErr = false ∨ sh.sCompl = false
  | .i2 => sh.sCompl = false
  | .ret (some r) => r = false
  | _ => True


/-- program counters of the protocol of `op`; the four protocols are told apart by their entry point `Op.entry`
    (`error` and `complete` share one) -/
def Pc.zoneOk (pc : Pc) (op : Op) : Bool :=
  match pc with
  | .idle => true
  | .n0 | .n1 | .n2 => op.entry == .n0
  | .t0 | .t1 | .t2 | .t3 | .t4 => op.entry == .t0
  | .u0 | .u1 | .u2 | .u3 | .u4 | .u5 | .u6 | .u7 | .u8 => op.entry == .u0
  | .i0 | .i1 | .i2 => op.entry == .i0
  | .ret r => r.isSome == (op.entry == .i0)

/-- events that a call of `op` can log -/
def Event.okFor (ev : Event) (op : Op) : Bool :=
  match ev with
  | .callStart op' => op' == op
  | .callReturn op' r => op' == op && r.isSome == (op.entry == .i0)
  | .acqR .next _ => op.entry == .n0 || op.entry == .i0
  | .cbStart .next | .cbReturn .next => op.entry == .n0
  | .acqW .next _ | .acqW .error _ | .acqW .complete _ => op.entry == .t0 || op.entry == .u0
  | .cbStart .error | .cbReturn .error => op.isErr
  | .cbStart .complete | .cbReturn .complete => op == .complete
  | .acqR .teardown _ | .acqR .tearFn _ | .cbStart .teardown | .cbReturn .teardown | .relR .teardown
  | .acqW .teardown _ => op.entry == .u0
  | .acqR .error _ | .acqR .complete _ => op.entry == .i0
  | _ => false


section micro
variable {sh sh' : Shared} {pc pc' : Pc} {op : Op} {k : Kind} {ev : Event}

theorem clear_sNext (sh : Shared) (sl : Slot) : (sh.clear sl).sNext = (sh.sNext && decide (sl ≠ .next)) := by
  cases sl <;> simp [Shared.clear]
theorem clear_sErr (sh : Shared) (sl : Slot) : (sh.clear sl).sErr = (sh.sErr && decide (sl ≠ .error)) := by
  cases sl <;> simp [Shared.clear]
theorem clear_sCompl (sh : Shared) (sl : Slot) : (sh.clear sl).sCompl = (sh.sCompl && decide (sl ≠ .complete)) := by
  cases sl <;> simp [Shared.clear]

theorem noRefill_clear (sh : Shared) (sl : Slot) : sh.noRefill (sh.clear sl) := by
  simp +contextual [Shared.noRefill, clear_sNext, clear_sErr, clear_sCompl]

theorem Op.other_ne_next (op : Op) : op.other ≠ .next := by cases op <;> simp [Op.other, Op.isErr]
theorem Op.own_ne_next (op : Op) : op.own ≠ .next := by cases op <;> simp [Op.own, Op.isErr]

theorem Event.closing_callReturn (op : Op) (r : Option Bool) :
    (Event.callReturn op r).closing = decide (op = .unsubscribe) := by
  cases op <;> rfl
theorem Event.deadMark_callReturn (op : Op) (r : Option Bool) : (Event.callReturn op r).deadMark =
    (decide (op = .unsubscribe) || decide (op = .isSubscribed ∧ r = some false)) := by
  cases op <;> first | rfl | (rcases r with _ | _ | _ <;> rfl)

theorem Event.okFor_acqW_other (op : Op) (f : Bool) :
    (Event.acqW op.other f).okFor op = (op.entry == .t0 || op.entry == .u0) := by
  cases op <;> rfl
theorem Event.okFor_acqW_own (op : Op) (f : Bool) :
    (Event.acqW op.own f).okFor op = (op.entry == .t0 || op.entry == .u0) := by
  cases op <;> rfl
theorem Event.okFor_cbStart_cb (op : Op) : (Event.cbStart op.cb).okFor op = (op.entry == .t0) := by
  cases op <;> rfl
theorem Event.okFor_cbReturn_cb (op : Op) : (Event.cbReturn op.cb).okFor op = (op.entry == .t0) := by
  cases op <;> rfl

/-- One micro-step in terms of the zones: where the new program counter can come from, and what the logged
    event says about the old program counter and the new shared memory. -/
structure MicroFacts (sh : Shared) (pc : Pc) (op : Op) (sh' : Shared) (pc' : Pc) (ev : Event) : Prop where
  mono : sh.noRefill sh'
  notU : pc'.notU = true → pc.notU = true
  gone : pc'.gone op = true → sh'.sNext = false ∨ pc.gone op = true ∨ (pc.notU = true ∧ op = .unsubscribe)
  pre : pc'.pre = true → ev.isTermStart = false ∧ ((pc.pre = true ∧ ∀ f, ev ≠ .acqW .next f) ∨
    (pc = .t0 ∧ sh.sNext = true ∧ ev = .acqW .next true))
  fetched : pc'.fetched = true → pc.fetched = true ∨ sh.sNext = true
  fresh : pc'.fresh = false
  isub : isubLate sh pc → sh.dead → isubLate sh' pc'
  retF : pc' = .ret (some false) → sh'.dead
  closing : ev.closing = true → sh'.sNext = false ∨ pc.gone op = true
  dead : ev.deadMark = true → sh'.sNext = false ∨ pc.gone op = true ∨ pc = .ret (some false)
  termStart : ev.isTermStart = true → pc.pre = true
  userCb : ev.isUserCbStart = true → pc.fetched = true
  isubRet : ∀ r, ev = .callReturn .isSubscribed (some r) → pc = .ret (some r)
  acqWNext : ev.isAcqWNext = true → pc.fresh = true ∧ ev = .acqW .next sh.sNext
  notCallStart : ∀ op', ev ≠ .callStart op'
  ok : pc.zoneOk op = true → pc'.zoneOk op = true ∧ ev.okFor op = true

/-- The 21 micro-steps, with both branches of every `if` taken separately (`split` also reaches the `if` that
    chooses the next program counter), so that `sh'`, `pc'` and `ev` are explicit in every case; each field is
    then a computation with the definitions it mentions.  The call `op` is never split: it enters only through
    `Op.other` / `Op.own` / `Op.cb` and the `callReturn` event, and the lemmas above say what is needed of those
    (`↓`: they must fire before the event class unfolds and gets stuck on `op`). -/
theorem micro_facts (hm : micro sh pc op = some (k, sh', pc', ev)) : MicroFacts sh pc op sh' pc' ev := by
  cases pc <;> simp only [micro] at hm <;> (try split at hm) <;> cases hm <;> exact {
      mono := by simp [↓noRefill_clear, Shared.noRefill]
      notU := by simp [Pc.notU]
      gone := by simp +contextual [Pc.gone, Pc.notU, clear_sNext]
      pre := by simp [*, Pc.pre, Event.isTermStart, Op.other_ne_next, Op.own_ne_next]
      fetched := by simp_all [Pc.fetched]
      fresh := rfl
      isub := by simp_all [isubLate, Shared.dead]
      retF := by simp +contextual [*, Shared.dead]
      closing := by simp +contextual [Pc.gone, ↓Event.closing_callReturn, Event.closing, clear_sNext]
      dead := by simp +contextual [Pc.gone, ↓Event.deadMark_callReturn, Event.deadMark, clear_sNext, or_imp]
      termStart := by simp [Event.isTermStart, Pc.pre]
      userCb := by simp [Event.isUserCbStart, Pc.fetched]
      isubRet := by simp
      acqWNext := by simp [Event.isAcqWNext, Pc.fresh, Op.other_ne_next, Op.own_ne_next]
      notCallStart := by simp
      ok := by simp +contextual [Pc.zoneOk, ↓Event.okFor_acqW_other, ↓Event.okFor_acqW_own,
        ↓Event.okFor_cbStart_cb, ↓Event.okFor_cbReturn_cb, Event.okFor] }

theorem micro_notCallStart (hm : micro sh pc op = some (k, sh', pc', ev)) (op' : Op) : ev ≠ .callStart op' :=
  (micro_facts hm).notCallStart op'

theorem isubLate_mono (hm : sh.noRefill sh') (h : isubLate sh pc) : isubLate sh' pc := by
  cases pc with
  | i1 => exact h.imp hm.2.1 hm.2.2
  | i2 => exact hm.2.2 h
  | ret r => cases r <;> exact h
  | _ => trivial

theorem dead_mono (hm : sh.noRefill sh') (h : sh.dead) : sh'.dead :=
  h.imp hm.1 (Or.imp hm.2.1 hm.2.2)

end micro

/-- what a thread inside a call knows (indexed by its program counter) -/
structure Local (s : State) (i : Nat) (th : Thread) : Prop where
  call : s.log[th.cid]? = some ⟨i, th.cid, .callStart th.op⟩
  notU : th.pc.notU = true → th.op ≠ .unsubscribe
  gone : th.pc.gone th.op = true → s.sh.sNext = false
  pre : th.pc.pre = true → ∀ e ∈ s.log, e.ev.isTermStart = false
  fetched : th.pc.fetched = true → ∀ m e, m < th.cid → s.log[m]? = some e → e.ev.closing = false
  fresh : th.pc.fresh = true → ∀ m e, s.log[m]? = some e → e.cid = th.cid → m = th.cid
  claim : th.pc.pre = true → ∀ e ∈ s.log, e.cid = th.cid → e.ev ≠ .acqW .next false
  isub : (∃ m e, m < th.cid ∧ s.log[m]? = some e ∧ e.ev.deadMark = true) → isubLate s.sh th.pc
  retF : th.pc = .ret (some false) → s.sh.dead

/-- `loc`, `uniq`: what the threads inside a call know; `closed`, `dead`: the log against the shared memory; `wf`: the
    call ids; the remaining fields are what the theorems below state, as properties of the log -/
structure Inv (s : State) : Prop where
  loc : ∀ (i : Nat) (th : Thread), s.threads[i]? = some th → th.pc ≠ .idle → Local s i th
  uniq : ∀ (j k : Nat) (tj tk : Thread), s.threads[j]? = some tj → s.threads[k]? = some tk →
    tj.pc.pre = true → tk.pc.pre = true → j = k
  closed : ∀ (e : Entry), e ∈ s.log → e.ev.closing = true → s.sh.sNext = false
  dead : ∀ (e : Entry), e ∈ s.log → e.ev.deadMark = true → s.sh.dead
  wf : ∀ (m : Nat) (e : Entry), s.log[m]? = some e →
    e.cid ≤ m ∧ ∃ op, s.log[e.cid]? = some ⟨e.tid, e.cid, .callStart op⟩
  one : ∀ (i j : Nat) (ei ej : Entry), s.log[i]? = some ei → s.log[j]? = some ej →
    ei.ev.isTermStart = true → ej.ev.isTermStart = true → i = j
  deliv : ∀ (k : Nat) (ek : Entry), s.log[k]? = some ek → ek.ev.isUserCbStart = true →
    ∀ (m : Nat) (e : Entry), m < ek.cid → s.log[m]? = some e → e.ev.closing = false
  issub : ∀ (k : Nat) (ek : Entry) (r : Bool), s.log[k]? = some ek → ek.ev = .callReturn .isSubscribed (some r) →
    (∃ m e, m < ek.cid ∧ s.log[m]? = some e ∧ e.ev.deadMark = true) → r = false
  second : ∀ (i k : Nat) (ei ek : Entry) (f : Bool), i < k → s.log[i]? = some ei → s.log[k]? = some ek →
    ei.ev.isAcqWNext = true → ek.ev = .acqW .next f → f = false
  excl : ∀ (k m : Nat) (ek em : Entry), s.log[k]? = some ek → s.log[m]? = some em →
    ek.ev = .acqW .next false → em.cid = ek.cid → em.ev.isTermStart = false

/-- every thread is at a program point of its call's protocol and logs that protocol's events; `Inv` does not need it -/
structure Inv2 (s : State) : Prop where
  zone : ∀ (i : Nat) (th : Thread), s.threads[i]? = some th → th.pc.zoneOk th.op = true
  ok : ∀ (k : Nat) (e : Entry), s.log[k]? = some e →
    ∃ op, s.log[e.cid]? = some ⟨e.tid, e.cid, .callStart op⟩ ∧ e.ev.okFor op = true

/-- everything the preservation proof needs to know about the stepping thread -/
structure Facts (s : State) (i : Nat) (th th' : Thread) (sh' : Shared) (ev : Event) : Prop where
  mono : s.sh.noRefill sh'
  cidle : th'.cid ≤ s.log.length
  call' : (s.log ++ [⟨i, th'.cid, ev⟩])[th'.cid]? = some ⟨i, th'.cid, .callStart th'.op⟩
  cidne : ∀ (j : Nat) (tj : Thread), j ≠ i → s.threads[j]? = some tj → tj.pc ≠ .idle → tj.cid ≠ th'.cid
  notU' : th'.pc.notU = true → th'.op ≠ .unsubscribe
  gone' : th'.pc.gone th'.op = true → sh'.sNext = false
  pre' : th'.pc.pre = true → ev.isTermStart = false ∧ (∀ e ∈ s.log, e.ev.isTermStart = false) ∧
    (∀ e ∈ s.log, e.cid = th'.cid → e.ev ≠ .acqW .next false) ∧ ev ≠ .acqW .next false
  preU : th'.pc.pre = true → th.pc.pre = true ∨ s.sh.sNext = true
  fetched' : th'.pc.fetched = true → ∀ (m : Nat) (e : Entry), m < th'.cid → s.log[m]? = some e → e.ev.closing = false
  fresh' : th'.pc.fresh = true → th'.cid = s.log.length
  isub' : (∃ m e, m < th'.cid ∧ s.log[m]? = some e ∧ e.ev.deadMark = true) → isubLate sh' th'.pc
  retF' : th'.pc = .ret (some false) → sh'.dead
  closing : ev.closing = true → sh'.sNext = false
  deadM : ev.deadMark = true → sh'.dead
  termS : ev.isTermStart = true → th.pc.pre = true ∧ (∀ e ∈ s.log, e.ev.isTermStart = false) ∧
    (∀ e ∈ s.log, e.cid = th'.cid → e.ev ≠ .acqW .next false)
  userCb : ev.isUserCbStart = true → ∀ (m : Nat) (e : Entry), m < th'.cid → s.log[m]? = some e → e.ev.closing = false
  isubR : ∀ (r : Bool), ev = .callReturn .isSubscribed (some r) →
    (∃ m e, m < th'.cid ∧ s.log[m]? = some e ∧ e.ev.deadMark = true) → r = false
  acqWN : ev.isAcqWNext = true → ev = .acqW .next s.sh.sNext ∧
    ∀ (m : Nat) (e : Entry), s.log[m]? = some e → e.cid = th'.cid → e.ev.isTermStart = false
  ok : th.pc.zoneOk th.op = true → th'.pc.zoneOk th'.op = true ∧ ev.okFor th'.op = true

theorem Inv.noClosing {s : State} (h : Inv s) (hn : s.sh.sNext = true) (e : Entry) (he : e ∈ s.log) :
    e.ev.closing = false := by
  cases hc : e.ev.closing with
  | false => rfl
  | true => have := h.closed e he hc; simp [hn] at this

theorem Op.entry_zones (sh : Shared) (op : Op) :
    (op.entry.notU = true → op ≠ .unsubscribe) ∧ op.entry.gone op = false ∧ op.entry.pre = false ∧
    op.entry.fetched = false ∧ isubLate sh op.entry ∧ op.entry ≠ .ret (some false) ∧
    op.entry.zoneOk op = true := by
  cases op <;> simp [Op.entry, Pc.notU, Pc.gone, Pc.pre, Pc.fetched, isubLate, Pc.zoneOk]

theorem facts_idle {s : State} (h : Inv s) {i : Nat} {th th' : Thread} {sh' : Shared} {ev : Event}
    (hsh : sh' = s.sh) (hpc : th'.pc = th'.op.entry) (hcid : th'.cid = s.log.length)
    (hev : ev = .callStart th'.op) : Facts s i th th' sh' ev := by
  subst hsh hev
  obtain ⟨hu, hg, hp, hf, hi, hr, hz⟩ := Op.entry_zones s.sh th'.op
  rw [← hpc] at hu hg hp hf hi hr hz
  exact {
    mono := ⟨id, id, id⟩
    cidle := by omega
    call' := by rw [hcid, List.getElem?_concat_length]
    cidne := fun j tj _ hj hne => by have := lt_of_getElem? (h.loc j tj hj hne).call; omega
    notU' := hu
    gone' := by simp [hg]
    pre' := by simp [hp]
    preU := by simp [hp]
    fetched' := by simp [hf]
    fresh' := fun _ => hcid
    isub' := fun _ => hi
    retF' := fun hp => absurd hp hr
    closing := nofun
    deadM := nofun
    termS := nofun
    userCb := nofun
    isubR := nofun
    acqWN := nofun
    ok := fun _ => ⟨hz, by simp [Event.okFor]⟩ }

theorem facts_micro {s : State} (h : Inv s) {i : Nat} {th th' : Thread} {sh' : Shared} {ev : Event} {k : Kind}
    (hth : s.threads[i]? = some th)
    (hne : th.pc ≠ .idle) (hop : th'.op = th.op) (hcid : th'.cid = th.cid)
    (hm : micro s.sh th.pc th.op = some (k, sh', th'.pc, ev)) : Facts s i th th' sh' ev := by
  obtain ⟨pc', _, _⟩ := th'
  subst hop hcid
  have hL := h.loc i th hth hne
  have hlt := lt_of_getElem? hL.call
  have M := micro_facts hm
  have hnoTS : s.sh.sNext = true → ∀ e ∈ s.log, e.ev.isTermStart = false := by
    intro hn e he
    cases hc : e.ev.isTermStart with
    | false => rfl
    | true => have := h.noClosing hn e he; simp [Event.termStart_closing hc] at this
  have hpre : pc'.pre = true → ev.isTermStart = false ∧ (∀ e ∈ s.log, e.ev.isTermStart = false) ∧
      (∀ e ∈ s.log, e.cid = th.cid → e.ev ≠ .acqW .next false) ∧ ev ≠ .acqW .next false := by
    intro hp
    obtain ⟨h1, h2⟩ := M.pre hp
    refine ⟨h1, ?_⟩
    rcases h2 with ⟨hpre, hnf⟩ | ⟨_, hn, hev⟩
    · exact ⟨hL.pre hpre, hL.claim hpre, hnf false⟩
    · refine ⟨hnoTS hn, ?_, by simp [hev]⟩
      intro e he _ heq
      have := h.noClosing hn e he
      simp [heq, Event.closing] at this
  exact {
    mono := M.mono
    cidle := Nat.le_of_lt hlt
    call' := by rw [List.getElem?_append_left hlt]; exact hL.call
    cidne := fun j tj hji hj hnej heq => by
      have hc := (h.loc j tj hj hnej).call
      rw [heq, hL.call] at hc
      exact hji (Entry.mk.inj (Option.some.inj hc)).1.symm
    notU' := fun hu => hL.notU (M.notU hu)
    gone' := fun hg => by
      rcases M.gone hg with h | h | ⟨hu, ho⟩
      · exact h
      · exact M.mono.1 (hL.gone h)
      · exact absurd ho (hL.notU hu)
    pre' := hpre
    preU := fun hp => by
      rcases (M.pre hp).2 with ⟨hpre, _⟩ | ⟨_, hn, _⟩
      · exact .inl hpre
      · exact .inr hn
    fetched' := fun hf m e hmc he => by
      rcases M.fetched hf with hf' | hn
      · exact hL.fetched hf' m e hmc he
      · exact h.noClosing hn e (List.mem_of_getElem? he)
    fresh' := fun hf => by simp [M.fresh] at hf
    isub' := fun ⟨m, e, hmc, he, hd⟩ => M.isub (hL.isub ⟨m, e, hmc, he, hd⟩) (h.dead e (List.mem_of_getElem? he) hd)
    retF' := M.retF
    closing := fun hc => (M.closing hc).elim id fun hg => M.mono.1 (hL.gone hg)
    deadM := fun hc => by
      rcases M.dead hc with h | h | h
      · exact .inl h
      · exact .inl (M.mono.1 (hL.gone h))
      · exact dead_mono M.mono (hL.retF h)
    termS := fun hc => have hp := M.termStart hc; ⟨hp, hL.pre hp, hL.claim hp⟩
    userCb := fun hc => hL.fetched (M.userCb hc)
    isubR := fun r hc hlate => by
      have := hL.isub hlate
      rwa [M.isubRet r hc] at this
    acqWN := fun hc => by
      obtain ⟨hf, hev⟩ := M.acqWNext hc
      refine ⟨hev, fun m e he hec => ?_⟩
      have := hL.fresh hf m e he hec
      subst this
      rw [hL.call] at he
      cases he
      rfl
    ok := M.ok }

theorem facts_of_tr {s : State} (h : Inv s) {i : Nat} {th th' : Thread} {sh' : Shared} {ev : Event}
    (hth : s.threads[i]? = some th) (tr : Tr s.sh s.log.length th sh' th' ev) : Facts s i th th' sh' ev := by
  rcases tr with ⟨_, b, c, d, e⟩ | ⟨a, b, c, k, d⟩
  · exact facts_idle h b c d e
  · exact facts_micro h hth a b c d

theorem late_snoc {log : List Entry} {x : Entry} {c : Nat} (hc : c ≤ log.length)
    (h : ∃ m e, m < c ∧ (log ++ [x])[m]? = some e ∧ e.ev.deadMark = true) :
    ∃ m e, m < c ∧ log[m]? = some e ∧ e.ev.deadMark = true := by
  obtain ⟨m, e, hm, he, hd⟩ := h
  exact ⟨m, e, hm, getElem?_of_snoc_lt (by omega) he, hd⟩

theorem Pc.pre_gone {pc : Pc} (op : Op) (h : pc.pre = true) : pc.gone op = true := by
  cases pc <;> first | rfl | cases h

theorem Pc.pre_ne_idle {pc : Pc} (h : pc.pre = true) : pc ≠ .idle := by
  rintro rfl; cases h

theorem local_self {s : State} (h : Inv s) {i : Nat} {th th' : Thread} {sh' : Shared} {ev : Event}
    (F : Facts s i th th' sh' ev) : Local (s.next i sh' th' ev) i th' := by
  have hc := F.cidle
  exact {
    call := F.call'
    notU := F.notU'
    gone := F.gone'
    pre := fun hp e he => by
      rcases mem_snoc_cases he with he | rfl
      · exact (F.pre' hp).2.1 e he
      · exact (F.pre' hp).1
    fetched := fun hf m e hm he => F.fetched' hf m e hm (getElem?_of_snoc_lt (by omega) he)
    fresh := fun hf m e he hec => by
      have hn := F.fresh' hf
      rcases getElem?_snoc_cases he with ⟨_, he⟩ | ⟨hm, _⟩
      · have := (h.wf m e he).1; omega
      · omega
    claim := fun hp e he hec => by
      rcases mem_snoc_cases he with he | rfl
      · exact (F.pre' hp).2.2.1 e he hec
      · exact (F.pre' hp).2.2.2
    isub := fun hl => F.isub' (late_snoc hc hl)
    retF := F.retF' }

theorem local_other {s : State} (h : Inv s) {i j : Nat} {th th' tj : Thread} {sh' : Shared} {ev : Event}
    (hth : s.threads[i]? = some th) (F : Facts s i th th' sh' ev)
    (hji : j ≠ i) (hj : s.threads[j]? = some tj) (hne : tj.pc ≠ .idle) : Local (s.next i sh' th' ev) j tj := by
  have hL := h.loc j tj hj hne
  have hlt := lt_of_getElem? hL.call
  have hcne := F.cidne j tj hji hj hne
  exact {
    call := (List.getElem?_append_left hlt).trans hL.call
    notU := hL.notU
    gone := fun hg => F.mono.1 (hL.gone hg)
    pre := fun hp e he => by
      rcases mem_snoc_cases he with he | rfl
      · exact hL.pre hp e he
      · cases hts : ev.isTermStart with
        | false => rfl
        | true => exact absurd (h.uniq j i tj th hj hth hp (F.termS hts).1) hji
    fetched := fun hf m e hm he => hL.fetched hf m e hm (getElem?_of_snoc_lt (by omega) he)
    fresh := fun hf m e he hec => by
      rcases getElem?_snoc_cases he with ⟨_, he⟩ | ⟨_, rfl⟩
      · exact hL.fresh hf m e he hec
      · exact absurd hec.symm hcne
    claim := fun hp e he hec => by
      rcases mem_snoc_cases he with he | rfl
      · exact hL.claim hp e he hec
      · exact absurd hec.symm hcne
    isub := fun hl => isubLate_mono F.mono (hL.isub (late_snoc (by omega) hl))
    retF := fun hr => dead_mono F.mono (hL.retF hr) }

theorem inv_of_facts {s : State} (h : Inv s) {i : Nat} {th th' : Thread} {sh' : Shared} {ev : Event}
    (hth : s.threads[i]? = some th) (F : Facts s i th th' sh' ev) : Inv (s.next i sh' th' ev) := by
  have hc := F.cidle
  have key : ∀ (k : Nat) (tk : Thread), k ≠ i → s.threads[k]? = some tk → tk.pc.pre = true → th'.pc.pre = true →
      False := by
    intro k tk hki hk hpk hp'
    rcases F.preU hp' with hp | hn
    · exact hki (h.uniq k i tk th hk hth hpk hp)
    · have := (h.loc k tk hk (Pc.pre_ne_idle hpk)).gone (Pc.pre_gone _ hpk)
      simp [hn] at this
  exact {
    loc := fun j tj hj hne => by
      rcases getElem?_set_cases hj with ⟨rfl, rfl⟩ | ⟨hji, hj⟩
      · exact local_self h F
      · exact local_other h hth F hji hj hne
    uniq := fun j k tj tk hj hk hpj hpk => by
      rcases getElem?_set_cases hj with ⟨hji, hj'⟩ | ⟨hji, hj'⟩ <;>
        rcases getElem?_set_cases hk with ⟨hki, hk'⟩ | ⟨hki, hk'⟩
      · omega
      · subst hj'; exact (key k tk hki hk' hpk hpj).elim
      · subst hk'; exact (key j tj hji hj' hpj hpk).elim
      · exact h.uniq j k tj tk hj' hk' hpj hpk
    closed := fun e he hcl => by
      rcases mem_snoc_cases he with he | rfl
      · exact F.mono.1 (h.closed e he hcl)
      · exact F.closing hcl
    dead := fun e he hd => by
      rcases mem_snoc_cases he with he | rfl
      · exact dead_mono F.mono (h.dead e he hd)
      · exact F.deadM hd
    wf := fun m e he => by
      rcases getElem?_snoc_cases he with ⟨hlt, he⟩ | ⟨rfl, rfl⟩
      · obtain ⟨h1, op, h2⟩ := h.wf m e he
        exact ⟨h1, op, (List.getElem?_append_left (by omega)).trans h2⟩
      · exact ⟨hc, th'.op, F.call'⟩
    one := fun a b ea eb ha hb hta htb => by
      rcases getElem?_snoc_cases ha with ⟨_, ha⟩ | ⟨rfl, rfl⟩ <;>
        rcases getElem?_snoc_cases hb with ⟨_, hb⟩ | ⟨rfl, rfl⟩
      · exact h.one a b ea eb ha hb hta htb
      · have := (F.termS htb).2.1 ea (List.mem_of_getElem? ha); simp [hta] at this
      · have := (F.termS hta).2.1 eb (List.mem_of_getElem? hb); simp [htb] at this
      · rfl
    deliv := fun k ek hk hu m e hm he => by
      rcases getElem?_snoc_cases hk with ⟨hlt, hk⟩ | ⟨rfl, rfl⟩
      · have := (h.wf k ek hk).1
        exact h.deliv k ek hk hu m e hm (getElem?_of_snoc_lt (by omega) he)
      · exact F.userCb hu m e hm (getElem?_of_snoc_lt (Nat.lt_of_lt_of_le hm hc) he)
    issub := fun k ek r hk hev hl => by
      rcases getElem?_snoc_cases hk with ⟨hlt, hk⟩ | ⟨rfl, rfl⟩
      · have := (h.wf k ek hk).1
        exact h.issub k ek r hk hev (late_snoc (by omega) hl)
      · exact F.isubR r hev (late_snoc hc hl)
    second := fun a k ea ek f hak ha hk hea hek => by
      rcases getElem?_snoc_cases hk with ⟨hlt, hk⟩ | ⟨rfl, rfl⟩
      · exact h.second a k ea ek f hak (getElem?_of_snoc_lt (by omega) ha) hk hea hek
      · -- the new entry is a claim: it reports what it found in the slot, and the earlier claim has emptied it
        have ha := getElem?_of_snoc_lt hak ha
        have h1 := (F.acqWN (by rw [show ev = _ from hek]; rfl)).1
        rw [show ev = _ from hek, h.closed ea (List.mem_of_getElem? ha) (Event.acqWNext_closing hea)] at h1
        exact (Event.acqW.inj h1).2
    excl := fun k m ek em hk hm hek hcid => by
      rcases getElem?_snoc_cases hk with ⟨_, hk⟩ | ⟨rfl, rfl⟩ <;>
        rcases getElem?_snoc_cases hm with ⟨_, hm⟩ | ⟨rfl, rfl⟩
      · exact h.excl k m ek em hk hm hek hcid
      · cases hts : ev.isTermStart with
        | false => rfl
        | true => exact absurd hek ((F.termS hts).2.2 ek (List.mem_of_getElem? hk) hcid.symm)
      · exact (F.acqWN (by rw [show ev = _ from hek]; rfl)).2 m em hm hcid
      · rw [show ev = _ from hek]; rfl }

theorem inv2_of_facts {s : State} (h2 : Inv2 s) {i : Nat} {th th' : Thread} {sh' : Shared} {ev : Event}
    (hth : s.threads[i]? = some th) (F : Facts s i th th' sh' ev) : Inv2 (s.next i sh' th' ev) := by
  have key := F.ok (h2.zone i th hth)
  exact {
    zone := fun j tj hj => by
      rcases getElem?_set_cases hj with ⟨_, rfl⟩ | ⟨_, hj⟩
      · exact key.1
      · exact h2.zone j tj hj
    ok := fun k e hk => by
      rcases getElem?_snoc_cases hk with ⟨hlt, hk⟩ | ⟨rfl, rfl⟩
      · obtain ⟨op, h1, h3⟩ := h2.ok k e hk
        exact ⟨op, (List.getElem?_append_left (lt_of_getElem? h1)).trans h1, h3⟩
      · exact ⟨th'.op, F.call', key.2⟩ }

theorem inv_init (n : Nat) (tear : Bool) : Inv (init n tear) ∧ Inv2 (init n tear) := by
  have idle : ∀ (i : Nat) (th : Thread), (init n tear).threads[i]? = some th → th = {} := by
    intro i th hi
    simp only [init, List.getElem?_replicate] at hi
    split at hi
    · exact (Option.some.inj hi).symm
    · cases hi
  have hInv : Inv (init n tear) := by
    constructor
    · intro i th hi hne; cases idle i th hi; exact absurd rfl hne
    · intro j k tj tk hj _ hp; cases idle j tj hj; cases hp
    all_goals simp [init]
  refine ⟨hInv, ?_, by simp [init]⟩
  intro i th hi; cases idle i th hi; rfl

theorem inv_step {s s' : State} {l : Label} (h : Inv s ∧ Inv2 s) (hs : step s l = some s') : Inv s' ∧ Inv2 s' := by
  obtain ⟨th, th', sh', ev, hth, tr, rfl⟩ := step_shape hs
  have F := facts_of_tr h.1 hth tr
  exact ⟨inv_of_facts h.1 hth F, inv2_of_facts h.2 hth F⟩

theorem invs_reachable {s : State} (hr : Reachable s) : Inv s ∧ Inv2 s := by
  induction hr with
  | init n tear => exact inv_init n tear
  | step _ hs ih => exact inv_step ih hs

theorem inv_reachable {s : State} (hr : Reachable s) : Inv s :=
  (invs_reachable hr).1

theorem run_reachable {n : Nat} {tear : Bool} {ls : List (Nat × Kind)} {s : State} (h : run n tear ls = some s) :
    Reachable s :=
  replay_reachable _ (Reachable.init n tear) h

theorem reachable_of_run {n : Nat} {tear : Bool} {ls : List (Nat × Kind)} {p : State → Prop} [DecidablePred p]
    (h : (run n tear ls).any (fun s => decide (p s)) = true) : ∃ s, Reachable s ∧ p s := by
  cases hs : run n tear ls with
  | none => rw [hs] at h; cases h
  | some s => rw [hs] at h; exact ⟨s, run_reachable hs, of_decide_eq_true h⟩

/-- every log entry belongs to a call: its `cid` is the index of an earlier `callStart` of the same thread -/
theorem call_id_wf {s : State} (hr : Reachable s) {k : Nat} {e : Entry} (hk : s.log[k]? = some e) :
    e.cid ≤ k ∧ ∃ op, s.log[e.cid]? = some ⟨e.tid, e.cid, .callStart op⟩ :=
  (inv_reachable hr).wf k e hk

/-- C19, first half: at most one terminal callback (error or complete) is ever started. -/
theorem at_most_one_terminal_start {s : State} (hr : Reachable s) {i j : Nat} {ei ej : Entry}
    (hi : s.log[i]? = some ei) (hj : s.log[j]? = some ej)
    (hti : ei.ev.isTermStart = true) (htj : ej.ev.isTermStart = true) : i = j :=
  (inv_reachable hr).one i j ei ej hi hj hti htj

theorem countP_le_one_of_unique {α} (p : α → Bool) :
    ∀ (l : List α), (∀ (i j : Nat) (a b : α), l[i]? = some a → l[j]? = some b → p a = true → p b = true → i = j) →
      l.countP p ≤ 1
  | [], _ => by simp
  | x :: xs, h => by
    have ih := countP_le_one_of_unique p xs (by
      intro i j a b ha hb pa pb
      have := h (i + 1) (j + 1) a b (by simpa using ha) (by simpa using hb) pa pb
      omega)
    rw [List.countP_cons]
    by_cases hx : p x = true
    · have : xs.countP p = 0 := by
        rw [List.countP_eq_zero]
        intro a ha pa
        obtain ⟨j, hj⟩ := List.getElem?_of_mem ha
        have := h 0 (j + 1) x a (by simp) (by simpa using hj) hx pa
        omega
      simp [hx, this]
    · simp [hx]; exact ih

theorem at_most_one_terminal_start_count {s : State} (hr : Reachable s) :
    s.log.countP (fun e => e.ev.isTermStart) ≤ 1 :=
  countP_le_one_of_unique _ _ (fun _ _ _ _ hi hj hti htj => at_most_one_terminal_start hr hi hj hti htj)

/-- General form: once a closing event (write-acquisition of `fn_next`, start or return of a terminal callback,
    return of `unsubscribe`) is in the log at index `i`, no call that STARTS later (`i < cid`) ever gets one of
    the subscriber's callbacks (next / error / complete) started. -/
theorem no_delivery_after_close {s : State} (hr : Reachable s) {i k : Nat} {ei ek : Entry}
    (hi : s.log[i]? = some ei) (hcl : ei.ev.closing = true)
    (hk : s.log[k]? = some ek) (hu : ek.ev.isUserCbStart = true) : ¬ i < ek.cid := by
  intro hlt
  have := (inv_reachable hr).deliv k ek hk hu i ei hlt hi
  simp [hcl] at this

/-- C19, second half: a `next` callback (entry `k`, thread `t`, call `c` = log index of that call's `callStart`)
    never belongs to a call that started after a terminal callback returned (entry `i`). -/
theorem no_next_after_terminal_returned {s : State} (hr : Reachable s) {i k t' c' t c : Nat} {cb : Cb}
    (hcb : cb = .error ∨ cb = .complete)
    (hi : s.log[i]? = some ⟨t', c', .cbReturn cb⟩)
    (hk : s.log[k]? = some ⟨t, c, .cbStart .next⟩) : ¬ i < c :=
  no_delivery_after_close hr hi (by rcases hcb with rfl | rfl <;> rfl) hk rfl

/-- stronger: not even after a terminal callback STARTED -/
theorem no_next_after_terminal_started {s : State} (hr : Reachable s) {i k t' c' t c : Nat} {cb : Cb}
    (hcb : cb = .error ∨ cb = .complete)
    (hi : s.log[i]? = some ⟨t', c', .cbStart cb⟩)
    (hk : s.log[k]? = some ⟨t, c, .cbStart .next⟩) : ¬ i < c :=
  no_delivery_after_close hr hi (by rcases hcb with rfl | rfl <;> rfl) hk rfl

/-- C05 (concurrent): no terminal callback for a call that started after an `unsubscribe()` returned -/
theorem no_terminal_after_unsubscribe_returned {s : State} (hr : Reachable s) {i k tu cu t c : Nat} {r : Option Bool}
    {cb : Cb} (hcb : cb = .error ∨ cb = .complete)
    (hi : s.log[i]? = some ⟨tu, cu, .callReturn .unsubscribe r⟩)
    (hk : s.log[k]? = some ⟨t, c, .cbStart cb⟩) : ¬ i < c :=
  no_delivery_after_close hr hi rfl hk (by rcases hcb with rfl | rfl <;> rfl)

/-- C05 (concurrent): no `next` callback for a call that started after an `unsubscribe()` returned -/
theorem no_next_after_unsubscribe_returned {s : State} (hr : Reachable s) {i k tu cu t c : Nat} {r : Option Bool}
    (hi : s.log[i]? = some ⟨tu, cu, .callReturn .unsubscribe r⟩)
    (hk : s.log[k]? = some ⟨t, c, .cbStart .next⟩) : ¬ i < c :=
  no_delivery_after_close hr hi rfl hk rfl

/-- stronger: already the FIRST clearing step of `unsubscribe` (observer.rs:54, the write-acquisition of `fn_next`)
    cuts off every call that starts later -/
theorem no_delivery_after_unsubscribe_first_clear {s : State} (hr : Reachable s) {i k tu cu : Nat} {f : Bool}
    {ek : Entry} (hi : s.log[i]? = some ⟨tu, cu, .acqW .next f⟩)
    (hk : s.log[k]? = some ek) (hu : ek.ev.isUserCbStart = true) : ¬ i < ek.cid :=
  no_delivery_after_close hr hi rfl hk hu

/-- General form: after any dead-mark (a slot was cleared, a terminal callback started/returned, `unsubscribe`
    returned, or `is_subscribed` answered false), every `is_subscribed` call that starts later answers false. -/
theorem is_subscribed_false_after_dead {s : State} (hr : Reachable s) {i k t c : Nat} {ei : Entry} {r : Bool}
    (hi : s.log[i]? = some ei) (hd : ei.ev.deadMark = true)
    (hk : s.log[k]? = some ⟨t, c, .callReturn .isSubscribed (some r)⟩) (hic : i < c) : r = false :=
  (inv_reachable hr).issub k _ r hk rfl ⟨i, ei, hic, hi, hd⟩

/-- `is_subscribed()` never goes from false back to true -/
theorem is_subscribed_monotone {s : State} (hr : Reachable s) {i k t1 c1 t2 c2 : Nat} {r : Bool}
    (hi : s.log[i]? = some ⟨t1, c1, .callReturn .isSubscribed (some false)⟩)
    (hk : s.log[k]? = some ⟨t2, c2, .callReturn .isSubscribed (some r)⟩) (hic : i < c2) : r = false :=
  is_subscribed_false_after_dead hr hi rfl hk hic

theorem is_subscribed_false_after_terminal_start {s : State} (hr : Reachable s) {i k t1 c1 t2 c2 : Nat} {r : Bool}
    {cb : Cb} (hcb : cb = .error ∨ cb = .complete)
    (hi : s.log[i]? = some ⟨t1, c1, .cbStart cb⟩)
    (hk : s.log[k]? = some ⟨t2, c2, .callReturn .isSubscribed (some r)⟩) (hic : i < c2) : r = false :=
  is_subscribed_false_after_dead hr hi (by rcases hcb with rfl | rfl <;> rfl) hk hic

/-- after the first clearing step of an `unsubscribe` (or the claim step of a terminal) -/
theorem is_subscribed_false_after_first_clear {s : State} (hr : Reachable s) {i k t1 c1 t2 c2 : Nat} {f r : Bool}
    (hi : s.log[i]? = some ⟨t1, c1, .acqW .next f⟩)
    (hk : s.log[k]? = some ⟨t2, c2, .callReturn .isSubscribed (some r)⟩) (hic : i < c2) : r = false :=
  is_subscribed_false_after_dead hr hi rfl hk hic

theorem is_subscribed_false_after_unsubscribe_returned {s : State} (hr : Reachable s) {i k t1 c1 t2 c2 : Nat}
    {r : Bool} {ru : Option Bool}
    (hi : s.log[i]? = some ⟨t1, c1, .callReturn .unsubscribe ru⟩)
    (hk : s.log[k]? = some ⟨t2, c2, .callReturn .isSubscribed (some r)⟩) (hic : i < c2) : r = false :=
  is_subscribed_false_after_dead hr hi rfl hk hic

/-- state form: an empty closure slot stays empty -/
theorem slots_monotone {s s' : State} {l : Label} (hs : step s l = some s') :
    (s.sh.sNext = false → s'.sh.sNext = false) ∧ (s.sh.sErr = false → s'.sh.sErr = false) ∧
    (s.sh.sCompl = false → s'.sh.sCompl = false) := by
  obtain ⟨th, th', sh', ev, _, tr, rfl⟩ := step_shape hs
  rcases tr with ⟨_, rfl, _⟩ | ⟨_, _, _, k, hm⟩
  · exact ⟨id, id, id⟩
  · exact (micro_facts hm).mono

/-- If some write-acquisition of `fn_next` (entry `i`: the first clearing step of an
    `unsubscribe`, or another terminal's claim) precedes the claim step of a call (entry `k`), that claim finds
    the slot empty and the call never starts a terminal callback. -/
theorem terminal_excludes {s : State} (hr : Reachable s) {i k tu cu t c : Nat} {fu f : Bool}
    (hi : s.log[i]? = some ⟨tu, cu, .acqW .next fu⟩)
    (hk : s.log[k]? = some ⟨t, c, .acqW .next f⟩) (hik : i < k) :
    f = false ∧ ∀ (m : Nat) (em : Entry), s.log[m]? = some em → em.cid = c → em.ev.isTermStart = false := by
  have h := inv_reachable hr
  have hf : f = false := h.second i k _ _ f hik hi hk rfl rfl
  subst hf
  exact ⟨rfl, fun m em hm hc => h.excl k m _ em hk hm rfl hc⟩

/-- a claim that found `fn_next` empty never fires (whoever emptied it) -/
theorem failed_claim_never_fires {s : State} (hr : Reachable s) {k m t c : Nat} {em : Entry}
    (hk : s.log[k]? = some ⟨t, c, .acqW .next false⟩) (hm : s.log[m]? = some em) (hc : em.cid = c) :
    em.ev.isTermStart = false :=
  (inv_reachable hr).excl k m _ em hk hm rfl hc

/-- every entry is tagged with a call of its own thread and is an event of that call's protocol -/
theorem entry_matches_call {s : State} (hr : Reachable s) {k : Nat} {e : Entry} (hk : s.log[k]? = some e) :
    e.cid ≤ k ∧ ∃ op, s.log[e.cid]? = some ⟨e.tid, e.cid, .callStart op⟩ ∧ e.ev.okFor op = true :=
  ⟨(call_id_wf hr hk).1, (invs_reachable hr).2.ok k e hk⟩

/-- in particular: a `next` callback entry is tagged with a `next v` call of the same thread, a terminal callback
    with an `error`/`complete` call -/
theorem cbStart_next_call {s : State} (hr : Reachable s) {k t c : Nat}
    (hk : s.log[k]? = some ⟨t, c, .cbStart .next⟩) : c < k ∧ ∃ d, s.log[c]? = some ⟨t, c, .callStart (.next d)⟩ := by
  obtain ⟨hle, op, h1, h2⟩ := entry_matches_call hr hk
  simp only at hle h1 h2
  have hne : c ≠ k := by
    rintro rfl; rw [hk] at h1; simp at h1
  refine ⟨by omega, ?_⟩
  cases op <;> simp [Event.okFor, Op.entry] at h2
  exact ⟨_, h1⟩

theorem cbStart_terminal_call {s : State} (hr : Reachable s) {k t c : Nat} {cb : Cb} (hcb : cb = .error ∨ cb = .complete)
    (hk : s.log[k]? = some ⟨t, c, .cbStart cb⟩) :
    c < k ∧ ∃ op, (op.isErr = true ∨ op = .complete) ∧ s.log[c]? = some ⟨t, c, .callStart op⟩ := by
  obtain ⟨hle, op, h1, h2⟩ := entry_matches_call hr hk
  simp only at hle h1 h2
  have hne : c ≠ k := by
    rintro rfl; rw [hk] at h1; simp at h1
  refine ⟨by omega, op, ?_, h1⟩
  rcases hcb with rfl | rfl <;> cases op <;> simp [Event.okFor, Op.isErr] at h2 ⊢

def logAt (r : Option State) (i : Nat) : Option Entry := r.bind (·.log[i]?)
def termStarts (r : Option State) : Option Nat := r.map fun s => s.log.countP (fun e => e.ev.isTermStart)

/-- three threads: `next 1` fetches its closure first, then `error` and `complete` race for `fn_next`;
    `error` wins, `complete` returns empty-handed; the `next` callback runs AFTER the error callback returned
    (allowed: its call #0 started before); a second `next` call finds nothing. -/
def raceRun : List (Nat × Kind) := [
  (0, .callStart (.next (.int 1))),   -- 0
  (0, .acqR .next),                    -- 1   found Some
  (1, .callStart (.error 7)),          -- 2
  (2, .callStart .complete),           -- 3
  (1, .acqW .next),                    -- 4   claim succeeds
  (2, .acqW .next),                    -- 5   claim fails
  (2, .callReturn),                    -- 6
  (1, .acqW .complete),                -- 7
  (1, .acqW .error),                   -- 8
  (1, .cbStart .error),                -- 9
  (1, .cbReturn .error),               -- 10
  (1, .callReturn),                    -- 11
  (0, .cbStart .next),                 -- 12  after the terminal returned, but call #0 started before it
  (0, .cbReturn .next),                -- 13
  (0, .callReturn),                    -- 14
  (0, .callStart (.next (.int 2))),    -- 15
  (0, .acqR .next),                    -- 16  found None
  (0, .callReturn)]                    -- 17

example : (run 3 false raceRun).isSome = true := by decide +kernel
/-- exactly one of the racing terminals fires -/
example : termStarts (run 3 false raceRun) = some 1 := by decide +kernel
example : logAt (run 3 false raceRun) 9 = some ⟨1, 2, .cbStart .error⟩ := by decide +kernel
example : logAt (run 3 false raceRun) 5 = some ⟨2, 3, .acqW .next false⟩ := by decide +kernel
/-- hypotheses of `no_next_after_terminal_returned` are satisfiable (entries 10 and 12); the `next` callback starts
    after the terminal returned (10 < 12) but belongs to call #0, so the conclusion `¬ 10 < 0` is what is claimed;
    the call that does start later (#15) gets no callback -/
example : logAt (run 3 false raceRun) 10 = some ⟨1, 2, .cbReturn .error⟩ ∧
    logAt (run 3 false raceRun) 12 = some ⟨0, 0, .cbStart .next⟩ ∧
    logAt (run 3 false raceRun) 16 = some ⟨0, 15, .acqR .next false⟩ ∧
    logAt (run 3 false raceRun) 17 = some ⟨0, 15, .callReturn (.next (.int 2)) none⟩ := by decide +kernel
example : ∃ (s : State) (i k t' c' t c : Nat), Reachable s ∧ s.log[i]? = some (⟨t', c', .cbReturn .error⟩ : Entry) ∧
    s.log[k]? = some (⟨t, c, .cbStart .next⟩ : Entry) ∧ i < k := by
  obtain ⟨s, hr, h10, h12⟩ := reachable_of_run (n := 3) (tear := false) (ls := raceRun)
    (p := fun s => s.log[10]? = some ⟨1, 2, .cbReturn .error⟩ ∧ s.log[12]? = some ⟨0, 0, .cbStart .next⟩)
    (by decide +kernel)
  exact ⟨s, 10, 12, 1, 2, 0, 0, hr, h10, h12, by omega⟩

/-- `unsubscribe` (with a teardown closure installed) clears `fn_next` first; a later `error` claim fails and
    never fires; `is_subscribed` answers false twice; a terminal that took its closure BEFORE is still delivered
    after `unsubscribe` returned in `lateTerminalRun` below. -/
def unsubRun : List (Nat × Kind) := [
  (0, .callStart .unsubscribe),        -- 0
  (0, .acqW .next),                    -- 1   first clearing step
  (1, .callStart (.error 3)),          -- 2
  (1, .acqW .next),                    -- 3   claim fails
  (2, .callStart .isSubscribed),       -- 4
  (2, .acqR .next),                    -- 5
  (2, .callReturn),                    -- 6   = false
  (1, .callReturn),                    -- 7
  (0, .acqW .error),                   -- 8
  (0, .acqW .complete),                -- 9
  (0, .acqR .teardown),                -- 10  Some: read guard kept
  (0, .acqR .tearFn),                  -- 11
  (0, .cbStart .teardown),             -- 12
  (0, .cbReturn .teardown),            -- 13
  (0, .relR .teardown),                -- 14
  (0, .acqW .teardown),                -- 15
  (0, .callReturn),                    -- 16
  (2, .callStart .isSubscribed),       -- 17
  (2, .acqR .next),                    -- 18
  (2, .callReturn),                    -- 19  = false
  (1, .callStart (.next .unit)),       -- 20
  (1, .acqR .next),                    -- 21  None
  (1, .callReturn)]                    -- 22

example : (run 3 true unsubRun).isSome = true := by decide +kernel
example : termStarts (run 3 true unsubRun) = some 0 := by decide +kernel
/-- hypotheses of `terminal_excludes` (entries 1, 3), `is_subscribed_monotone` (entries 6, 19 with 6 < 17),
    `is_subscribed_false_after_first_clear` (1 < 4), `..._after_unsubscribe_returned` (16 < 17) -/
example : logAt (run 3 true unsubRun) 1 = some ⟨0, 0, .acqW .next true⟩ ∧
    logAt (run 3 true unsubRun) 3 = some ⟨1, 2, .acqW .next false⟩ ∧
    logAt (run 3 true unsubRun) 6 = some ⟨2, 4, .callReturn .isSubscribed (some false)⟩ ∧
    logAt (run 3 true unsubRun) 16 = some ⟨0, 0, .callReturn .unsubscribe none⟩ ∧
    logAt (run 3 true unsubRun) 19 = some ⟨2, 17, .callReturn .isSubscribed (some false)⟩ := by decide +kernel

/-- `is_subscribed` can answer true: a fresh observer -/
example : logAt (run 1 false [(0, .callStart .isSubscribed), (0, .acqR .next), (0, .acqR .error), (0, .acqR .complete),
    (0, .callReturn)]) 4 = some ⟨0, 0, .callReturn .isSubscribed (some true)⟩ := by decide +kernel

/-- hypotheses of `no_terminal_after_unsubscribe_returned` are satisfiable: `error` takes its closure (entry 4)
    before `unsubscribe` returns (entry 11); its callback starts afterwards (entry 12) — its call #0 started before. -/
def lateTerminalRun : List (Nat × Kind) := [
  (1, .callStart (.error 9)),          -- 0
  (1, .acqW .next),                    -- 1
  (1, .acqW .complete),                -- 2
  (0, .callStart .unsubscribe),        -- 3
  (1, .acqW .error),                   -- 4   takes the error closure
  (2, .callStart (.next (.int 4))),    -- 5
  (0, .acqW .next),                    -- 6
  (0, .acqW .error),                   -- 7
  (0, .acqW .complete),                -- 8
  (0, .acqR .teardown),                -- 9   None
  (0, .acqW .teardown),                -- 10
  (0, .callReturn),                    -- 11
  (1, .cbStart .error),                -- 12
  (1, .cbReturn .error),               -- 13
  (1, .callReturn)]                    -- 14

example : logAt (run 3 false lateTerminalRun) 11 = some ⟨0, 3, .callReturn .unsubscribe none⟩ ∧
    logAt (run 3 false lateTerminalRun) 12 = some ⟨1, 0, .cbStart .error⟩ := by decide +kernel

/-- the same for `no_next_after_unsubscribe_returned`: `next` fetches (entry 1), the callback starts at entry 9 -/
def lateNextRun : List (Nat × Kind) := [
  (2, .callStart (.next (.int 4))),    -- 0
  (2, .acqR .next),                    -- 1   fetched
  (0, .callStart .unsubscribe),        -- 2
  (0, .acqW .next), (0, .acqW .error), (0, .acqW .complete), (0, .acqR .teardown), (0, .acqW .teardown),  -- 3..7
  (0, .callReturn),                    -- 8
  (2, .cbStart .next)]                 -- 9

example : logAt (run 3 false lateNextRun) 8 = some ⟨0, 2, .callReturn .unsubscribe none⟩ ∧
    logAt (run 3 false lateNextRun) 9 = some ⟨2, 0, .cbStart .next⟩ := by decide +kernel

/-- OBSERVATION (not covered by C19/C05): two concurrent `unsubscribe()` calls can both run the teardown closure,
    because the slot is read (observer.rs:57) and cleared (observer.rs:60) under two different guards. -/
def doubleTeardownRun : List (Nat × Kind) := [
  (0, .callStart .unsubscribe), (0, .acqW .next), (0, .acqW .error), (0, .acqW .complete),
  (1, .callStart .unsubscribe), (1, .acqW .next), (1, .acqW .error), (1, .acqW .complete),
  (0, .acqR .teardown), (1, .acqR .teardown),
  (0, .acqR .tearFn), (1, .acqR .tearFn),
  (0, .cbStart .teardown), (1, .cbStart .teardown),
  (0, .cbReturn .teardown), (0, .relR .teardown),
  (1, .cbReturn .teardown), (1, .relR .teardown),
  (0, .acqW .teardown), (1, .acqW .teardown), (0, .callReturn), (1, .callReturn)]

theorem teardown_may_run_twice :
    ∃ s, Reachable s ∧ s.log.countP (fun e => decide (e.ev = .cbStart .teardown)) = 2 :=
  reachable_of_run (n := 2) (tear := true) (ls := doubleTeardownRun) (by decide +kernel)

/-- the write at observer.rs:60 is blocked while another thread is inside the teardown closure -/
example : (run 2 true (doubleTeardownRun.take 15 ++ [(0, .relR .teardown), (0, .acqW .teardown)])).isSome = false := by
  decide

#print axioms at_most_one_terminal_start
#print axioms at_most_one_terminal_start_count
#print axioms no_delivery_after_close
#print axioms no_next_after_terminal_returned
#print axioms no_next_after_terminal_started
#print axioms no_terminal_after_unsubscribe_returned
#print axioms no_next_after_unsubscribe_returned
#print axioms no_delivery_after_unsubscribe_first_clear
#print axioms is_subscribed_false_after_dead
#print axioms is_subscribed_monotone
#print axioms is_subscribed_false_after_terminal_start
#print axioms is_subscribed_false_after_first_clear
#print axioms is_subscribed_false_after_unsubscribe_returned
#print axioms terminal_excludes
#print axioms failed_claim_never_fires
#print axioms call_id_wf
#print axioms entry_matches_call
#print axioms cbStart_next_call
#print axioms cbStart_terminal_call
#print axioms teardown_may_run_twice

end Rx.ConcObs

