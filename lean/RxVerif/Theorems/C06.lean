import RxVerif.Theorems.Sim
import RxVerif.Theorems.C02a
/-
C06 — Every way a subscription ends tears down everything upstream of it.

Two layers.
(1) Kernel layer (`Kernel.run` semantics): whenever a standard operator ends its downstream while items
    are still being fed, it has cancelled its upstream — for every kernel whose `on_next` aborts before it
    completes (`cancelsWhenDone_of_abortsFirst`), for all item lists and parameters.  Of the ten instances
    only take, take_while, contains, dematerialize can end while fed; for the others the premise never holds.
(2) Machine layer (`Rx.Sim`): in the object machine, where the StreamController is transliterated call
    by call, the observer an operator handed to its source is unsubscribed EXACTLY when the kernel layer
    says `cancelled` (or the source delivered its own terminal) — from any ready start world.  A polling
    producer (`from_iter`, `repeat`, `range`, the instrumented sources) checks exactly that observer's
    `is_subscribed()` before its next emission.
The combining operators are covered at their own layer in `Theorems/C03.lean` (`Ctl.live`); the
remaining tie to the code is the per-run correspondence on probed sources.
-/
namespace Rx.C06
open Rx Rx.C02

/-- a downstream terminal produced while feeding implies the upstream was cancelled -/
def CancelsWhenDone {σ} (K : Kernel σ) : Prop :=
  ∀ xs : List Data, (K.feed K.init {} xs).2.alive = false → (K.feed K.init {} xs).2.cancelled = true

theorem cancelsWhenDone_of_abortsFirst {σ} {K : Kernel σ} (hA : Kernel.AbortsFirst K) : CancelsWhenDone K :=
  fun xs => (Sim.feed_exact K hA xs K.init {} .init).2.done

theorem take_cancels_when_done (n : Nat) : CancelsWhenDone (kTake n) := cancelsWhenDone_of_abortsFirst (Sim.af_kTake n)
theorem takeWhile_cancels_when_done (p : Pred) : CancelsWhenDone (kTakeWhile p) := cancelsWhenDone_of_abortsFirst (Sim.af_kTakeWhile p)
theorem contains_cancels_when_done (t : Data) : CancelsWhenDone (kContains t) := cancelsWhenDone_of_abortsFirst (Sim.af_kContains t)
theorem dematerialize_cancels_when_done : CancelsWhenDone kDematerialize := cancelsWhenDone_of_abortsFirst Sim.af_kDematerialize
theorem map_cancels_when_done (f : Fn) : CancelsWhenDone (kMap f) := cancelsWhenDone_of_abortsFirst (Sim.af_kMap f)
theorem filter_cancels_when_done (p : Pred) : CancelsWhenDone (kFilter p) := cancelsWhenDone_of_abortsFirst (Sim.af_kFilter p)
theorem skip_cancels_when_done (n : Nat) : CancelsWhenDone (kSkip n) := cancelsWhenDone_of_abortsFirst (Sim.af_kSkip n)
theorem skipWhile_cancels_when_done (p : Pred) : CancelsWhenDone (kSkipWhile p) := cancelsWhenDone_of_abortsFirst (Sim.af_kSkipWhile p)
theorem skipLast_cancels_when_done (n : Nat) : CancelsWhenDone (kSkipLast n) := cancelsWhenDone_of_abortsFirst (Sim.af_kSkipLast n)
theorem distinct_cancels_when_done : CancelsWhenDone kDistinct := cancelsWhenDone_of_abortsFirst Sim.af_kDistinct

/-- **C06, machine layer.**  For every standard operator (well-encoded kernel that aborts before it
    completes — `Rx.Sim.we_k*`/`af_k*` for the kernels of Kernel/Basic.lean), subscribed in ANY ready
    world over a probed polite source: the observer handed to the source is no longer subscribed exactly
    when the kernel semantics says the upstream was cancelled, or the source delivered its own terminal. -/
theorem upstream_unsubscribed_iff_cancelled {σ} (K : Kernel σ) (hK : Kernel.WellEncoded K)
    (hA : Kernel.AbortsFirst K) (w : World) (hw : Sim.Ready w) (tag : Nat) (s : Stream) :
    ∃ N, ∀ fuel, N ≤ fuel →
      Sim.upstreamCancelled w (run fuel [Sim.subscribeScript K tag s] w)
        = ((K.runFull s).cancelled || s.2 != .silent) :=
  Sim.eventually_imp (Sim.stdOp_sim_cancel K hK hA w hw tag s) fun _ h => h.2.2.2

/-- **C06 for take / take_while on an endless (never terminating) probed source**: once the
    operator has what it needs, the source's observer is unsubscribed — the producer stops. -/
theorem take_stops_producer (n : Nat) (w : World) (hw : Sim.Ready w) (tag : Nat) (xs : List Data)
    (h1 : xs ≠ []) (h2 : n ≤ xs.length) :
    ∃ N, ∀ fuel, N ≤ fuel →
      Sim.upstreamCancelled w (run fuel [Sim.subscribeScript (kTake n) tag (xs, .silent)] w) = true := by
  refine Sim.eventually_imp (Sim.stdOp_sim_silent (kTake n) (Sim.we_kTake n) (Sim.af_kTake n) w hw tag xs) fun fuel h => ?_
  rw [h]
  exact take_cancels n (xs, .silent) h1 h2

theorem takeWhile_stops_producer (p : Pred) (w : World) (hw : Sim.Ready w) (tag : Nat) (xs : List Data)
    (h : ¬ xs.all p.app = true) :
    ∃ N, ∀ fuel, N ≤ fuel →
      Sim.upstreamCancelled w (run fuel [Sim.subscribeScript (kTakeWhile p) tag (xs, .silent)] w) = true := by
  refine Sim.eventually_imp
    (Sim.stdOp_sim_silent (kTakeWhile p) (Sim.we_kTakeWhile p) (Sim.af_kTakeWhile p) w hw tag xs) fun fuel hs => ?_
  rw [hs]
  exact takeWhile_cancels p (xs, .silent) h

end Rx.C06

-- non-vacuity: take 2 over an endless source of three items, on the machine
open Rx in
example : Sim.upstreamCancelled {} (run 400 [Sim.subscribeScript (kTake 2) 0 ([.int 1, .int 2, .int 3], .silent)] {}) = true := by
  decide

#print axioms Rx.C06.upstream_unsubscribed_iff_cancelled
#print axioms Rx.C06.take_stops_producer
#print axioms Rx.C06.takeWhile_stops_producer
#print axioms Rx.C06.contains_cancels_when_done
#print axioms Rx.C06.dematerialize_cancels_when_done
