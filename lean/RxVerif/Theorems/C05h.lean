import RxVerif.Machine.Core
/-
C05 — handles of ONE subscription (src/subscription.rs: `Subscription` = two shared `FunctionWrapper` slots; `unsubscribe` is
call-AND-CLEAR of the shared slot, so clones, `Using` guards and repeated calls all go through one "armed" flag).
Model A: a handle is the value `pair (int observer) (int armed-cell)`; copying the value is `Clone`.
-/
namespace Rx.C05h
open Rx

/-- a handle whose shared flag is already cleared: `unsubscribe` through ANY copy of it changes nothing - for every stack,
    fuel and world with no lock held (idempotence; "calling unsubscribe again has no effect") -/
theorem subUnsub_disarmed (o a : Nat) (w : World) (st : List Prog) (fuel : Nat)
    (hc : w.cells[a]? = some (.bool false)) (hh : w.held = []) :
    run (fuel + 2) (subUnsub (.pair (.int o) (.int a)) :: st) w = run fuel st w := by
  have hconf : ∀ l wr, w.conflicts l wr = false := by
    intro l wr; simp [World.conflicts, hh]
  simp only [subUnsub, run, hconf, Bool.and_false, Bool.false_eq_true, ↓reduceIte, Int.toNat_natCast, hc,
    Option.getD_some, Data.toBool]

/-- an armed handle: `unsubscribe` clears the SHARED flag first and then unsubscribes the observer - once -/
theorem subUnsub_armed (o a : Nat) (w : World) (st : List Prog) (fuel : Nat)
    (hc : w.cells[a]? = some (.bool true)) (hh : w.held = []) :
    run (fuel + 2) (subUnsub (.pair (.int o) (.int a)) :: st) w
      = run fuel (.obsUnsub o .done :: st) { w with cells := w.cells.set a (.bool false) } := by
  have hconf : ∀ l wr, w.conflicts l wr = false := by
    intro l wr; simp [World.conflicts, hh]
  simp only [subUnsub, run, hconf, Bool.and_false, Bool.false_eq_true, ↓reduceIte, Int.toNat_natCast, hc,
    Option.getD_some, Data.toBool]

/-- after the first `unsubscribe` the flag every copy shares reads `false`: the second, third, .. call is `subUnsub_disarmed` -/
theorem armed_cleared (a : Nat) (w : World) (h : a < w.cells.length) :
    ({ w with cells := w.cells.set a (.bool false) } : World).cells[a]? = some (.bool false) := by
  simp [h]

end Rx.C05h

-- non-vacuity: three copies of one handle unsubscribed in a row: the observer's teardown (a probe) runs once
open Rx in
example :
    let p : Prog := .obsNew (fun _ => .done) (fun _ => .done) .done fun o =>
      .obsSetOnUnsub o (.probe 3 (.int 1) .done) <| .cellNew (.bool true) fun a =>
      let h := Data.pair (.int o) (.int a)
      subUnsub h ;; subUnsub h ;; subUnsub h
    (run 100 [p] {}).trace = [.probe 3 (.int 1)] := by decide

#print axioms Rx.C05h.subUnsub_disarmed
#print axioms Rx.C05h.subUnsub_armed
#print axioms Rx.C05h.armed_cleared
