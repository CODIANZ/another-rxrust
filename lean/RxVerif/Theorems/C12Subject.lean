/-
C12, plain `Subject`: main theorems over ALL reachable states of the LTS `Rx.Conc.Subject`
(all interleavings of any number of threads running arbitrary programs of next / subscribe / unsubscribe calls); before
them `InvC`, which ties the state to the programs (hypotheses such as "no program unsubscribes `o`" enter through it).
-/
import RxVerif.Theorems.C12SubjectB

namespace Rx.Conc.Subject

/-- bookkeeping invariant: programs only shrink, `fn_next` is cleared only by an `unsubscribe` call of some program,
the ghost flag `pre` never changes -/
structure InvC (progs : List (List Call)) (nPre : Nat) (s : State) : Prop where
  sub : ∀ (t : Nat) (c : Call), c ∈ (s.threads t).todo → c ∈ progs.getD t []
  u0 : ∀ t o : Nat, (s.threads t).pc = .u0 o → Call.unsubscribe o ∈ progs.getD t []
  dead : ∀ o : Nat, (s.obs o).fnNext = false → ∃ t, Call.unsubscribe o ∈ progs.getD t []
  pre : ∀ o : Nat, (s.obs o).pre = decide (o < nPre)

theorem invC_init (progs : List (List Call)) (nPre : Nat) : InvC progs nPre (init progs nPre) := by
  constructor
  · intro t c h; simpa [init] using h
  · intro t o h; simp [init] at h
  · intro o h; simp only [init] at h; split at h <;> simp at h
  · intro o; simp only [init]; split <;> simp_all

/-- what a step may do to an observer record without `InvC` noticing -/
structure SameC (ob ob' : Obs) : Prop where
  pre : ob'.pre = ob.pre
  fnNext : ob'.fnNext = false → ob.fnNext = false

theorem SameC.rfl {ob : Obs} : SameC ob ob := ⟨_root_.rfl, id⟩

theorem invC_move {progs : List (List Call)} {nPre : Nat} {s : State} (h : InvC progs nPre s) {t : Nat}
    {todo todo' : List Call} {pc pc' : Pc} {cnt cnt' : Nat} {obs' : Nat → Obs} {map' : List (Nat × Nat)}
    {serial' : Nat} (hth : s.threads t = ⟨todo, pc, cnt⟩) (hu0 : ∀ o, pc' = .u0 o → Call.unsubscribe o ∈ todo)
    (hobs : ∀ o, SameC (s.obs o) (obs' o)) (htodo : ∀ c ∈ todo', c ∈ todo) :
    InvC progs nPre { obs := obs', map := map', serial := serial', threads := setAt s.threads t ⟨todo', pc', cnt'⟩ } :=
  have hsub : ∀ c ∈ todo, c ∈ progs.getD t [] := fun c hc => h.sub t c (hth ▸ hc)
  ⟨setAt_ind (P := fun t (th : Thread) => ∀ c ∈ th.todo, c ∈ progs.getD t []) (fun c hc => hsub c (htodo c hc))
      fun j _ => h.sub j,
    setAt_ind (P := fun t (th : Thread) => ∀ o, th.pc = .u0 o → Call.unsubscribe o ∈ progs.getD t [])
      (fun o ho => hsub _ (hu0 o ho)) fun j _ => h.u0 j,
    fun o ho => h.dead o ((hobs o).fnNext ho), fun o => (hobs o).pre.trans (h.pre o)⟩

theorem invC_step {progs : List (List Call)} {nPre : Nat} {s s' : State} {t : Nat} (h : InvC progs nPre s)
    (hs : stepT s t = some s') : InvC progs nPre s' := by
  cases hth : s.threads t with | mk todo pc cnt
  cases pc <;> simp only [stepT, hth, Option.some.injEq] at hs
  case nx0 | u1 | u2 | u4 => subst hs; exact invC_move h hth nofun (fun _ => .rfl) fun _ hc => hc
  case s0 | s1 | u3 => subst hs; split <;> exact invC_move h hth nofun (fun _ => .rfl) fun _ hc => hc
  case nx2 | s2 | s3 | s4 | u5 =>
    subst hs; exact invC_move h hth nofun (setAt_rel (fun _ => .rfl) ⟨rfl, id⟩) fun _ hc => hc
  case nxL k v snap =>
    cases snap <;> simp only [Option.some.injEq] at hs <;> subst hs
    · exact invC_move h hth nofun (fun _ => .rfl) fun _ hc => hc
    · split <;> exact invC_move h hth nofun (fun _ => .rfl) fun _ hc => hc
  case u0 o =>
    subst hs
    have h' := invC_move (pc' := .u1 o) (cnt' := cnt) (map' := s.map) (serial' := s.serial) h hth nofun
      (fun _ => .rfl) fun _ hc => hc
    exact ⟨h'.sub, h'.u0,
      setAt_ind (P := fun o (ob : Obs) => ob.fnNext = false → ∃ t, Call.unsubscribe o ∈ progs.getD t [])
        (fun _ => ⟨t, h.u0 t o (by rw [hth])⟩) fun j _ => h.dead j,
      setAt_ind (P := fun o (ob : Obs) => ob.pre = decide (o < nPre)) (h.pre o) fun j _ => h.pre j⟩
  case idle =>
    split at hs
    · cases hs
    · cases hs; exact invC_move h hth nofun (fun _ => .rfl) fun _ hc => List.mem_cons_of_mem _ hc
    · split at hs
      · cases hs
      · cases hs
        exact invC_move h hth nofun (setAt_rel (fun _ => .rfl) ⟨rfl, id⟩) fun _ hc => List.mem_cons_of_mem _ hc
    · cases hs
      exact invC_move h hth (fun _ ho => Pc.u0.inj ho ▸ List.mem_cons_self) (fun _ => .rfl) fun _ hc =>
        List.mem_cons_of_mem _ hc

theorem invC_reachable {progs : List (List Call)} {nPre : Nat} {s : State} (h : Reachable progs nPre s) :
    InvC progs nPre s := by
  induction h with
  | init => exact invC_init progs nPre
  | step _ hs ih =>
    exact invC_step ih (stepT_of_step hs)

/-- items observer `o` received from producer thread `t`, in delivery order -/
def State.recvFrom (s : State) (o t : Nat) : List Data := ((s.received o).filter (·.1 == t)).map (·.2.2)

/-- ghost call indices (position of the `next` call among `t`'s `next` calls) of these deliveries -/
def State.recvIdxFrom (s : State) (o t : Nat) : List Nat := ((s.received o).filter (·.1 == t)).map (·.2.1)

theorem recvFrom_eq (s : State) (o t : Nat) :
    s.recvFrom o t = (proj t (s.obs o).rlog).reverse.map (·.2) := by
  simp [State.recvFrom, State.received, proj, List.filter_reverse, List.map_reverse]

theorem recvIdxFrom_eq (s : State) (o t : Nat) :
    s.recvIdxFrom o t = (proj t (s.obs o).rlog).reverse.map (·.1) := by
  simp [State.recvIdxFrom, State.received, proj, List.filter_reverse, List.map_reverse]

theorem progItems_of_ge {progs : List (List Call)} {t : Nat} (ht : progs.length ≤ t) : progItems progs t = [] := by
  simp [progItems, List.getD, List.getElem?_eq_none ht, nextItems]

theorem cnt_of_done {progs : List (List Call)} {s : State} (hB : InvB progs s) {t : Nat} (hd : s.done t) :
    (s.threads t).cnt = (progItems progs t).length := by
  obtain ⟨hcnt, htodo, _⟩ := hB.loc t
  rw [hd.2] at htodo
  exact Nat.le_antisymm hcnt (List.drop_eq_nil_iff.mp htodo.symm)

/-- Per producer, what ANY observer received is a contiguous block of that producer's program, each call of the
block delivered exactly once, in order: the delivered call indices are `a, a+1, .., a+n-1` and the items are the
corresponding items of the program. -/
theorem per_producer_gap_free {progs : List (List Call)} {nPre : Nat} {s : State}
    (h : Reachable progs nPre s) (o t : Nat) :
    ∃ a n, s.recvFrom o t = ((progItems progs t).drop a).take n ∧ s.recvIdxFrom o t = List.range' a n := by
  have hp := (invB_reachable h).pair o t
  exact ⟨_, _, (recvFrom_eq s o t).trans hp.desc.block, (recvIdxFrom_eq s o t).trans hp.desc.indices⟩

/-- no delivery is duplicated: the call indices received from one producer are pairwise distinct -/
theorem no_duplicates {progs : List (List Call)} {nPre : Nat} {s : State}
    (h : Reachable progs nPre s) (o t : Nat) : (s.recvIdxFrom o t).Nodup := by
  obtain ⟨a, n, _, h2⟩ := per_producer_gap_free h o t
  rw [h2]; exact List.nodup_range'

/-- late subscriber: an observer whose `fn_next` is still present (it was never unsubscribed) has received, from a
producer that has finished, a gap-free SUFFIX of that producer's items -/
theorem late_subscriber_suffix {progs : List (List Call)} {nPre : Nat} {s : State}
    (h : Reachable progs nPre s) (o t : Nat) (hlive : (s.obs o).fnNext = true) (hdone : s.done t) :
    ∃ a, s.recvFrom o t = (progItems progs t).drop a ∧
      s.recvIdxFrom o t = List.range' a ((progItems progs t).length - a) := by
  have hB := invB_reachable h
  have hp := hB.pair o t
  have hlen := cnt_of_done hB hdone
  rw [pos_of_not_inNext (by rw [hdone.1]; rfl)] at hp
  rw [recvFrom_eq, recvIdxFrom_eq, hp.desc.block, hp.desc.indices]
  have hle := hp.desc.length_le_top
  by_cases hne : proj t (s.obs o).rlog = []
  · refine ⟨(progItems progs t).length, ?_⟩
    simp [hne]
  · have ht := hp.eq (.inr hlive) hne
    rw [ht, hlen]
    refine ⟨(progItems progs t).length - (proj t (s.obs o).rlog).length, ?_, ?_⟩
    · apply List.take_of_length_le
      simp only [List.length_drop]; omega
    · congr 1; omega

/-- unsubscriber: an observer that was registered from the start has received, from every producer, a gap-free PREFIX
of that producer's items (whatever happened to it afterwards) -/
theorem unsubscriber_prefix {progs : List (List Call)} {nPre : Nat} {s : State}
    (h : Reachable progs nPre s) (o t : Nat) (hpre : o < nPre) :
    ∃ n, s.recvFrom o t = (progItems progs t).take n ∧ s.recvIdxFrom o t = List.range' 0 n := by
  have hp := (invB_reachable h).pair o t
  have hpre' : (s.obs o).pre = true := by rw [(invC_reachable h).pre o]; simpa using hpre
  have hlen := hp.pfx hpre'
  refine ⟨(proj t (s.obs o).rlog).length, ?_, ?_⟩
  · rw [recvFrom_eq, hp.desc.block, ← hlen]; simp
  · rw [recvIdxFrom_eq, hp.desc.indices, ← hlen]; simp

/-- An observer registered before any producer started (`o < nPre`) and never unsubscribed (no program contains
`unsubscribe o`) has, once all producers are done, received from every producer exactly that producer's items, each
call exactly once, in program order. -/
theorem stays_subscribed_gets_all {progs : List (List Call)} {nPre : Nat} {s : State}
    (h : Reachable progs nPre s) (o : Nat) (hpre : o < nPre)
    (hnever : ∀ t, Call.unsubscribe o ∉ progs.getD t [])
    (hdone : ∀ t, t < progs.length → s.done t) :
    ∀ t, s.recvFrom o t = progItems progs t ∧ s.recvIdxFrom o t = List.range' 0 (progItems progs t).length := by
  intro t
  have hB := invB_reachable h
  have hC := invC_reachable h
  have hp := hB.pair o t
  have hpre' : (s.obs o).pre = true := by rw [hC.pre o]; simpa using hpre
  have hlive : (s.obs o).fnNext = true :=
    (Bool.not_eq_false _).mp fun hf => (hC.dead o hf).elim fun t' ht' => hnever t' ht'
  have hlenP : (proj t (s.obs o).rlog).length = (progItems progs t).length := by
    by_cases ht : t < progs.length
    · have := hp.full (.inr hlive) hpre'
      rwa [pos_of_not_inNext (by rw [(hdone t ht).1]; rfl), cnt_of_done hB (hdone t ht)] at this
    · have hd := hp.desc
      rw [progItems_of_ge (Nat.le_of_not_lt ht)] at hd ⊢
      rw [hd.eq_nil]; rfl
  have hlen := hp.pfx hpre'
  constructor
  · rw [recvFrom_eq, hp.desc.block, ← hlen, hlenP]; simp
  · rw [recvIdxFrom_eq, hp.desc.indices, ← hlen, hlenP]; simp

/-- a thread that has no program delivers nothing -/
theorem recv_tid_lt {progs : List (List Call)} {nPre : Nat} {s : State} (h : Reachable progs nPre s) (o : Nat) :
    ∀ x ∈ s.received o, x.1 < progs.length := by
  intro x hx
  refine Nat.lt_of_not_le fun ht => ?_
  have hp := ((invB_reachable h).pair o x.1).desc
  rw [progItems_of_ge ht] at hp
  have hmem : x.2 ∈ proj x.1 (s.obs o).rlog :=
    List.mem_map.mpr ⟨x, List.mem_filter.mpr ⟨List.mem_reverse.mp hx, beq_self_eq_true _⟩, rfl⟩
  rw [hp.eq_nil] at hmem
  cases hmem

/-- Multiset form: under the hypotheses of `stays_subscribed_gets_all` the items the observer received are, as a
multiset, exactly all items of all producers. -/
theorem stays_subscribed_multiset {progs : List (List Call)} {nPre : Nat} {s : State}
    (h : Reachable progs nPre s) (o : Nat) (hpre : o < nPre)
    (hnever : ∀ t, Call.unsubscribe o ∉ progs.getD t [])
    (hdone : ∀ t, t < progs.length → s.done t) :
    ((s.received o).map (·.2.2)).Perm ((List.range progs.length).flatMap (progItems progs)) := by
  have hperm := map_perm_flatMap_filter (fun x : Nat × Nat × Data => x.2.2) progs.length (s.received o)
    (recv_tid_lt h o)
  rwa [show (fun t => ((s.received o).filter (·.1 == t)).map (·.2.2)) = progItems progs from
    funext fun t => (stays_subscribed_gets_all h o hpre hnever hdone t).1] at hperm

/-- 2 producers × 2 items, one stable observer (observer 0 pre-registered), plus a thread that subscribes observer 1
late and a thread that unsubscribes it -/
def exProgs : List (List Call) :=
  [[.next (.int 1), .next (.int 2)], [.next (.int 10), .next (.int 20)], [.subscribe 1], [.unsubscribe 1]]

/-- a complete run: producer 0's first `next`, the late subscription, the producers interleaved, the unsubscription -/
def exRun : List Label :=
  [(0, .call), (0, .snap), (0, .fetch), (0, .deliver), (0, .ret),
   (2, .call), (2, .isSub1), (2, .isSub2), (2, .serial), (2, .setTd), (2, .insert),
   (1, .call), (1, .snap), (0, .call), (0, .snap),
   (1, .fetch), (0, .fetch), (0, .deliver), (1, .deliver),
   (1, .fetch), (1, .deliver), (3, .call), (3, .clrNext), (0, .fetch), (0, .ret), (1, .ret),
   (1, .call), (1, .snap), (1, .fetch), (1, .deliver), (1, .fetch), (1, .ret),
   (3, .clrErr), (3, .clrCompl), (3, .readTd), (3, .remove), (3, .clrTd)]

def exFinal : Option State := replay exProgs 1 exRun

def State.exVerdict (s : State) : List Data × List Data × Bool × List Data :=
  ((s.received 0).map (·.2.2), (s.received 1).map (·.2.2), (List.range 4).all (fun t => decide (s.done t)),
    s.recvFrom 0 1)

theorem exFinal_verdict : exFinal.map State.exVerdict =
    some ([.int 1, .int 2, .int 10, .int 20], [.int 10], true, [.int 10, .int 20]) := by decide +kernel

example : (exFinal.map fun s => (s.received 0).map (·.2.2)) =
    some [.int 1, .int 2, .int 10, .int 20] :=
  map_some_then exFinal_verdict (·.1)
example : (exFinal.map fun s => (s.received 1).map (·.2.2)) = some [.int 10] :=
  map_some_then exFinal_verdict (·.2.1)
example : (exFinal.map fun s => (List.range 4).all fun t => decide (s.done t)) = some true :=
  map_some_then exFinal_verdict (·.2.2.1)

/-- the hypotheses of `stays_subscribed_gets_all` are satisfiable (and its conclusion is what the run shows) -/
example : ∃ s, Reachable exProgs 1 s ∧ (0 < 1) ∧ (∀ t, Call.unsubscribe 0 ∉ exProgs.getD t []) ∧
    (∀ t, t < exProgs.length → s.done t) ∧ s.recvFrom 0 1 = [.int 10, .int 20] := by
  obtain ⟨s, hs, hv⟩ := Option.map_eq_some_iff.mp exFinal_verdict
  refine ⟨s, reachable_of_replay hs, by decide, fun t => ?_, fun t ht => ?_, congrArg (·.2.2.2) hv⟩
  · match t with
    | 0 | 1 | 2 | 3 => decide
    | t + 4 => simp [exProgs]
  · have h := congrArg (·.2.2.1) hv
    simp only [State.exVerdict, List.all_eq_true, List.mem_range, decide_eq_true_eq] at h
    exact h t ht

/-- "registered before any producer started": the initial state `init progs 1` is the state a sequential
`subscribe 0` leads to from the empty subject (same map, serial counter and observer slots) -/
example : (replay [[.subscribe 0]] 0
      [(0, .call), (0, .isSub1), (0, .isSub2), (0, .serial), (0, .setTd), (0, .insert)]).map
      (fun s => (s.map, s.serial, (s.obs 0).fnNext, (s.obs 0).ser, (s.obs 0).td, (s.obs 0).ins))
    = some ((init [[]] 1).map, (init [[]] 1).serial, ((init [[]] 1).obs 0).fnNext, ((init [[]] 1).obs 0).ser,
        ((init [[]] 1).obs 0).td, ((init [[]] 1).obs 0).ins) := by decide +kernel

end Rx.Conc.Subject
