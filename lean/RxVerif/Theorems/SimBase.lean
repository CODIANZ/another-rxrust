import RxVerif.Theorems.WP
import RxVerif.Machine.Inv
import RxVerif.Kernel.Run
/-
The representation predicate `Rep` that ties a world to the handful of facts one subscription through
`stdOp` depends on (root observer, upstream observer, the controller's map cell, the kernel's state
cell, the on_finalize slot, the held guards, the log of the new subscriber, who is passive: its reaction to an event
is `.done`).  Every primitive the StreamController macros perform is lifted to a rule on `Rep`.
-/
namespace Rx.Sim

structure Cfg where
  R : Nat        -- root observer of the new subscriber
  U : Nat        -- upstream observer created by `new_observer`
  sU : Nat       -- id of the new subscriber
  cs : Nat       -- cell: serial counter (read by `new_observer` during set-up only: `Rep` and `Cfg.Ok` say nothing of it)
  cm : Nat       -- cell: unscribers map
  cc : Nat       -- cell: kernel state
  fin : Nat      -- slot: on_finalize
  hn : Data → Prog        -- the three closures stored in `U`
  he : Nat → Prog
  hc : Prog
  base : Nat → List Ev    -- the logs of the other subscribers, which stay

def Cfg.sc (c : Cfg) : Sctl := ⟨c.R, c.cs, c.cm, c.fin⟩

structure Cfg.Ok (c : Cfg) : Prop where
  RU : c.R ≠ c.U
  mc : c.cm ≠ c.cc

def onU (c : Cfg) : Bool → Option Prog
  | true => some c.sc.finalize
  | false => none

def xR (c : Cfg) : Bool → Bool → Obs
  | true, ar => ⟨some (.user c.sU), some (.user c.sU), some (.user c.sU), onU c ar⟩
  | false, ar => ⟨none, none, none, onU c ar⟩

def xU (c : Cfg) : Bool → Obs
  | true => ⟨some (.code c.hn), some (.code c.he), some (.code c.hc), none⟩
  | false => ⟨none, none, none, none⟩

/-- the controller's map: `U` under serial `0` (the first `new_observer` of a fresh controller), or nothing -/
def mapD (c : Cfg) : Bool → Data
  | true => Data.ofList [.pair (.int 0) (.int c.U)]
  | false => .lnil

/-- `al`: root observer subscribed; `ul`: upstream observer subscribed; `rg`: upstream still registered in the map;
    `H`: guards held; `cs`: content of the kernel's state cell (not the cell `c.cs`); `out`: what the new subscriber
    has seen.  Whether the root observer's teardown (`finalize`) is still in place is left open (`ar` in `obsR`). -/
structure Rep (c : Cfg) (al ul rg : Bool) (H : List (LockId × Bool)) (cs : Data) (out : List Ev)
    (w : World) : Prop where
  status : w.status = .ok
  held : w.held = H
  obsR : ∃ ar, w.obs[c.R]? = some (xR c al ar)
  obsU : w.obs[c.U]? = some (xU c ul)
  map : w.cells[c.cm]? = some (mapD c rg)
  cst : w.cells[c.cc]? = some cs
  slot : w.slots[c.fin]? = some none
  user : ∃ u, w.users[c.sU]? = some u ∧ u.react = fun _ _ _ => .done
  log : logOf w c.sU = out
  others : ∀ s', s' ≠ c.sU → logOf w s' = c.base s'

/-- the only guard that may be alive while StreamController code runs: the kernel's own state cell -/
def OnlyCc (c : Cfg) (H : List (LockId × Bool)) : Prop := ∀ p ∈ H, p.1 = .cell c.cc

theorem OnlyCc.nil (c : Cfg) : OnlyCc c [] := by intro p hp; cases hp
theorem OnlyCc.one (c : Cfg) (b : Bool) : OnlyCc c [(.cell c.cc, b)] := by
  intro p hp; simp at hp; subst hp; rfl

theorem OnlyCc.noconf {c : Cfg} {H} (h : OnlyCc c H) (l : LockId) (hl : l ≠ .cell c.cc) (wr : Bool) :
    (H.any fun (l', w') => l' == l && (wr || w')) = false :=
  CRef.noconf_ne (w := { held := H }) wr fun p hp e => hl (e ▸ h p hp)

theorem optDec_optEnc (o : Option Data) : Data.optDec (Data.optEnc o) = o := by
  cases o <;> rfl

theorem set_get_same {α} {l : List α} {i : Nat} {x : α} (d : α) (h : l[i]? = some x) :
    (l.set i d)[i]? = some d := by
  have : i < l.length := lt_of_getElem? h
  simp [this]

theorem set_get_other {α} {l : List α} {i j : Nat} (d : α) (h : i ≠ j) :
    (l.set i d)[j]? = l[j]? := by
  simp [h]

theorem getElem?_setObs_same {w : World} {o : Nat} {x : Obs} (f : Obs → Obs) (h : w.obs[o]? = some x) :
    (w.setObs o f).obs[o]? = some (f x) := by
  rw [getElem?_setObs]; simp [h]

theorem getElem?_setObs_other {w : World} {o o' : Nat} (f : Obs → Obs) (h : o ≠ o') :
    (w.setObs o f).obs[o']? = w.obs[o']? := by
  rw [getElem?_setObs]; simp [h]

theorem xR_isSub (c : Cfg) (al ar : Bool) : (xR c al ar).isSub = al := by cases al <;> rfl
theorem xU_isSub (c : Cfg) (ul : Bool) : (xU c ul).isSub = ul := by cases ul <;> rfl
theorem xR_onUnsub (c : Cfg) (al ar : Bool) : (xR c al ar).onUnsub = onU c ar := by cases al <;> rfl
theorem xU_onUnsub (c : Cfg) (ul : Bool) : (xU c ul).onUnsub = none := by cases ul <;> rfl

section prims
variable {c : Cfg} {al ul rg : Bool} {H : List (LockId × Bool)} {cs : Data} {out : List Ev}
  {w : World} {Q : World → Prop}

theorem Rep.setObsR (ok : c.Ok) (h : Rep c al ul rg H cs out w) {g : Obs → Obs} {al' : Bool}
    (hg : ∀ ar, ∃ ar', g (xR c al ar) = xR c al' ar') : Rep c al' ul rg H cs out (w.setObs c.R g) := by
  obtain ⟨ar, hR⟩ := h.obsR
  obtain ⟨ar', e⟩ := hg ar
  exact { h with
    obsR := ⟨ar', by rw [← e]; exact getElem?_setObs_same g hR⟩
    obsU := (getElem?_setObs_other g ok.RU).trans h.obsU }

theorem Rep.setObsU (ok : c.Ok) (h : Rep c al ul rg H cs out w) {g : Obs → Obs} {ul' : Bool}
    (hg : g (xU c ul) = xU c ul') : Rep c al ul' rg H cs out (w.setObs c.U g) := by
  obtain ⟨ar, hR⟩ := h.obsR
  exact { h with
    obsR := ⟨ar, (getElem?_setObs_other g ok.RU.symm).trans hR⟩
    obsU := by rw [← hg]; exact getElem?_setObs_same g h.obsU }

theorem Rep.emit (h : Rep c al ul rg H cs out w) (e : Ev) :
    Rep c al ul rg H cs (out ++ [e]) (w.emit (.ev c.sU e)) :=
  { h with
    log := by rw [logOf_emit_same, h.log]
    others := fun s' hs => by rw [logOf_emit_other _ _ _ _ (Ne.symm hs)]; exact h.others s' hs }

theorem Rep.probe (h : Rep c al ul rg H cs out w) (t : Nat) (d : Data) :
    Rep c al ul rg H cs out (w.emit (.probe t d)) :=
  { h with
    log := by rw [logOf_emit_probe]; exact h.log
    others := fun s' hs => by rw [logOf_emit_probe]; exact h.others s' hs }

theorem Rep.noconf_map {g : Bool} (h : Rep c al ul rg H cs out w) (hg : g = true ∨ OnlyCc c H) (ok : c.Ok)
    (wr : Bool) : (!g && w.conflicts (.cell c.cm) wr) = false := by
  rcases hg with rfl | hg
  · rfl
  · simp only [World.conflicts, h.held, hg.noconf (.cell c.cm) (fun e => ok.mc (LockId.cell.inj e)) wr,
      Bool.and_false]

theorem rep_isSubR {k : Bool → Prog} (h : Rep c al ul rg H cs out w) (hk : WP (k al) w Q) :
    WP (.obsIsSub c.R k) w Q := by
  obtain ⟨ar, hR⟩ := h.obsR
  exact Ref.wp_obsIsSub hR (by rwa [xR_isSub])

theorem rep_isSubU {k : Bool → Prog} (h : Rep c al ul rg H cs out w) (hk : WP (k ul) w Q) :
    WP (.obsIsSub c.U k) w Q :=
  Ref.wp_obsIsSub h.obsU (by rwa [xU_isSub])

/-- a delivery into the live root observer: the subscriber records it, its reaction does nothing; a terminal
    takes the callbacks -/
theorem rep_evR_alive (ok : c.Ok) {ev : Ev} {k : Prog} (h : Rep c true ul rg H cs out w)
    (hk : ∀ w', Rep c (!ev.isTerminal) ul rg H cs (out ++ [ev]) w' → WP k w' Q) :
    WP (Ref.evProg ev c.R k) w Q := by
  obtain ⟨u, hu, hre⟩ := h.user
  obtain ⟨ar, hR⟩ := h.obsR
  refine Ref.wp_ev_user hR rfl rfl rfl hu hre (hk _ ?_)
  unfold World.deliverTo
  cases ev.isTerminal
  · exact h.emit ev
  · exact (h.setObsR ok (g := Obs.cleared) fun ar => ⟨ar, rfl⟩).emit ev

theorem rep_evR_dead {ev : Ev} {k : Prog} (h : Rep c false ul rg H cs out w) (hk : WP k w Q) :
    WP (Ref.evProg ev c.R k) w Q :=
  let ⟨_, hR⟩ := h.obsR
  Ref.wp_ev_dead hR rfl hk

theorem rep_nextR_dead {d : Data} {k : Prog} (h : Rep c false ul rg H cs out w)
    (hk : WP k w Q) : WP (.obsNext c.R d k) w Q :=
  rep_evR_dead (ev := .next d) h hk

theorem rep_errorR_dead {e : Nat} {k : Prog} (h : Rep c false ul rg H cs out w)
    (hk : WP k w Q) : WP (.obsError c.R e k) w Q :=
  rep_evR_dead (ev := .error e) h hk

theorem rep_completeR_dead {k : Prog} (h : Rep c false ul rg H cs out w)
    (hk : WP k w Q) : WP (.obsComplete c.R k) w Q :=
  rep_evR_dead (ev := .complete) h hk

/-- `unsubscribe` on the root observer: slots cleared, the teardown (if still there) is taken and run -/
theorem rep_unsubR (ok : c.Ok) {k : Prog} (h : Rep c al ul rg H cs out w)
    (hk1 : ∀ w', Rep c false ul rg H cs out w' → WP c.sc.finalize w' fun w1 => WP k w1 Q)
    (hk0 : ∀ w', Rep c false ul rg H cs out w' → WP k w' Q) :
    WP (.obsUnsub c.R k) w Q := by
  obtain ⟨ar, hR⟩ := h.obsR
  have hrep := h.setObsR ok (g := fun x => { x.cleared with onUnsub := none }) (al' := false)
    fun ar => ⟨false, by cases al <;> rfl⟩
  cases ar with
  | true => exact Ref.wp_obsUnsub_some hR (xR_onUnsub c al true) (hk1 _ hrep)
  | false => exact Ref.wp_obsUnsub_none hR (xR_onUnsub c al false) (hk0 _ hrep)

theorem rep_unsubU (ok : c.Ok) {k : Prog} (h : Rep c al ul rg H cs out w)
    (hk : ∀ w', Rep c al false rg H cs out w' → WP k w' Q) :
    WP (.obsUnsub c.U k) w Q :=
  Ref.wp_obsUnsub_none h.obsU (xU_onUnsub c ul) (hk _ (h.setObsU ok (by cases ul <;> rfl)))

/-- a live upstream observer runs the closure for the event; a terminal takes the callbacks first -/
theorem rep_evU_live (ok : c.Ok) {ev : Ev} {k : Prog} (h : Rep c al true rg H cs out w)
    (hk : ∀ w', Rep c al (!ev.isTerminal) rg H cs out w' →
      WP (Ref.codeBody ev c.hn c.he c.hc) w' fun w1 => WP k w1 Q) :
    WP (Ref.evProg ev c.U k) w Q := by
  refine Ref.wp_ev_code h.obsU rfl rfl rfl (hk _ ?_)
  cases ev.isTerminal
  · exact h
  · exact h.setObsU ok (g := Obs.cleared) rfl

theorem rep_evU_dead {ev : Ev} {k : Prog} (h : Rep c al false rg H cs out w) (hk : WP k w Q) :
    WP (Ref.evProg ev c.U k) w Q :=
  Ref.wp_ev_dead h.obsU rfl hk

theorem rep_nextU_dead {d : Data} {k : Prog} (h : Rep c al false rg H cs out w) (hk : WP k w Q) :
    WP (.obsNext c.U d k) w Q :=
  rep_evU_dead (ev := .next d) h hk

theorem rep_completeU_dead {k : Prog} (h : Rep c al false rg H cs out w) (hk : WP k w Q) :
    WP (.obsComplete c.U k) w Q :=
  rep_evU_dead (ev := .complete) h hk

theorem rep_errorU_dead {e : Nat} {k : Prog} (h : Rep c al false rg H cs out w) (hk : WP k w Q) :
    WP (.obsError c.U e k) w Q :=
  rep_evU_dead (ev := .error e) h hk

theorem rep_readMap {g : Bool} {k : Data → Prog} (h : Rep c al ul rg H cs out w)
    (hg : g = true ∨ OnlyCc c H) (ok : c.Ok) (hk : WP (k (mapD c rg)) w Q) :
    WP (.cellRead c.cm g k) w Q :=
  Ref.wp_cellRead' (h.noconf_map hg ok _) (by rwa [h.map])

theorem rep_writeMap {g : Bool} {rg' : Bool} {k : Prog} (h : Rep c al ul rg H cs out w)
    (hg : g = true ∨ OnlyCc c H) (ok : c.Ok)
    (hk : ∀ w', Rep c al ul rg' H cs out w' → WP k w' Q) :
    WP (.cellWrite c.cm g (mapD c rg') k) w Q :=
  Ref.wp_cellWrite' (h.noconf_map hg ok _) (hk { w with cells := w.cells.set c.cm (mapD c rg') }
    { h with map := set_get_same _ h.map, cst := (set_get_other _ ok.mc).trans h.cst })

theorem rep_readSt {k : Data → Prog} (h : Rep c al ul rg [] cs out w)
    (hk : WP (k cs) w Q) : WP (.cellRead c.cc false k) w Q :=
  Ref.wp_cellRead h.held (by rwa [h.cst])

theorem rep_writeSt (ok : c.Ok) {d : Data} {k : Prog} (h : Rep c al ul rg [] cs out w)
    (hk : ∀ w', Rep c al ul rg [] d out w' → WP k w' Q) :
    WP (.cellWrite c.cc false d k) w Q :=
  Ref.wp_cellWrite h.held (hk { w with cells := w.cells.set c.cc d }
    { h with cst := set_get_same _ h.cst, map := (set_get_other _ ok.mc.symm).trans h.map })

theorem rep_lockAcq {l : LockId} {wr : Bool} {k : Prog} (h : Rep c al ul rg H cs out w)
    (hc : (H.any fun (l', w') => l' == l && (wr || w')) = false)
    (hk : ∀ w', Rep c al ul rg ((l, wr) :: H) cs out w' → WP k w' Q) :
    WP (.lockAcq l wr k) w Q :=
  Ref.wp_lockAcq (by rw [World.conflicts, h.held, hc])
    (hk { w with held := (l, wr) :: w.held } { h with held := congrArg _ h.held })

/-- releasing the guard that was acquired last -/
theorem rep_lockRel {l : LockId} {wr : Bool} {k : Prog} (h : Rep c al ul rg ((l, wr) :: H) cs out w)
    (hk : ∀ w', Rep c al ul rg H cs out w' → WP k w' Q) :
    WP (.lockRel l k) w Q :=
  Ref.wp_lockRel (hk _ (Ref.release_head w l wr H h.held ▸ { h with held := rfl }))

/-- `on_finalize` was never set by `stdOp`: the call-and-clear finds nothing -/
theorem rep_slotCall {d : Data} {clear : Bool} {k : Prog} (h : Rep c al ul rg H cs out w)
    (hk : WP k w Q) : WP (.slotCall c.fin d clear k) w Q :=
  Ref.wp_slotCall_none h.slot hk

theorem rep_probe {t : Nat} {d : Data} {k : Prog} (h : Rep c al ul rg H cs out w)
    (hk : ∀ w', Rep c al ul rg H cs out w' → WP k w' Q) : WP (.probe t d k) w Q :=
  Ref.wp_probe (hk _ (h.probe t d))

end prims

end Rx.Sim
