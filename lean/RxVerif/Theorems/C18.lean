import RxVerif.Conc.ToVec
/-
C18 — the `to_vec` future (model: `RxVerif/Conc/ToVec.lean`, a two-thread lock-level LTS of operators/to_vec.rs;
line numbers in the docstrings are lines of that file).  One invariant `Inv`, preserved by every label (`Inv.step`),
gives the safety theorems; for the executor's termination once the source has finished there is a ranking of its program
points (`rank`, `exe_rank_decreases`, `eventually_ready`); `no_deadlock` inspects every program point of the source.
-/
namespace Rx.ToVec

/-- the terminal callback has been entered -/
def SPc.started : SPc → Bool
  | .idle | .nextHold _ => false
  | _ => true

/-- `done` has been written (line 36 / 42 executed) -/
def SPc.afterDone : SPc → Bool
  | .wakerAcq | .wakerHold | .woke | .fin => true
  | _ => false

/-- `err` has been written (line 35 executed) or the callback is `complete` past its first acquisition -/
def SPc.afterErr : SPc → Bool
  | .doneAcq | .doneHold | .wakerAcq | .wakerHold | .woke | .fin => true
  | _ => false

def SPc.inflight : SPc → List Data
  | .nextHold x => [x]
  | _ => []

def SPc.holdsBuf : SPc → Bool
  | .nextHold _ => true
  | _ => false

def SPc.holdsWaker : SPc → Bool
  | .wakerHold | .woke => true
  | _ => false

/-- the terminal callback has inspected the waker cell and is past the (possible) `wake()` -/
def SPc.pastWake : SPc → Bool
  | .woke | .fin => true
  | _ => false

def XPc.holdsWaker : XPc → Bool
  | .doneAcq | .doneHold | .errAcq | .errHold | .retReady | .store => true
  | _ => false

/-- this poll has read `done == true` (or `block_on` has already returned) -/
def XPc.sawDone : XPc → Bool
  | .errAcq | .errHold | .retReady | .ready => true
  | _ => false

/-- the local `ret` of `poll` has been computed -/
def XPc.hasRet : XPc → Bool
  | .retReady | .ready => true
  | _ => false

theorem SPc.afterDone_imp (p : SPc) (h : p.afterDone = true) :
    p.started = true ∧ p.afterErr = true ∧ p.inflight = [] := by
  cases p <;> cases h <;> exact ⟨rfl, rfl, rfl⟩

theorem SPc.pastWake_of_afterDone (p : SPc) (h : p.afterDone = false) : p.pastWake = false := by
  cases p <;> cases h <;> rfl

theorem Script.expected_of_term {sc : Script} (h : sc.term.isSome = true) :
    sc.expected = some (match sc.errVal with | some e => .err e | none => .ok sc.items) := by
  obtain ⟨items, _ | _ | e⟩ := sc
  · cases h
  · rfl
  · rfl

/-- One `RwLock` cell used by these two threads only: `l` is the holder, `p` / `q` say whether the source / the executor
is at a program point where it holds the lock. -/
structure LockOk (l : Option Tid) (p q : Bool) : Prop where
  holder : l = if p then some .src else if q then some .exe else none
  excl : p = true → q = false

namespace LockOk
variable {l : Option Tid} {p q : Bool}

theorem excl' (h : LockOk l p q) (hq : q = true) : p = false := by
  cases p
  · rfl
  · cases (h.excl rfl).symm.trans hq

theorem free (h : LockOk none p q) : p = false ∧ q = false := by
  have := h.holder
  cases p <;> cases q <;> cases this
  exact ⟨rfl, rfl⟩

theorem free_or (h : LockOk l p q) (hp : p = false) : l = none ∨ q = true := by
  rw [h.holder, hp]
  cases q
  · exact .inl rfl
  · exact .inr rfl

theorem acqSrc (h : LockOk none p q) : LockOk (some .src) true q :=
  ⟨rfl, fun _ => h.free.2⟩

theorem acqExe (h : LockOk none p q) : LockOk (some .exe) p true := by
  rw [h.free.1]; exact ⟨rfl, nofun⟩

theorem relSrc (h : LockOk l true q) : LockOk none false q :=
  ⟨by rw [h.excl rfl]; rfl, nofun⟩

theorem relExe (h : LockOk l p true) : LockOk none p false :=
  ⟨by rw [h.excl' rfl]; rfl, fun _ => rfl⟩

end LockOk

/-- What the executor relies on, at its program points, for the wake-up protocol.  `store`: this poll read `!done` and
still holds `waker.write()`, and the terminal callback has not inspected the waker cell.  `park`: the cell holds the
waker of this (the latest) poll, and a terminal that is past its inspection has left the token. -/
def XPc.wakeOk (pastWake : Bool) (waker : Option Nat) (polls : Nat) (token : Bool) : XPc → Prop
  | .store => pastWake = false
  | .park => waker = some polls ∧ (pastWake = true → token = true)
  | _ => True

/-- the terminal callback moves past its inspection of the waker cell: it holds `waker.read()`, so no poll is between
its `done` check and its store, and it either found no waker (then the executor is not at `park`) or has set the token -/
theorem XPc.wakeOk.past {xp : XPc} {w : Option Nat} {n : Nat} {t t' : Bool} (h : xp.wakeOk false w n t)
    (hx : xp.holdsWaker = false) (ht : w = none ∨ t' = true) : xp.wakeOk true w n t' := by
  cases xp with
  | store => cases hx
  | park => exact ⟨h.1, fun _ => ht.resolve_left (by rw [h.1]; nofun)⟩
  | _ => trivial

/-- The inductive invariant.  Every clause reaches the state through predicates of the two program points, so that
at literal program points it evaluates. -/
structure Inv (sc : Script) (s : State) : Prop where
  buf : LockOk s.lBuf s.sp.holdsBuf false
  err : LockOk s.lErr (s.sp == .errHold) (s.xp == .errHold)
  done : LockOk s.lDone (s.sp == .doneHold) (s.xp == .doneHold)
  waker : LockOk s.lWaker s.sp.holdsWaker s.xp.holdsWaker
  doneEq : s.done = s.sp.afterDone
  bufEq : s.buffer ++ s.sp.inflight ++ s.todo = sc.items
  todoNil : s.sp.started = true → s.todo = []
  errEq : s.err = if s.sp.afterErr then sc.errVal else none
  termSome : s.sp.started = true → sc.term.isSome = true
  sawDone : s.xp.sawDone = true → s.done = true
  retOk : ∀ r : Res, s.ret = some r → sc.expected = some r
  retSome : s.ret.isSome = s.xp.hasRet
  resEq : s.result = if s.xp = .ready then s.ret else none
  wake : s.xp.wakeOk s.sp.pastWake s.waker s.polls s.token
  wakerLe : ∀ k : Nat, s.waker = some k → 1 ≤ k ∧ k ≤ s.polls
  pollsEq : s.polls = s.parks + s.spur + (if s.xp = .poll then 0 else 1)
  tokenLe : s.parks + (if s.token = true then 1 else 0) ≤ s.wakes
  wakesLe : s.wakes ≤ (if s.sp.pastWake = true then 1 else 0)

namespace Inv
variable {sc : Script} {s : State}

theorem init (sc : Script) : Inv sc (ToVec.init sc) where
  buf := ⟨rfl, nofun⟩
  err := ⟨rfl, nofun⟩
  done := ⟨rfl, nofun⟩
  waker := ⟨rfl, nofun⟩
  doneEq := rfl
  bufEq := rfl
  todoNil := nofun
  errEq := rfl
  termSome := nofun
  sawDone := nofun
  retOk := nofun
  retSome := rfl
  resEq := rfl
  wake := trivial
  wakerLe := nofun
  pollsEq := rfl
  tokenLe := Nat.le_refl _
  wakesLe := Nat.le_refl _

theorem final_cells (I : Inv sc s) (hd : s.done = true) :
    s.buffer = sc.items ∧ s.err = sc.errVal ∧ sc.term.isSome = true := by
  obtain ⟨hst, hae, hin⟩ := s.sp.afterDone_imp (I.doneEq ▸ hd)
  have hb := I.bufEq
  rw [hin, I.todoNil hst, List.append_nil, List.append_nil] at hb
  have he := I.errEq
  rw [hae] at he
  exact ⟨hb, he, I.termSome hst⟩

theorem step {s' : State} {l : Label} (h : Inv sc s) (hs : ToVec.step sc s l = some s') : Inv sc s' := by
  obtain ⟨t, k⟩ := l
  -- With the fields of `s` as variables `split` substitutes the patterns an arm matched, so the program points are
  -- literal before and after, every predicate on them evaluates, and a field of `Inv` that the arm does not disturb is,
  -- as a term, already that field for `s'`: only the others are listed.  `d` is the field `done` (see `exe.relDone`).
  obtain ⟨_, d⟩ := s
  cases t <;> cases k <;> dsimp only [ToVec.step] at hs
  case src.acqBuf =>
    split at hs <;> cases hs
    exact { h with buf := h.buf.acqSrc, bufEq := by simpa [SPc.inflight] using h.bufEq, todoNil := nofun }
  case src.relBuf =>
    split at hs <;> cases hs
    exact { h with buf := h.buf.relSrc, bufEq := by simpa [SPc.inflight] using h.bufEq }
  case src.acqErr =>
    split at hs <;> cases hs
    next ht => exact { h with err := h.err.acqSrc, todoNil := fun _ => rfl, termSome := fun _ => by rw [ht]; rfl }
  case src.relErr =>
    split at hs <;> cases hs
    exact { h with err := h.err.relSrc, errEq := rfl }
  case src.acqDone =>
    split at hs <;> cases hs
    · exact { h with done := h.done.acqSrc }
    · next ht =>
      exact { h with done := h.done.acqSrc, todoNil := fun _ => rfl, termSome := fun _ => by rw [ht]; rfl,
                     errEq := h.errEq.trans (by simp [Script.errVal, ht]) }
  case src.relDone =>
    split at hs <;> cases hs
    exact { h with done := h.done.relSrc, doneEq := rfl, sawDone := fun _ => rfl }
  case src.acqWaker =>
    split at hs <;> cases hs
    exact { h with waker := h.waker.acqSrc }
  case src.wake =>
    split at hs <;> cases hs
    exact { h with wake := h.wake.past (h.waker.excl rfl) (.inr rfl),
                   tokenLe := Nat.succ_le_succ (Nat.le_trans (Nat.le_add_right _ _) h.tokenLe),
                   wakesLe := Nat.succ_le_succ h.wakesLe }
  case src.relWaker =>
    split at hs <;> cases hs
    · exact { h with waker := h.waker.relSrc, wake := h.wake.past (h.waker.excl rfl) (.inl rfl),
                     wakesLe := Nat.le_succ_of_le h.wakesLe }
    · exact { h with waker := h.waker.relSrc }
  case exe.acqWaker =>
    split at hs <;> cases hs
    exact { h with waker := h.waker.acqExe,
                   wakerLe := fun k hk => ⟨(h.wakerLe k hk).1, Nat.le_succ_of_le (h.wakerLe k hk).2⟩,
                   pollsEq := congrArg (· + 1) h.pollsEq }
  case exe.acqDone =>
    split at hs <;> cases hs
    exact { h with done := h.done.acqExe }
  case exe.relDone =>
    split at hs <;> cases hs
    cases d with
    | true => exact { h with done := h.done.relExe, sawDone := fun _ => rfl }
    | false => exact { h with done := h.done.relExe, wake := SPc.pastWake_of_afterDone _ h.doneEq.symm }
  case exe.acqErr =>
    split at hs <;> cases hs
    exact { h with err := h.err.acqExe }
  case exe.relErr =>
    split at hs <;> cases hs
    obtain ⟨hb, he, ht⟩ := h.final_cells (h.sawDone rfl)
    cases hb
    cases he
    exact { h with err := h.err.relExe, retSome := rfl,
                   retOk := fun r hr => by cases hr; exact Script.expected_of_term ht }
  case exe.relWaker =>
    split at hs <;> cases hs
    · exact { h with waker := h.waker.relExe, resEq := rfl }
    · have hp := h.pollsEq ▸ Nat.le_add_left 1 _
      exact { h with waker := h.waker.relExe, wake := ⟨rfl, fun hp => nomatch h.wake.symm.trans hp⟩,
                     wakerLe := fun k hk => by cases hk; exact ⟨hp, Nat.le_refl _⟩ }
  case exe.park =>
    split at hs <;> cases hs
    exact { h with wake := trivial, pollsEq := h.pollsEq.trans (Nat.add_right_comm _ _ _), tokenLe := h.tokenLe }
  case exe.spurious =>
    split at hs <;> cases hs
    exact { h with wake := trivial, pollsEq := h.pollsEq }
  all_goals cases hs

theorem storeNotPast (I : Inv sc s) (hx : s.xp = .store) : s.sp.pastWake = false := by
  have := I.wake; rw [hx] at this; exact this

theorem atPark (I : Inv sc s) (hx : s.xp = .park) :
    s.waker = some s.polls ∧ (s.sp.pastWake = true → s.token = true) := by
  have := I.wake; rw [hx] at this; exact this

theorem resReady (I : Inv sc s) : s.result.isSome = true ↔ s.xp = .ready := by
  have h := I.resEq
  constructor
  · intro hr
    split at h
    · assumption
    · rw [h] at hr; cases hr
  · intro hx
    rw [if_pos hx] at h
    rw [h, I.retSome, hx]; rfl

theorem resOk (I : Inv sc s) {r : Res} (hr : s.result = some r) : sc.expected = some r := by
  have h := I.resEq
  rw [if_pos (I.resReady.mp (by rw [hr]; rfl)), hr] at h
  exact I.retOk r h.symm

end Inv

theorem reachable_inv {sc : Script} {s : State} (h : Reachable sc s) : Inv sc s := by
  induction h with
  | init => exact .init sc
  | step _ hs ih => exact ih.step hs

/-- If `block_on` has returned (`poll` returned Ready) then the script has a terminal,
the source's terminal callback is past its write of `done` (line 36 / 42) and `done` is set.  The same holds as soon as
a poll has merely *decided* to return Ready (`xp.sawDone`). -/
theorem ready_only_after_terminal {sc : Script} {s : State} (h : Reachable sc s) :
    (s.result.isSome = true ∨ s.xp.sawDone = true) →
      s.done = true ∧ s.sp.afterDone = true ∧ sc.term.isSome = true := by
  have I := reachable_inv h
  intro hr
  have hd : s.done = true := I.sawDone (hr.elim (fun hr => by rw [I.resReady.mp hr]; rfl) id)
  exact ⟨hd, I.doneEq ▸ hd, (I.final_cells hd).2.2⟩

/-- The Ready value is `Ok(buffer)` with the buffer holding exactly the script's items in order (and
the shared buffer still holds exactly them in every later state), or `Err e` with the script's error. -/
theorem result_exact {sc : Script} {s : State} {r : Res} (h : Reachable sc s) (hr : s.result = some r) :
    sc.expected = some r ∧
    (sc.term = some Term.complete → r = Res.ok sc.items ∧ s.buffer = sc.items) ∧
    (∀ e : Nat, sc.term = some (Term.error e) → r = Res.err e ∧ s.err = some e) := by
  have I := reachable_inv h
  have he := I.resOk hr
  obtain ⟨hb, herr, _⟩ := I.final_cells (ready_only_after_terminal h (.inl (by rw [hr]; rfl))).1
  refine ⟨he, fun ht => ?_, fun e ht => ?_⟩
  · rw [Script.expected, ht] at he
    exact ⟨(Option.some.inj he).symm, hb⟩
  · rw [Script.expected, ht] at he
    exact ⟨(Option.some.inj he).symm, by rw [herr, Script.errVal, ht]⟩

/-- The invariant behind "no lost wake-up", stated explicitly.
1. While a poll is between its `done` check that read `false` and the release of `waker.write()` (`xp = store`), the
   terminal callback has NOT yet inspected the waker cell (it is blocked on `waker.read()` at the latest).
2. Once that poll has returned Pending (`xp = park`), the waker cell holds the waker of exactly this (latest) poll.
3. Hence: if the terminal callback is past its inspection of the waker cell while the executor sits at `park`, the
   terminal saw the stored waker, called `wake()` (exactly once) and the token is still there. -/
theorem wakeup_invariant {sc : Script} {s : State} (h : Reachable sc s) :
    (s.xp = XPc.store → s.sp.holdsWaker = false ∧ s.sp.pastWake = false) ∧
    (s.xp = XPc.park → s.waker = some s.polls) ∧
    (s.xp = XPc.park → s.sp.pastWake = true → s.token = true ∧ s.wakes = 1) := by
  have I := reachable_inv h
  refine ⟨fun hx => ⟨I.waker.excl' (by rw [hx]; rfl), I.storeNotPast hx⟩, fun hx => (I.atPark hx).1, fun hx hp => ?_⟩
  have ht := (I.atPark hx).2 hp
  have h1 := I.tokenLe
  have h2 := I.wakesLe
  rw [if_pos ht] at h1
  rw [if_pos hp] at h2
  exact ⟨ht, by omega⟩

/-- Safety form: in every reachable state where the source has finished its terminal callback,
the executor is not inside a poll that decided Pending, and if it is about to park (after a Pending poll) the park
token is set, so `park` returns immediately: the step `exe park` is enabled. -/
theorem no_lost_wakeup {sc : Script} {s : State} (h : Reachable sc s) (hfin : s.sp = SPc.fin) :
    s.xp ≠ XPc.store ∧
    (s.xp = XPc.park → s.token = true ∧ ∃ s', step sc s (Tid.exe, Kind.park) = some s' ∧ s'.xp = XPc.poll) := by
  have I := reachable_inv h
  refine ⟨fun hx => ?_, fun hx => ?_⟩
  · have := I.storeNotPast hx
    rw [hfin] at this
    cases this
  · have ht := (I.atPark hx).2 (by rw [hfin]; rfl)
    refine ⟨ht, ?_⟩
    dsimp only [step]
    rw [hx, ht]
    exact ⟨_, rfl, rfl⟩

/-- ranking function of the executor once the source is finished -/
def rank : XPc → Nat
  | .ready => 0 | .retReady => 1 | .errHold => 2 | .errAcq => 3 | .doneHold => 4 | .doneAcq => 5
  | .poll => 6 | .park => 7 | .store => 8

/-- polls the executor may still start (once the source is finished) -/
def pollsLeft (x : XPc) : Nat := if 6 ≤ rank x then 1 else 0

theorem src_fin_stuck {sc : Script} {s : State} (hfin : s.sp = SPc.fin) (k : Kind) : step sc s (Tid.src, k) = none := by
  cases k <;> dsimp only [step] <;> rw [hfin]

/-- every executor step taken after the source finished (spurious park returns included) strictly decreases `rank`,
and starts at most the one poll accounted for by `pollsLeft` -/
theorem exe_rank_decreases {sc : Script} {s s' : State} {k : Kind} (h : Reachable sc s) (hfin : s.sp = SPc.fin)
    (hs : step sc s (Tid.exe, k) = some s') :
    s'.sp = SPc.fin ∧ rank s'.xp < rank s.xp ∧ s'.polls + pollsLeft s'.xp = s.polls + pollsLeft s.xp ∧
    s'.spur ≤ s.spur + 1 := by
  have hd : s.done = true := by rw [(reachable_inv h).doneEq, hfin]; rfl
  obtain ⟨_, d⟩ := s
  cases hd
  cases hfin
  cases k <;> dsimp only [step] at hs
  case spurious => split at hs <;> cases hs; exact ⟨rfl, Nat.lt_succ_self _, rfl, Nat.le_refl _⟩
  case acqBuf | relBuf | wake => cases hs
  all_goals (split at hs <;> cases hs <;> exact ⟨rfl, Nat.lt_succ_self _, rfl, Nat.le_succ _⟩)

def enabled (sc : Script) (s : State) (l : Label) : Bool := (step sc s l).isSome

/-- the source has nothing more to do: terminal callback returned, or a silent script fully delivered -/
def srcQuiescent (sc : Script) (s : State) : Prop :=
  s.sp = SPc.fin ∨ (s.sp = SPc.idle ∧ s.todo = [] ∧ sc.term = none)

theorem exe_enabled_of_src_lockfree {sc : Script} {s : State} (I : Inv sc s)
    (h1 : (s.sp == SPc.errHold) = false) (h2 : (s.sp == SPc.doneHold) = false) (h3 : s.sp.holdsWaker = false) :
    (∃ k, k ≠ Kind.spurious ∧ enabled sc s (Tid.exe, k) = true) ∨ s.xp = XPc.ready ∨
      (s.xp = XPc.park ∧ s.token = false) := by
  have hE := I.err.holder
  have hD := I.done.holder
  have hW := I.waker.holder
  rw [h1] at hE
  rw [h2] at hD
  rw [h3] at hW
  -- with the fields as variables a lock found free is substituted, and `step` on the resulting state evaluates
  obtain ⟨_, _, _, _, _, lD, lE, lW, _, _, xp, _, tk⟩ := s
  cases xp with
  | poll => cases hW; exact .inl ⟨.acqWaker, nofun, rfl⟩
  | doneAcq => cases hD; exact .inl ⟨.acqDone, nofun, rfl⟩
  | doneHold => exact .inl ⟨.relDone, nofun, rfl⟩
  | errAcq => cases hE; exact .inl ⟨.acqErr, nofun, rfl⟩
  | errHold => exact .inl ⟨.relErr, nofun, rfl⟩
  | retReady => exact .inl ⟨.relWaker, nofun, rfl⟩
  | store => exact .inl ⟨.relWaker, nofun, rfl⟩
  | park =>
    cases tk with
    | false => exact .inr (.inr ⟨rfl, rfl⟩)
    | true => exact .inl ⟨.park, nofun, rfl⟩
  | ready => exact .inr (.inl rfl)

/-- progress: after the source's terminal callback returned, the executor is never blocked (no lock is held by the
source any more and a pending park finds its token) until `block_on` has returned -/
theorem exe_progress {sc : Script} {s : State} (h : Reachable sc s) (hfin : s.sp = SPc.fin) (hnr : s.xp ≠ XPc.ready) :
    ∃ k s', k ≠ Kind.spurious ∧ step sc s (Tid.exe, k) = some s' := by
  have I := reachable_inv h
  rcases exe_enabled_of_src_lockfree I (by rw [hfin]; rfl) (by rw [hfin]; rfl) (by rw [hfin]; rfl)
    with ⟨k, hk, he⟩ | hr | ⟨hp, ht⟩
  · obtain ⟨s', hs'⟩ := Option.isSome_iff_exists.mp he
    exact ⟨k, s', hk, hs'⟩
  · exact absurd hr hnr
  · rw [(I.atPark hp).2 (by rw [hfin]; rfl)] at ht
    cases ht

def exeOnly (ls : List Label) : Prop := ∀ l ∈ ls, l.1 = Tid.exe

/-- Once the source's terminal callback has returned (`sp = fin`):
* every run from there consists of executor steps only, keeps `sp = fin`, and has length at most `rank s.xp ≤ 7`
  (`ls.length + rank s'.xp ≤ rank s.xp`): the executor reaches Ready within 7 of its own steps, spurious wake-ups
  included;
* at most one more poll is started (`s'.polls ≤ s.polls + 1`);
* the executor is never stuck before Ready (`exe_progress`), so every maximal run ends with `block_on` returned, and the
  value returned is the expected one. -/
theorem eventually_ready {sc : Script} {s : State} (h : Reachable sc s) (hfin : s.sp = SPc.fin) :
    rank s.xp ≤ 7 ∧
    ∀ (ls : List Label) (s' : State), runFrom sc s ls = some s' →
      exeOnly ls ∧ s'.sp = SPc.fin ∧ ls.length + rank s'.xp ≤ rank s.xp ∧
      s'.polls + pollsLeft s'.xp = s.polls + pollsLeft s.xp ∧ s'.polls ≤ s.polls + 1 ∧
      ((∀ l, step sc s' l = none) → s'.xp = XPc.ready ∧ s'.result = sc.expected ∧ sc.expected.isSome = true) := by
  refine ⟨?_, fun ls => ?_⟩
  · cases hx : s.xp with
    | store => exact absurd hx (no_lost_wakeup h hfin).1
    | _ => decide
  · induction ls generalizing s with
    | nil =>
      intro s' hr
      cases hr
      refine ⟨nofun, hfin, Nat.le_of_eq (Nat.zero_add _), rfl, Nat.le_succ _, fun hstuck => ?_⟩
      have hready : s.xp = XPc.ready := Decidable.byContradiction fun hnr => by
        obtain ⟨k, s1, _, hs1⟩ := exe_progress h hfin hnr
        rw [hstuck] at hs1
        cases hs1
      have I := reachable_inv h
      obtain ⟨r, hr⟩ := Option.isSome_iff_exists.mp (I.resReady.mpr hready)
      have := I.resOk hr
      exact ⟨hready, by rw [hr, this], by rw [this]; rfl⟩
    | cons l ls ih =>
      intro s' hr
      simp only [runFrom] at hr
      split at hr
      · next s1 hs1 =>
        obtain ⟨t, k⟩ := l
        cases t
        · rw [src_fin_stuck hfin] at hs1; cases hs1
        · obtain ⟨hf1, hrk, hpl, _⟩ := exe_rank_decreases h hfin hs1
          obtain ⟨he, hf2, hlen, hpolls, _, hst⟩ := ih (Reachable.step h hs1) hf1 s' hr
          refine ⟨List.forall_mem_cons.mpr ⟨rfl, he⟩, hf2, by simp only [List.length_cons]; omega, by omega, ?_, hst⟩
          have : pollsLeft s.xp ≤ 1 := by unfold pollsLeft; split <;> omega
          omega
      · cases hr

theorem polls_bound {sc : Script} {s : State} (h : Reachable sc s) :
    s.polls ≤ 2 + s.spur ∧ s.wakes ≤ 1 ∧ s.polls = s.parks + s.spur + (if s.xp = XPc.poll then 0 else 1) := by
  have I := reachable_inv h
  have h1 := I.pollsEq
  have h2 := I.tokenLe
  have h3 := I.wakesLe
  refine ⟨?_, ?_, h1⟩
  · split at h1 <;> split at h2 <;> split at h3 <;> omega
  · split at h3 <;> omega

/-- With a script that never terminates no poll ever decides Ready: `done` stays
false, `block_on` never returns, and the executor never even enters the Ready branch of `poll`. -/
theorem pending_forever_if_silent {sc : Script} {s : State} (hsil : sc.term = none) (h : Reachable sc s) :
    s.result = none ∧ s.ret = none ∧ s.done = false ∧ s.xp ≠ XPc.ready ∧ s.xp.sawDone = false := by
  have I := reachable_inv h
  have hdone : s.done = false := Bool.eq_false_iff.mpr fun hd => by
    have := (I.final_cells hd).2.2
    rw [hsil] at this
    cases this
  have hsaw : s.xp.sawDone = false := Bool.eq_false_iff.mpr fun hx => by
    rw [I.sawDone hx] at hdone
    cases hdone
  have hret : s.ret = none := Option.eq_none_iff_forall_ne_some.mpr fun r hr => by
    have := I.retOk r hr
    rw [Script.expected, hsil] at this
    cases this
  refine ⟨?_, hret, hdone, fun hx => ?_, hsaw⟩
  · rw [I.resEq, hret, ite_self]
  · rw [hx] at hsaw
    cases hsaw

theorem acqWaker_blocked {sc : Script} {s : State} {u : Tid} (hl : s.lWaker = some u) (t : Tid) :
    step sc s (t, Kind.acqWaker) = none := by
  obtain ⟨_, _, _, _, _, _, _, lW, sp, _, xp⟩ := s
  cases hl
  cases t
  · cases sp <;> rfl
  · cases xp <;> rfl

/-- While `poll` holds `waker.write()` the terminal callback cannot take `waker.read()`: a terminal cannot slip between
the `done` check and the waker store. -/
theorem terminal_blocked_during_poll {sc : Script} {s : State} (h : Reachable sc s) (hx : s.xp.holdsWaker = true) :
    step sc s (Tid.src, Kind.acqWaker) = none := by
  have hW := (reachable_inv h).waker
  exact acqWaker_blocked (u := .exe) (by rw [hW.holder, hW.excl' hx, hx]; rfl) _

/-- Finding (harmless with a park-based executor): `wake()` (line 38 / 44) runs while the callback still holds
`waker.read()`.  The woken executor cannot start its poll before the source releases; a waker that polls inline on
the calling thread would self-deadlock on `waker.write()` (line 61). -/
theorem wake_called_under_read_lock {sc : Script} {s s' : State} (h : Reachable sc s)
    (hs : step sc s (Tid.src, Kind.wake) = some s') :
    s.lWaker = some Tid.src ∧ s'.lWaker = some Tid.src ∧ s'.token = true ∧
    ∀ t, step sc s' (t, Kind.acqWaker) = none := by
  have hW := (reachable_inv h).waker.holder
  dsimp only [step] at hs
  split at hs <;> cases hs
  next hsp _ =>
    have hl : s.lWaker = some .src := by rw [hW, hsp]; rfl
    exact ⟨hl, hl, rfl, acqWaker_blocked hl⟩

/-- The waker cell only ever holds the waker of a poll that has started, and a parked executor's current waker is
the stored one (a later poll overwriting the waker is therefore harmless). -/
theorem waker_is_latest {sc : Script} {s : State} (h : Reachable sc s) :
    (∀ k : Nat, s.waker = some k → 1 ≤ k ∧ k ≤ s.polls) ∧ (s.xp = XPc.park → s.waker = some s.polls) :=
  ⟨(reachable_inv h).wakerLe, fun hx => ((reachable_inv h).atPark hx).1⟩

/-- In every reachable state some non-spurious step is enabled, unless the source is quiescent and
the executor either has returned, or is parked without token behind a source that never terminates. -/
theorem no_deadlock {sc : Script} {s : State} (h : Reachable sc s) :
    (∃ l : Label, l.2 ≠ Kind.spurious ∧ enabled sc s l = true) ∨
    (srcQuiescent sc s ∧ s.xp = XPc.ready) ∨
    (s.sp = SPc.idle ∧ s.todo = [] ∧ sc.term = none ∧ s.xp = XPc.park ∧ s.token = false) := by
  have I := reachable_inv h
  -- the executor moves, or the source is the only hope
  have exeCase (a : (s.sp == SPc.errHold) = false) (b : (s.sp == SPc.doneHold) = false)
      (c : s.sp.holdsWaker = false) :
      (∃ l : Label, l.2 ≠ Kind.spurious ∧ enabled sc s l = true) ∨ s.xp = XPc.ready ∨
        (s.xp = XPc.park ∧ s.token = false) :=
    (exe_enabled_of_src_lockfree I a b c).imp_left fun ⟨k, hk, he⟩ => ⟨(.exe, k), hk, he⟩
  -- script and state as variables, so that every enabledness claim below is an evaluation of `step`
  obtain ⟨items, tm⟩ := sc
  obtain ⟨_, _, _, wk, lB, lD, lE, lW, sp, td, xp, _, tk⟩ := s
  cases sp with
  | nextHold x => exact .inl ⟨(.src, .relBuf), nofun, rfl⟩
  | errHold => exact .inl ⟨(.src, .relErr), nofun, rfl⟩
  | doneHold => exact .inl ⟨(.src, .relDone), nofun, rfl⟩
  | woke => exact .inl ⟨(.src, .relWaker), nofun, rfl⟩
  | wakerHold =>
    cases wk with
    | none => exact .inl ⟨(.src, .relWaker), nofun, rfl⟩
    | some k => exact .inl ⟨(.src, .wake), nofun, rfl⟩
  | doneAcq =>
    rcases I.done.free_or rfl with hl | hq
    · cases hl; exact .inl ⟨(.src, .acqDone), nofun, rfl⟩
    · cases eq_of_beq hq; exact .inl ⟨(.exe, .relDone), nofun, rfl⟩
  | wakerAcq =>
    rcases I.waker.free_or rfl with hl | hq
    · cases hl; exact .inl ⟨(.src, .acqWaker), nofun, rfl⟩
    · rcases exeCase rfl rfl rfl with he | hr | hk
      · exact .inl he
      · cases hr; cases hq
      · cases hk.1; cases hq
  | fin =>
    rcases exeCase rfl rfl rfl with he | hr | hk
    · exact .inl he
    · exact .inr (.inl ⟨.inl rfl, hr⟩)
    · cases hk.2.symm.trans ((I.atPark hk.1).2 rfl)
  | idle =>
    cases td with
    | cons x rest => cases (I.buf.holder : lB = none); exact .inl ⟨(.src, .acqBuf), nofun, rfl⟩
    | nil =>
      match tm with
      | none =>
        rcases exeCase rfl rfl rfl with he | hr | hk
        · exact .inl he
        · exact .inr (.inl ⟨.inr ⟨rfl, rfl, rfl⟩, hr⟩)
        · exact .inr (.inr ⟨rfl, rfl, rfl, hk⟩)
      | some .complete =>
        rcases I.done.free_or rfl with hl | hq
        · cases hl; exact .inl ⟨(.src, .acqDone), nofun, rfl⟩
        · cases eq_of_beq hq; exact .inl ⟨(.exe, .relDone), nofun, rfl⟩
      | some (.error e) =>
        rcases I.err.free_or rfl with hl | hq
        · cases hl; exact .inl ⟨(.src, .acqErr), nofun, rfl⟩
        · cases eq_of_beq hq; exact .inl ⟨(.exe, .relErr), nofun, rfl⟩

section Examples
open Tid Kind

def scOk : Script := ⟨[Data.int 1, Data.int 2], some Term.complete⟩
def scErr : Script := ⟨[Data.int 7], some (Term.error 3)⟩
def scSilent : Script := ⟨[Data.int 1], none⟩

/-- the poll has read `done == false` and still holds `waker.write()`; meanwhile the source delivers both items and
writes `done` -/
def runRace : List Label :=
  [(exe, acqWaker), (exe, acqDone), (exe, relDone),
   (src, acqBuf), (src, relBuf), (src, acqBuf), (src, relBuf), (src, acqDone), (src, relDone)]

/-- … the poll stores its waker and returns Pending; the terminal sees the waker and wakes -/
def runRace2 : List Label := runRace ++ [(exe, relWaker), (src, acqWaker), (src, wake)]

/-- … the source finishes; the executor finds the token, polls again and returns -/
def runRace3 : List Label :=
  runRace2 ++ [(src, relWaker), (exe, park), (exe, acqWaker), (exe, acqDone), (exe, relDone), (exe, acqErr),
               (exe, relErr), (exe, relWaker)]

-- the race prefix is a run: `done` is already true, the poll is about to store (Pending), source at `waker.read()`
example : (replay scOk runRace).map (fun s => (s.done, s.xp, s.sp, s.lWaker)) =
    some (true, XPc.store, SPc.wakerAcq, some exe) := rfl
-- "terminal between the `done` check and the waker store" is impossible: the source is blocked on `waker.read()` …
example : replay scOk (runRace ++ [(src, acqWaker)]) = none := rfl
-- … until the poll has stored the waker and released; then it proceeds, sees the waker and wakes
example : (replay scOk runRace2).map (fun s => (s.sp, s.xp, s.token, s.waker, s.wakes)) =
    some (SPc.woke, XPc.park, true, some 1, 1) := rfl
-- `wake()` happens under `waker.read()`: the woken executor consumes the token but cannot enter `poll` yet
example : (replay scOk (runRace2 ++ [(exe, park)])).map (fun s => (s.xp, s.lWaker)) = some (XPc.poll, some src) :=
  rfl
example : replay scOk (runRace2 ++ [(exe, park), (exe, acqWaker)]) = none := rfl
-- hypotheses of `no_lost_wakeup` / `eventually_ready`: source finished, executor about to park, token set
example : (replay scOk (runRace2 ++ [(src, relWaker)])).map (fun s => (s.sp, s.xp, s.token)) =
    some (SPc.fin, XPc.park, true) := rfl
-- the full run: Ready(Ok [1,2]) after exactly two polls, no spurious wake-up
example : (replay scOk runRace3).map (fun s => (s.result, s.polls, s.spur, s.buffer)) =
    some (some (Res.ok [Data.int 1, Data.int 2]), 2, 0, [Data.int 1, Data.int 2]) := rfl
example : ∃ s, Reachable scOk s ∧ s.result = some (Res.ok scOk.items) := by
  have h : (replay scOk runRace3).map (·.result) = some (some (Res.ok scOk.items)) := rfl
  obtain ⟨s, hs, hr⟩ := Option.map_eq_some_iff.mp h
  exact ⟨s, reachable_of_replay hs, hr⟩

/-- error script, source entirely before the first poll (synchronous source): one poll, `Err 3` -/
def runErr : List Label :=
  [(src, acqBuf), (src, relBuf), (src, acqErr), (src, relErr), (src, acqDone), (src, relDone),
   (src, acqWaker), (src, relWaker),
   (exe, acqWaker), (exe, acqDone), (exe, relDone), (exe, acqErr), (exe, relErr), (exe, relWaker)]

example : (replay scErr runErr).map (fun s => (s.result, s.polls, s.wakes, s.err, s.buffer)) =
    some (some (Res.err 3), 1, 0, some 3, [Data.int 7]) := rfl

/-- error racing a parked executor with one spurious wake-up: the bound `polls ≤ 2 + spur` is attained (3 polls) -/
def runErrSpur : List Label :=
  [(exe, acqWaker), (exe, acqDone), (exe, relDone), (exe, relWaker),                       -- poll 1: Pending
   (exe, spurious), (exe, acqWaker), (exe, acqDone), (exe, relDone), (exe, relWaker),      -- poll 2: Pending
   (src, acqBuf), (src, relBuf), (src, acqErr), (src, relErr), (src, acqDone), (src, relDone),
   (src, acqWaker), (src, wake), (src, relWaker),
   (exe, park), (exe, acqWaker), (exe, acqDone), (exe, relDone), (exe, acqErr), (exe, relErr), (exe, relWaker)]

example : (replay scErr runErrSpur).map (fun s => (s.result, s.polls, s.spur, s.waker)) =
    some (some (Res.err 3), 3, 1, some 2) := rfl

/-- silent script: the item is delivered, the executor parks for ever (only a spurious return is enabled) -/
def runSilent : List Label :=
  [(exe, acqWaker), (exe, acqDone), (src, acqBuf), (exe, relDone), (src, relBuf), (exe, relWaker)]

example : (replay scSilent runSilent).map (fun s => (s.result, s.xp, s.token, s.buffer)) =
    some (none, XPc.park, false, [Data.int 1]) := rfl
example : (replay scSilent (runSilent ++ [(exe, park)])) = none := rfl

-- text format (evaluated checks; string functions do not reduce in the kernel)
#guard parseLabel "src acq_waker" == some (src, acqWaker)
#guard parseLabel "  exe   spurious " == some (exe, spurious)
#guard parseLabel "exe acq_buffer x" == none
#guard parseLabel "main wake" == none
#guard ([src, exe].flatMap fun t => [acqBuf, relBuf, acqErr, relErr, acqDone, relDone, acqWaker, relWaker, wake,
          park, spurious].map fun k => (t, k)).all fun l => parseLabel (labelToStr l) == some l
#guard parseScript "1 2 c" == some scOk
#guard parseScript "7 e3" == some scErr
#guard parseScript "1" == some scSilent
#guard parseScript "1 c 2" == none
#guard (replayText scErr (runErr.map labelToStr)).map (·.summary) ==
  some "done=true polls=1 spurious=0 wakes=0 token=false result=Err(3) pushed=[7]"

end Examples

#print axioms ready_only_after_terminal
#print axioms result_exact
#print axioms wakeup_invariant
#print axioms no_lost_wakeup
#print axioms exe_progress
#print axioms exe_rank_decreases
#print axioms eventually_ready
#print axioms polls_bound
#print axioms pending_forever_if_silent
#print axioms terminal_blocked_during_poll
#print axioms wake_called_under_read_lock
#print axioms waker_is_latest
#print axioms no_deadlock
#print axioms reachable_inv

end Rx.ToVec
