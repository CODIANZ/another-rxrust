import RxVerif.Theorems.C03RefGCtl
/-
C03-REF (general form): `Subject::next/error/complete` on subject `j` (subject.rs:37-52): the snapshot of
the subject's observers is exactly `inMap E c j`; a terminal first empties the subject's map (the entities of the
snapshot become `pend`), then each entity of the snapshot receives the event.
-/
namespace Rx.GRef
open Rx.Sim Rx.Ref Rx.Comb Rx.CRef

variable {L : GLay} {E : Ent} {hl : List (LockId × Bool)} {c : Ctl} {x : Fr} {out : List Ev} {w : World}

/-- a terminal broadcast on subject `j` has emptied its map -/
def Ent.pendAll (E : Ent) (j : Nat) : Ent :=
  { E with mode := fun e => if E.sub e = j ∧ E.mode e = .on then .pend else E.mode e }

theorem pend_fresh (E : Ent) (j e : Nat) : (E.pendAll j).mode e = .fresh ↔ E.mode e = .fresh := by
  simp only [Ent.pendAll]
  split
  · rename_i q; simp [q.2]
  · rfl

theorem pend_sub (E : Ent) (j : Nat) : (E.pendAll j).sub = E.sub := rfl
theorem pend_key (E : Ent) (j : Nat) : (E.pendAll j).key = E.key := rfl

theorem inMap_pend_same (E : Ent) (c : Ctl) (j : Nat) : inMap (E.pendAll j) c j = [] := by
  simp only [inMap, Ent.pendAll, List.filter_eq_nil_iff]
  intro e _
  by_cases q1 : E.sub e = j <;> by_cases q2 : E.mode e = .on <;> simp [q1, q2, Mode.isOn]

theorem inMap_pend_other (E : Ent) (c : Ctl) (j j' : Nat) (hne : j' ≠ j) :
    inMap (E.pendAll j) c j' = inMap E c j' := by
  simp only [inMap, Ent.pendAll]
  apply List.filter_congr
  intro e _
  by_cases q : E.sub e = j'
  · have : ¬ (E.sub e = j ∧ E.mode e = .on) := fun r => hne (q ▸ r.1)
    simp [this]
  · have : (E.sub e == j') = false := by rw [beq_eq_false_iff_ne]; exact q
    simp only [this, Bool.false_and]

theorem Rel.toPend (ok : L.Ok) (h : Rel L E hl c x out w) {j : Nat} (hj : j < L.k) :
    Rel L (E.pendAll j) hl c x out { w with cells := w.cells.set (2 * j) .lnil } := by
  have h1' := ok.cs; have h2' := ok.cm; have h3' := ok.cx
  have hnf : ∀ e, (E.pendAll j).mode e ≠ .fresh → E.mode e ≠ .fresh := fun e q r => q ((pend_fresh E j e).2 r)
  exact
  { status := h.status, held := h.held, hlOk := h.hlOk, root := h.root, user := h.user
    subLt := h.subLt, ex := h.ex
    subjO := by
      intro j' hj'
      show (w.cells.set _ _)[_]? = _
      by_cases q : j' = j
      · subst q; rw [set_get_same _ (h.subjO _ hj'), inMap_pend_same]; rfl
      · rw [set_get_other _ (by omega), inMap_pend_other E c j j' q]; exact h.subjO j' hj'
    subjS := by
      intro j' hj'; show (w.cells.set _ _)[_]? = _
      rw [set_get_other _ (by omega)]; exact h.subjS j' hj'
    keyLe := fun e he hm => h.keyLe e he (hnf e hm)
    keyInj := fun a b ha hb hma hmb => h.keyInj a b ha hb (hnf a hma) (hnf b hmb)
    slots := h.slots, slotF := h.slotF
    mapC := by
      obtain ⟨l, hm, hmem⟩ := h.mapC
      exact ⟨l, by show (w.cells.set _ _)[_]? = _; rw [set_get_other _ (by omega)]; exact hm, hmem⟩
    serC := ⟨by show (w.cells.set _ _)[_]? = _; rw [set_get_other _ (by omega)]; exact h.serC.1, h.serC.2⟩
    nObs := h.nObs
    inner := by
      intro e o ho
      have := h.inner e o ho
      by_cases q : E.mode e = .fresh
      · have q' := (pend_fresh E j e).2 q
        simpa [InnerSt, hookE, pend_sub, pend_key, q, q'] using this
      · have q' : (E.pendAll j).mode e ≠ .fresh := fun r => q ((pend_fresh E j e).1 r)
        simpa [InnerSt, hookE, pend_sub, pend_key, q, q'] using this
    xc := by show (w.cells.set _ _)[_]?.getD _ = _; rw [set_get_other _ (by omega)]; exact h.xc
    log := h.log }

/-- the broadcast loop over a snapshot of entities -/
def bcast (L : GLay) (ev : Ev) (l : List Nat) : Prog :=
  forEach (l.map fun e => Data.int (L.ob e)) fun o => evProg ev o.toInt.toNat .done

theorem bcast_nil (ev : Ev) : bcast L ev [] = .done := rfl

theorem bcast_cons (ev : Ev) (e : Nat) (l : List Nat) :
    bcast L ev (e :: l) = (evProg ev (L.ob e) .done ;; bcast L ev l) := by
  simp only [bcast, List.map_cons, forEach, toNat_int]

/-- an entity that is no longer live ignores the event (observer.rs: `fn_next` is gone) -/
theorem deliver_notlive {k : Prog} {Q : World → Prop} (h : Rel L E hl c x out w) {e : Nat}
    (hlv : c.live.contains e = false) (ev : Ev) (hk : WP k w Q) : WP (evProg ev (L.ob e) k) w Q := by
  cases ho : w.obs[L.ob e]? with
  | none => exact wp_ev_absent ho hk
  | some o =>
    have := h.inner e o ho
    rw [innerSt_dead hlv] at this
    exact wp_ev_dead ho this.1 hk

/-- a live entity receives the event: a terminal first takes its callbacks (observer.rs:40-52), then its closure runs -/
theorem deliver_live (ok : L.Ok) {k : Prog} {Q : World → Prop} (h : Rel L E hl c x out w) {e : Nat}
    (hlv : c.live.contains e = true) (ev : Ev) (hmode : ev.isTerminal = true → E.mode e ≠ .on)
    (hk : ∀ w1, Rel L E hl (if ev.isTerminal then c.kill e else c) x out w1 →
      WP (codeBody ev (L.hn e) (L.he e) (L.hc e)) w1 fun w2 => WP k w2 Q) :
    WP (evProg ev (L.ob e) k) w Q := by
  have hkn := known_live hlv
  obtain ⟨o, ho⟩ : ∃ o, w.obs[L.ob e]? = some o := ⟨_, List.getElem?_eq_getElem (h.ex e hkn)⟩
  have hst := h.inner e o ho
  simp only [InnerSt, hlv, ↓reduceIte] at hst
  refine wp_ev_code ho (by rw [hst]) (by rw [hst]) (by rw [hst]) ?_
  cases ht : ev.isTerminal with
  | false => simp only [ht, Bool.false_eq_true, ↓reduceIte] at hk ⊢; exact hk w h
  | true =>
    simp only [ht, ↓reduceIte] at hk ⊢
    refine hk _ ?_
    have hj := h.subLt e hkn
    refine h.kill_unsub ok ho hj Obs.cleared ?_ w.cells (fun _ _ => rfl) ?_
    · rw [hst]
      by_cases q : E.mode e = .fresh <;> simp [DeadObs, Obs.cleared, q]
    · rw [h.subjO _ hj, inMap_kill_notin]
      exact fun hm => hmode ht (mem_inMap hm).2.2

/-- `Subject::next / error / complete` on subject `j` -/
theorem subj_call (ok : L.Ok) {Q : World → Prop} (h : Rel L E [] c x out w) {j : Nat} (hj : j < L.k) (ev : Ev)
    (hk : ∀ w1, Rel L (if ev.isTerminal then E.pendAll j else E) [] c x out w1 →
      WP (bcast L ev (inMap E c j)) w1 Q) : WP (evCall (sjOf j) ev) w Q := by
  have hread : w.cells[2 * j]?.getD .unit = encMap ((inMap E c j).map fun e => (E.key e, L.ob e)) := by
    rw [h.subjO j hj]; rfl
  have hvals : amapVals (encMap ((inMap E c j).map fun e => (E.key e, L.ob e))) =
      (inMap E c j).map fun e => Data.int (L.ob e) := by
    rw [amapVals_encMap, List.map_map]; rfl
  cases ev with
  | next d =>
    refine wp_cellRead h.held ?_
    show WP (forEach (amapVals (w.cells[2 * j]?.getD .unit)) _) w _
    rw [hread, hvals]
    exact hk w h
  | error e =>
    refine wp_cellRead h.held (wp_cellWrite h.held ?_)
    show WP (forEach (amapVals (w.cells[2 * j]?.getD .unit)) _) _ _
    rw [hread, hvals]
    exact hk _ (h.toPend ok hj)
  | complete =>
    refine wp_cellRead h.held (wp_cellWrite h.held ?_)
    show WP (forEach (amapVals (w.cells[2 * j]?.getD .unit)) _) _ _
    rw [hread, hvals]
    exact hk _ (h.toPend ok hj)

end Rx.GRef
