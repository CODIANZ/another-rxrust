import RxVerif.Theorems.C19
/-
C05, concurrent clause, for the root `Observer` shared between threads (model: RxVerif/Conc/Observer.lean):
"Once unsubscribe() has returned, no event that a source starts to emit afterwards reaches the subscriber's
callbacks", and `is_subscribed()` never goes from false back to true.
These are the unsubscribe theorems of `RxVerif/Theorems/C19.lean` under C05 names.
"starts to emit afterwards" = the `callStart` of the emitting call (log index `cid` of the callback entry) lies
after the `callReturn unsubscribe` entry.
-/
namespace Rx.ConcObs

/-- no subscriber callback (next / error / complete) is started for a call that began after an `unsubscribe()`
    returned -/
theorem c05_no_callback_after_unsubscribe_returned {s : State} (hr : Reachable s) {i k tu cu : Nat}
    {r : Option Bool} {ek : Entry}
    (hi : s.log[i]? = some ⟨tu, cu, .callReturn .unsubscribe r⟩)
    (hk : s.log[k]? = some ek) (hu : ek.ev.isUserCbStart = true) : ¬ i < ek.cid :=
  no_delivery_after_close hr hi rfl hk hu

theorem c05_no_next_after_unsubscribe_returned {s : State} (hr : Reachable s) {i k tu cu t c : Nat}
    {r : Option Bool}
    (hi : s.log[i]? = some ⟨tu, cu, .callReturn .unsubscribe r⟩)
    (hk : s.log[k]? = some ⟨t, c, .cbStart .next⟩) : ¬ i < c :=
  no_next_after_unsubscribe_returned hr hi hk

theorem c05_no_terminal_after_unsubscribe_returned {s : State} (hr : Reachable s) {i k tu cu t c : Nat}
    {r : Option Bool} {cb : Cb} (hcb : cb = .error ∨ cb = .complete)
    (hi : s.log[i]? = some ⟨tu, cu, .callReturn .unsubscribe r⟩)
    (hk : s.log[k]? = some ⟨t, c, .cbStart cb⟩) : ¬ i < c :=
  no_terminal_after_unsubscribe_returned hr hcb hi hk

/-- `is_subscribed()` never goes from false back to true (the later call must START after the earlier returned) -/
theorem c05_is_subscribed_monotone {s : State} (hr : Reachable s) {i k t1 c1 t2 c2 : Nat} {r : Bool}
    (hi : s.log[i]? = some ⟨t1, c1, .callReturn .isSubscribed (some false)⟩)
    (hk : s.log[k]? = some ⟨t2, c2, .callReturn .isSubscribed (some r)⟩) (hic : i < c2) : r = false :=
  is_subscribed_monotone hr hi hk hic

/-- after `unsubscribe()` returned — in fact already after its first clearing step — `is_subscribed()` is false -/
theorem c05_is_subscribed_false_after_unsubscribe {s : State} (hr : Reachable s) {i k t1 c1 t2 c2 : Nat}
    {r : Bool} {ru : Option Bool}
    (hi : s.log[i]? = some ⟨t1, c1, .callReturn .unsubscribe ru⟩)
    (hk : s.log[k]? = some ⟨t2, c2, .callReturn .isSubscribed (some r)⟩) (hic : i < c2) : r = false :=
  is_subscribed_false_after_unsubscribe_returned hr hi hk hic

/-- non-vacuity: `lateNextRun` has `callReturn unsubscribe` at 8 and a `next` callback starting at 9 (call #0,
    fetched before); `unsubRun` has an unsubscribe return at 16 and an `is_subscribed` call #17 answering false at 19 -/
example : logAt (run 3 false lateNextRun) 8 = some ⟨0, 2, .callReturn .unsubscribe none⟩ ∧
    logAt (run 3 false lateNextRun) 9 = some ⟨2, 0, .cbStart .next⟩ ∧
    logAt (run 3 true unsubRun) 16 = some ⟨0, 0, .callReturn .unsubscribe none⟩ ∧
    logAt (run 3 true unsubRun) 19 = some ⟨2, 17, .callReturn .isSubscribed (some false)⟩ := by decide +kernel

#print axioms c05_no_callback_after_unsubscribe_returned
#print axioms c05_no_next_after_unsubscribe_returned
#print axioms c05_no_terminal_after_unsubscribe_returned
#print axioms c05_is_subscribed_monotone
#print axioms c05_is_subscribed_false_after_unsubscribe

end Rx.ConcObs
