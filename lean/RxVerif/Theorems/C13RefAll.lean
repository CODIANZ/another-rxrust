import RxVerif.Theorems.C13RefReplayCalls
import RxVerif.Machine.Case
/-
C13-REF, closing file: C13's statements about `ConnM` transported to model A, non-vacuity, axioms.

The six refinement theorems (`publish_refines`, `refCount_refines`, `replayConn_refines` and their `_cold` forms, in
C13RefPublish, C13RefCount, C13RefReplayCalls) hold for every `wfC 0 cs` call sequence (subscribe ids numbered in call
order) and every script.  RESTRICTIONS:
recording (passive) observers attached directly — re-entrant calls from inside a callback are out of scope (so
`cancelled` never becomes true in these runs, `ConnM.never_cancelled`; the hook lemmas nevertheless cover the
`cancelled` branch).  The hot source is a plain `Subject` driven by the `srcNext / srcError / srcComplete` calls.  The
cold source is the harness' `(cold 0 ev…)` = `oScript 0 true script` (polite: asks `is_subscribed()` before each event;
never installs a teardown); it emits inside `source.subscribe`, i.e. inside `connect()` for publish and inside the first
subscriber's `on_subscribe` hook for ref_count / replay; its `srcSubs` / `srcLive` are read off the observers recorded
by the source's probe (`coldSubsOf`, `coldLiveOf` = what `Rx.stashed` / `observe` of Machine/Case.lean print), the
other fields of `AgreesCold` are those of `AgreesC`.

NOTE on model A (Machine/Subjects.lean `RSubj.observable`): it reads `was_error` / `was_completed` BEFORE
`subject.observable().subscribe(..)`, i.e. before the `on_subscribe` hook; replay_subject.rs:70-84 and `SubjM.subscribeH`
read them inside the closure `f` of `ready_set_go`, i.e. AFTER the live subscription and the hook.  Over a cold source
the hook of the first subscriber emits, so the two orders read different values.  `replayConn_refines_cold` shows the
difference cannot be observed by passive subscribers: whenever the values differ the script has already ended the
subscriber, for which the stored terminal is a no-op (`FoldInv.subscribeB`, `ConnM.handOver_dead`).
-/
namespace Rx.CRef
open Rx.Sim Rx.SubjM Rx.Ref Rx.RefR

/-- **`publish_connects_only_on_connect` on model A**: the hot source has been subscribed to exactly once per
    `connect()` call — subscribers arriving or leaving never touch it. -/
theorem machine_publish_connects_only_on_connect (cs : List ConnM.Call) (hwf : wfC 0 cs = true) {w : World}
    (h : FinalP cs w) : srcSubsOf w = ConnM.connects cs := by
  rw [(FinalOf.sat h (publish_refines cs hwf)).srcSubs]; exact ConnM.publish_connects_only_on_connect .hot cs

/-- **`disconnect_stops_source` on model A**: after `disconnect` the hot source's observer map is empty. -/
theorem machine_disconnect_stops_source (cs : List ConnM.Call) (hwf : wfC 0 (cs ++ [.disconnect]) = true)
    {w : World} (h : FinalP (cs ++ [.disconnect]) w) : srcLiveOf w = false := by
  rw [(FinalOf.sat h (publish_refines _ hwf)).srcLive]; exact ConnM.disconnect_stops_source .hot cs

/-- **`at_most_one_source_subscription` / `ref_count_first_last` on model A**: a ref_count connectable subscribes
    to its source exactly once, when the first subscriber arrives, and never again; while the source is still
    subscribed some user is present. -/
theorem machine_ref_count_first_last (cs : List ConnM.Call) (hwf : wfC 0 cs = true) {w : World}
    (h : FinalC cs w) :
    srcSubsOf w = (if cs.any ConnM.isSubscribe then 1 else 0) ∧ srcSubsOf w ≤ 1 ∧
    (srcLiveOf w = true → ∃ o, w.isSubOf o = true) := by
  have a := FinalOf.sat h (refCount_refines cs hwf)
  exact first_last_of_agrees rfl .hot cs a.srcSubs a.srcLive a.alive

/-- **`same_items_for_present` on model A** (publish): two users that stay present over a stretch of calls record
    the same events over it. -/
theorem machine_publish_same_items (cs seg : List ConnM.Call) (o1 o2 : Nat) (hwf : wfC 0 (cs ++ seg) = true)
    (hp : ∀ n, n < seg.length →
      ConnM.present (ConnM.runFrom .publish .hot (ConnM.run .publish .hot cs) (seg.take n)) o1 ∧
      ConnM.present (ConnM.runFrom .publish .hot (ConnM.run .publish .hot cs) (seg.take n)) o2)
    {wA wB : World} (hA : FinalP cs wA) (hB : FinalP (cs ++ seg) wB) :
    ∃ d, logOf wB o1 = logOf wA o1 ++ d ∧ logOf wB o2 = logOf wA o2 ++ d := by
  have hwfA : wfC 0 cs = true := by rw [wfC_append, Bool.and_eq_true] at hwf; exact hwf.1
  have a := FinalOf.sat hA (publish_refines cs hwfA)
  have b := FinalOf.sat hB (publish_refines _ hwf)
  obtain ⟨d, e1, e2⟩ := ConnM.same_items_for_present .publish .hot cs seg o1 o2 hp
  refine ⟨d, ?_, ?_⟩
  · rw [b.logs, a.logs, ConnM.run_append]; exact e1
  · rw [b.logs, a.logs, ConnM.run_append]; exact e2

-- non-vacuity: both sides evaluated
def demoP : List ConnM.Call :=
  [.subscribe 0, .srcNext (.int 1), .connect, .srcNext (.int 2), .subscribe 1, .connect, .srcNext (.int 3),
   .unsubscribe 0, .disconnect, .srcNext (.int 4), .connect, .srcNext (.int 5), .srcComplete, .subscribe 2]

/-- the run of `demoP`, evaluated once -/
theorem demoP_run : (run 3000 [progP demoP] {}).status = .ok ∧
    (List.range 3).map (logOf (run 3000 [progP demoP] {})) =
      [[.next (.int 2), .next (.int 3), .next (.int 3)], [.next (.int 3), .next (.int 3), .next (.int 5), .complete], []] ∧
    srcSubsOf (run 3000 [progP demoP] {}) = 3 := by decide +kernel

example : wfC 0 demoP = true := by decide
example : (run 3000 [progP demoP] {}).status = .ok := demoP_run.1
/-- two live connections double every item (publish.rs connects once per `connect()`): user 0 sees 2,3,3 -/
example : (List.range 3).map (logOf (run 3000 [progP demoP] {})) =
    [[.next (.int 2), .next (.int 3), .next (.int 3)], [.next (.int 3), .next (.int 3), .next (.int 5), .complete], []] :=
  demoP_run.2.1
example : (List.range 3).map (ConnM.logOf (ConnM.run .publish .hot demoP)) =
    [[.next (.int 2), .next (.int 3), .next (.int 3)], [.next (.int 3), .next (.int 3), .next (.int 5), .complete], []] := by
  decide +kernel
example : srcSubsOf (run 3000 [progP demoP] {}) = 3 ∧ ConnM.sourceSubscriptions (ConnM.run .publish .hot demoP) = 3 ∧
    srcLiveOf (run 3000 [progP (demoP.take 8)] {}) = true ∧ ConnM.sourceLive (ConnM.run .publish .hot (demoP.take 8)) = true ∧
    srcLiveOf (run 3000 [progP (demoP.take 9)] {}) = false ∧
    regCountOf (run 3000 [progP (demoP.take 8)] {}) = 1 := ⟨demoP_run.2.2, by decide +kernel⟩

def demoC : List ConnM.Call :=
  [.srcNext (.int 9), .subscribe 0, .srcNext (.int 1), .subscribe 1, .srcNext (.int 2), .unsubscribe 0,
   .srcNext (.int 3), .unsubscribe 1, .subscribe 2, .srcNext (.int 4)]

theorem demoC_run : (run 3000 [progRC demoC] {}).status = .ok ∧
    (List.range 3).map (logOf (run 3000 [progRC demoC] {})) =
      [[.next (.int 1), .next (.int 2)], [.next (.int 2), .next (.int 3)], []] ∧
    srcSubsOf (run 3000 [progRC demoC] {}) = 1 ∧ srcLiveOf (run 3000 [progRC demoC] {}) = false := by decide +kernel

example : wfC 0 demoC = true := by decide
example : (run 3000 [progRC demoC] {}).status = .ok := demoC_run.1
/-- the last subscriber arrives after the count fell to 0: ref_count.rs never reconnects, it sees nothing -/
example : (List.range 3).map (logOf (run 3000 [progRC demoC] {})) =
    [[.next (.int 1), .next (.int 2)], [.next (.int 2), .next (.int 3)], []] := demoC_run.2.1
example : (List.range 3).map (ConnM.logOf (ConnM.run .refCount .hot demoC)) =
    [[.next (.int 1), .next (.int 2)], [.next (.int 2), .next (.int 3)], []] := by decide +kernel
example : srcSubsOf (run 3000 [progRC demoC] {}) = 1 ∧ ConnM.sourceSubscriptions (ConnM.run .refCount .hot demoC) = 1 ∧
    srcLiveOf (run 3000 [progRC (demoC.take 7)] {}) = true ∧ srcLiveOf (run 3000 [progRC demoC] {}) = false ∧
    ConnM.sourceLive (ConnM.run .refCount .hot demoC) = false :=
  ⟨demoC_run.2.2.1, by decide +kernel, by decide +kernel, demoC_run.2.2.2, by decide +kernel⟩
/-- the hypotheses of the step lemmas are satisfiable: a related pair reached by a run -/
example : ∃ w roots cobs armed, FinalP [.subscribe 0, .connect, .subscribe 1, .unsubscribe 0] w ∧
    RelP roots cobs armed w (ConnM.run .publish .hot [.subscribe 0, .connect, .subscribe 1, .unsubscribe 0]) := by
  obtain ⟨w, hf, r, c, ca, a, _, hrel⟩ :=
    refines_of (progP_spec [.subscribe 0, .connect, .subscribe 1, .unsubscribe 0] (by decide))
  exact ⟨w, r, c, a, hf, ca, hrel⟩
example : ∃ w, FinalC demoC w := let ⟨w, h, _⟩ := refCount_refines demoC (by decide); ⟨w, h⟩

/-- **`at_most_one_source_subscription` / `ref_count_first_last` on model A** (replay) -/
theorem machine_replay_first_last (cs : List ConnM.Call) (hwf : wfC 0 cs = true) {w : World}
    (h : FinalRp cs w) :
    srcSubsOf w = (if cs.any ConnM.isSubscribe then 1 else 0) ∧ srcSubsOf w ≤ 1 ∧
    (srcLiveOf w = true → ∃ o, w.isSubOf o = true) := by
  have a := FinalOf.sat h (replayConn_refines cs hwf)
  exact first_last_of_agrees rfl .hot cs a.srcSubs a.srcLive a.alive

/-- **`replay_complete_history` on model A**: every user still subscribed has recorded exactly the items the
    source observers accepted, in order; a user that was ended recorded all of them before its terminal; nobody
    has recorded anything else. -/
theorem machine_replay_complete_history (cs : List ConnM.Call) (hwf : wfC 0 cs = true) {w : World}
    (h : FinalRp cs w) :
    (∀ o, w.isSubOf o = true → logOf w o = (ConnM.run .replay .hot cs).emitted.map .next) ∧
    (∀ o, SubjM.nonTerminal (logOf w o) = false →
      ConnM.itemsOf (logOf w o) = (ConnM.run .replay .hot cs).emitted) ∧
    (∀ o, ConnM.itemsOf (logOf w o) <+: (ConnM.run .replay .hot cs).emitted) := by
  have a := FinalOf.sat h (replayConn_refines cs hwf)
  exact complete_history_of_agrees .hot cs a.logs a.alive

def demoRp : List ConnM.Call :=
  [.srcNext (.int 9), .subscribe 0, .srcNext (.int 1), .subscribe 1, .srcNext (.int 2), .unsubscribe 0,
   .srcComplete, .subscribe 2, .unsubscribe 1, .srcNext (.int 4)]

theorem demoRp_run : (run 6000 [progRp demoRp] {}).status = .ok ∧
    (List.range 3).map (logOf (run 6000 [progRp demoRp] {})) =
      [[.next (.int 1), .next (.int 2)], [.next (.int 1), .next (.int 2), .complete],
       [.next (.int 1), .next (.int 2), .complete]] ∧
    srcSubsOf (run 6000 [progRp demoRp] {}) = 1 := by decide +kernel

example : wfC 0 demoRp = true := by decide
example : (run 6000 [progRp demoRp] {}).status = .ok := demoRp_run.1
/-- late subscribers get the history (user 1: item 1, user 2: items 1,2 and the stored `complete`) -/
example : (List.range 3).map (logOf (run 6000 [progRp demoRp] {})) =
    [[.next (.int 1), .next (.int 2)], [.next (.int 1), .next (.int 2), .complete],
     [.next (.int 1), .next (.int 2), .complete]] := demoRp_run.2.1
example : (List.range 3).map (ConnM.logOf (ConnM.run .replay .hot demoRp)) =
    [[.next (.int 1), .next (.int 2)], [.next (.int 1), .next (.int 2), .complete],
     [.next (.int 1), .next (.int 2), .complete]] := by decide +kernel
example : srcSubsOf (run 6000 [progRp demoRp] {}) = 1 ∧ ConnM.sourceSubscriptions (ConnM.run .replay .hot demoRp) = 1 ∧
    srcLiveOf (run 6000 [progRp (demoRp.take 6)] {}) = true ∧
    ConnM.sourceLive (ConnM.run .replay .hot (demoRp.take 6)) = true ∧
    regCountOf (run 6000 [progRp (demoRp.take 6)] {}) = 1 ∧
    (registered (ConnM.run .replay .hot (demoRp.take 6)).sub).length = 1 := ⟨demoRp_run.2.2, by decide +kernel⟩
example : ∃ w, FinalRp demoRp w := let ⟨w, h, _⟩ := replayConn_refines demoRp (by decide); ⟨w, h⟩

theorem coldObs_eq_stashed (w : World) : coldObs w = Rx.stashed w := by
  rw [coldObs_eq]; unfold Rx.stashed
  induction w.trace with
  | nil => rfl
  | cons r rest ih =>
    simp only [List.filterMap_cons, ih]
    cases r with
    | ev s e => rfl
    | probe t d => cases d <;> rfl

/-- **`at_most_one_source_subscription` / `ref_count_first_last` on model A**, ref_count over a cold source -/
theorem machine_refCount_cold_first_last (script : List Ev) (cs : List ConnM.Call) (hwf : wfC 0 cs = true) {w : World}
    (h : FinalCc script cs w) :
    coldSubsOf w = (if cs.any ConnM.isSubscribe then 1 else 0) ∧ coldSubsOf w ≤ 1 ∧
    (coldLiveOf w = true → ∃ o, w.isSubOf o = true) := by
  have a := FinalOf.sat h (refCount_refines_cold script cs hwf)
  exact first_last_of_agrees rfl (.cold script) cs a.srcSubs a.srcLive a.alive

theorem machine_replay_cold_first_last (script : List Ev) (cs : List ConnM.Call) (hwf : wfC 0 cs = true) {w : World}
    (h : FinalRpc script cs w) :
    coldSubsOf w = (if cs.any ConnM.isSubscribe then 1 else 0) ∧ coldSubsOf w ≤ 1 ∧
    (coldLiveOf w = true → ∃ o, w.isSubOf o = true) := by
  have a := FinalOf.sat h (replayConn_refines_cold script cs hwf)
  exact first_last_of_agrees rfl (.cold script) cs a.srcSubs a.srcLive a.alive

/-- **`replay_complete_history` on model A**, cold source: the first subscriber got the items live, every later one
    from the history — all end up with exactly the items the source observer accepted -/
theorem machine_replay_cold_complete_history (script : List Ev) (cs : List ConnM.Call) (hwf : wfC 0 cs = true)
    {w : World} (h : FinalRpc script cs w) :
    (∀ o, w.isSubOf o = true → logOf w o = (ConnM.run .replay (.cold script) cs).emitted.map .next) ∧
    (∀ o, SubjM.nonTerminal (logOf w o) = false →
      ConnM.itemsOf (logOf w o) = (ConnM.run .replay (.cold script) cs).emitted) ∧
    (∀ o, ConnM.itemsOf (logOf w o) <+: (ConnM.run .replay (.cold script) cs).emitted) := by
  have a := FinalOf.sat h (replayConn_refines_cold script cs hwf)
  exact complete_history_of_agrees (.cold script) cs a.logs a.alive

def scriptT : List Ev := [.next (.int 1), .next (.int 2), .complete, .next (.int 3)]
def scriptN : List Ev := [.next (.int 1), .next (.int 2)]

def demoPc : List ConnM.Call := [.subscribe 0, .connect, .subscribe 1, .connect, .unsubscribe 0, .disconnect]
def demoCc : List ConnM.Call := [.subscribe 0, .subscribe 1, .unsubscribe 0, .unsubscribe 1, .subscribe 2]

example : wfC 0 demoPc = true ∧ wfC 0 demoCc = true := by decide

/-- publish: every `connect()` replays the script to whoever is subscribed; the terminal ends them -/
example : (run 6000 [progPc scriptT demoPc] {}).status = .ok ∧
    (List.range 2).map (logOf (run 6000 [progPc scriptT demoPc] {})) =
      [[.next (.int 1), .next (.int 2), .complete], [.next (.int 1), .next (.int 2), .complete]] ∧
    (List.range 2).map (ConnM.logOf (ConnM.run .publish (.cold scriptT) demoPc)) =
      [[.next (.int 1), .next (.int 2), .complete], [.next (.int 1), .next (.int 2), .complete]] ∧
    coldSubsOf (run 6000 [progPc scriptT demoPc] {}) = 2 ∧
    ConnM.sourceSubscriptions (ConnM.run .publish (.cold scriptT) demoPc) = 2 := by decide +kernel

/-- ref_count: only the first subscriber sees the script (it runs inside its `subscribe`); the source subscription
    lives until the last subscriber leaves and is never made again -/
example : (run 9000 [progRCc scriptN demoCc] {}).status = .ok ∧
    (List.range 3).map (logOf (run 9000 [progRCc scriptN demoCc] {})) = [[.next (.int 1), .next (.int 2)], [], []] ∧
    (List.range 3).map (ConnM.logOf (ConnM.run .refCount (.cold scriptN) demoCc)) =
      [[.next (.int 1), .next (.int 2)], [], []] ∧
    coldSubsOf (run 9000 [progRCc scriptN demoCc] {}) = 1 ∧
    ConnM.sourceSubscriptions (ConnM.run .refCount (.cold scriptN) demoCc) = 1 ∧
    coldLiveOf (run 9000 [progRCc scriptN (demoCc.take 2)] {}) = true ∧
    ConnM.sourceLive (ConnM.run .refCount (.cold scriptN) (demoCc.take 2)) = true ∧
    coldLiveOf (run 9000 [progRCc scriptN demoCc] {}) = false ∧
    ConnM.sourceLive (ConnM.run .refCount (.cold scriptN) demoCc) = false := by decide +kernel

/-- replay: the first subscriber gets the script live, the later ones from the history (with the stored terminal) -/
example : (run 12000 [progRpc scriptT demoCc] {}).status = .ok ∧
    (List.range 3).map (logOf (run 12000 [progRpc scriptT demoCc] {})) =
      [[.next (.int 1), .next (.int 2), .complete], [.next (.int 1), .next (.int 2), .complete],
       [.next (.int 1), .next (.int 2), .complete]] ∧
    (List.range 3).map (ConnM.logOf (ConnM.run .replay (.cold scriptT) demoCc)) =
      [[.next (.int 1), .next (.int 2), .complete], [.next (.int 1), .next (.int 2), .complete],
       [.next (.int 1), .next (.int 2), .complete]] ∧
    regCountOf (run 12000 [progRpc scriptT demoCc] {}) = 0 ∧
    (registered (ConnM.run .replay (.cold scriptT) demoCc).sub).length = 0 := by decide +kernel

example : (List.range 3).map (logOf (run 12000 [progRpc scriptN demoCc] {})) =
      [[.next (.int 1), .next (.int 2)], [.next (.int 1), .next (.int 2)], [.next (.int 1), .next (.int 2)]] ∧
    (List.range 3).map (ConnM.logOf (ConnM.run .replay (.cold scriptN) demoCc)) =
      [[.next (.int 1), .next (.int 2)], [.next (.int 1), .next (.int 2)], [.next (.int 1), .next (.int 2)]] ∧
    regCountOf (run 12000 [progRpc scriptN demoCc] {}) = 1 ∧
    (registered (ConnM.run .replay (.cold scriptN) demoCc).sub).length = 1 := by decide +kernel

example : ∃ w, FinalPc scriptT demoPc w := let ⟨w, h, _⟩ := publish_refines_cold scriptT demoPc (by decide); ⟨w, h⟩
example : ∃ w, FinalCc scriptN demoCc w := let ⟨w, h, _⟩ := refCount_refines_cold scriptN demoCc (by decide); ⟨w, h⟩
example : ∃ w, FinalRpc scriptT demoCc w := let ⟨w, h, _⟩ := replayConn_refines_cold scriptT demoCc (by decide); ⟨w, h⟩

#print axioms publish_refines
#print axioms refCount_refines
#print axioms machine_publish_connects_only_on_connect
#print axioms machine_disconnect_stops_source
#print axioms machine_ref_count_first_last
#print axioms machine_publish_same_items
#print axioms replayConn_refines
#print axioms machine_replay_first_last
#print axioms machine_replay_complete_history
#print axioms publish_refines_cold
#print axioms refCount_refines_cold
#print axioms replayConn_refines_cold
#print axioms machine_refCount_cold_first_last
#print axioms machine_replay_cold_first_last
#print axioms machine_replay_cold_complete_history

end Rx.CRef
