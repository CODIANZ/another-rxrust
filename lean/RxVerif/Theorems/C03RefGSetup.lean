import RxVerif.Theorems.C03RefGSubj
/-
C03-REF (general form): `new_observer` for a new entity, subscribing an entity to its subject, the initial
world.
-/
namespace Rx.GRef
open Rx.Sim Rx.Ref Rx.Comb Rx.CRef

variable {L : GLay} {E : Ent} {hl : List (LockId × Bool)} {c : Ctl} {x : Fr} {out : List Ev} {w : World}

def fupd {α : Type} (f : Nat → α) (a : Nat) (v : α) : Nat → α := fun i => if i = a then v else f i

theorem fupd_same {α : Type} (f : Nat → α) (a : Nat) (v : α) : fupd f a v a = v := by simp [fupd]
theorem fupd_other {α : Type} (f : Nat → α) {a i : Nat} (v : α) (h : i ≠ a) : fupd f a v i = f i := by
  simp [fupd, h]
theorem fupd_fupd {α : Type} (f : Nat → α) (i : Nat) (a b : α) : fupd (fupd f i a) i b = fupd f i b := by
  funext j; simp only [fupd]; split <;> rfl

/-- entity `e` has been created for subject `j` but is not subscribed yet -/
def Ent.attach (E : Ent) (e j : Nat) : Ent := { E with sub := fupd E.sub e j, mode := fupd E.mode e .fresh }

/-- entity `e` (attached to subject `j`) has been registered there under the subject's next serial -/
def Ent.activate (E : Ent) (e j : Nat) : Ent :=
  { E with key := fupd E.key e (E.cnt j + 1), mode := fupd E.mode e .on, cnt := fupd E.cnt j (E.cnt j + 1) }

theorem known_add (c : Ctl) (e a : Nat) : known (c.addObserver e) a = (known c a || a == e) := by
  simp only [known, Ctl.addObserver, contains_append_one]
  cases c.live.contains a <;> cases c.reg.contains a <;> cases (a == e) <;> rfl

theorem inMap_attach (E : Ent) (c : Ctl) (e j j' : Nat) (hnl : c.live.contains e = false) :
    inMap (E.attach e j) (c.addObserver e) j' = inMap E c j' := by
  simp only [inMap, Ctl.addObserver, Ent.attach, List.filter_append]
  have h1 : ([e].filter fun a => fupd E.sub e j a == j' && (fupd E.mode e .fresh a).isOn) = [] := by
    simp [fupd_same, Mode.isOn]
  rw [h1, List.append_nil]
  apply List.filter_congr
  intro a ha
  have : a ≠ e := by
    intro q; subst q
    have : c.live.contains a = true := by simpa using ha
    rw [hnl] at this; cases this
  rw [fupd_other _ _ this, fupd_other _ _ this]

theorem innerSt_other {E E' : Ent} {c c' : Ctl} {a : Nat} {o : Obs} (hl : c'.live.contains a = c.live.contains a)
    (hs : E'.sub a = E.sub a) (hk : E'.key a = E.key a) (hm : E'.mode a = E.mode a)
    (h : InnerSt L E c a o) : InnerSt L E' c' a o := by
  unfold InnerSt hookE at *
  rw [hl, hs, hk, hm]; exact h

def fullObs (L : GLay) (e : Nat) (hook : Option Prog) : Obs :=
  ⟨some (.code (L.hn e)), some (.code (L.he e)), some (.code (L.hc e)), hook⟩

theorem known_false {c : Ctl} {e : Nat} (h : known c e = false) :
    c.live.contains e = false ∧ c.reg.contains e = false := by
  simp only [known, Bool.or_eq_false_iff] at h; exact h

/-- the world after `new_observer` for the new entity `e`, destined for subject `j` -/
theorem Rel.addObserver (ok : L.Ok) (h : Rel L E [] c x out w) {e j : Nat} (hj : j < L.k)
    (hnk : known c e = false) (hs : L.ser e = x.sv) (ho : L.ob e = x.no)
    (l : List Nat) (hm : w.cells[L.cm]? = some (encMap (l.map fun i => (L.ser i, L.ob i))))
    (hmem : ∀ i, i ∈ l ↔ i ∈ c.reg) :
    Rel L (E.attach e j) [] (c.addObserver e) { x with sv := x.sv + 1, no := x.no + 1 } out
      { w with
        cells := (w.cells.set L.cs (.int ((x.sv + 1 : Nat) : Int))).set L.cm
          (encMap ((l.map fun i => (L.ser i, L.ob i)) ++ [(x.sv, x.no)]))
        obs := w.obs ++ [fullObs L e none] } := by
  have h1' := ok.cs; have h2' := ok.cm; have h4' := ok.ne1; have h5' := ok.ne2
  have h6' := ok.ne3
  have hnl := (known_false hnk).1
  have hc : ∀ n : Nat, n ≠ L.cs → n ≠ L.cm →
      ((w.cells.set L.cs (.int ((x.sv + 1 : Nat) : Int))).set L.cm
          (encMap ((l.map fun i => (L.ser i, L.ob i)) ++ [(x.sv, x.no)])))[n]? = w.cells[n]? := by
    intro n q1 q2
    rw [set_get_other _ (Ne.symm q2), set_get_other _ (Ne.symm q1)]
  have hkn : ∀ a, known (c.addObserver e) a = true → a ≠ e → known c a = true := by
    intro a ha hne
    rw [known_add] at ha
    have : (a == e) = false := by rw [beq_eq_false_iff_ne]; exact hne
    rw [this, Bool.or_false] at ha; exact ha
  have hlive : ∀ a, a ≠ e → (c.addObserver e).live.contains a = c.live.contains a := by
    intro a hne; simp only [Ctl.addObserver, contains_append_one]
    have : (a == e) = false := by rw [beq_eq_false_iff_ne]; exact hne
    rw [this, Bool.or_false]
  exact
  { status := h.status, held := h.held, hlOk := h.hlOk
    root := RefR.getElem?_append_some h.root
    user := h.user
    subLt := by
      intro a ha
      by_cases q : a = e
      · subst q; simp only [Ent.attach, fupd_same]; exact hj
      · simp only [Ent.attach, fupd_other _ _ q]; exact h.subLt a (hkn a ha q)
    ex := by
      intro a ha
      show _ < (w.obs ++ _).length
      rw [List.length_append]
      by_cases q : a = e
      · subst q; rw [ho, h.nObs]; simp
      · have := h.ex a (hkn a ha q); simp; omega
    subjO := by
      intro j' hj'
      show (List.set _ _ _)[_]? = _
      rw [hc _ (by omega) (by omega), inMap_attach E c e j j' hnl]
      have hk : (E.attach e j).key = E.key := rfl
      rw [hk]; exact h.subjO j' hj'
    subjS := by
      intro j' hj'
      show (List.set _ _ _)[_]? = _
      rw [hc _ (by omega) (by omega)]; exact h.subjS j' hj'
    keyLe := by
      intro a ha hma
      have q : a ≠ e := by intro q; subst q; exact hma (by simp [Ent.attach, fupd_same])
      simp only [Ent.attach, fupd_other _ _ q] at hma ⊢
      exact h.keyLe a (hkn a ha q) hma
    keyInj := by
      intro a b ha hb hma hmb
      have qa : a ≠ e := by intro q; subst q; exact hma (by simp [Ent.attach, fupd_same])
      have qb : b ≠ e := by intro q; subst q; exact hmb (by simp [Ent.attach, fupd_same])
      simp only [Ent.attach, fupd_other _ _ qa, fupd_other _ _ qb] at hma hmb ⊢
      exact h.keyInj a b (hkn a ha qa) (hkn b hb qb) hma hmb
    slots := h.slots, slotF := h.slotF
    mapC := by
      refine ⟨l ++ [e], ?_, ?_⟩
      · show (List.set _ _ _)[_]? = _
        rw [set_get_same _ (by rw [set_get_other _ h4']; exact hm)]
        simp [hs, ho]
      · intro i; simp only [Ctl.addObserver, List.mem_append, hmem i]
    serC := by
      refine ⟨?_, ?_⟩
      · show (List.set _ _ _)[_]? = _
        rw [set_get_other _ (Ne.symm h4'), set_get_same _ h.serC.1]
      · intro i hi
        simp only [Ctl.addObserver, List.mem_append, List.mem_singleton] at hi
        rcases hi with q | q
        · have := h.serC.2 i q; show _ < x.sv + 1; omega
        · rw [q, hs]; show _ < x.sv + 1; omega
    nObs := by show (w.obs ++ _).length = x.no + 1; rw [List.length_append, h.nObs]; rfl
    inner := by
      intro a o hoa
      have hoa' : (w.obs ++ [fullObs L e none])[L.ob a]? = some o := hoa
      by_cases q : a = e
      · subst q
        rw [ho, ← h.nObs] at hoa'
        simp at hoa'
        subst hoa'
        simp [InnerSt, Ctl.addObserver, Ent.attach, fupd_same, fullObs]
      · have hlt : L.ob a < w.obs.length := by
          rcases Nat.lt_or_ge (L.ob a) w.obs.length with r | r
          · exact r
          · rcases Nat.lt_or_ge w.obs.length (L.ob a) with r2 | r2
            · rw [List.getElem?_eq_none (by simp; omega)] at hoa'; cases hoa'
            · exact absurd (ok.obInj a e (by rw [ho, ← h.nObs]; omega)) q
        rw [List.getElem?_append_left hlt] at hoa'
        exact innerSt_other (E := E) (E' := E.attach e j) (hlive a q) (by simp [Ent.attach, fupd_other _ _ q]) rfl
          (by simp [Ent.attach, fupd_other _ _ q]) (h.inner a o hoa')
    xc := by
      show (List.set _ _ _)[_]?.getD _ = _
      rw [hc _ (Ne.symm h5') (Ne.symm h6')]; exact h.xc
    log := h.log }

/-- `StreamController::new_observer` (stream_controller.rs:52-96) with a live subscriber: the re-check after the
    registration finds the subscription still active -/
theorem newObserver_spec (ok : L.Ok) (h : Rel L E [] c x out w) (ha : c.alive = true) {e j : Nat} (hj : j < L.k)
    (hnk : known c e = false) (hs : L.ser e = x.sv) (ho : L.ob e = x.no)
    (n : Nat → Data → Prog) (ee : Nat → Nat → Prog) (cc : Nat → Prog)
    (hcode : fullObs L e none = ⟨some (.code (n x.sv)), some (.code (ee x.sv)), some (.code (cc x.sv)), none⟩)
    (K : Nat → Prog) {Q : World → Prop}
    (hk : ∀ w1, Rel L (E.attach e j) [] (c.addObserver e) { x with sv := x.sv + 1, no := x.no + 1 } out w1 →
      WP (K (L.ob e)) w1 Q) :
    WP (L.sc.newObserver n ee cc K) w Q := by
  obtain ⟨l, hm, hmem⟩ := h.mapC
  have hA := h.addObserver ok hj hnk hs ho l hm hmem
  refine wp_newObserver L.sc n ee cc K h.held ok.ne1 h.serC.1 hm
    (fun p hp => by
      obtain ⟨i, hi, rfl⟩ := List.mem_map.1 hp
      exact h.serC.2 i ((hmem i).1 hi))
    ⟨_, h.root, by rw [rootObs_isSub]; exact ha⟩ ?_
  rw [← hcode, h.nObs]
  have hk' := hk _ hA
  rw [ho] at hk'; exact hk'

/-- `observable.inner_subscribe(observer)` of the created-but-unsubscribed entity `e` to its subject `j`
    (subject.rs:61-93): it is registered under the subject's next serial, after the observers already there -/
theorem subscribe_ent (ok : L.Ok) (h : Rel L E [] c x out w) {e j : Nat} (hj : j < L.k) (hsub : E.sub e = j)
    (hfr : E.mode e = .fresh) (hlv : c.live.contains e = true)
    (hlast : inMap (E.activate e j) c j = inMap E c j ++ [e]) :
    WP ((sjOf j).observable.sub (L.ob e)) w (Rel L (E.activate e j) [] c x out) := by
  have h1' := ok.cs; have h2' := ok.cm; have h3' := ok.cx
  have hkn := known_live hlv
  obtain ⟨o, ho⟩ : ∃ o, w.obs[L.ob e]? = some o := ⟨_, List.getElem?_eq_getElem (h.ex e hkn)⟩
  have hst := h.inner e o ho
  simp only [InnerSt, hlv, ↓reduceIte, hfr] at hst
  subst hst
  simp only [Obsv.sub]
  refine wp_obsIsSub ho ?_
  simp only [Obs.isSub, Option.isSome_some, Bool.and_self, ↓reduceIte]
  have hkeys : ∀ p ∈ (inMap E c j).map (fun a => (E.key a, L.ob a)), p.1 ≤ E.cnt j := by
    intro p hp
    obtain ⟨a, ha, rfl⟩ := List.mem_map.1 hp
    obtain ⟨q1, q2, q3⟩ := mem_inMap ha
    have := h.keyLe a (known_live q1) (by rw [q3]; exact fun r => nomatch r)
    rw [q2] at this; exact this
  refine observable_spec (sj := sjOf j) (serial := E.cnt j)
    (obsl := (inMap E c j).map fun a => (E.key a, L.ob a)) h.held ho rfl (by simp [sjOf]) (h.subjS j hj)
    (h.subjO j hj) hkeys (h.slots _ (by simp [sjOf]; omega)) ?_
  have hc : ∀ n : Nat, n ≠ 2 * j → n ≠ 2 * j + 1 →
      (subWorld (sjOf j) w (L.ob e) (E.cnt j) ((inMap E c j).map fun a => (E.key a, L.ob a))).cells[n]? =
        w.cells[n]? := by
    intro n q1 q2
    simp only [subWorld, sjOf]
    rw [set_get_other _ (Ne.symm q1), set_get_other _ (Ne.symm q2)]
  have hne_e : ∀ a, E.mode a ≠ .fresh → a ≠ e := fun a hm q => hm (q ▸ hfr)
  have hkey' : ∀ a, a ≠ e → (E.activate e j).key a = E.key a := fun a q => fupd_other _ _ q
  have hmode' : ∀ a, a ≠ e → (E.activate e j).mode a = E.mode a := fun a q => fupd_other _ _ q
  have hcnt_le : ∀ j', E.cnt j' ≤ (E.activate e j).cnt j' := by
    intro j'; simp only [Ent.activate, fupd]; split
    · rename_i q; rw [q]; omega
    · exact Nat.le_refl _
  exact
  { status := h.status, held := h.held, hlOk := h.hlOk
    root := by
      show (w.obs.modify _ _)[0]? = _
      rw [modify_get_other _ _ (by have := ok.obPos e; omega)]; exact h.root
    user := h.user
    subLt := h.subLt
    ex := by intro a ha; show _ < (w.obs.modify _ _).length; rw [List.length_modify]; exact h.ex a ha
    subjO := by
      intro j' hj'
      by_cases q : j' = j
      · subst q
        simp only [subWorld, sjOf]
        rw [set_get_same _ (by rw [set_get_other _ (by omega)]; exact h.subjO _ hj'), hlast, List.map_append]
        congr 3
        · apply List.map_congr_left
          intro a ha
          rw [hkey' a (hne_e a (by rw [(mem_inMap ha).2.2]; exact fun r => nomatch r))]
        · simp [Ent.activate, fupd_same]
      · rw [hc _ (by omega) (by omega), h.subjO j' hj']
        have hin : inMap (E.activate e j) c j' = inMap E c j' := by
          simp only [inMap]
          apply List.filter_congr
          intro a _
          by_cases r : a = e
          · subst r
            have : ((E.activate a j).sub a == j') = false := by
              rw [beq_eq_false_iff_ne]; show E.sub a ≠ j'; rw [hsub]; exact fun r => q r.symm
            have h2 : (E.sub a == j') = false := by rw [beq_eq_false_iff_ne, hsub]; exact fun r => q r.symm
            rw [this, h2]; rfl
          · rw [hmode' a r]; rfl
        rw [hin]
        congr 2
        apply List.map_congr_left
        intro a ha
        have : a ≠ e := by intro r; subst r; exact q ((mem_inMap ha).2.1.symm.trans hsub)
        rw [hkey' a this]
    subjS := by
      intro j' hj'
      by_cases q : j' = j
      · subst q
        simp only [subWorld, sjOf]
        rw [set_get_other _ (by omega), set_get_same _ (h.subjS _ hj')]
        simp [Ent.activate, fupd_same]
      · rw [hc _ (by omega) (by omega), h.subjS j' hj']
        simp [Ent.activate, fupd_other _ _ q]
    keyLe := by
      intro a ha hma
      by_cases r : a = e
      · subst r
        show fupd E.key a (E.cnt j + 1) a ≤ fupd E.cnt j (E.cnt j + 1) (E.sub a)
        rw [fupd_same, hsub, fupd_same]; exact Nat.le_refl _
      · rw [hmode' a r] at hma
        rw [hkey' a r]
        exact Nat.le_trans (h.keyLe a ha hma) (hcnt_le _)
    keyInj := by
      intro a b ha hb hma hmb hs hkq
      have hbig : ∀ b', b' ≠ e → known c b' = true → (E.activate e j).mode b' ≠ .fresh → E.sub b' = j →
          (E.activate e j).key b' ≠ E.cnt j + 1 := by
        intro b' r hb' hmb' hsb' q
        rw [hmode' b' r] at hmb'; rw [hkey' b' r] at q
        have := h.keyLe b' hb' hmb'; rw [hsb'] at this; omega
      have hke : (E.activate e j).key e = E.cnt j + 1 := fupd_same _ _ _
      by_cases ra : a = e
      · by_cases rb : b = e
        · rw [ra, rb]
        · subst ra
          exact absurd (hkq ▸ hke) (hbig b rb hb hmb (hs ▸ hsub))
      · by_cases rb : b = e
        · subst rb
          exact absurd (hkq ▸ hke) (hbig a ra ha hma (hs.trans hsub))
        · rw [hmode' a ra] at hma; rw [hmode' b rb] at hmb; rw [hkey' a ra, hkey' b rb] at hkq
          exact h.keyInj a b ha hb hma hmb hs hkq
    slots := h.slots, slotF := h.slotF
    mapC := by
      obtain ⟨l, hm, hmem⟩ := h.mapC
      exact ⟨l, by rw [hc _ (by omega) (by omega)]; exact hm, hmem⟩
    serC := ⟨by rw [hc _ (by omega) (by omega)]; exact h.serC.1, h.serC.2⟩
    nObs := by show (w.obs.modify _ _).length = _; rw [List.length_modify]; exact h.nObs
    inner := by
      intro a oa hoa
      have hoa' : (w.obs.modify (L.ob e) _)[L.ob a]? = some oa := hoa
      by_cases r : a = e
      · subst r
        rw [modify_get_same _ _ ho] at hoa'
        cases hoa'
        simp only [InnerSt, hlv, ↓reduceIte, hookE]
        have hm1 : (E.activate a j).mode a = .on := fupd_same _ _ _
        have hk1 : (E.activate a j).key a = E.cnt j + 1 := fupd_same _ _ _
        have hs1 : (E.activate a j).sub a = j := hsub
        rw [hm1, hk1, hs1]
        rfl
      · rw [modify_get_other _ _ (fun q => r (ok.obInj _ _ q).symm)] at hoa'
        exact innerSt_other (E := E) (E' := E.activate e j) rfl rfl (hkey' a r) (hmode' a r) (h.inner a oa hoa')
    xc := by rw [hc _ (by omega) (by omega)]; exact h.xc
    log := h.log }

theorem newEntity_spec (ok : L.Ok) (h : Rel L E [] c x out w) (ha : c.alive = true) {e j : Nat} (hj : j < L.k)
    (hnk : known c e = false) (hs : L.ser e = x.sv) (ho : L.ob e = x.no)
    (n : Nat → Data → Prog) (ee : Nat → Nat → Prog) (cc : Nat → Prog)
    (hcode : fullObs L e none = ⟨some (.code (n x.sv)), some (.code (ee x.sv)), some (.code (cc x.sv)), none⟩) :
    WP (L.sc.newObserver n ee cc fun ob => (sjOf j).observable.sub ob) w
      (Rel L ((E.attach e j).activate e j) [] (c.addObserver e) { x with sv := x.sv + 1, no := x.no + 1 } out) := by
  refine newObserver_spec ok h ha hj hnk hs ho n ee cc hcode _ fun w1 h1 => ?_
  refine subscribe_ent ok h1 hj (fupd_same _ _ _) (fupd_same _ _ _) (by simp [Ctl.addObserver]) ?_
  have hf : c.live.filter (fun a => ((E.attach e j).activate e j).sub a == j && (((E.attach e j).activate e j).mode a).isOn) =
      c.live.filter fun a => (E.attach e j).sub a == j && ((E.attach e j).mode a).isOn := by
    apply List.filter_congr
    intro a ha
    have q : a ≠ e := by
      intro q; subst q
      have : c.live.contains a = true := by simpa using ha
      rw [(known_false hnk).1] at this; cases this
    show (_ && (fupd (fupd E.mode e .fresh) e .on a).isOn) = (_ && (fupd E.mode e .fresh a).isOn)
    rw [fupd_other _ _ q]; rfl
  simp only [inMap, Ctl.addObserver, List.filter_append, hf]
  simp [Ent.activate, Ent.attach, fupd_same, Mode.isOn]

theorem Rel.setUser (h : Rel L E hl c x out w) (f : User → User) (hf : ∀ u, (f u).react = u.react) :
    Rel L E hl c x out (w.setUser 0 f) :=
  { h with
    user := by
      obtain ⟨u, hu, hr⟩ := h.user
      exact ⟨f u, modify_get_same _ _ hu, by rw [hf, hr]⟩ }

/-- the controller has just been created, no inner observer yet -/
theorem rel_init (ok : L.Ok) (hcnt : ∀ j, E.cnt j = 0) (hst : w.status = .ok) (hh : w.held = []) (hobs : w.obs = [rootObs L true])
    (hu : ∃ u, w.users[0]? = some u ∧ u.react = noReact)
    (hce : ∀ j, j < L.k → w.cells[2 * j]? = some .lnil) (hco : ∀ j, j < L.k → w.cells[2 * j + 1]? = some (.int 0))
    (hcs : w.cells[L.cs]? = some (.int ((0 : Nat) : Int))) (hcm : w.cells[L.cm]? = some (encMap []))
    (hsl : ∀ j, j < 2 * L.k → w.slots[j]? = some none) (hsf : w.slots[L.fin]? = some none)
    (hlog : logOf w 0 = []) :
    Rel L E [] ⟨true, [], []⟩ ⟨w.cells[L.cx]?.getD .unit, 0, 1⟩ [] w where
  status := hst
  held := hh
  hlOk := by intro p hp; cases hp
  root := by rw [hobs]; rfl
  user := hu
  subLt := by intro e he; simp [known] at he
  ex := by intro e he; simp [known] at he
  subjO := by intro j hj; rw [hce j hj]; rfl
  subjS := by intro j hj; rw [hco j hj, hcnt]; rfl
  keyLe := by intro e he; simp [known] at he
  keyInj := by intro a b ha; simp [known] at ha
  slots := hsl
  slotF := hsf
  mapC := ⟨[], hcm, fun _ => Iff.rfl⟩
  serC := ⟨hcs, by intro i hi; cases hi⟩
  nObs := by rw [hobs]; rfl
  inner := by
    intro e o ho
    rw [hobs] at ho
    have := ok.obPos e
    rw [List.getElem?_eq_none (by simp; omega)] at ho; cases ho
  xc := rfl
  log := hlog

theorem Rel.regCount (h : Rel L E hl c x out w) {j : Nat} (hj : j < L.k) :
    regCount w j = (inMap E c j).length := by
  simp only [CRef.regCount, h.subjO j hj, Option.getD_some, amapLen_encMap, List.length_map]

/-- the relation only depends on the controller state up to the order of `reg` and of `live` across subjects -/
theorem Rel.perm (h : Rel L E hl c x out w) (c' : Ctl) (ha : c'.alive = c.alive)
    (hr : ∀ e, e ∈ c'.reg ↔ e ∈ c.reg) (hlv : ∀ e, c'.live.contains e = c.live.contains e)
    (hm : ∀ j, j < L.k → inMap E c' j = inMap E c j) : Rel L E hl c' x out w := by
  have hk : ∀ e, known c' e = known c e := by
    intro e; simp only [known, hlv e]; congr 1; rw [Bool.eq_iff_iff]; simp [hr e]
  exact
  { h with
    root := by rw [ha]; exact h.root
    subLt := fun e he => h.subLt e (by rw [← hk]; exact he)
    ex := fun e he => h.ex e (by rw [← hk]; exact he)
    subjO := by intro j hj; rw [hm j hj]; exact h.subjO j hj
    keyLe := fun e he => h.keyLe e (by rw [← hk]; exact he)
    keyInj := fun a b ha hb => h.keyInj a b (by rw [← hk]; exact ha) (by rw [← hk]; exact hb)
    mapC := by
      obtain ⟨l, hml, hmem⟩ := h.mapC
      exact ⟨l, hml, fun e => (hmem e).trans (hr e).symm⟩
    serC := ⟨h.serC.1, fun e he => h.serC.2 e ((hr e).1 he)⟩
    inner := by
      intro e o ho
      have := h.inner e o ho
      unfold InnerSt at *
      rw [hlv e]; exact this }

end Rx.GRef
