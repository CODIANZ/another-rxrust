/-
Delivery invariant of the `Subject` LTS: for every observer `o` and producer thread `t` the deliveries of `t` to `o`
(newest first) carry consecutive call indices and the items of exactly these calls; while `o` is live (fn_next present)
the newest one is the latest call of `t` that already passed `o`.
-/
import RxVerif.Theorems.C12SubjectA

namespace Rx.Conc.Subject

def nextItems : List Call → List Data
  | [] => []
  | .next v :: r => v :: nextItems r
  | _ :: r => nextItems r

/-- the items thread `t` pushes, in program order -/
def progItems (progs : List (List Call)) (t : Nat) : List Data := nextItems (progs.getD t [])

/-- deliveries of producer `t` in a (newest first) log, as `(call index, item)` -/
def proj (t : Nat) (l : List (Nat × Nat × Data)) : List (Nat × Data) := (l.filter (·.1 == t)).map (·.2)

theorem proj_cons (t t' k : Nat) (v : Data) (l : List (Nat × Nat × Data)) :
    proj t ((t', k, v) :: l) = if t' = t then (k, v) :: proj t l else proj t l := by
  simp only [proj, List.filter_cons]
  by_cases h : t' = t <;> simp [h]

def Pc.inNext : Pc → Bool
  | .nx0 .. | .nxL .. | .nx2 .. => true
  | _ => false

/-- how far thread `th` is with respect to observer `o`: `(n, strong)` — calls `0 .. n-1` have passed `o`;
`strong` = the thread holds a fetched callback of `o` for call `n` -/
def pos (th : Thread) (o : Nat) : Nat × Bool :=
  match th.pc with
  | .nx0 k _ => (k, false)
  | .nxL k _ snap => pend k snap o
  | .nx2 k _ o' rest => if o = o' then (k, true) else pend k rest o
  | _ => (th.cnt, false)

/-- `L`: the deliveries of one producer to one observer, newest first; `(n, strong)`: the producer's `pos` there.
`full` and `pfx` (the log of a pre-registered observer starts at call 0 and is complete up to `n`) carry
`unsubscriber_prefix` and `stays_subscribed_gets_all`. -/
structure PairInv (P : List Data) (live pre : Bool) (L : List (Nat × Data)) (n : Nat) (strong : Bool) : Prop where
  desc : Desc P L
  le : top L ≤ n
  eq : (strong = true ∨ live = true) → L ≠ [] → top L = n
  full : (strong = true ∨ live = true) → pre = true → L.length = n
  pfx : pre = true → L.length = top L

theorem PairInv.weaken {P : List Data} {live live' pre : Bool} {L : List (Nat × Data)} {n : Nat} {b : Bool}
    (h : PairInv P live pre L n b) (hl : live' = true → live = true) : PairInv P live' pre L n b :=
  ⟨h.desc, h.le, fun hx => h.eq (hx.imp id hl), fun hx => h.full (hx.imp id hl), h.pfx⟩

/-- call `n` passes an observer that cannot get it: one that has a log or is `pre` only if it is dead -/
theorem PairInv.pass {P : List Data} {live pre : Bool} {L : List (Nat × Data)} {n : Nat} {b : Bool}
    (h : PairInv P live pre L n b) (hd : L ≠ [] ∨ pre = true → live = false) : PairInv P live pre L (n + 1) false :=
  ⟨h.desc, Nat.le_succ_of_le h.le,
    fun hx hne => hx.elim Bool.noConfusion fun hl => Bool.noConfusion ((hd (.inl hne)).symm.trans hl),
    fun hx hpre => hx.elim Bool.noConfusion fun hl => Bool.noConfusion ((hd (.inr hpre)).symm.trans hl), h.pfx⟩

def LocB (P : List Data) (th : Thread) : Prop :=
  th.cnt ≤ P.length ∧ nextItems th.todo = P.drop th.cnt ∧
  match th.pc with
  | .nx0 k v | .nxL k v _ | .nx2 k v _ _ => th.cnt = k + 1 ∧ P[k]? = some v
  | _ => True

theorem pos_of_not_inNext {th : Thread} (h : th.pc.inNext = false) (o : Nat) : pos th o = (th.cnt, false) := by
  obtain ⟨_, pc, _⟩ := th
  cases pc
  case nx0 | nxL | nx2 => cases h
  all_goals rfl

theorem locB_of_not_inNext {P : List Data} {th : Thread} (h : th.pc.inNext = false) :
    LocB P th ↔ th.cnt ≤ P.length ∧ nextItems th.todo = P.drop th.cnt := by
  obtain ⟨_, pc, _⟩ := th
  cases pc
  case nx0 | nxL | nx2 => cases h
  all_goals exact ⟨fun h => ⟨h.1, h.2.1⟩, fun h => ⟨h.1, h.2, trivial⟩⟩

abbrev Pair (P : List Data) (ob : Obs) (t : Nat) (p : Nat × Bool) : Prop :=
  PairInv P ob.fnNext ob.pre (proj t ob.rlog) p.1 p.2

structure InvB (progs : List (List Call)) (s : State) : Prop where
  loc : ∀ t : Nat, LocB (progItems progs t) (s.threads t)
  pair : ∀ o t : Nat, PairInv (progItems progs t) (s.obs o).fnNext (s.obs o).pre (proj t (s.obs o).rlog)
    (pos (s.threads t) o).1 (pos (s.threads t) o).2

theorem invB_init (progs : List (List Call)) (nPre : Nat) : InvB progs (init progs nPre) := by
  constructor
  · intro t
    simp [init, LocB, progItems]
  · intro o t
    have : ((init progs nPre).obs o).rlog = [] := by simp only [init]; split <;> rfl
    rw [this]
    simp only [init, pos, proj]
    constructor <;> simp [Desc, top]

/-- what a step may do to an observer record without `InvB` noticing -/
structure SameB (ob ob' : Obs) : Prop where
  rlog : ob'.rlog = ob.rlog
  pre : ob'.pre = ob.pre
  fnNext : ob'.fnNext = true → ob.fnNext = true

theorem SameB.rfl {ob : Obs} : SameB ob ob := ⟨_root_.rfl, _root_.rfl, id⟩

theorem Pair.same {P : List Data} {ob ob' : Obs} {t : Nat} {p : Nat × Bool} (k : SameB ob ob') (h : Pair P ob t p) :
    Pair P ob' t p := by
  unfold Pair
  rw [k.rlog, k.pre]
  exact h.weaken k.fnNext

theorem invB_move {progs : List (List Call)} {s s' : State} (hB : InvB progs s) {t : Nat} {th' : Thread}
    (hthr : s'.threads = setAt s.threads t th') (hobs : ∀ o, SameB (s.obs o) (s'.obs o))
    (hloc : LocB (progItems progs t) th') (hpair : ∀ o, Pair (progItems progs t) (s.obs o) t (pos th' o)) :
    InvB progs s' := by
  refine ⟨fun t' => ?_, fun o t' => ?_⟩ <;> rw [hthr]
  · exact setAt_ind (P := fun t' th => LocB (progItems progs t') th) hloc (fun j _ => hB.loc j) t'
  · exact Pair.same (hobs o) (setAt_ind (P := fun t' th => Pair (progItems progs t') (s.obs o) t' (pos th o)) (hpair o)
      (fun j _ => hB.pair o j) t')

theorem invB_silent {progs : List (List Call)} {s : State} (hB : InvB progs s) {t : Nat} {pc pc' : Pc}
    {obs' : Nat → Obs} {todo todo' : List Call} {cnt : Nat} {map' : List (Nat × Nat)} {serial' : Nat}
    (hth : s.threads t = ⟨todo, pc, cnt⟩) (h0 : pc.inNext = false) (h1 : pc'.inNext = false)
    (hobs : ∀ o, SameB (s.obs o) (obs' o)) (htodo : nextItems todo' = nextItems todo) :
    InvB progs { obs := obs', map := map', serial := serial', threads := setAt s.threads t ⟨todo', pc', cnt⟩ } := by
  have hl := (locB_of_not_inNext h0).mp (hth ▸ hB.loc t)
  refine invB_move hB rfl hobs ((locB_of_not_inNext h1).mpr ⟨hl.1, htodo ▸ hl.2⟩) fun o => ?_
  rw [pos_of_not_inNext h1 o]; exact pos_of_not_inNext (th := ⟨todo, pc, cnt⟩) h0 o ▸ hth ▸ hB.pair o t

theorem invB_step {progs : List (List Call)} {s s' : State} {t : Nat} (hA : InvA s) (hB : InvB progs s)
    (hs : stepT s t = some s') : InvB progs s' := by
  cases hth : s.threads t with | mk todo pc cnt
  have hl := hB.loc t
  have hlA := hA.loc t
  have hp : ∀ o, Pair (progItems progs t) (s.obs o) t (pos (s.threads t) o) := fun o => hB.pair o t
  rw [hth] at hl hlA hp
  cases pc <;> simp only [stepT, hth, Option.some.injEq] at hs
  case u1 | u2 | u4 => subst hs; exact invB_silent hB hth rfl rfl (fun _ => .rfl) rfl
  case s0 | s1 | u3 => subst hs; split <;> exact invB_silent hB hth rfl rfl (fun _ => .rfl) rfl
  case s2 | s3 | s4 | u5 =>
    subst hs; exact invB_silent hB hth rfl rfl (setAt_rel (fun _ => .rfl) ⟨rfl, rfl, id⟩) rfl
  case u0 => subst hs; exact invB_silent hB hth rfl rfl (setAt_rel (fun _ => .rfl) ⟨rfl, rfl, nofun⟩) rfl
  case idle =>
    split at hs
    · cases hs
    · cases hs
      obtain ⟨h1, h2, h3⟩ := drop_cons_inv hl.2.1
      exact invB_move hB rfl (fun _ => .rfl) ⟨h1, h2, rfl, h3⟩ hp
    · split at hs
      · cases hs
      · cases hs; exact invB_silent hB hth rfl rfl (setAt_rel (fun _ => .rfl) ⟨rfl, rfl, id⟩) rfl
    · cases hs; exact invB_silent hB hth rfl rfl (fun _ => .rfl) rfl
  case nx0 k v =>
    subst hs
    refine invB_move hB rfl (fun _ => .rfl) hl fun o => ?_
    show PairInv _ _ _ _ (if o ∈ s.map.map (·.2) then k else k + 1, false).1 _
    split
    · exact hp o
    · rename_i hin
      -- `o` is not in the snapshot, so call `k` passes it by.  An inserted observer missing from the map is dead
      -- (`InvA.live`); one that has a log or is `pre` is inserted
      exact (hp o).pass fun hx => (Bool.not_eq_true _).mp fun hfn => hin (hA.live o
        (hx.elim (fun hne => hA.logIns o fun h0 => hne (by rw [h0]; rfl)) (hA.preIns o)) hfn)
  case nxL k v snap =>
    cases snap <;> simp only [Option.some.injEq] at hs <;> subst hs
    · obtain ⟨h1, h2, hc, _⟩ := hl
      subst hc
      refine invB_move hB rfl (fun _ => .rfl) ⟨h1, h2, trivial⟩ fun o => ?_
      have := hp o
      simp only [pos, pend, List.not_mem_nil, if_false] at this ⊢
      exact this
    · rename_i o rest
      have hnotin : o ∉ rest := (List.nodup_cons.mp hlA.1).1
      split <;> rename_i hc <;> refine invB_move hB rfl (fun _ => .rfl) hl fun o' => ?_ <;> by_cases ho : o' = o
      · subst ho
        have := hp o'
        simp only [pos, pend, List.mem_cons, true_or, if_true] at this ⊢
        exact ⟨this.desc, this.le, fun _ => this.eq (.inr hc), fun _ => this.full (.inr hc), this.pfx⟩
      · have := hp o'
        simp only [pos, pend, List.mem_cons, ho, false_or, if_false] at this ⊢
        exact this
      · subst ho
        have := hp o'
        simp only [pos, pend, List.mem_cons, true_or, if_true, hnotin, if_false] at this ⊢
        exact this.pass fun _ => (Bool.not_eq_true _).mp hc
      · have := hp o'
        simp only [pos, pend, List.mem_cons, ho, false_or] at this ⊢
        exact this
  case nx2 k v o rest =>
    subst hs
    have hnotin : o ∉ rest := (List.nodup_cons.mp hlA.1).1
    refine ⟨setAt_ind (P := fun t' th => LocB (progItems progs t') th) hl fun j _ => hB.loc j, ?_⟩
    refine setAt_ind (P := fun o' ob => ∀ t', Pair (progItems progs t') ob t' (pos (setAt s.threads t _ t') o'))
      (setAt_ind (P := fun t' th => Pair (progItems progs t') _ t' (pos th o)) ?_ fun j hj => ?_)
      fun o' ho' => setAt_ind (P := fun t' th => Pair (progItems progs t') (s.obs o') t' (pos th o')) ?_ fun j _ =>
        hB.pair o' j
    · have := hp o
      simp only [pos, if_true] at this
      simp only [Pair, pos, pend, hnotin, if_false, proj_cons, if_true]
      refine ⟨this.desc.cons hl.2.2.2 (this.eq (.inl rfl)), Nat.le_refl _, fun _ _ => rfl, fun _ hpre => ?_,
        fun hpre => ?_⟩
      · exact congrArg (· + 1) (this.full (.inl rfl) hpre)
      · exact congrArg (· + 1) (this.full (.inl rfl) hpre)
    · have := hB.pair o j
      simp only [Pair, proj_cons, if_neg (Ne.symm hj)]
      exact this
    · have := hp o'
      simp only [pos, ho', if_false] at this ⊢
      exact this

theorem invB_reachable {progs : List (List Call)} {nPre : Nat} {s : State} (h : Reachable progs nPre s) :
    InvB progs s := by
  induction h with
  | init => exact invB_init progs nPre
  | step hr hs ih =>
    exact invB_step (invA_reachable hr) ih (stepT_of_step hs)

end Rx.Conc.Subject
