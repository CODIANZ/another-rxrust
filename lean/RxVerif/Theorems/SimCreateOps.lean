import RxVerif.Theorems.SimCreate
import RxVerif.Theorems.C02b
/-
C02 on the MACHINE for the single-source operators (the kernels of Kernel/Basic.lean but `kSome`, `kFold`, `kTimeInterval`,
`kId`) over the creation functions: `from_iter(ds).op(..)` (and `range`, `error`) subscribed in ANY ready world delivers
exactly what the operator's ReactiveX list function assigns to the stream -
`SimCreate` (machine run = kernel run, every kernel) composed with C02a / C02b (kernel run = list specification, every input).
-/
namespace Rx.Sim
open Rx

/-- "subscribed in world `w` over `from_iter ds`, the machine run of `stdOp K` ends well, the new subscriber sees exactly
    `spec (ds, complete)` and nobody else is disturbed" -/
def FromIterSpec {σ} (K : Kernel σ) (spec : Stream → Stream) (ds : List Data) (w : World) : Prop :=
  ∃ N, ∀ fuel, N ≤ fuel →
    let w' := run fuel [subscribeOver K (oFromIter ds)] w
    w'.status = .ok ∧ logOf w' w.users.length = (spec (ds, .complete)).toEvs ∧
    (∀ s', s' ≠ w.users.length → logOf w' s' = logOf w s')

/-- one lemma for all operators: a kernel whose run is a list specification, over `from_iter` -/
theorem fromIter_machine_spec {σ} (K : Kernel σ) (hK : Kernel.WellEncoded K) (spec : Stream → Stream)
    (hs : ∀ s, K.run s = (spec s).toEvs) (ds : List Data) (w : World) (hw : Ready w) :
    FromIterSpec K spec ds w :=
  eventually_imp (stdOp_sim_fromIter K hK w hw ds) fun _ h => ⟨h.1, by rw [h.2.1, hs], h.2.2.1⟩

/-- the same over `range(a, n)` -/
theorem range_machine_spec {σ} (K : Kernel σ) (hK : Kernel.WellEncoded K) (spec : Stream → Stream)
    (hs : ∀ s, K.run s = (spec s).toEvs) (a : Int) (n : Nat) (w : World) (hw : Ready w) :
    ∃ N, ∀ fuel, N ≤ fuel →
      let w' := run fuel [subscribeOver K (oRange a n)] w
      w'.status = .ok ∧
      logOf w' w.users.length = (spec ((List.range n).map (fun (i : Nat) => Data.int (a + (i : Int))), .complete)).toEvs ∧
      (∀ s', s' ≠ w.users.length → logOf w' s' = logOf w s') :=
  eventually_imp (stdOp_sim_range K hK w hw a n) fun _ h => ⟨h.1, by rw [h.2.1, hs], h.2.2.1⟩

/-- the same over `error(e)`: what the operator makes of a source that only fails (C04: passthrough or handler) -/
theorem error_machine_spec {σ} (K : Kernel σ) (hK : Kernel.WellEncoded K) (spec : Stream → Stream)
    (hs : ∀ s, K.run s = (spec s).toEvs) (e : Nat) (w : World) (hw : Ready w) :
    ∃ N, ∀ fuel, N ≤ fuel →
      let w' := run fuel [subscribeOver K (oError e)] w
      w'.status = .ok ∧ logOf w' w.users.length = (spec ([], .error e)).toEvs ∧
      (∀ s', s' ≠ w.users.length → logOf w' s' = logOf w s') :=
  eventually_imp (stdOp_sim_error K hK w hw e) fun _ h => ⟨h.1, by rw [h.2.1, hs], h.2.2.1⟩

section ops
variable (ds : List Data) (w : World) (hw : Ready w)
include hw

theorem map_fromIter (f : Fn) : FromIterSpec (kMap f) (Spec.map f) ds w := fromIter_machine_spec (kMap f) (we_kMap f) (Spec.map f) (Rx.C02.map_spec f) ds w hw
theorem filter_fromIter (p : Pred) : FromIterSpec (kFilter p) (Spec.filter p) ds w := fromIter_machine_spec (kFilter p) (we_kFilter p) (Spec.filter p) (Rx.C02.filter_spec p) ds w hw
theorem take_fromIter (n : Nat) : FromIterSpec (kTake n) (Spec.take n) ds w := fromIter_machine_spec (kTake n) (we_kTake n) (Spec.take n) (Rx.C02.take_spec n) ds w hw
theorem skip_fromIter (n : Nat) : FromIterSpec (kSkip n) (Spec.skip n) ds w := fromIter_machine_spec (kSkip n) (we_kSkip n) (Spec.skip n) (Rx.C02.skip_spec n) ds w hw
theorem takeWhile_fromIter (p : Pred) : FromIterSpec (kTakeWhile p) (Spec.takeWhile p) ds w := fromIter_machine_spec (kTakeWhile p) (we_kTakeWhile p) (Spec.takeWhile p) (Rx.C02.takeWhile_spec p) ds w hw
theorem skipWhile_fromIter (p : Pred) : FromIterSpec (kSkipWhile p) (Spec.skipWhile p) ds w := fromIter_machine_spec (kSkipWhile p) (we_kSkipWhile p) (Spec.skipWhile p) (Rx.C02.skipWhile_spec p) ds w hw
theorem takeLast_fromIter (n : Nat) : FromIterSpec (kTakeLast n) (Spec.takeLast n) ds w := fromIter_machine_spec (kTakeLast n) (we_kTakeLast n) (Spec.takeLast n) (Rx.C02.takeLast_spec n) ds w hw
theorem skipLast_fromIter (n : Nat) : FromIterSpec (kSkipLast n) (Spec.skipLast n) ds w := fromIter_machine_spec (kSkipLast n) (we_kSkipLast n) (Spec.skipLast n) (Rx.C02.skipLast_spec n) ds w hw
theorem distinct_fromIter : FromIterSpec kDistinct Spec.distinctUntilChanged ds w := fromIter_machine_spec kDistinct we_kDistinct Spec.distinctUntilChanged Rx.C02.distinct_spec ds w hw
theorem scan_fromIter (f : Fn2) : FromIterSpec (kScan f) (Spec.scan f) ds w := fromIter_machine_spec (kScan f) (we_kScan f) (Spec.scan f) (Rx.C02.scan_spec f) ds w hw
theorem reduce_fromIter (f : Fn2) : FromIterSpec (kReduce f) (Spec.reduce f) ds w := fromIter_machine_spec (kReduce f) (we_kReduce f) (Spec.reduce f) (Rx.C02.reduce_spec f) ds w hw
theorem sum_fromIter : FromIterSpec kSum Spec.sum ds w := fromIter_machine_spec kSum we_kSum Spec.sum Rx.C02.sum_spec ds w hw
theorem min_fromIter : FromIterSpec kMin Spec.min ds w := fromIter_machine_spec kMin we_kMin Spec.min Rx.C02.min_spec ds w hw
theorem max_fromIter : FromIterSpec kMax Spec.max ds w := fromIter_machine_spec kMax we_kMax Spec.max Rx.C02.max_spec ds w hw
theorem count_fromIter : FromIterSpec kCount Spec.count ds w := fromIter_machine_spec kCount we_kCount Spec.count Rx.C02.count_spec ds w hw
theorem sumAndCount_fromIter : FromIterSpec kSumAndCount Spec.sumAndCount ds w := fromIter_machine_spec kSumAndCount we_kSumAndCount Spec.sumAndCount Rx.C02.sumAndCount_spec ds w hw
theorem contains_fromIter (t : Data) : FromIterSpec (kContains t) (Spec.contains t) ds w := fromIter_machine_spec (kContains t) (we_kContains t) (Spec.contains t) (Rx.C02.contains_spec t) ds w hw
theorem defaultIfEmpty_fromIter (d : Data) : FromIterSpec (kDefaultIfEmpty d) (Spec.defaultIfEmpty d) ds w := fromIter_machine_spec (kDefaultIfEmpty d) (we_kDefaultIfEmpty d) (Spec.defaultIfEmpty d) (Rx.C02.defaultIfEmpty_spec d) ds w hw
theorem ignoreElements_fromIter : FromIterSpec kIgnoreElements Spec.ignoreElements ds w := fromIter_machine_spec kIgnoreElements we_kIgnoreElements Spec.ignoreElements Rx.C02.ignoreElements_spec ds w hw
theorem materialize_fromIter : FromIterSpec kMaterialize Spec.materialize ds w := fromIter_machine_spec kMaterialize we_kMaterialize Spec.materialize Rx.C02.materialize_spec ds w hw
theorem dematerialize_fromIter : FromIterSpec kDematerialize Spec.dematerialize ds w := fromIter_machine_spec kDematerialize we_kDematerialize Spec.dematerialize Rx.C02.dematerialize_spec ds w hw
theorem buffer_fromIter (n : Nat) (hn : 0 < n) : FromIterSpec (kBuffer n) (Spec.bufferWithCount n) ds w := fromIter_machine_spec (kBuffer n) (we_kBuffer n) (Spec.bufferWithCount n) (Rx.C02.buffer_spec n hn) ds w hw

end ops

/-- C04 on the machine: `error(e).map(f)`; the right side reduces to `[.error e]`, payload unchanged -/
theorem map_error (f : Fn) (e : Nat) (w : World) (hw : Ready w) :
    ∃ N, ∀ fuel, N ≤ fuel →
      let w' := run fuel [subscribeOver (kMap f) (oError e)] w
      w'.status = .ok ∧ logOf w' w.users.length = (Spec.map f ([], .error e)).toEvs ∧
      (∀ s', s' ≠ w.users.length → logOf w' s' = logOf w s') :=
  error_machine_spec (kMap f) (we_kMap f) (Spec.map f) (Rx.C02.map_spec f) e w hw

end Rx.Sim

#print axioms Rx.Sim.fromIter_machine_spec
#print axioms Rx.Sim.range_machine_spec
#print axioms Rx.Sim.error_machine_spec
#print axioms Rx.Sim.map_fromIter
#print axioms Rx.Sim.takeLast_fromIter
#print axioms Rx.Sim.buffer_fromIter
#print axioms Rx.Sim.dematerialize_fromIter
#print axioms Rx.Sim.map_error
