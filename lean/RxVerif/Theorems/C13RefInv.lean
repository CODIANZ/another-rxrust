import RxVerif.Theorems.C13RefCold
/-
C13-REF: the invariant all six connectables share.  A connectable's world has three sides:
  the users' side `V` (the connectable's subject and its subscribers: plain `Subject` or `ReplaySubject`),
  its own side `O` (what `connect()` returned for publish; the three cells and two hooks of ref_count / replay),
  the source side (hot: the source `Subject` H in cells 0, 1; cold: the observers the instrumented source recorded).
Each side reads a set of observers / cells of its own and is stable under changes elsewhere (`Step`); the source
side is given by cases on `ConnM.Src`, so everything that happens at the source (`source.subscribe`, a source event,
`Subscription::unsubscribe` of a source subscription) is proved once, for any `V` and `O`.
-/
namespace Rx.CRef
open Rx.Sim Rx.SubjM Rx.Ref Rx.RefR

/-- The source side: `cobs[i]` = the i-th source observer, `cacs[i]` = the armed flag of its `Subscription`. -/
def SrcPart (src : ConnM.Src) (fn : Data → Prog) (fe : Nat → Prog) (fc : Prog) (cobs cacs : List Nat) (w : World)
    (conns armed : List Bool) : Prop :=
  match src with
  | .hot => ConnsPart Hp fn fe fc (rootAt cacs) cobs w (liveFrom 0 cobs conns) conns armed
  | .cold _ => ConnsPartC fn fe fc (rootAt cacs) cobs w conns armed

theorem SrcPart.lenC {src fn fe fc cobs cacs w conns armed} (h : SrcPart src fn fe fc cobs cacs w conns armed) :
    cobs.length = conns.length := by
  cases src with
  | hot => exact ConnsPart.lenC h
  | cold _ => exact ConnsPartC.lenC h

theorem mem_rootAt {l : List Nat} {c : Nat} (h : c ∈ l) : ∃ i, i < l.length ∧ rootAt l i = c := by
  obtain ⟨i, hi, rfl⟩ := List.getElem_of_mem h
  exact ⟨i, hi, rootAt_eq hi⟩

/-- the cells of the source side: H's two cells and the armed flags -/
def SrcCells (cacs : List Nat) (i : Nat) : Prop := i < 2 ∨ i ∈ cacs

theorem SrcPart.step {src fn fe fc cobs cacs w w' conns armed J K}
    (h : SrcPart src fn fe fc cobs cacs w conns armed) (t : Step J K w w') (hp : probesOf w' = probesOf w)
    (hla : cacs.length = armed.length) (hJ : ∀ j, J j → j ∉ cobs) (hK : ∀ i, K i → ¬ SrcCells cacs i) :
    SrcPart src fn fe fc cobs cacs w' conns armed := by
  cases src with
  | hot =>
    have C : ConnsPart .. := h
    exact C.frame (t.cells _ (lt_of_getElem?_some C.cellO) fun k => hK 0 k (Or.inl (by decide)))
      (t.cells _ (lt_of_getElem?_some C.cellS) fun k => hK 1 k (Or.inl (by decide)))
      (fun i hi => t.obs _ (lt_of_getElem?_some (C.obs i hi)) fun x => hJ _ x (rootAt_mem (C.lenC ▸ hi)))
      (fun i hi => t.cells _ (lt_of_getElem?_some (C.acell i hi)) fun k =>
        hK _ k (Or.inr (rootAt_mem (by rw [hla, C.lenA]; exact hi))))
      t.obsvs
  | cold script =>
    have C : ConnsPartC .. := h
    exact C.frame (fun i hi => t.obs _ (lt_of_getElem?_some (C.obs i hi)) fun x => hJ _ x (rootAt_mem (C.lenC ▸ hi)))
      (fun i hi => t.cells _ (lt_of_getElem?_some (C.acell i hi)) fun k => hK _ k (Or.inr (rootAt_mem (hla ▸ hi))))
      (coldObs_of_probes hp)

/-- what holds of a connectable's world between two calls, and inside its hooks -/
structure Inv (src : ConnM.Src) (V : UsersSide) (O : OwnSide) (cobs cacs : List Nat) (armed : List Bool) (w : World)
    (st : ConnM.State) : Prop extends UO V O src cobs w st.sub where
  held : SlotReads w.held
  conns : SrcPart src V.fn V.fe V.fc cobs cacs w st.conns armed
  full : armed.length = st.conns.length
  lenCa : cacs.length = armed.length
  caNodup : cacs.Nodup
  caFree : ∀ c ∈ cacs, 2 ≤ c ∧ ¬ V.Kc c ∧ ¬ O.Kc c

section
variable {src : ConnM.Src} {V : UsersSide} {O : OwnSide} {cobs cacs : List Nat} {armed : List Bool} {w : World}
  {st : ConnM.State}

theorem Inv.srcFree (h : Inv src V O cobs cacs armed w st) : ∀ i, SrcCells cacs i → ¬ V.Kc i ∧ ¬ O.Kc i :=
  fun i s => s.elim (fun e => ⟨fun k => by have := V.kc2 i k; omega, fun k => by have := O.kc2 i k; omega⟩) fun e =>
    (h.caFree i e).2

theorem Inv.lenCaC (h : Inv src V O cobs cacs armed w st) : cacs.length = st.conns.length := h.lenCa.trans h.full

theorem Inv.caNe (h : Inv src V O cobs cacs armed w st) {i : Nat} (hi : i < st.conns.length) :
    rootAt cacs i ≠ Hp.observers ∧ rootAt cacs i ≠ Hp.serial := by
  have := (h.caFree _ (rootAt_mem (h.lenCaC ▸ hi))).1
  exact ⟨by show _ ≠ 0; omega, by show _ ≠ 1; omega⟩

theorem Inv.cacsLt (h : Inv src V O cobs cacs armed w st) : ∀ c ∈ cacs, c < w.cells.length := by
  intro c hc
  obtain ⟨i, hi, rfl⟩ := mem_rootAt hc
  cases src with
  | hot => exact lt_of_getElem?_some (ConnsPart.acell h.conns i (h.lenCaC ▸ hi))
  | cold _ => exact lt_of_getElem?_some (ConnsPartC.acell h.conns i (h.lenCa ▸ hi))

/-- a hot source event: `H.next / error / complete` = `ConnM.hotEmit` -/
theorem Inv.hotEmit (ck : ConnM.Kind) (hk : ck.subj = V.kind)
    (h : Inv .hot V O cobs cacs armed w st) (ev : Ev) :
    WP (evCall Hp ev) w (fun w' => Inv .hot V O cobs cacs armed w' (ConnM.hotEmit ck st ev)) := by
  have hca : ∀ i, i < cobs.length → 2 ≤ rootAt cacs i ∧ ¬ V.Kc (rootAt cacs i) := fun i hi =>
    have f := h.caFree _ (rootAt_mem (by rw [h.lenCaC, ← h.conns.lenC]; exact hi))
    ⟨f.1, f.2.1⟩
  refine (hotEmit_spec ck hk hca ev ⟨h.held, h.toUO, h.conns⟩).conseq fun w' h' => ?_
  exact ⟨h'.uo, h'.held, h'.conns, by rw [ConnM.hotEmit_conns_length]; exact h.full, h.lenCa, h.caNodup, h.caFree⟩

theorem step_connWorld (fn fe fc) (cacs : List Nat) (w : World) (hmap m) :
    Step NoObs (SrcCells cacs) w (connWorld Hp fn fe fc w hmap m) :=
  ⟨rfl, rfl, rfl, by simp [connWorld], fun _ hj _ => get_app_lt _ _ _ hj, by simp [connWorld],
   fun i hi hK => connWorld_cells Hp fn fe fc w hmap m (fun e => hK (Or.inl (e ▸ by decide)))
     (fun e => hK (Or.inl (e ▸ by decide))) hi⟩

theorem step_coldConnWorld (fn fe fc) (w : World) : Step NoObs NoCell w (coldConnWorld fn fe fc w) :=
  ⟨rfl, rfl, rfl, by simp [coldConnWorld, World.emit], fun _ hj _ => get_app_lt _ _ _ hj, Nat.le_refl _,
   fun _ _ _ => rfl⟩

theorem ConnsPartC.acell_congr {fn fe fc acell acell' cobs w conns armed}
    (h : ConnsPartC fn fe fc acell cobs w conns armed) (he : ∀ i, i < armed.length → acell' i = acell i) :
    ConnsPartC fn fe fc acell' cobs w conns armed :=
  { h with acell := fun i hi => by rw [he i hi]; exact h.acell i hi }

theorem UO.fresh {s} (h : UO V O src cobs w s) :
    2 ≤ w.cells.length ∧ ¬ V.Kc w.cells.length ∧ ¬ O.Kc w.cells.length :=
  ⟨Nat.le_of_lt (V.two h.users), fun k => Nat.lt_irrefl _ (V.lt h.users k), fun k => Nat.lt_irrefl _ (O.lt h.own k)⟩

theorem Inv.grown (h : Inv src V O cobs cacs armed w st) {o c : Nat} {w2 : World} {st2 : ConnM.State}
    (hu : UO V O src (cobs ++ [o]) w2 st2.sub) (hh : SlotReads w2.held)
    (hc : SrcPart src V.fn V.fe V.fc (cobs ++ [o]) (cacs ++ [c]) w2 st2.conns (armed ++ [true]))
    (hl : st2.conns.length = st.conns.length + 1) (hlt : ∀ x ∈ cacs, x < c)
    (hfree : 2 ≤ c ∧ ¬ V.Kc c ∧ ¬ O.Kc c) :
    Inv src V O (cobs ++ [o]) (cacs ++ [c]) (armed ++ [true]) w2 st2 :=
  { toUO := hu, held := hh, conns := hc
    full := by simp [hl, h.full]
    lenCa := by simp [h.lenCa]
    caNodup := by
      rw [List.nodup_append]
      exact ⟨h.caNodup, by simp, fun a ha b hb e => by simp at hb; have := hlt a ha; omega⟩
    caFree := fun x hx => (List.mem_append.1 hx).elim (h.caFree x) fun hx => List.mem_singleton.1 hx ▸ hfree }

/-- the source as the connectable holds it: observable 0 -/
def srcC : Obsv := fun o => .obsvSub 0 o .done

theorem Inv.connect (ck : ConnM.Kind) (hk : ck.subj = V.kind)
    (h : Inv src V O cobs cacs armed w st) {k : Data → Prog} {Q : World → Prop}
    (hQ : ∀ w2 c, Inv src V O (cobs ++ [w.obs.length]) (cacs ++ [c]) (armed ++ [true]) w2
        (ConnM.connectSource ck src st) →
      WP (k (.pair (.int (w.obs.length : Nat)) (.int (c : Nat)))) w2 Q) :
    WP (subscribeWith srcC V.fn V.fe V.fc k) w Q := by
  have hm : st.conns.length = cobs.length := h.conns.lenC.symm
  have hlen := ConnM.connectSource_conns_length ck src st
  cases src with
  | hot =>
    have C : ConnsPart .. := h.conns
    refine connect_pre (H := Hp) (hmap := liveFrom 0 cobs st.conns) (m := st.conns.length) h.held C.obsv h.fix.1
      C.ne C.cellO C.cellS (fun p hp => by have := (liveFrom_keys 0 cobs st.conns p hp).2; omega) ?_
    refine hQ _ w.cells.length (h.grown (st2 := ConnM.connectSource ck .hot st)
      (h.toUO.step (step_connWorld V.fn V.fe V.fc cacs w _ _) (connWorld_glob h.glob _ _) rfl (fun _ => rfl) rfl
        (fun _ => False.elim) h.srcFree) h.held ?_ hlen h.cacsLt h.toUO.fresh)
    exact connWorld_conns
      (C.acell_congr (acell' := rootAt (cacs ++ [w.cells.length])) fun i hi => rootAt_append_lt _ _ (h.lenCaC ▸ hi))
      h.glob (fun i hi => by rw [rootAt_append_lt _ _ (h.lenCaC ▸ hi)]; exact h.caNe hi)
      (by rw [← h.lenCaC, rootAt_append_last])
  | cold script =>
    have C : ConnsPartC .. := h.conns
    -- `hfree` asks for every `i < cobs.length`, also where no armed flag exists yet: there `rootAt cacs i` is 0, a
    -- cell of the source side as well (`SrcCells`)
    have hloop := coldLoop (O := O) (acell := rootAt cacs) ck hk st.conns.length
      (fun i _ => (h.srcFree _ ((rootAt_zero_or_mem cacs i).imp_left fun e => by omega)).1)
      script { st with conns := st.conns ++ [true] } (coldConnWorld V.fn V.fe V.fc w) (by simp)
      ⟨h.held, h.toUO.step (step_coldConnWorld ..) (coldConn_glob h.glob) rfl (logOf_emit_probe _ _ _) rfl
        (fun _ => False.elim) (fun _ => False.elim), C.connect h.glob h.full⟩
    rw [show rootAt (cobs ++ [w.obs.length]) st.conns.length = w.obs.length from by rw [hm, rootAt_append_last]]
      at hloop
    refine connectCold_pre h.fix hloop (fun w2 h2 => ?_)
    have C2 : ConnsPartC .. := h2.conns
    have hlt : ∀ i, i < armed.length → rootAt cacs i < w2.cells.length := fun i hi =>
      lt_of_getElem?_some (C2.acell i hi)
    refine hQ _ w2.cells.length (h.grown (st2 := ConnM.connectSource ck (.cold script) st)
      (h2.uo.step (step_newCell ..) (h2.uo.glob.of_obs_eq rfl rfl) rfl (fun _ => rfl) rfl (fun _ => False.elim)
        (fun _ => False.elim)) h2.held ?_ hlen
      (fun x hx => by obtain ⟨i, hi, rfl⟩ := mem_rootAt hx; exact hlt i (h.lenCa ▸ hi)) h2.uo.fresh)
    exact (C2.acell_congr (acell' := rootAt (cacs ++ [w2.cells.length]))
      fun i hi => rootAt_append_lt _ _ (h.lenCa ▸ hi)).arm (by rw [h.full]; exact hlen.symm)
      (by rw [← h.lenCa, rootAt_append_last])
      (fun i hi => by rw [rootAt_append_lt _ _ (h.lenCa ▸ hi)]; exact hlt i hi)

theorem Inv.srcUnsub (h : Inv src V O cobs cacs armed w st) {i : Nat} (hi : i < st.conns.length) :
    WP (subUnsub (.pair (.int (rootAt cobs i : Nat)) (.int (rootAt cacs i : Nat)))) w (fun w' =>
      Inv src V O cobs cacs (armed.set i false) w' { st with conns := st.conns.set i false }) := by
  have hlc := h.lenCaC
  have hinj : ∀ a b, a < st.conns.length → b < st.conns.length → rootAt cacs a = rootAt cacs b → a = b :=
    fun a b ha hb e => rootAt_inj h.caNodup (hlc ▸ ha) (hlc ▸ hb) e
  have hK : ∀ j, j < st.conns.length → SrcCells cacs (rootAt cacs j) := fun j hj => Or.inr (rootAt_mem (hlc ▸ hj))
  have fin : ∀ {w1 : World}, SrcPart src V.fn V.fe V.fc cobs cacs w1 (st.conns.set i false) (armed.set i false) ∧
      Touch (InList cobs) (SrcCells cacs) w w1 ∧ w1.trace = w.trace →
      Inv src V O cobs cacs (armed.set i false) w1 { st with conns := st.conns.set i false } := by
    intro w1 ⟨C1, t1, htr⟩
    exact ⟨h.toUO.step t1.step (h.glob.touch t1) t1.users (fun u => by simp only [logOf, htr]) t1.held
      (fun j x m => h.glob.disj j m x) h.srcFree, t1.held ▸ h.held, C1, by simp [h.full], by simp [h.lenCa], h.caNodup,
      h.caFree⟩
  cases src with
  | hot =>
    have C : ConnsPart .. := h.conns
    exact (srcUnsub_spec h.held C h.glob h.fix.2 (fun j hj => h.caNe hj) hinj ⟨Or.inl (by decide), hK⟩ hi).conseq
      fun _ => fin
  | cold script =>
    have C : ConnsPartC .. := h.conns
    exact (srcUnsubCold_spec h.held C h.glob (fun a b ha hb => hinj a b (h.full ▸ ha) (h.full ▸ hb))
      (fun j hj => hK j (h.full ▸ hj)) (i := i) (h.full ▸ hi)).conseq fun _ => fin

/-- what a user or the connectable itself does leaves the source side alone: a change (`Step`) away from `cobs` and
    `SrcCells`, with the other two sides given anew -/
theorem Inv.step {V' O' w' J K} {st' : ConnM.State} (h : Inv src V O cobs cacs armed w st)
    (t : Step J K w w') (g : Glob V'.G cobs w') (hh : SlotReads w'.held) (hu : V'.U w' st'.sub) (hX : O'.X w')
    (hconns : st'.conns = st.conns) (hp : probesOf w' = probesOf w) (hJ : ∀ j, J j → j ∉ cobs)
    (hK : ∀ i, K i → ¬ SrcCells cacs i) (hV : ∀ c ∈ cacs, ¬ V'.Kc c) (hO : ∀ i, O'.Kc i → O.Kc i)
    (hd : ∀ i, O'.Kc i → ¬ V'.Kc i)
    (hf : V'.fn = V.fn ∧ V'.fe = V.fe ∧ V'.fc = V.fc := by exact ⟨rfl, rfl, rfl⟩) :
    Inv src V' O' cobs cacs armed w' st' :=
  { glob := g, held := hh, users := hu, own := hX, ownFree := hd
    conns := by rw [hf.1, hf.2.1, hf.2.2, hconns]; exact h.conns.step t hp h.lenCa hJ hK
    fix := h.fix.step t, full := hconns ▸ h.full, lenCa := h.lenCa, caNodup := h.caNodup
    caFree := fun c hc => ⟨(h.caFree c hc).1, hV c hc, fun k => (h.caFree c hc).2.2 (hO c k)⟩ }

theorem Inv.ofUsers {V' w' J K} {st' : ConnM.State} (h : Inv src V O cobs cacs armed w st)
    (t : Step J K w w') (g : Glob V'.G cobs w') (hh : w'.held = w.held) (hu : V'.U w' st'.sub)
    (hconns : st'.conns = st.conns) (hp : probesOf w' = probesOf w) (hJ : ∀ c ∈ cobs, ¬ J c)
    (hK : ∀ i, K i → V.Kc i) (hnew : ∀ c, V'.Kc c → V.Kc c ∨ c = w.cells.length)
    (hf : V'.fn = V.fn ∧ V'.fe = V.fe ∧ V'.fc = V.fc := by exact ⟨rfl, rfl, rfl⟩) :
    Inv src V' O cobs cacs armed w' st' :=
  h.step t g (hh ▸ h.held) hu (O.step h.own t hh fun i hi k => h.ownFree i hi (hK i k)) hconns hp (fun j x m => hJ j m x)
    (fun i k s => (h.srcFree i s).1 (hK i k))
    (fun c hc k => (hnew c k).elim (h.caFree c hc).2.1 fun e => Nat.lt_irrefl _ (e ▸ h.cacsLt c hc)) (fun _ x => x)
    (fun i hi k => (hnew i k).elim (h.ownFree i hi) fun e => Nat.lt_irrefl _ (e ▸ O.lt h.own hi)) hf

theorem Inv.held_swap {O'} (h : Inv src V O cobs cacs armed w st)
    {Hd' : List (LockId × Bool)} (hs : SlotReads Hd') (hX : O'.X { w with held := Hd' })
    (hK' : ∀ i, O'.Kc i → O.Kc i := by exact fun _ x => x) : Inv src V O' cobs cacs armed { w with held := Hd' } st :=
  have t : Step NoObs NoCell w { w with held := Hd' } := Step.same rfl rfl rfl rfl rfl
  h.step t (h.glob.of_obs_eq rfl rfl) hs (V.step h.users t rfl (fun _ => rfl) (fun _ _ x => x) (fun _ _ x => x)) hX
    rfl rfl (fun _ => False.elim) (fun _ => False.elim) (fun c hc => (h.caFree c hc).2.1) hK'
    fun i k => h.ownFree i (hK' i k)

end

/-- observable 0 of a case over `src` -/
def srcObsv : ConnM.Src → Obsv
  | .hot => Hp.observable
  | .cold script => coldSrc script

/-- a world that starts with the (empty) source Subject in cells and slots 0, 1 and the source as observable 0 -/
def w0 (src : ConnM.Src) (cells : List Data) (slots : List (Option (Data → Prog))) (obsvs : List Obsv) : World :=
  { cells := .lnil :: .int 0 :: cells, slots := none :: none :: slots, obsvs := srcObsv src :: obsvs }

theorem Inv.init (src : ConnM.Src) {V : UsersSide} {O : OwnSide} (cells slots obsvs) (hG : V.G = [])
    (hu : V.U (w0 src cells slots obsvs) {}) (hx : O.X (w0 src cells slots obsvs)) (hd : ∀ i, O.Kc i → ¬ V.Kc i) :
    Inv src V O [] [] [] (w0 src cells slots obsvs) ConnM.init :=
  { glob := hG ▸ Glob.init rfl rfl, held := .nil, users := hu, own := hx, ownFree := hd
    conns := by
      cases src with
      | hot => exact ConnsPart.init (by decide) rfl rfl rfl
      | cold _ => exact ConnsPartC.init rfl
    fix := by
      cases src with
      | hot => exact ⟨rfl, rfl⟩
      | cold _ => exact rfl
    full := rfl, lenCa := rfl, caNodup := .nil, caFree := nofun }

end Rx.CRef
