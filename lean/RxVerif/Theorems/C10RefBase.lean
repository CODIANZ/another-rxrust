import RxVerif.Theorems.SimBase
import RxVerif.Kernel.SubjM
/-
C10-REF, part 1: what the refinement proofs for subjects and connectables share below any simulation relation.

  * the encoding of `SubjM.State.observers` as the association list stored in the `observers` cell
  * facts about lists
  * `Subject::observable`'s closure and the teardown it installs (`hookProg`), up to the call of the
    `on_subscribe` / `on_unsubscribe` hook, and `Subscription::unsubscribe` up to the call of the teardown
    (`subUnsub_pre`), while read guards on closure slots may be held; `subWorld`: the world the closure leaves,
    `obsOf`: a subscriber's own observer as its `SubjM` record describes it
  * `Touch`, `Step`: what a piece of code left alone (`probesOf`: the part of the trace it may not add to), as the
    sides of a connectable need it
Namespaces: `Rx.Ref` the encoding and the definitions, `Rx.RefR` the list facts, `Rx.CRef` the lemmas under
`SlotReads` and `Touch` / `Step`.
-/
namespace Rx.Ref
open Rx.Sim

def encPair (p : Nat × Nat) : Data := .pair (.int p.1) (.int p.2)
def encMap (l : List (Nat × Nat)) : Data := Data.ofList (l.map encPair)

theorem amapVals_encMap (l : List (Nat × Nat)) : amapVals (encMap l) = l.map fun p => .int p.2 := by
  simp [amapVals, encMap, encPair, List.map_map, Function.comp_def]

theorem amapLen_encMap (l : List (Nat × Nat)) : amapLen (encMap l) = l.length := by
  simp [amapLen, encMap]

theorem amapRemove_encMap (l : List (Nat × Nat)) (s : Nat) :
    amapRemove (encMap l) (s : Int) = encMap (l.filter fun p => p.1 != s) := by
  simp only [amapRemove, encMap, Data.toList_ofList, List.filter_map]
  congr 2
  apply List.filter_congr
  intro p _
  simp only [encPair, Function.comp_def, bne]
  congr 1
  exact Bool.eq_iff_iff.2 (by simp only [beq_iff_eq]; omega)

theorem amapInsert_encMap (l : List (Nat × Nat)) (s o : Nat) (hs : ∀ p ∈ l, p.1 ≠ s) :
    amapInsert (encMap l) (s : Int) (.int o) = encMap (l ++ [(s, o)]) := by
  unfold amapInsert
  simp only [encMap, Data.toList_ofList]
  split
  · rename_i h
    rw [List.any_eq_true] at h
    obtain ⟨p, hp, hk⟩ := h
    obtain ⟨q, hq, rfl⟩ := List.mem_map.1 hp
    simp only [encPair, beq_iff_eq] at hk
    have := hs q hq
    omega
  · simp [encPair]

theorem modify_get_other {α} (l : List α) (f : α → α) {o u : Nat} (h : o ≠ u) : (l.modify o f)[u]? = l[u]? := by
  simp [h]

theorem modify_get_same {α} (l : List α) (f : α → α) {o : Nat} {x : α} (h : l[o]? = some x) :
    (l.modify o f)[o]? = some (f x) := by
  simp [h]

end Rx.Ref

namespace Rx.RefR
open Rx.SubjM

theorem modify_app {α} (l l' : List α) (j : Nat) (f : α → α) :
    (l ++ l').modify (l.length + j) f = l ++ l'.modify j f := by
  apply List.ext_getElem?
  intro i
  simp only [List.getElem?_modify, List.getElem?_append]
  by_cases h : i < l.length
  · simp [h]; intro e; omega
  · simp only [h, ↓reduceIte]
    by_cases e : l.length + j = i
    · subst e; simp
    · have e2 : ¬ j = i - l.length := by omega
      simp [e, e2]

theorem modify_app0 {α} (l l' : List α) (f : α → α) : (l ++ l').modify l.length f = l ++ l'.modify 0 f :=
  modify_app l l' 0 f

theorem set_app_lt {α} (l l' : List α) (i : Nat) (d : α) (h : i < l.length) :
    (l ++ l').set i d = l.set i d ++ l' := by
  rw [List.set_append]; simp [h]

theorem get_app_ge {α} (l l' : List α) (j : Nat) : (l ++ l')[l.length + j]? = l'[j]? := by
  rw [List.getElem?_append_right (by omega)]; simp

theorem get_app_lt {α} (l l' : List α) (i : Nat) (h : i < l.length) : (l ++ l')[i]? = l[i]? :=
  List.getElem?_append_left h

theorem getElem?_append_some {α} {l l' : List α} {i : Nat} {x : α} (h : l[i]? = some x) : (l ++ l')[i]? = some x := by
  rw [List.getElem?_append_left (lt_of_getElem? h)]; exact h

theorem get_app_at {α} (l l' : List α) (k j : Nat) (hk : k = l.length + j) : (l ++ l')[k]? = l'[j]? := by
  subst hk; exact get_app_ge l l' j

theorem set_app_at {α} (l l' : List α) (k j : Nat) (d : α) (hk : k = l.length + j) :
    (l ++ l').set k d = l ++ l'.set j d := by
  subst hk
  rw [List.set_append]
  have : ¬ l.length + j < l.length := by omega
  simp [this]

theorem modify_app_at {α} (l l' : List α) (k j : Nat) (f : α → α) (hk : k = l.length + j) :
    (l ++ l').modify k f = l ++ l'.modify j f := by
  subst hk; exact modify_app l l' j f

theorem get_app0 {α} (l l' : List α) : (l ++ l')[l.length]? = l'[0]? := get_app_ge l l' 0

end Rx.RefR

namespace Rx.Ref
open Rx.Sim Rx.SubjM

/-- test subscribers only record -/
def noReact : Nat → Nat → Ev → Prog := fun _ _ _ => .done

/-- the teardown `Subject::observable` installs for the observer registered under `serial`
    (subject.rs:74-83: remove the entry, call `on_unsubscribe(len)`) -/
def hookProg (sj : Subj) (serial : Int) : Prog :=
  .cellRead sj.observers false fun m =>
    let m' := amapRemove m serial
    .cellWrite sj.observers false m' <|
    .lockAcq (.slot sj.onUnsub) false <|
    .slotCall sj.onUnsub (.int (amapLen m')) false <|
    .lockRel (.slot sj.onUnsub) .done

/-- the root observer of test subscriber `u` as described by its `SubjM` record -/
def obsOf (sj : Subj) (u : Nat) (r : ObsSt) : Obs :=
  ⟨if r.alive then some (.user u) else none, if r.alive then some (.user u) else none,
   if r.alive then some (.user u) else none, r.inHook.map fun s => hookProg sj (s : Int)⟩

/-- the world after `Subject::observable`'s closure ran for a subscribed observer `s` (subject.rs:66-92) -/
def subWorld (sj : Subj) (w0 : World) (s serial : Nat) (obsl : List (Nat × Nat)) : World :=
  { (w0.setObs s fun x => { x with onUnsub := some (hookProg sj ((serial + 1 : Nat) : Int)) }) with
    cells := (w0.cells.set sj.serial (.int ((serial + 1 : Nat) : Int))).set sj.observers
      (encMap (obsl ++ [(serial + 1, s)])) }

end Rx.Ref

namespace Rx.CRef
open Rx.Sim Rx.SubjM Rx.Ref Rx.RefR

theorem lt_of_getElem?_some {α} {l : List α} {i : Nat} {x : α} (h : l[i]? = some x) : i < l.length :=
  lt_of_getElem? h

/-- `Subject::observable`'s closure (subject.rs:61-93) up to the `on_subscribe(len)` call site, under read guards -/
theorem observable_pre {sj : Subj} {w0 : World} {s serial : Nat} {x : Obs} {obsl : List (Nat × Nat)}
    {Q : World → Prop} (hh : SlotReads w0.held) (hx : w0.obs[s]? = some x) (hsub : x.isSub = true)
    (hne : sj.observers ≠ sj.serial)
    (hS : w0.cells[sj.serial]? = some (.int serial)) (hO : w0.cells[sj.observers]? = some (encMap obsl))
    (hkeys : ∀ p ∈ obsl, p.1 ≤ serial)
    (hQ : WP (slotTail sj.onSub (.int ((obsl.length + 1 : Nat) : Int))) (subWorld sj w0 s serial obsl) Q) :
    WP (sj.observable s) w0 Q := by
  unfold Subj.observable
  refine wp_obsIsSub hx ?_
  simp only [hsub, Bool.not_true, Bool.false_eq_true, ↓reduceIte]
  refine wp_cellReadG hh ?_
  simp only [hS, Option.getD_some, Data.toInt]
  rw [show ((serial : Int) + 1) = ((serial + 1 : Nat) : Int) from by omega]
  refine wp_cellWriteG hh ?_
  refine wp_obsSetOnUnsubG hh ?_
  refine wp_cellReadG hh ?_
  have hc : ∀ d, ((w0.cells.set sj.serial d)[sj.observers]?).getD .unit = encMap obsl := by
    intro d; rw [set_get_other _ (Ne.symm hne), hO]; rfl
  simp only [World.setObs, hc]
  rw [amapInsert_encMap _ _ _ (fun p hp => by have := hkeys p hp; omega)]
  refine wp_cellWriteG hh ?_
  rw [amapLen_encMap, List.length_append]
  exact hQ

/-- the teardown `hookProg` (subject.rs:74-83) up to the `on_unsubscribe(len)` call site -/
theorem hookProg_pre {sj : Subj} {w : World} {s : Nat} {obsl : List (Nat × Nat)} {Q : World → Prop}
    (hh : SlotReads w.held) (hO : w.cells[sj.observers]? = some (encMap obsl))
    (hQ : WP (slotTail sj.onUnsub (.int (((obsl.filter fun p => p.1 != s).length : Nat) : Int)))
      { w with cells := w.cells.set sj.observers (encMap (obsl.filter fun p => p.1 != s)) } Q) :
    WP (hookProg sj (s : Int)) w Q := by
  unfold hookProg
  refine wp_cellReadG hh ?_
  rw [hO]
  simp only [Option.getD_some, amapRemove_encMap]
  refine wp_cellWriteG hh ?_
  rw [amapLen_encMap]
  exact hQ

/-- `Subscription::unsubscribe` of the handle `(o, a)`: call-and-clear of the armed flag in cell `a` -/
theorem subUnsub_pre {w : World} {o a : Nat} {b : Bool} {Q : World → Prop} (hh : SlotReads w.held)
    (ha : w.cells[a]? = some (.bool b)) (h0 : b = false → Q w)
    (h1 : b = true → WP (.obsUnsub o .done) { w with cells := w.cells.set a (.bool false) } Q) :
    WP (subUnsub (.pair (.int (o : Nat)) (.int (a : Nat)))) w Q := by
  simp only [subUnsub, Int.toNat_natCast]
  refine wp_cellReadG hh ?_
  rw [ha]
  cases b with
  | false => exact WP.done (h0 rfl)
  | true => exact wp_cellWriteG hh (h1 rfl)

def isProbe : Rec → Bool
  | .probe _ _ => true
  | _ => false

/-- the probe records of the trace (what instrumented sources of the harness leave behind) -/
def probesOf (w : World) : List Rec := w.trace.filter isProbe

/-- `w'` differs from `w` at most in the observers `J`, the cells `K`, and the user events of the trace -/
structure Touch (J K : Nat → Prop) (w w' : World) : Prop where
  status : w'.status = w.status
  held : w'.held = w.held
  slots : w'.slots = w.slots
  obsvs : w'.obsvs = w.obsvs
  users : w'.users = w.users
  obsLen : w'.obs.length = w.obs.length
  obs : ∀ j, ¬ J j → w'.obs[j]? = w.obs[j]?
  cellsLen : w'.cells.length = w.cells.length
  cells : ∀ i, ¬ K i → w'.cells[i]? = w.cells[i]?
  probes : probesOf w' = probesOf w

theorem Touch.refl (J K : Nat → Prop) (w : World) : Touch J K w w :=
  ⟨rfl, rfl, rfl, rfl, rfl, rfl, fun _ _ => rfl, rfl, fun _ _ => rfl, rfl⟩

theorem Touch.trans {J K w1 w2 w3} (a : Touch J K w1 w2) (b : Touch J K w2 w3) : Touch J K w1 w3 :=
  ⟨b.status.trans a.status, b.held.trans a.held, b.slots.trans a.slots, b.obsvs.trans a.obsvs,
   b.users.trans a.users, b.obsLen.trans a.obsLen, fun j hj => (b.obs j hj).trans (a.obs j hj),
   b.cellsLen.trans a.cellsLen, fun i hi => (b.cells i hi).trans (a.cells i hi), b.probes.trans a.probes⟩

theorem Touch.mono {J J' K K' : Nat → Prop} {w w'} (a : Touch J K w w') (hJ : ∀ j, J j → J' j)
    (hK : ∀ i, K i → K' i) : Touch J' K' w w' :=
  { a with obs := fun j hj => a.obs j (fun x => hj (hJ j x)), cells := fun i hi => a.cells i (fun x => hi (hK i x)) }

def InList (l : List Nat) (j : Nat) : Prop := j ∈ l
def NoCell (_ : Nat) : Prop := False
def IsCell (c : Nat) (i : Nat) : Prop := i = c
def NoObs (_ : Nat) : Prop := False

theorem Touch.setObs (w : World) (j : Nat) (f : Obs → Obs) {J K : Nat → Prop} (hj : J j) :
    Touch J K w (w.setObs j f) :=
  ⟨rfl, rfl, rfl, rfl, rfl, by simp [World.setObs], fun i hi => getElem?_setObs_other _ (fun e => hi (e ▸ hj)),
   rfl, fun _ _ => rfl, rfl⟩

theorem touch_setCell {J K : Nat → Prop} (w : World) (i : Nat) (d : Data) (hK : K i) :
    Touch J K w { w with cells := w.cells.set i d } :=
  ⟨rfl, rfl, rfl, rfl, rfl, rfl, fun _ _ => rfl, by simp,
   fun j hj => set_get_other _ (fun e => hj (by rw [← e]; exact hK)), rfl⟩

theorem deliverTo_eq (w : World) (o s : Nat) (ev : Ev) :
    w.deliverTo o s ev =
      { w with obs := if ev.isTerminal then w.obs.modify o Obs.cleared else w.obs, trace := w.trace ++ [.ev s ev] } := by
  unfold World.deliverTo; split <;> rfl

theorem touch_deliverTo (w : World) (o s : Nat) (ev : Ev) : Touch (IsCell o) NoCell w (w.deliverTo o s ev) := by
  rw [deliverTo_eq]
  refine ⟨rfl, rfl, rfl, rfl, rfl, ?_, fun j hj => ?_, rfl, fun _ _ => rfl, ?_⟩
  · dsimp only; split <;> simp
  · dsimp only; split
    · exact modify_get_other _ _ (Ne.symm hj)
    · rfl
  · simp [probesOf, isProbe]

theorem probesOf_deliverTo (w : World) (o s : Nat) (ev : Ev) : probesOf (w.deliverTo o s ev) = probesOf w :=
  (touch_deliverTo w o s ev).probes

/-- from `w` to `w'` only the observers in `J` and the cells in `K` were changed; observers and cells may have
    been appended; users, guards and trace may differ -/
structure Step (J K : Nat → Prop) (w w' : World) : Prop where
  status : w'.status = w.status
  slots : w'.slots = w.slots
  obsvs : w'.obsvs = w.obsvs
  obsLen : w.obs.length ≤ w'.obs.length
  obs : ∀ j, j < w.obs.length → ¬ J j → w'.obs[j]? = w.obs[j]?
  cellsLen : w.cells.length ≤ w'.cells.length
  cells : ∀ i, i < w.cells.length → ¬ K i → w'.cells[i]? = w.cells[i]?

theorem Step.same {J K : Nat → Prop} {w w' : World} (hs : w'.status = w.status) (hsl : w'.slots = w.slots)
    (hv : w'.obsvs = w.obsvs) (ho : w'.obs = w.obs) (hc : w'.cells = w.cells) : Step J K w w' :=
  ⟨hs, hsl, hv, by rw [ho]; exact Nat.le_refl _, fun _ _ _ => by rw [ho], by rw [hc]; exact Nat.le_refl _,
   fun _ _ _ => by rw [hc]⟩

theorem Touch.step {J K w w'} (t : Touch J K w w') : Step J K w w' :=
  ⟨t.status, t.slots, t.obsvs, Nat.le_of_eq t.obsLen.symm, fun j _ hJ => t.obs j hJ,
   Nat.le_of_eq t.cellsLen.symm, fun i _ hK => t.cells i hK⟩

theorem step_newCell (J K : Nat → Prop) (w : World) (d : Data) : Step J K w { w with cells := w.cells ++ [d] } :=
  ⟨rfl, rfl, rfl, Nat.le_refl _, fun _ _ _ => rfl, by simp, fun _ hi _ => get_app_lt _ _ _ hi⟩

end Rx.CRef
