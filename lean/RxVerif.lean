import RxVerif.Sexp
import RxVerif.Data
import RxVerif.Machine.Prog
import RxVerif.Machine.Core
import RxVerif.Kernel.Basic
import RxVerif.Machine.Lib
import RxVerif.Machine.Subjects
import RxVerif.Machine.Case
import RxVerif.Oracle
import RxVerif.Kernel.Run
import RxVerif.Spec.Single
import RxVerif.Spec.Eval
import RxVerif.Machine.Inv
import RxVerif.Machine.Closed
import RxVerif.Theorems.C01
import RxVerif.Theorems.C05
import RxVerif.Theorems.C05h
import RxVerif.Theorems.C02a
import RxVerif.Theorems.C02b
import RxVerif.Theorems.C04k
import RxVerif.Theorems.ListFacts
import RxVerif.Conc.ToVec
import RxVerif.Theorems.C18
import RxVerif.Conc.Observer
import RxVerif.Theorems.C19
import RxVerif.Theorems.C05c
import RxVerif.Kernel.Retry
import RxVerif.Spec.Retry
import RxVerif.Theorems.C04r
import RxVerif.Conc.LockOrder
import RxVerif.Theorems.C07
import RxVerif.Theorems.WP
import RxVerif.Theorems.SimBase
import RxVerif.Theorems.SimMacro
import RxVerif.Theorems.SimLoop
import RxVerif.Theorems.SimInterval
import RxVerif.Theorems.SimCreate
import RxVerif.Theorems.SimCreateOps
import RxVerif.Theorems.Sim
import RxVerif.Conc.Queue
import RxVerif.Theorems.C08
import RxVerif.Theorems.C08D
import RxVerif.Conc.Subject
import RxVerif.Conc.Replay
import RxVerif.Conc.Behavior
import RxVerif.Conc.SubjCosim
import RxVerif.Theorems.C12
import RxVerif.Theorems.C06
import RxVerif.Theorems.C06late
import RxVerif.Theorems.C14
import RxVerif.Theorems.C17
import RxVerif.Kernel.SubjM
import RxVerif.Kernel.ConnM
import RxVerif.Theorems.C10
import RxVerif.Theorems.C10RefBase
import RxVerif.Theorems.C10RefUsers
import RxVerif.Theorems.C10Ref
import RxVerif.Theorems.C10RefReplay
import RxVerif.Theorems.C10RefBehavior
import RxVerif.Theorems.C13
import RxVerif.Kernel.Comb
import RxVerif.Spec.Comb
import RxVerif.Theorems.C03
import RxVerif.Spec.CombEval
import RxVerif.Conc.Handoff
import RxVerif.Conc.HandoffCosim
import RxVerif.Theorems.C09
import RxVerif.Conc.Timed
import RxVerif.Conc.TimedCosim
import RxVerif.Theorems.C16
import RxVerif.Theorems.C15
import RxVerif.Conc.Sctl
import RxVerif.Conc.TakeAmbZip
import RxVerif.Conc.SctlCosim
import RxVerif.Theorems.C11
import RxVerif.Kernel.Chain
import RxVerif.Machine.Chain
import RxVerif.Theorems.SimChain
import RxVerif.Theorems.SimChainActs
import RxVerif.Theorems.SimChainCancel
import RxVerif.Theorems.SimChainComp
import RxVerif.Theorems.SimChainMacro
import RxVerif.Theorems.SimChainPrim
import RxVerif.Theorems.SimChainPure
import RxVerif.Theorems.SimChainRep
import RxVerif.Theorems.SimChainSetup
import RxVerif.Theorems.SimChainStage
import RxVerif.Theorems.C02c
import RxVerif.Theorems.C04Ref
import RxVerif.Theorems.C04RefBase
import RxVerif.Theorems.C04RefCor
import RxVerif.Theorems.C04RefLoop
import RxVerif.Theorems.C04RefMacro
import RxVerif.Theorems.C04RefResume
import RxVerif.Theorems.C03RefAmb
import RxVerif.Theorems.C03RefBase
import RxVerif.Theorems.C03RefCtl
import RxVerif.Theorems.C03RefConcat
import RxVerif.Theorems.C03RefMerge
import RxVerif.Theorems.C03RefSetup
import RxVerif.Theorems.C03RefTakeUntil
import RxVerif.Theorems.C03RefZip
import RxVerif.Theorems.C03RefFlatMap
import RxVerif.Theorems.C03RefFlatMapA
import RxVerif.Theorems.C03RefFlatMapB
import RxVerif.Theorems.C03RefGBase
import RxVerif.Theorems.C03RefGCtl
import RxVerif.Theorems.C03RefGSetup
import RxVerif.Theorems.C03RefGStatic
import RxVerif.Theorems.C03RefGSubj
import RxVerif.Theorems.C03RefSample
import RxVerif.Theorems.C03RefSkipUntil
import RxVerif.Theorems.C03RefSwitchOnNext
import RxVerif.Theorems.C13RefAll
import RxVerif.Theorems.C13RefCore
import RxVerif.Theorems.C13RefCount
import RxVerif.Theorems.C13RefHot
import RxVerif.Theorems.C13RefInv
import RxVerif.Theorems.C13RefPlain
import RxVerif.Theorems.C13RefPublish
import RxVerif.Theorems.C13RefRc
import RxVerif.Theorems.C13RefReplayCalls
import RxVerif.Theorems.C13RefReplayCore
import RxVerif.Theorems.C13RefReplayUser
import RxVerif.Theorems.C13RefSides
import RxVerif.Theorems.C13RefSim
import RxVerif.Theorems.C03RefSequenceEqual
import RxVerif.Theorems.C10RefAsync
import RxVerif.Theorems.C03RefCombineLatest
import RxVerif.Theorems.C13RefCold
import RxVerif.Theorems.C03RefSeqEqChain
import RxVerif.Theorems.C03RefSeqEqFinal
import RxVerif.Theorems.C03RefSeqEqGlobal
import RxVerif.Theorems.C03RefSeqEqLay
import RxVerif.Theorems.C03RefSeqEqPath
import RxVerif.Theorems.C03RefSeqEqSetup
import RxVerif.Theorems.C03RefSeqEqStep
import RxVerif.Theorems.C03RefSeqEqTop
import RxVerif.Kernel.Nested
import RxVerif.Spec.Nested
import RxVerif.Theorems.C02d
import RxVerif.Theorems.C06F18
